/-
C06, for the `n` letter — a fragment typed `oneNonZero` / `anyNonZero` is never satisfied when the top
input element is the empty vector (this is what lets `j:` use the empty vector to skip `X`): the
claim per base type (`Unsat`), what CHECKSIG and CHECKMULTISIG do on empty operands, which rules can
produce an `n` type, and the side condition `wfK`.
-/
import MsVerif.Lemmas.TypeSoundShapeThm

namespace MsVerif.TypeSound
open MsVerif MsVerif.Script

theorem bool_head {c' : Core} {w : Bytes} {r : List Bytes} {b : Bool} (e : c'.stack = w :: r)
    (hw : castToBool w = b) : ∀ v r', c'.stack = v :: r' → castToBool v = b := by
  intro v r' hv
  rw [e] at hv
  cases hv
  exact hw

theorem nil_head {c' : Core} {r : List Bytes} (e : c'.stack = [] :: r) :
    ∀ v r', c'.stack = v :: r' → castToBool v = false := bool_head e (by rfl)

theorem checkSig_empty_inv {env : Env} {pk : Bytes} {b : Bool} (h : checkSig env [] pk = .ok b) : b = false :=
  (checkSig_inv h).2

theorem checkSig_nil_key {env : Env} {sg : Bytes} {b : Bool} (h : checkSig env sg [] = .ok b) : False := by
  have := (checkSig_inv h).1
  unfold pubkeyOk at this
  cases env.flags.tapscript <;> simp at this

theorem multisigLoop_head {env : Env} {sg : Bytes} (hsg : ∀ key, (!sg.isEmpty && env.sigOk key sg) = false)
    (sigs keys : List Bytes) {b : Bool} (h : multisigLoop env (sg :: sigs) keys = .ok b) : b = false := by
  cases b with
  | false => rfl
  | true =>
    obtain ⟨ps, _, he, hv⟩ := multisigLoop_true_inv _ _ h
    cases ps with
    | nil => cases he
    | cons p ps' =>
      have hp := hv p (List.mem_cons_self ..)
      rw [show p.2 = sg from (List.cons.inj he).1] at hp
      have := hsg p.1
      simp [hp.1, hp.2] at this

/-! beyond `wf` (Lemmas/TypeSoundArgsThm.lean): thresholds of `multi` are at least 1 (`Threshold::new`) -/

mutual
def wfK : Ms → Bool
  | .multi k _ | .sortedMulti k _ | .multiA k _ | .sortedMultiA k _ => decide (1 ≤ k)
  | .thresh _ xs => wfKL xs
  | .alt x | .swap x | .check x | .dupIf x | .verify x | .nonZero x | .zeroNotEqual x => wfK x
  | .andV l r | .andB l r | .orB l r | .orD l r | .orC l r | .orI l r => wfK l && wfK r
  | .andOr a b c => wfK a && wfK b && wfK c
  | _ => true
def wfKL : MsList → Bool
  | .nil => true
  | .cons x xs => wfK x && wfKL xs
end

/-- "not satisfied", per base type, for a run that completed with core `c'`.  `W` is never asked for:
`a:` and `s:`, the only rules with result `W`, give input `any`, which is not `n`. -/
def Unsat (env : Env) (base : Base) (c' : Core) : Prop :=
  match base with
  | .B => ∀ v r, c'.stack = v :: r → castToBool v = false
  | .V => False
  | .K => ∀ c'', opc env .checksig c' = .ok c'' → ∀ v r, c''.stack = v :: r → castToBool v = false
  | .W => True

def isN (i : Input) : Prop := i = .oneNonZero ∨ i = .anyNonZero

theorem andInput_isN {a b : Input} (h : isN (Corr.andInput a b)) : isN a ∨ (a = .zero ∧ isN b) := by
  cases a <;> cases b <;> simp [Corr.andInput, isN] at h ⊢
theorem orBInput_not_isN (a b : Input) : ¬ isN (Corr.orBInput a b) := by
  cases a <;> cases b <;> simp [Corr.orBInput, isN]
theorem orDInput_not_isN (a b : Input) : ¬ isN (Corr.orDInput a b) := by
  cases a <;> cases b <;> simp [Corr.orDInput, isN]
theorem orIInput_not_isN (a b : Input) : ¬ isN (Corr.orIInput a b) := by
  cases a <;> cases b <;> simp [Corr.orIInput, isN]
theorem andOrInput_not_isN (a b c : Input) : ¬ isN (Corr.andOrInput a b c) := by
  cases a <;> cases b <;> cases c <;> simp [Corr.andOrInput, isN]


end MsVerif.TypeSound
