/-
Helper lemmas for C15 (`builder_inverse`): `TapTreeBuilder` driven by the pre-order walk of a
`{…}` expression rebuilds exactly the tree's depth list, and rejects exactly the trees deeper
than 128.  Simulation of the bitmap builder by the abstract (depth list, `List Bool`) builder, then
induction on the tree at the abstract level.
-/
import MsVerif.Lemmas.TapTreeBits


namespace MsVerif.Tap
open MsVerif.Spec MsVerif.Spec.Tree

variable {α : Type}

/-- level `i` (1 ≤ i ≤ 128) of the builder's completeness map -/
def Builder.bitAt (b : Builder α) (i : Nat) : Bool :=
  if i = 128 then b.complete128 else b.completeHeights.getLsbD i

/-- refinement relation for the builder: `l` has one entry per level `1..current_height`
(top first); all levels above are clear -/
def RB (b : Builder α) (l : List Bool) : Prop :=
  b.currentHeight = l.length ∧ l.length ≤ 128 ∧ Rep b.bitAt 1 l ∧
  ∀ i, l.length < i → i ≤ 128 → b.bitAt i = false

theorem RB_new : RB (Builder.new : Builder α) [] := by
  refine ⟨rfl, by simp, trivial, ?_⟩
  intro i _ _
  simp [Builder.bitAt, Builder.new]

def stepL (st : List (Nat × α) × List Bool) : BOp α → Option (List (Nat × α) × List Bool)
  | .inner => if st.2.length + 1 > 128 then none else some (st.1, false :: st.2)
  | .leaf s => some (st.1 ++ [(st.2.length, s)], unwindL st.2)

def Sim (b : Builder α) (st : List (Nat × α) × List Bool) : Prop :=
  b.depthsLeaves = st.1 ∧ RB b st.2

theorem sim_new : Sim (Builder.new : Builder α) ([], []) := ⟨rfl, RB_new⟩

theorem Sim.height_le {b : Builder α} {st : List (Nat × α) × List Bool} (h : Sim b st) : b.currentHeight ≤ 128 :=
  h.2.1 ▸ h.2.2.1

theorem pushInner_sim {b : Builder α} {st : List (Nat × α) × List Bool} (h : Sim b st) :
    (b.pushInnerNode = none ∧ stepL st .inner = none) ∨
    ∃ b' st', b.pushInnerNode = some b' ∧ stepL st .inner = some st' ∧ Sim b' st' := by
  obtain ⟨hd, hh, hle, hr, hc⟩ := h
  by_cases c : st.2.length + 1 > 128
  · left
    simp [Builder.pushInnerNode, stepL, c, hh, MAXN]
  · right
    refine ⟨{ b with currentHeight := b.currentHeight + 1 }, (st.1, false :: st.2), ?_, ?_, hd, ?_⟩
    · simp [Builder.pushInnerNode, hh, MAXN]; omega
    · simp [stepL, c]
    · refine ⟨by simp [hh], by simp; omega, ⟨?_, hr⟩, ?_⟩
      · exact hc _ (by omega) (by omega)
      · intro i h1 h2
        exact hc i (by simp at h1; omega) h2

/-- the `while` loop of `push_leaf` on levels ≤ 127 -/
theorem heightLoop_sim (l : List Bool) : ∀ (bits : BitVec 128),
    l.length ≤ 127 → Rep bits.getLsbD 1 l →
    (∀ i, l.length < i → i ≤ 127 → bits.getLsbD i = false) →
    (Builder.heightLoop bits l.length).2 = (unwindL l).length ∧
    Rep (Builder.heightLoop bits l.length).1.getLsbD 1 (unwindL l) ∧
    (∀ i, (unwindL l).length < i → i ≤ 127 → (Builder.heightLoop bits l.length).1.getLsbD i = false) := by
  induction l with
  | nil => intro bits _ hr hc; exact ⟨rfl, trivial, hc⟩
  | cons x l ih =>
    intro bits hle hr hc
    simp only [List.length_cons] at hle
    have hlt : l.length + 1 < 128 := by omega
    obtain ⟨hx, hr'⟩ := hr
    cases x with
    | false =>
      have ht : (bits &&& (1#128 <<< (l.length + 1)) == 0#128) = true := by
        rw [bit_test_eq _ _ hlt, hx]; rfl
      simp only [List.length_cons, Builder.heightLoop, ht, if_true, unwindL]
      refine ⟨trivial, ⟨by simp [getLsbD_setBit _ _ _ hlt], ?_⟩, ?_⟩
      · refine Rep.congr ?_ hr'
        intro i _ hi
        have : i ≠ l.length + 1 := by omega
        simp [getLsbD_setBit _ _ _ hlt, this]
      · intro i h1 h2
        have : i ≠ l.length + 1 := by omega
        simp [getLsbD_setBit _ _ _ hlt, this]
        exact hc i (by simp; omega) h2
    | true =>
      have ht : (bits &&& (1#128 <<< (l.length + 1)) == 0#128) = false := by
        rw [bit_test_eq _ _ hlt, hx]; rfl
      simp only [List.length_cons, Builder.heightLoop, ht, unwindL]
      apply ih
      · omega
      · refine Rep.congr ?_ hr'
        intro i _ hi
        have : i ≠ l.length + 1 := by omega
        simp [getLsbD_clearBit _ _ _ hlt, this]
      · intro i h1 h2
        by_cases e : i = l.length + 1
        · simp [getLsbD_clearBit _ _ _ hlt, e]
        · simp [getLsbD_clearBit _ _ _ hlt, e]
          exact hc i (by simp; omega) h2

theorem bitAt_lt (b : Builder α) (i : Nat) (h : i < 128) :
    b.bitAt i = b.completeHeights.getLsbD i := by
  have : i ≠ 128 := by omega
  simp [Builder.bitAt, this]

theorem bitAt_128 (b : Builder α) : b.bitAt 128 = b.complete128 := if_pos rfl

/-- below level 128 the completeness map is the bitmap -/
theorem rep_bits {b : Builder α} {l : List Bool} (hl : l.length ≤ 127) (hr : Rep b.bitAt 1 l) :
    Rep b.completeHeights.getLsbD 1 l :=
  Rep.congr (fun i _ _ => bitAt_lt b i (by omega)) hr

theorem RB_of_bits (b : Builder α) (l : List Bool) (hle : l.length ≤ 127)
    (hh : b.currentHeight = l.length) (hr : Rep b.completeHeights.getLsbD 1 l)
    (hc : ∀ i, l.length < i → i ≤ 127 → b.completeHeights.getLsbD i = false)
    (h128 : b.complete128 = false) : RB b l := by
  refine ⟨hh, by omega, ?_, ?_⟩
  · refine Rep.congr ?_ hr
    intro i _ hi
    exact (bitAt_lt b i (by omega)).symm
  · intro i h1 h2
    by_cases e : i = 128
    · rw [e, bitAt_128, h128]
    · rw [bitAt_lt b i (by omega)]
      exact hc i h1 (by omega)

theorem pushLeaf_128_false (b : Builder α) (s : α) (c : b.currentHeight = 128)
    (h : b.complete128 = false) :
    b.pushLeaf s = ⟨b.depthsLeaves ++ [(128, s)], b.completeHeights, true, 128⟩ := by
  simp [Builder.pushLeaf, MAXN, c, h]

theorem pushLeaf_128_true (b : Builder α) (s : α) (c : b.currentHeight = 128)
    (h : b.complete128 = true) :
    b.pushLeaf s = ⟨b.depthsLeaves ++ [(128, s)], (Builder.heightLoop b.completeHeights 127).1,
      false, (Builder.heightLoop b.completeHeights 127).2⟩ := by
  simp [Builder.pushLeaf, MAXN, c, h]

theorem pushLeaf_lt (b : Builder α) (s : α) (c : b.currentHeight ≠ 128) :
    b.pushLeaf s = ⟨b.depthsLeaves ++ [(b.currentHeight, s)],
      (Builder.heightLoop b.completeHeights b.currentHeight).1, b.complete128,
      (Builder.heightLoop b.completeHeights b.currentHeight).2⟩ := by
  simp [Builder.pushLeaf, MAXN, c]

theorem pushLeaf_sim {b : Builder α} {st : List (Nat × α) × List Bool} (h : Sim b st) (s : α) :
    Sim (b.pushLeaf s) (st.1 ++ [(st.2.length, s)], unwindL st.2) := by
  obtain ⟨hd, hh, hle, hr, hc⟩ := h
  by_cases c : b.currentHeight = 128
  · -- level 128: the `complete_128` flag
    rcases hl : st.2 with _ | ⟨x, l⟩
    · rw [hl] at hh; simp at hh; omega
    · rw [hl] at hh hle hr hc
      simp only [List.length_cons] at hh hle hc
      have hl127 : l.length = 127 := by omega
      obtain ⟨hx, hr'⟩ := hr
      have hx' : b.complete128 = x := by
        have : l.length + 1 = 128 := by omega
        rw [this, bitAt_128] at hx
        exact hx
      cases x with
      | false =>
        rw [pushLeaf_128_false b s c hx']
        refine ⟨by simp [hd, hl127], ?_⟩
        simp only [unwindL]
        refine ⟨by simp [hl127], by simp [hl127], ⟨?_, ?_⟩, ?_⟩
        · simp [Builder.bitAt, hl127]
        · refine Rep.congr ?_ hr'
          intro i _ hi
          have : i ≠ 128 := by omega
          simp [Builder.bitAt, this]
        · intro i h1 h2
          simp at h1; omega
      | true =>
        rw [pushLeaf_128_true b s c hx']
        refine ⟨by simp [hd, hl127], ?_⟩
        simp only [unwindL]
        have hrb : Rep b.completeHeights.getLsbD 1 l := rep_bits (by omega) hr'
        have hs := heightLoop_sim l b.completeHeights (by omega) hrb (by intro i h1 h2; omega)
        rw [hl127] at hs
        have hul := unwindL_length_le l
        exact RB_of_bits _ _ (by omega) hs.1 hs.2.1 hs.2.2 rfl
  · -- levels ≤ 127: the bitmap
    have hl127 : st.2.length ≤ 127 := by omega
    rw [pushLeaf_lt b s c]
    refine ⟨by simp [hd, hh], ?_⟩
    have hrb : Rep b.completeHeights.getLsbD 1 st.2 := rep_bits hl127 hr
    have hcb : ∀ i, st.2.length < i → i ≤ 127 → b.completeHeights.getLsbD i = false := by
      intro i h1 h2
      rw [← bitAt_lt b i (by omega)]
      exact hc i h1 (by omega)
    have hs := heightLoop_sim st.2 b.completeHeights hl127 hrb hcb
    rw [← hh] at hs
    have hul := unwindL_length_le st.2
    have h128 : b.complete128 = false := by
      exact bitAt_128 b ▸ hc 128 (by omega) (by omega)
    show RB _ (unwindL st.2)
    exact RB_of_bits _ _ (by omega) hs.1 hs.2.1 hs.2.2 h128

def runL (ops : List (BOp α)) (st : List (Nat × α) × List Bool) :
    Option (List (Nat × α) × List Bool) :=
  ops.foldlM stepL st

theorem step_sim {b : Builder α} {st : List (Nat × α) × List Bool} (h : Sim b st) (op : BOp α) :
    (b.step op = none ∧ stepL st op = none) ∨
    ∃ b' st', b.step op = some b' ∧ stepL st op = some st' ∧ Sim b' st' := by
  cases op with
  | inner => exact pushInner_sim h
  | leaf s => exact Or.inr ⟨_, _, rfl, rfl, pushLeaf_sim h s⟩

theorem run_sim (ops : List (BOp α)) : ∀ (b : Builder α) (st : List (Nat × α) × List Bool),
    Sim b st →
    (Builder.run ops b = none ∧ runL ops st = none) ∨
    ∃ b' st', Builder.run ops b = some b' ∧ runL ops st = some st' ∧ Sim b' st' := by
  induction ops with
  | nil => intro b st h; exact Or.inr ⟨b, st, rfl, rfl, h⟩
  | cons op ops ih =>
    intro b st h
    simp only [Builder.run, runL, List.foldlM_cons, Option.bind_eq_bind]
    rcases step_sim h op with ⟨h1, h2⟩ | ⟨b', st', h1, h2, h3⟩
    · rw [h1, h2]; exact Or.inl ⟨rfl, rfl⟩
    · rw [h1, h2]; exact ih b' st' h3

/-- pre-order walk of the `{l,r}` expression, as `Tr::from_tree` performs it -/
def opsOf : Tree α → List (BOp α)
  | .leaf s => [.leaf s]
  | .node l r => .inner :: (opsOf l ++ opsOf r)

theorem runL_tree (t : Tree α) : ∀ (st : List (Nat × α) × List Bool), st.2.length ≤ 128 →
    runL (opsOf t) st =
      if st.2.length + height t ≤ 128 then some (st.1 ++ depthsFrom st.2.length t, unwindL st.2)
      else none := by
  induction t with
  | leaf s =>
    intro st hst
    simp [runL, opsOf, stepL, height, depthsFrom, hst]
  | node l r ihl ihr =>
    intro st hst
    have hl := ihl (st.1, false :: st.2)
    have hr := ihr (st.1 ++ depthsFrom (st.2.length + 1) l, true :: st.2)
    dsimp only [runL, List.length_cons, unwindL] at hl hr
    simp only [opsOf, runL, List.foldlM_cons, List.foldlM_append, stepL, height, Option.bind_eq_bind]
    by_cases c : st.2.length + 1 > 128
    · rw [if_pos c]
      exact (if_neg (by omega)).symm
    · rw [if_neg c, Option.bind_some, hl (by omega)]
      by_cases cl : st.2.length + 1 + height l ≤ 128
      · rw [if_pos cl, Option.bind_some, hr (by omega)]
        by_cases cr : st.2.length + 1 + height r ≤ 128
        · rw [if_pos cr, List.append_assoc]
          exact (if_pos (by omega)).symm
        · rw [if_neg cr]
          exact (if_neg (by omega)).symm
      · rw [if_neg cl]
        exact (if_neg (by omega)).symm

end MsVerif.Tap
