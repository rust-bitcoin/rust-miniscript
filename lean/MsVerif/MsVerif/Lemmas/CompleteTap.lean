/-
The taproot leaf loop (`Model/TapSpend.lean`) returns a leaf iff some
leaf has a stack satisfaction, and the witness size it keeps is at most that of every leaf with one (`tapLoop_min`).
-/
import MsVerif.Model.TapSpend
import MsVerif.Lemmas.CompleteBasic

namespace MsVerif.Complete
open MsVerif

def leafSat (env : KeyEnv) (a : Assets) (mall : Bool) (l : TapLeaf) : Sat :=
  (satDissat (tapLeafCfg env a mall l.ms) l.ms).sat

theorem tapLoop_isSome (env : KeyEnv) (a : Assets) (mall : Bool) (ls : List TapLeaf) (i : Nat)
    (best : Option (Nat × Nat)) :
    (tapLoop env a mall ls i best).isSome =
      (best.isSome || ls.any (fun l => isStk (leafSat env a mall l).stack)) := by
  induction ls generalizing i best with
  | nil => simp [tapLoop]
  | cons l rest ih =>
    unfold tapLoop
    simp only [List.any_cons, leafSat]
    cases h : (satDissat (tapLeafCfg env a mall l.ms) l.ms).sat.stack with
    | stack s =>
      cases best with
      | none => simp [ih]
      | some b =>
        obtain ⟨j, m⟩ := b
        simp only
        split <;> simp [ih]
    | unavailable | impossible => simp [ih, leafSat]

theorem tapLoop_min (env : KeyEnv) (a : Assets) (mall : Bool) (ls : List TapLeaf) (i : Nat)
    (best : Option (Nat × Nat)) (j m : Nat) (h : tapLoop env a mall ls i best = some (j, m)) :
    (∀ j0 m0, best = some (j0, m0) → m ≤ m0) ∧
    (∀ l ∈ ls, ∀ s, (leafSat env a mall l).stack = .stack s → m ≤ tapLeafWitSize env l s) := by
  induction ls generalizing i best with
  | nil =>
    simp only [tapLoop] at h
    exact ⟨fun j0 m0 hb => by rw [hb] at h; cases h; exact Nat.le_refl _, by simp⟩
  | cons l rest ih =>
    unfold tapLoop at h
    cases hs : (satDissat (tapLeafCfg env a mall l.ms) l.ms).sat.stack with
    | stack s =>
      rw [hs] at h
      have hl : ∀ s', (leafSat env a mall l).stack = .stack s' → s' = s := by
        intro s' h'; unfold leafSat at h'; rw [hs] at h'; cases h'; rfl
      cases best with
      | none =>
        simp only at h
        have := ih _ _ h
        refine ⟨by simp, ?_⟩
        intro l' hl' s' hs'
        rcases List.mem_cons.mp hl' with rfl | hm
        · rw [hl s' hs']; exact this.1 _ _ rfl
        · exact this.2 l' hm s' hs'
      | some b =>
        obtain ⟨j0, m0⟩ := b
        simp only at h
        by_cases hgt : tapLeafWitSize env l s > m0
        · rw [if_pos hgt] at h
          have := ih _ _ h
          have hm := this.1 _ _ rfl
          refine ⟨fun j1 m1 hb => by cases hb; exact hm, ?_⟩
          intro l' hl' s' hs'
          rcases List.mem_cons.mp hl' with rfl | hmem
          · rw [hl s' hs']; omega
          · exact this.2 l' hmem s' hs'
        · rw [if_neg hgt] at h
          have := ih _ _ h
          have hm := this.1 _ _ rfl
          refine ⟨fun j1 m1 hb => by cases hb; omega, ?_⟩
          intro l' hl' s' hs'
          rcases List.mem_cons.mp hl' with rfl | hmem
          · rw [hl s' hs']; exact hm
          · exact this.2 l' hmem s' hs'
    | unavailable | impossible =>
      rw [hs] at h
      have := ih _ _ h
      refine ⟨this.1, ?_⟩
      intro l' hl' s' hs'
      rcases List.mem_cons.mp hl' with rfl | hmem
      · unfold leafSat at hs'; rw [hs] at hs'; cases hs'
      · exact this.2 l' hmem s' hs'

theorem bestTapSpend_ne_none (env : KeyEnv) (a : Assets) (mall tk : Bool) (ls : List TapLeaf) :
    bestTapSpend env a mall tk ls ≠ .none ↔
      (tk = true ∨ ∃ l ∈ ls, isStk (leafSat env a mall l).stack = true) := by
  unfold bestTapSpend
  cases tk with
  | true => simp
  | false =>
    have h := tapLoop_isSome env a mall ls 0 none
    simp only [Option.isSome_none, Bool.false_or] at h
    cases hl : tapLoop env a mall ls 0 none with
    | none =>
      rw [hl] at h
      simp only [Option.isSome_none] at h
      have : ¬ ∃ l ∈ ls, isStk (leafSat env a mall l).stack = true := by
        intro ⟨l, hm, hs⟩
        have : ls.any (fun l => isStk (leafSat env a mall l).stack) = true :=
          List.any_eq_true.mpr ⟨l, hm, hs⟩
        rw [← h] at this; cases this
      simp [this]
    | some b =>
      rw [hl] at h
      simp only [Option.isSome_some] at h
      obtain ⟨l, hm, hs⟩ := List.any_eq_true.mp h.symm
      obtain ⟨j, m⟩ := b
      exact ⟨fun _ => .inr ⟨l, hm, hs⟩, fun _ => by simp⟩

end MsVerif.Complete
