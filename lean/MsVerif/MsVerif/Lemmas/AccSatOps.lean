/-
C02 T2, the opcodes: what the ENVIRONMENT may accept (`EnvOK`); what a true result of the multisig scripts then says
about the caller's assets (`multisigLoop_true`, `multi_true`, `multiA_true`), with the facts on `numEncode`, `checkSig` and the counter of `thresh` (`unit_count`)
that the other cases need; the table's dissatisfaction column reads the assets at `expr_raw_pkh` only (`dsatEx_congr`, `dsat_of_d`); what
"satisfied" means for a completed run of each base type (`SatS`) and the side conditions `WF` of the
induction that uses all this.
-/
import MsVerif.Lemmas.TypeSoundSignedThm
import MsVerif.Lemmas.TypeSoundForced
import MsVerif.Spec.SatTable
import MsVerif.Lemmas.CompleteFixed
import MsVerif.Lemmas.CoreEncode
import MsVerif.Lemmas.CoreTypes
import MsVerif.Lemmas.CoreFrag
import MsVerif.Lemmas.CoreSatTable


namespace MsVerif.AccSat
open MsVerif MsVerif.Script MsVerif.TypeSound MsVerif.SatTable

def hashOpOf : HashKind → HashOp
  | .sha256 => .sha256 | .hash256 => .hash256 | .ripemd160 => .ripemd160 | .hash160 => .hash160

/-- The caller's assets `av` bound what the transaction environment `env` accepts:
* unforgeability — a signature that verifies for the serialisation of a key `k`, or
  for any bytes whose HASH160 is the `pk_h` commitment of `k`, is one the caller holds (for every `k`: no script is fixed);
* preimage resistance — a 32-byte string hashing to a committed value is a preimage the caller
  knows;
* the transaction's nLockTime / nSequence satisfy only locks the caller declares. -/
structure EnvOK (env : Env) (ke : KeyEnv) (av : Avail) : Prop where
  sigK : ∀ k s, env.sigOk (ke.ser k) s = true → av.sig k = true
  sigH : ∀ k p s, env.hash .hash160 p = ke.pkh k → env.sigOk p s = true → av.sig k = true
  pre : ∀ kind h x, x.length = 32 → env.hash (hashOpOf kind) x = ke.hashVal kind h →
    av.preimage kind h = true
  after : ∀ n, checkLockTime env n = true → av.after n = true
  older : ∀ n, checkSequence env n = true → av.older n = true

/-- `OP_SIZE <32> OP_EQUALVERIFY`: only a length of exactly 32 encodes like `pushInt 32` (for
EVERY length, no size bound) -/
theorem numEncode_eq32 {n : Nat} (h : numEncode (n : Int) = numEncode ((32 : Nat) : Int)) : n = 32 := by
  have h32 : numDecode false 4 (numEncode (n : Int)) = some ((32 : Nat) : Int) := by
    rw [h]
    exact numDecode_numEncode (by decide) false
  have := numDecode_numEncode_inv h32
  omega

theorem top_boolBytes {st r rr : List Bytes} {b : Bool} {v : Bytes} (e : st = boolBytes b :: r)
    (hs : st = v :: rr) (hv : castToBool v = true) : b = true := by
  cases e.symm.trans hs
  exact (castToBool_boolBytes b).symm.trans hv

theorem checkSig_true {env : Env} {sg pk : Bytes} (h : checkSig env sg pk = .ok true) :
    env.sigOk pk sg = true :=
  (Bool.and_eq_true_iff.mp (checkSig_inv h).2.symm).2

theorem decode_any_numEncode {flag : Bool} {mx n : Nat} {z : Int} (hn : n < 2 ^ 31)
    (h : numDecode flag mx (numEncode (n : Int)) = some z) : z = (n : Int) :=
  (numDecode_eq_some h).1.trans (numDecodeRaw_numEncode (by omega))

section
variable {env : Env} {ke : KeyEnv} {av : Avail}

/-- CHECKMULTISIG's matching loop succeeds only if every signature is matched by its own key,
keys in order: at least as many keys with an available signature as there are signatures -/
theorem multisigLoop_true (henv : EnvOK env ke av) (kl : List Key) (sigs : List Bytes)
    (h : multisigLoop env sigs (kl.map ke.ser) = .ok true) : sigs.length ≤ (kl.filter av.sig).length := by
  obtain ⟨ps, hs, rfl, hv⟩ := multisigLoop_true_inv _ _ h
  obtain ⟨l', hl, he⟩ := List.sublist_map_iff.mp hs
  have hall : ∀ k ∈ l', av.sig k = true := fun k hk => by
    have : ke.ser k ∈ ps.map (·.1) := he ▸ List.mem_map_of_mem hk
    obtain ⟨p, hp, e⟩ := List.mem_map.mp this
    exact henv.sigK k p.2 (e ▸ (hv p hp).2)
  have := (hl.filter av.sig).length_le
  rw [List.filter_eq_self.mpr hall] at this
  rw [List.length_map, ← List.length_map (f := (·.1)), he, List.length_map]
  exact this

/-- `multi` / `sortedmulti` leaving a true value: at least `k` of the keys have an available
signature -/
theorem multi_true (henv : EnvOK env ke av) (k : Nat) (kl : List Key) {c c' : Core}
    (h : seqOps env ([pushInt k] ++ kl.map (fun pk => Op.push (ke.ser pk)) ++ [pushInt kl.length, .code .checkmultisig]) c
      = .ok c') {v : Bytes} {rr : List Bytes} (hst : c'.stack = v :: rr) (hv : castToBool v = true) :
    k ≤ (kl.filter av.sig).length := by
  obtain ⟨b, dummy, r2, _, hd, hloop, hs⟩ := multi_ok ke k kl h
  cases top_boolBytes hs hst hv
  rw [← List.map_reverse] at hloop
  have := multisigLoop_true henv kl.reverse _ hloop
  rw [List.filter_reverse, List.length_reverse, List.length_take] at this
  have hlen := congrArg List.length hd
  rw [List.length_drop, List.length_cons] at hlen
  omega

/-- `multi_a` / `sortedmulti_a` leaving a true value: at least `k` keys have an available signature -/
theorem multiA_true (henv : EnvOK env ke av) (k : Nat) (kl : List Key)
    (hkl : 1 ≤ kl.length) {c c' : Core}
    (h : seqOps env (encodeMultiA ke kl ++ [pushInt k, .code .numequal]) c = .ok c')
    {v : Bytes} {rr : List Bytes} (hst : c'.stack = v :: rr) (hv : castToBool v = true) :
    k ≤ (kl.filter av.sig).length := by
  obtain ⟨_, y, m, _, hs, hy⟩ := multiA_ok ke av.sig (fun k sg hc => henv.sigK k sg (checkSig_true hc)) k kl h
  cases (beq_iff_eq.mp (top_boolBytes hs hst hv) : (k : Int) = y)
  exact_mod_cast (hy hkl).2


end

open Complete

/-- the table's dissatisfaction column reads the assets only at `expr_raw_pkh`, and there only `rawKey` -/
theorem dsatEx_congr (a a' : Avail) (ms : Ms)
    (hP : allNodes (fun | .rawPkH h => a.rawKey h == a'.rawKey h | _ => true) ms = true) :
    dsatEx a ms = dsatEx a' ms := by
  induction ms using Ms.rec (motive_2 := fun xs =>
    allNodesL (fun | .rawPkH h => a.rawKey h == a'.rawKey h | _ => true) xs = true →
      allDsatEx a xs = allDsatEx a' xs) with
  | rawPkH _ => simp only [dsatEx]; exact eq_of_beq (allNodes_leaf hP rfl)
  | alt x ih | swap x ih | check x ih | zeroNotEqual x ih => exact ih (allNodes_un hP rfl).2
  | andB l r ihl ihr | orB l r ihl ihr | orD l r ihl ihr | orI l r ihl ihr =>
    obtain ⟨-, hl, hr⟩ := allNodes_bin hP rfl
    simp only [dsatEx, ihl hl, ihr hr]
  | andOr x y z ihx _ ihz =>
    obtain ⟨-, hx, -, hz⟩ := allNodes_andOr hP
    simp only [dsatEx, ihx hx, ihz hz]
  | thresh k xs ih => exact ih (allNodes_thresh hP).2
  | nil => rfl
  | cons x xs ihx ihs =>
    rename_i h
    rw [allNodesL_cons, Bool.and_eq_true] at h
    simp only [allDsatEx, ihx h.1, ihs h.2]
  | _ => rfl

theorem dsatEx_noRaw (a a' : Avail) (ms : Ms) (hP : allNodes isNotRawPkH ms = true) :
    dsatEx a ms = dsatEx a' ms :=
  dsatEx_congr a a' ms (allNodes_mono (fun m hm => by cases m <;> first | rfl | cases hm) hP)

/-- `dsat_of_type` (for a caller who knows every raw key) carried over to any assets -/
theorem dsat_of_d (av : Avail) (ms : Ms) (τ : Ty) (h : typeOf ms = some τ) (hd : τ.corr.dissat = true)
    (hP : allNodes isNotRawPkH ms = true) : dsatEx av ms = true :=
  (dsatEx_noRaw av { av with rawKey := fun _ => true } ms hP).trans
    (dsat_of_type _ (fun _ => rfl) ms τ h hd)

/-- "satisfied ⇒ P" for a completed run from stack `s` to core `c'` -/
def SatS (env : Env) (P : Prop) (base : Base) (s : List Bytes) (c' : Core) : Prop :=
  match base with
  | .B => ∀ v r, c'.stack = v :: r → castToBool v = true → P
  | .V => P
  | .K => ∀ pk sg r, c'.stack = pk :: sg :: r → env.sigOk pk sg = true → P
  | .W => ∀ x tl, s = x :: tl →
      ∃ v r, (c'.stack = x :: v :: r ∨ c'.stack = v :: x :: r) ∧ (castToBool v = true → P)

section
variable {env : Env} {P Q : Prop} {b : Base} {s s' : List Bytes} {c' c'' : Core}

theorem SatS.B (hb : b = .B) : SatS env P b s c' ↔ ∀ v r, c'.stack = v :: r → castToBool v = true → P := by
  subst hb; rfl
theorem SatS.V (hb : b = .V) : SatS env P b s c' ↔ P := by subst hb; rfl
theorem SatS.K (hb : b = .K) :
    SatS env P b s c' ↔ ∀ pk sg r, c'.stack = pk :: sg :: r → env.sigOk pk sg = true → P := by
  subst hb; rfl
theorem SatS.W (hb : b = .W) : SatS env P b s c' ↔ ∀ x tl, s = x :: tl →
    ∃ v r, (c'.stack = x :: v :: r ∨ c'.stack = v :: x :: r) ∧ (castToBool v = true → P) := by
  subst hb; rfl

theorem SatS.mono (h : SatS env P b s c') (hpq : P → Q) : SatS env Q b s c' := by
  cases b with
  | B => exact fun v r hv ht => hpq (h v r hv ht)
  | V => exact hpq h
  | K => exact fun pk sg r hs ho => hpq (h pk sg r hs ho)
  | W =>
    intro x tl hx
    obtain ⟨v, r, hv, hp⟩ := h x tl hx
    exact ⟨v, r, hv, fun ht => hpq (hp ht)⟩

/-- for B, V, K only the final stack matters -/
theorem SatS.move {b' : Base} (h : SatS env P b s c') (hb : b' = b) (hw : b ≠ .W)
    (hst : c''.stack = c'.stack) : SatS env P b' s' c'' := by
  subst hb
  cases b' with
  | B => exact fun v r hv ht => h v r (by rw [← hst]; exact hv) ht
  | V => exact h
  | K => exact fun pk sg r hs ho => h pk sg r (by rw [← hst]; exact hs) ho
  | W => exact absurd rfl hw

end

mutual
/-- multi-family thresholds are at most the number of keys (`Threshold::new`), below 2³¹ -/
def wfM : Ms → Bool
  | .multi k ks | .sortedMulti k ks | .multiA k ks | .sortedMultiA k ks =>
    decide (k ≤ ks.length) && decide (ks.length < 2 ^ 31)
  | .thresh _ xs => wfML xs
  | .alt x | .swap x | .check x | .dupIf x | .verify x | .nonZero x | .zeroNotEqual x => wfM x
  | .andV l r | .andB l r | .orB l r | .orD l r | .orC l r | .orI l r => wfM l && wfM r
  | .andOr a b c => wfM a && wfM b && wfM c
  | _ => true
def wfML : MsList → Bool
  | .nil => true
  | .cons x xs => wfM x && wfML xs
end

/-- all side conditions: the invariants of the library's `Threshold` / lock-time types that the
typing model does not re-check, and "no raw pkh" -/
structure WF (ms : Ms) : Prop where
  w : wf ms = true
  s : wfS ms = true
  t : wfT ms = true
  m : wfM ms = true
  r : allNodes isNotRawPkH ms = true

structure WFL (xs : MsList) : Prop where
  w : wfL xs = true
  s : wfSL xs = true
  t : wfTL xs = true
  m : wfML xs = true
  r : allNodesL isNotRawPkH xs = true

theorem WF.un {f : Ms → Ms} {x : Ms} (h : WF (f x))
    (hf : f = .alt ∨ f = .swap ∨ f = .check ∨ f = .dupIf ∨ f = .verify ∨ f = .nonZero ∨ f = .zeroNotEqual) :
    WF x := by
  obtain ⟨h1, h2, h3, h4, h5⟩ := h
  rcases hf with rfl | rfl | rfl | rfl | rfl | rfl | rfl <;>
    exact ⟨h1, h2, h3, h4, (allNodes_un h5 rfl).2⟩

theorem WF.bin {f : Ms → Ms → Ms} {l r : Ms} (h : WF (f l r))
    (hf : f = .andV ∨ f = .andB ∨ f = .orB ∨ f = .orD ∨ f = .orC ∨ f = .orI) : WF l ∧ WF r := by
  obtain ⟨h1, h2, h3, h4, h5⟩ := h
  rcases hf with rfl | rfl | rfl | rfl | rfl | rfl <;>
  · have h1 := Bool.and_eq_true_iff.mp h1
    have h2 := Bool.and_eq_true_iff.mp h2
    have h3 := Bool.and_eq_true_iff.mp h3
    have h4 := Bool.and_eq_true_iff.mp h4
    obtain ⟨-, h5l, h5r⟩ := allNodes_bin h5 rfl
    exact ⟨⟨h1.1, h2.1, h3.1, h4.1, h5l⟩, ⟨h1.2, h2.2, h3.2, h4.2, h5r⟩⟩

theorem WF.andOr {x y z : Ms} (h : WF (.andOr x y z)) : WF x ∧ WF y ∧ WF z := by
  obtain ⟨h1, h2, h3, h4, h5⟩ := h
  obtain ⟨-, h5x, h5y, h5z⟩ := allNodes_andOr h5
  simp only [wf, Bool.and_eq_true] at h1
  simp only [wfS, Bool.and_eq_true] at h2
  simp only [wfT, Bool.and_eq_true] at h3
  simp only [wfM, Bool.and_eq_true] at h4
  exact ⟨⟨h1.1.1, h2.1.1, h3.1.1, h4.1.1, h5x⟩, ⟨h1.1.2, h2.1.2, h3.1.2, h4.1.2, h5y⟩,
    ⟨h1.2, h2.2, h3.2, h4.2, h5z⟩⟩

theorem WF.thresh {k : Nat} {xs : MsList} (h : WF (.thresh k xs)) :
    WFL xs ∧ 1 ≤ xs.length ∧ k ≤ xs.length ∧ xs.length < 2 ^ 31 := by
  obtain ⟨h1, h2, h3, h4, h5⟩ := h
  simp only [wf, Bool.and_eq_true, decide_eq_true_eq] at h1
  simp only [wfS, Bool.and_eq_true, decide_eq_true_eq] at h2
  exact ⟨⟨h1.2, h2.2, h3, h4, (allNodes_thresh h5).2⟩, h1.1, h2.1.1, h2.1.2⟩

theorem WFL.cons {x : Ms} {xs : MsList} (h : WFL (.cons x xs)) : WF x ∧ WFL xs := by
  obtain ⟨h1, h2, h3, h4, h5⟩ := h
  rw [allNodesL_cons] at h5
  have h1 := Bool.and_eq_true_iff.mp h1
  have h2 := Bool.and_eq_true_iff.mp h2
  have h3 := Bool.and_eq_true_iff.mp h3
  have h4 := Bool.and_eq_true_iff.mp h4
  have h5 := Bool.and_eq_true_iff.mp h5
  exact ⟨⟨h1.1, h2.1, h3.1, h4.1, h5.1⟩, ⟨h1.2, h2.2, h3.2, h4.2, h5.2⟩⟩

theorem truthy_ne_zero {env : Env} {v : Bytes} {x : Int} (hx : num4 env v = .ok x) (hne : x ≠ 0) :
    castToBool v = true := by
  cases hv : castToBool v with
  | true => rfl
  | false => exact absurd (falsy_decodes_zero hv (num4_ok hx)) hne

/-- what a child of `thresh` adds to the counter: its unit result decodes to 0 or 1, and to 0 unless
`p` (at its uses `satEx av x`: the child is table-satisfiable) -/
theorem unit_count {env : Env} {v : Bytes} {y : Int} {p : Bool} (hu : castToBool v = true → v = [1])
    (hp : castToBool v = true → p = true) (h : num4 env v = .ok y) :
    0 ≤ y ∧ y ≤ 1 ∧ y ≤ ((if p then 1 else 0 : Nat) : Int) := by
  obtain ⟨h01, hf⟩ := unit_decode hu h
  cases hv : castToBool v with
  | false => rw [hf hv]; exact ⟨Int.le_refl 0, by decide, Int.natCast_nonneg _⟩
  | true =>
    rw [hp hv]
    rcases h01 with h0 | h0 <;> rw [h0] <;> decide

end MsVerif.AccSat
