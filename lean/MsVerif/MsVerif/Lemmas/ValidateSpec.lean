/-
Helper lemmas for C12: the traversals / counters of the validator model agree with the
specification's own definitions in `Spec/CtxRules.lean`; the right side of `mpRun_none_iff` is the body of
`hasDefect_multipath`.
-/
import MsVerif.Lemmas.ValidateSwitch
import MsVerif.Spec.CtxRules
import MsVerif.Lemmas.CoreValidate

namespace MsVerif
open Spec

mutual
theorem everyNode_eq (q : Ms → Bool) : (ms : Ms) → everyNode q ms = ms.preorder.all q
  | .tru | .fls | .pkK _ | .pkH _ | .rawPkH _ | .after _ | .older _ | .hash _ _
  | .multi _ _ | .sortedMulti _ _ | .multiA _ _ | .sortedMultiA _ _ => (Bool.and_true _).symm
  | .alt x | .swap x | .check x | .dupIf x | .verify x | .nonZero x | .zeroNotEqual x => by
    simp only [everyNode, Ms.preorder, List.all_cons, everyNode_eq q x]
  | .andV l r | .andB l r | .orB l r | .orC l r | .orD l r | .orI l r => by
    simp only [everyNode, Ms.preorder, List.all_cons, List.all_append, everyNode_eq q l,
      everyNode_eq q r, Bool.and_assoc]
  | .andOr a b c => by
    simp only [everyNode, Ms.preorder, List.all_cons, List.all_append, everyNode_eq q a,
      everyNode_eq q b, everyNode_eq q c, Bool.and_assoc]
  | .thresh k xs => by simp only [everyNode, Ms.preorder, List.all_cons, everyNodeL_eq q xs]
theorem everyNodeL_eq (q : Ms → Bool) : (xs : MsList) → everyNodeL q xs = xs.preorder.all q
  | .nil => rfl
  | .cons x xs => by
    simp only [everyNodeL, MsList.preorder, List.all_append, everyNode_eq q x, everyNodeL_eq q xs]
end

theorem someNode_eq (q : Ms → Bool) (ms : Ms) : someNode q ms = ms.preorder.any q := by
  simp only [someNode, everyNode_eq, ← List.not_any_eq_all_not, Bool.not_not]

theorem keysAt_eq (m : Ms) : keysAt m = m.nodeKeys := by cases m <;> rfl

mutual
theorem allKeys_eq : (ms : Ms) → allKeys ms = ms.iterPk
  | .tru | .fls | .pkK _ | .pkH _ | .rawPkH _ | .after _ | .older _ | .hash _ _
  | .multi _ _ | .sortedMulti _ _ | .multiA _ _ | .sortedMultiA _ _ => (List.append_nil _).symm
  | .alt x | .swap x | .check x | .dupIf x | .verify x | .nonZero x | .zeroNotEqual x =>
    (allKeys_eq x).trans rfl
  | .andV l r | .andB l r | .orB l r | .orC l r | .orD l r | .orI l r => by
    show allKeys l ++ allKeys r = _
    rw [allKeys_eq l, allKeys_eq r]; exact List.flatMap_append.symm
  | .andOr a b c => by
    show allKeys a ++ (allKeys b ++ allKeys c) = _
    rw [allKeys_eq a, allKeys_eq b, allKeys_eq c]
    exact (List.flatMap_append.trans (congrArg _ List.flatMap_append)).symm
  | .thresh k xs => allKeysL_eq xs
theorem allKeysL_eq : (xs : MsList) → allKeysL xs = xs.preorder.flatMap Ms.nodeKeys
  | .nil => rfl
  | .cons x xs => by
    show allKeys x ++ allKeysL xs = _
    rw [allKeys_eq x, allKeysL_eq xs]; exact List.flatMap_append.symm
end

theorem distinctCount_eq_iff (l : List Key) : distinctCount l = l.length ↔ nodupB l = true := by
  induction l with
  | nil => simp [distinctCount, nodupB]
  | cons k ks ih =>
    have hle := distinctCount_le ks
    simp only [distinctCount, List.length_cons, nodupB, Bool.and_eq_true, Bool.not_eq_true']
    cases hc : ks.contains k with
    | true => simp; omega
    | false => simp only [Bool.false_eq_true, if_false, true_and, ← ih]; omega

theorem hasRepeatedKeys_eq (ms : Ms) : hasRepeatedKeys ms = hasDefect_duplicateKeys ms := by
  unfold hasRepeatedKeys hasDefect_duplicateKeys
  rw [allKeys_eq]
  have := distinctCount_eq_iff ms.iterPk
  cases h : nodupB ms.iterPk with
  | true => simp [this.2 h]
  | false =>
    have : distinctCount ms.iterPk ≠ ms.iterPk.length := fun e => by
      have := this.1 e; simp [h] at this
    simp [this]

theorem mpRun_some_iff (x : Nat) (l : List Nat) :
    (mpRun (some x) l).isSome = (l.filter (fun n => decide (2 ≤ n))).all (· == x) := by
  induction l with
  | nil => rfl
  | cons n ns ih =>
    simp only [mpRun, List.filter_cons]
    by_cases h01 : n = 0 ∨ n = 1
    · have : decide (2 ≤ n) = false := by simp; omega
      simp [h01, this, ih]
    · have h2 : decide (2 ≤ n) = true := by simp; omega
      simp only [h01, if_false, h2, if_true, List.all_cons]
      by_cases hx : x = n
      · subst hx; simp only [if_true, beq_self_eq_true, Bool.true_and]; exact ih
      · have : (n == x) = false := by simp; omega
        simp [hx, this]

theorem mpRun_none_iff (l : List Nat) :
    (mpRun none l).isNone =
      (match l.filter (fun n => decide (2 ≤ n)) with
       | [] => false
       | n :: rest => !rest.all (· == n)) := by
  induction l with
  | nil => rfl
  | cons n ns ih =>
    simp only [mpRun, List.filter_cons]
    by_cases h01 : n = 0 ∨ n = 1
    · have : decide (2 ≤ n) = false := by simp; omega
      simp [h01, this, ih]
    · have h2 : decide (2 ≤ n) = true := by simp; omega
      simp only [h01, if_false, h2, if_true]
      rw [← mpRun_some_iff]
      cases mpRun (some n) ns <;> rfl

theorem foldl_max_treeHeight (l : List ExtData) (m : Nat) :
    l.foldl (fun m s => max m s.treeHeight) m = max m ((l.map (·.treeHeight)).foldr max 0) := by
  induction l generalizing m with
  | nil => simp
  | cons e es ih => simp only [List.foldl_cons, ih, List.map_cons, List.foldr_cons]; omega

mutual
theorem treeHeight_eq (env : KeyEnv) (ctx : Ctx) :
    (ms : Ms) → (extOf env ctx ms).treeHeight = depth ms
  | .tru | .fls | .pkK _ | .pkH _ | .rawPkH _ | .after _ | .older _
  | .multi _ _ | .sortedMulti _ _ | .multiA _ _ | .sortedMultiA _ _ => rfl
  | .hash k _ => by cases k <;> rfl
  | .alt x | .swap x | .check x | .dupIf x | .verify x | .nonZero x | .zeroNotEqual x =>
    congrArg (· + 1) (treeHeight_eq env ctx x)
  | .andV l r | .andB l r | .orB l r | .orC l r | .orD l r | .orI l r => by
    show 1 + max _ _ = _
    rw [treeHeight_eq env ctx l, treeHeight_eq env ctx r]; exact Nat.add_comm ..
  | .andOr a b c => by
    show 1 + max _ (max _ _) = _
    rw [treeHeight_eq env ctx a, treeHeight_eq env ctx b, treeHeight_eq env ctx c]
    exact Nat.add_comm ..
  | .thresh k xs => by
    simp only [extOf, depth, ExtData.threshold, foldl_max_treeHeight, treeHeightL_eq env ctx xs]
    omega
theorem treeHeightL_eq (env : KeyEnv) (ctx : Ctx) :
    (xs : MsList) → ((extsOf env ctx xs).map (·.treeHeight)).foldr max 0 = depthL xs
  | .nil => by simp [extsOf, depthL]
  | .cons x xs => by
    simp [extsOf, depthL, treeHeight_eq env ctx x, treeHeightL_eq env ctx xs]
end

end MsVerif
