/-
The decoder normal form (`norm`, `desugar` in Model/Tokens.lean) keeps the token list, hence
the script bytes: re-association / floating of `and_v`, `pk_h` ↦ `expr_raw_pkh`,
`sortedmulti(_a)` ↦ `multi(_a)` with sorted keys.
-/
import MsVerif.Model.Tokens
import MsVerif.Lemmas.CoreEncode
import MsVerif.Lemmas.TranslateEncode
import MsVerif.Lemmas.NormRel

namespace MsVerif
namespace TokL

variable (env : KeyEnv) (ctx : Ctx)

theorem tokRel : NormL.NormRel (fun a b => tokens env ctx a = tokens env ctx b)
    (fun xs ys => ∀ first, threshTokens env ctx first xs = threshTokens env ctx first ys) where
  refl _ := rfl
  trans := Eq.trans
  alt e := by simp only [tokens, e]
  swap e := by simp only [tokens, e]
  check e := by simp only [tokens, e]
  dupIf e := by simp only [tokens, e]
  verify e := by simp only [tokens, e]
  nonZero e := by simp only [tokens, e]
  zeroNotEqual e := by simp only [tokens, e]
  andV e e' := by simp only [tokens, e, e']
  andB e e' := by simp only [tokens, e, e']
  orB e e' := by simp only [tokens, e, e']
  orD e e' := by simp only [tokens, e, e']
  orC e e' := by simp only [tokens, e, e']
  orI e e' := by simp only [tokens, e, e']
  andOr e e' e'' := by simp only [tokens, e, e', e'']
  thresh e := by simp only [tokens, e]
  nil _ := rfl
  cons e e' _ := by simp only [threshTokens, e, e']
  assoc := by simp [tokens]
  fCheck := by simp [tokens]
  fVerify := by simp [tokens]
  fZne := by simp [tokens]
  fAndB := by simp [tokens]
  fOrB := by simp [tokens]
  fOrD := by simp [tokens]
  fOrC := by simp [tokens]
  fAndOr := by simp [tokens]
  fThresh := by simp [tokens, threshTokens]

theorem tokens_norm (ms : Ms) : tokens env ctx (norm ms) = tokens env ctx ms :=
  (tokRel env ctx).norm_rel ms

theorem tokens_normList (first : Bool) : (xs : MsList) →
    threshTokens env ctx first (normList xs) = threshTokens env ctx first xs :=
  fun xs => (tokRel env ctx).normList_rel xs first

mutual
theorem tokens_desugar (rp : Key → Nat) (h : ∀ k, env.rawPkh (rp k) = env.pkh k) : (ms : Ms) →
    tokens env ctx (desugar env rp ms) = tokens env ctx ms
  | .pkH k => by simp [desugar, tokens, h]
  | .sortedMulti k ks => by
    simp [desugar, tokens, sortKeys_length]
  | .sortedMultiA k ks => by simp [desugar, tokens]
  | .alt x | .swap x | .check x | .dupIf x
  | .verify x | .nonZero x | .zeroNotEqual x =>
    by simp [desugar, tokens, tokens_desugar rp h x]
  | .andV l r | .andB l r | .orB l r
  | .orD l r | .orC l r | .orI l r =>
    by simp [desugar, tokens, tokens_desugar rp h l, tokens_desugar rp h r]
  | .andOr a b c => by
    simp [desugar, tokens, tokens_desugar rp h a, tokens_desugar rp h b, tokens_desugar rp h c]
  | .thresh k xs => by simp [desugar, tokens, tokens_desugarList rp h true xs]
  | .tru | .fls | .pkK _ | .rawPkH _ | .after _ | .older _ | .hash _ _ | .multi _ _ | .multiA _ _ => by
    simp [desugar]
theorem tokens_desugarList (rp : Key → Nat) (h : ∀ k, env.rawPkh (rp k) = env.pkh k) (first : Bool) :
    (xs : MsList) → threshTokens env ctx first (desugarList env rp xs) = threshTokens env ctx first xs
  | .nil => by simp [desugarList]
  | .cons x xs => by
    simp [desugarList, threshTokens, tokens_desugar rp h x, tokens_desugarList rp h false xs]
end

/-! ### renaming keys (`to_x_only_pubkey` on a Taproot miniscript over full keys) -/

def envRe (env : KeyEnv) (f : Key → Key) : KeyEnv where
  ser k := env.ser (f k)
  sortKey k := env.sortKey (f k)
  pkh k := env.pkh (f k)
  rawPkh := env.rawPkh
  hashVal := env.hashVal

mutual
theorem reKey_eq_mapKeys (f : Key → Key) : (ms : Ms) → reKey f ms = ms.mapKeys f (fun _ h => h)
  | .tru | .fls | .pkK _ | .pkH _ | .rawPkH _ | .after _ | .older _ | .hash _ _
  | .multi _ _ | .sortedMulti _ _ | .multiA _ _ | .sortedMultiA _ _ => rfl
  | .alt x | .swap x | .check x | .dupIf x | .verify x | .nonZero x | .zeroNotEqual x => by
    simp only [reKey, Ms.mapKeys, reKey_eq_mapKeys f x]
  | .andV l r | .andB l r | .orB l r | .orD l r | .orC l r | .orI l r => by
    simp only [reKey, Ms.mapKeys, reKey_eq_mapKeys f l, reKey_eq_mapKeys f r]
  | .andOr a b c => by
    simp only [reKey, Ms.mapKeys, reKey_eq_mapKeys f a, reKey_eq_mapKeys f b, reKey_eq_mapKeys f c]
  | .thresh k xs => by simp only [reKey, Ms.mapKeys, reKeyList_eq_mapKeys f xs]
theorem reKeyList_eq_mapKeys (f : Key → Key) : (xs : MsList) →
    reKeyList f xs = xs.mapKeys f (fun _ h => h)
  | .nil => rfl
  | .cons x xs => by
    simp only [reKeyList, MsList.mapKeys, reKey_eq_mapKeys f x, reKeyList_eq_mapKeys f xs]
end

theorem envRe_eq_comap (f : Key → Key) :
    envRe env f = TranslateEncode.KeyEnv.comap env f (fun _ h => h) := rfl

/-- encoding the renamed miniscript = encoding the original with every key serialised through
the renaming: a Taproot miniscript over full keys encodes to the script of its x-only translation -/
theorem encode_reKey (f : Key → Key) (ms : Ms) :
    encode env ctx (reKey f ms) = encode (envRe env f) ctx ms := by
  rw [reKey_eq_mapKeys, envRe_eq_comap]
  exact TranslateEncode.encode_mapKeys env ctx f _ ms

theorem encodeThresh_reKey (f : Key → Key) (first : Bool) : (xs : MsList) →
    encodeThresh env ctx first (reKeyList f xs) = encodeThresh (envRe env f) ctx first xs := fun xs => by
  rw [reKeyList_eq_mapKeys, envRe_eq_comap]
  exact TranslateEncode.encodeThresh_mapKeys env ctx f _ first xs

end TokL
end MsVerif
