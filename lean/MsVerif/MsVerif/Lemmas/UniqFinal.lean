/-
C03 (uniqueness): the statements without the induction's bookkeeping parameters, and
the link of the complete enumeration to the trusted first-match table (`dsatWit ∈ allDsat`), and
`nodup_of_not_repeated`: `hasRepeatedKeys ms = false` gives the field `keys` of the side conditions `SideOK`.
-/
import MsVerif.Lemmas.UniqMain
import MsVerif.Lemmas.CoreValidate


namespace MsVerif.Uniq
open MsVerif Sat SatTable SatAll MalleLattice Complete

theorem sortKeys'_fun (ke : KeyEnv) : sortKeys' ke = sortKeys ke :=
  funext (sortKeys'_eq ke)

/-- the side conditions of the uniqueness theorems, as in C02's `nonmall_complete`, plus:
pairwise distinct keys, multisig thresholds ≥ 1 and fragments of the right context -/
structure SideOK (ctx : Ctx) (a : Assets) (ms : Ms) : Prop where
  keys : (keysOf ms).Nodup
  raw : allNodes isNotRawPkH ms = true
  pre : allNodes (preKnown a) ms = true
  kok : allNodes threshKOK ms = true
  locks : ∀ s ∈ subterms ms, ∀ t ∈ subterms ms, lockCompat a s t = true
  frag : allNodes (uP ctx) ms = true

/-- the side conditions give the node predicate of C02's invariant, for some lock units -/
theorem SideOK.nmP {ctx : Ctx} {a : Assets} {ms : Ms} (hside : SideOK ctx a ms) :
    ∃ ua ur, allNodes (nmP MODEL_NZ a ua ur) ms = true := by
  obtain ⟨ua, ur, hu⟩ := exists_units a ms hside.locks
  exact ⟨ua, ur, allNodes_nmP hu (nzOK (.inl rfl)) hside.raw hside.pre hside.kok⟩

theorem uinv_top (ke : KeyEnv) (ctx : Ctx) (a : Assets) (ms : Ms) (τ : Ty) (adv : Avail)
    (hτ : typeOf ms = some τ) (hm : τ.mall.nonMall = true) (hside : SideOK ctx a ms)
    (hadv : AdvOK adv (availOf a ctx)) :
    UInv adv (sortKeys ke) ms τ.mall (satDissat ⟨ke, ctx, false, true, a⟩ ms) := by
  obtain ⟨ua, ur, hP⟩ := hside.nmP
  have := uinv (adv := adv) ⟨ke, ctx, false, true, a⟩ ua ur rfl rfl hadv (.of_typeOf ms hτ) hm hP hside.frag hside.keys
  rwa [sortKeys'_fun] at this

theorem mem_cat_of {ys xs : List (List Item)} {y x : List Item} (hy : y ∈ ys) (hx : x ∈ xs) :
    y ++ x ∈ cat ys xs := mem_cat.mpr ⟨y, hy, x, hx, rfl⟩

theorem cat2_some {x y : Option (List Item)} {its : List Item} (h : cat2 x y = some its) :
    ∃ a b, x = some a ∧ y = some b ∧ its = a ++ b := by
  cases x with
  | none => cases h
  | some a =>
    cases y with
    | none => cases h
    | some b => cases h; exact ⟨a, b, rfl, rfl, rfl⟩

mutual
theorem dsatWit_mem (a : Avail) (sortK : List Key → List Key) :
    ∀ (ms : Ms) (its : List Item), dsatWit a sortK ms = some its → its ∈ allDsat a sortK ms
  | .fls | .pkK _ | .pkH _ | .hash _ _ | .dupIf _ | .nonZero _
  | .multi _ _ | .sortedMulti _ _ | .multiA _ _ | .sortedMultiA _ _ => by
    intro its h; simp only [dsatWit, Option.some.injEq] at h; subst h; simp [allDsat]
  | .tru | .after _ | .older _ | .verify _ | .andV _ _ | .orC _ _ => by
    intro its h; simp [dsatWit] at h
  | .rawPkH hh => by
    intro its h
    simp only [dsatWit] at h
    split at h
    · rename_i hk; simp only [Option.some.injEq] at h; subst h; simp [allDsat, hk]
    · cases h
  | .alt x | .swap x | .check x | .zeroNotEqual x => by
    intro its h; simp only [dsatWit] at h; simpa only [allDsat] using dsatWit_mem a sortK x its h
  | .andB x z | .andOr x _ z | .orB x z | .orD x z => by
    intro its h
    simp only [dsatWit] at h
    obtain ⟨dz, dx, hz, hx, rfl⟩ := cat2_some h
    simp only [allDsat]
    exact mem_cat_of (dsatWit_mem a sortK z dz hz) (dsatWit_mem a sortK x dx hx)
  | .orI x z => by
    intro its h
    simp only [dsatWit, orElse] at h
    simp only [allDsat, List.mem_append]
    split at h
    · rename_i d hd
      cases h
      obtain ⟨dx, _, hx, ho, rfl⟩ := cat2_some hd
      cases ho
      exact .inl (mem_cat_of (dsatWit_mem a sortK x dx hx) (by simp))
    · obtain ⟨dz, _, hz, he, rfl⟩ := cat2_some h
      cases he
      exact .inr (mem_cat_of (dsatWit_mem a sortK z dz hz) (by simp))
  | .thresh _ xs => by
    intro its h
    simp only [dsatWit] at h
    simp only [allDsat]
    exact allDsatWit_mem a sortK xs its h
theorem allDsatWit_mem (a : Avail) (sortK : List Key → List Key) :
    ∀ (xs : MsList) (its : List Item), allDsatWit a sortK xs = some its → its ∈ threshAll a sortK 0 xs
  | .nil, its, h => by simp only [allDsatWit, Option.some.injEq] at h; subst h; simp [threshAll]
  | .cons x xs, its, h => by
    simp only [allDsatWit] at h
    obtain ⟨dr, dx, hr, hx, rfl⟩ := cat2_some h
    simp only [threshAll, List.nil_append]
    exact mem_cat_of (allDsatWit_mem a sortK xs dr hr) (dsatWit_mem a sortK x dx hx)
end

theorem nodup_of_distinctCount : ∀ l : List Key, distinctCount l = l.length → l.Nodup
  | [], _ => List.nodup_nil
  | k :: ks, h => by
    have hle := distinctCount_le ks
    simp only [distinctCount, List.length_cons] at h
    split at h
    · omega
    · rename_i hc
      exact List.nodup_cons.mpr ⟨by simpa using hc, nodup_of_distinctCount ks (by omega)⟩

mutual
theorem flatMap_preorder : (ms : Ms) → ms.preorder.flatMap Ms.nodeKeys = keysOf ms
  | .tru | .fls | .rawPkH _ | .after _ | .older _ | .hash _ _ | .pkK _ | .pkH _
  | .multi _ _ | .sortedMulti _ _ | .multiA _ _ | .sortedMultiA _ _ => by
    simp only [Ms.preorder, List.flatMap_cons, List.flatMap_nil, Ms.nodeKeys, keysOf, List.append_nil]
  | .alt x | .swap x | .check x | .dupIf x | .verify x | .nonZero x | .zeroNotEqual x => by
    simp only [Ms.preorder, List.flatMap_cons, Ms.nodeKeys, keysOf, flatMap_preorder x, List.nil_append]
  | .andV l r | .andB l r | .orB l r | .orD l r | .orC l r | .orI l r => by
    simp only [Ms.preorder, List.flatMap_cons, List.flatMap_append, Ms.nodeKeys, keysOf, flatMap_preorder l,
      flatMap_preorder r, List.nil_append]
  | .andOr a b c => by
    simp only [Ms.preorder, List.flatMap_cons, List.flatMap_append, Ms.nodeKeys, keysOf, flatMap_preorder a,
      flatMap_preorder b, flatMap_preorder c, List.nil_append]
  | .thresh _ xs => by
    simp only [Ms.preorder, List.flatMap_cons, Ms.nodeKeys, keysOf, flatMap_preorderL xs, List.nil_append]
theorem flatMap_preorderL : (xs : MsList) → xs.preorder.flatMap Ms.nodeKeys = keysOfL xs
  | .nil => rfl
  | .cons x xs => by
    simp only [MsList.preorder, keysOfL, List.flatMap_append, flatMap_preorder x, flatMap_preorderL xs]
end

/-- the library's `has_repeated_keys() == false` gives pairwise distinct keys -/
theorem nodup_of_not_repeated (ms : Ms) (h : hasRepeatedKeys ms = false) : (keysOf ms).Nodup := by
  unfold hasRepeatedKeys Ms.iterPk at h
  rw [flatMap_preorder] at h
  exact nodup_of_distinctCount _ (by simpa using h)

end MsVerif.Uniq
