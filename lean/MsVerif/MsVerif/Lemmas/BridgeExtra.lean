/-
Realistic key environments (`KeyEnv.Small`) put no oversized push into a script
(`encode_noBigPush`); decidable equality of `Except` (`decEqExcept`, for the examples' `decide`); the concrete values used by the examples and the counterexample of `Thm/Bridge.lean`.
-/
import MsVerif.Lemmas.BridgeMain
import MsVerif.Lemmas.CoreEncode

namespace MsVerif.Bridge
open MsVerif MsVerif.Script

/-- every byte string the key environment can put into a script fits into one stack element
(real keys are 32/33/65 bytes, hashes 20/32 bytes) -/
def KeyEnv.Small (ke : KeyEnv) : Prop :=
  (∀ k, (ke.ser k).length ≤ 520) ∧ (∀ k, (ke.pkh k).length ≤ 520) ∧
  (∀ h, (ke.rawPkh h).length ≤ 520) ∧ (∀ kind h, (ke.hashVal kind h).length ≤ 520)

theorem bigPush_eq_false {s : List Op} : bigPush s = false ↔ AllOps (fun op => bigPush [op] = false) s := by
  simp only [bigPush, List.any_eq_false, List.any_cons, List.any_nil, Bool.or_false, Bool.not_eq_true, AllOps]

theorem alphabet_noBigPush {ke : KeyEnv} (hs : KeyEnv.Small ke) : Alphabet (fun op => bigPush [op] = false) ke := by
  have one : ∀ {bs : Bytes}, bs.length ≤ 520 → bigPush [.push bs] = false := fun h =>
    bigPush_eq_false.2 fun _ hop => by cases List.mem_singleton.1 hop; simpa [bigPush] using h
  obtain ⟨hser, hpkh, hraw, hval⟩ := hs
  refine ⟨fun _ => rfl, fun n => ?_, fun k => one (hser k), fun k => one (hpkh k), fun h => one (hraw h),
    fun kind h => one (hval kind h)⟩
  unfold pushInt
  split
  · rfl
  · exact one (by have := numEncode_length (Int.ofNat n); omega)

theorem encode_noBigPush (ke : KeyEnv) (ctx : Ctx) (hs : KeyEnv.Small ke) :
    (ms : Ms) → bigPush (encode ke ctx ms) = false :=
  fun ms => bigPush_eq_false.2 (AllOps_encode ctx (alphabet_noBigPush hs) ms)

theorem encodeThresh_noBigPush (ke : KeyEnv) (ctx : Ctx) (hs : KeyEnv.Small ke) (first : Bool) :
    (xs : MsList) → bigPush (encodeThresh ke ctx first xs) = false :=
  fun xs => bigPush_eq_false.2 (AllOps_encodeThresh ctx (alphabet_noBigPush hs) xs first)

/-- decidable equality of `Except` results, for `decide` on concrete runs -/
@[instance_reducible] def decEqExcept {ε α} [DecidableEq ε] [DecidableEq α] : DecidableEq (Except ε α)
  | .ok a, .ok b => if h : a = b then isTrue (by rw [h]) else isFalse (by intro h'; cases h'; exact h rfl)
  | .error a, .error b => if h : a = b then isTrue (by rw [h]) else isFalse (by intro h'; cases h'; exact h rfl)
  | .ok _, .error _ => isFalse (by intro h; cases h)
  | .error _, .ok _ => isFalse (by intro h; cases h)

/-- P2WSH-like flags with selectable limits; every signature is valid, hashes are the identity -/
def exEnv (opLimit stackLimits : Bool) : Env :=
  ⟨⟨false, true, true, true, true, opLimit, stackLimits⟩, fun _ _ => true, fun _ b => b, 0, 0, 2⟩

/-- key 1 serialises to 521 bytes (not a real key), every other key to 33 bytes -/
def exKe : KeyEnv :=
  ⟨fun k => if k = 1 then List.replicate 521 0 else List.replicate 33 2,
   fun _ => List.replicate 33 2, fun _ => List.replicate 20 0, fun _ => List.replicate 20 0,
   fun _ _ => List.replicate 32 0⟩

def exKeSmall : KeyEnv :=
  ⟨fun _ => List.replicate 33 2, fun _ => List.replicate 33 2, fun _ => List.replicate 20 0,
   fun _ => List.replicate 20 0, fun _ _ => List.replicate 32 0⟩

theorem exKeSmall_small : KeyEnv.Small exKeSmall := by
  refine ⟨?_, ?_, ?_, ?_⟩ <;> intros <;> simp [exKeSmall]

/-- `or_i(and_v(c:pk_k(0),pk_k(1)),1)`: the IF branch contains a counted opcode followed by
the oversized push of key 1 -/
def exMsBad : Ms := .orI (.andV (.check (.pkK 0)) (.pkK 1)) .tru

def exMs : Ms :=
  .orI (.andV (.verify (.check (.pkK 0))) (.older 5))
       (.andV (.verify (.hash .hash160 0)) (.check (.pkK 2)))

end MsVerif.Bridge
