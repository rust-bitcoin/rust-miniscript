/-
`entails`: Shannon expansion on the first constraint; terminal counts; fuel.
-/
import MsVerif.Lemmas.PolicyOps

namespace MsVerif.Pol
open Sem

theorem normalized_leaf {p : Policy} (h : ∀ k ss, p ≠ .thresh k ss) : normalized p = p :=
  normalized_of_NF p (by cases p <;> first | rfl | exact absurd rfl (h _ _))

theorem satisfyConstraint_thresh (w : Policy) (β : Bool) (k : Nat) (subs : List Policy) :
    satisfyConstraint w β (.thresh k subs)
      = normalized (.thresh k (subs.map (satisfyConstraint w β))) := by
  rw [satisfyConstraint, satisfyConstraintList_eq]

theorem atoms_satisfyConstraint (w : Policy) (β : Bool) :
    ∀ p, (atomsOf (satisfyConstraint w β p)).Sublist (atomsOf p) := by
  intro p
  induction p using Policy.induct' with
  | unsat | trivial | atom _ => simp [satisfyConstraint]; split <;> (try split) <;> simp [normalized, atomsOf]
  | thresh k subs ih =>
    rw [satisfyConstraint_thresh]
    refine (atoms_normalized _).trans ?_
    rw [atomsOf_thresh, atomsOf_thresh, List.flatMap_map]
    exact sublist_flatMap _ ih

theorem firstConstraint_thresh_cons (k : Nat) (x : Policy) (xs : List Policy) :
    firstConstraint (.thresh k (x :: xs)) = firstConstraint x := by
  rw [firstConstraint, firstConstraint.go]

theorem firstConstraint_atom : ∀ p, NF p = true → isConst p = false →
    ∃ w, firstConstraint p = .atom w := by
  intro p
  induction p using Policy.induct' with
  | unsat | trivial => intro _ h; simp [isConst, isTrivial, isUnsat] at h
  | atom a => intro _ _; exact ⟨a, by simp [firstConstraint]⟩
  | thresh k subs ih =>
    intro hnf _
    obtain ⟨h2, _, _, hch⟩ := (NF_thresh k subs).mp hnf
    cases subs with
    | nil => simp at h2
    | cons x xs =>
      rw [firstConstraint_thresh_cons]
      obtain ⟨h1, hc, _, _⟩ := hch x (by simp)
      exact ih x (by simp) h1 hc

theorem nTerminals_satisfyConstraint_lt (β : Bool) :
    ∀ p, NF p = true → isConst p = false →
      nTerminals (satisfyConstraint (firstConstraint p) β p) < nTerminals p := by
  intro p
  induction p using Policy.induct' with
  | unsat | trivial => intro _ h; simp [isConst, isTrivial, isUnsat] at h
  | atom a =>
    intro _ _
    cases β <;> simp [firstConstraint, satisfyConstraint, leafEq, normalized, nTerminals]
  | thresh k subs ih =>
    intro hnf _
    obtain ⟨h2, _, _, hch⟩ := (NF_thresh k subs).mp hnf
    cases subs with
    | nil => simp at h2
    | cons x xs =>
      rw [firstConstraint_thresh_cons, satisfyConstraint_thresh]
      refine Nat.lt_of_le_of_lt (nTerminals_normalized _) ?_
      obtain ⟨h1, hc, _, _⟩ := hch x (by simp)
      have hx := ih x (by simp) h1 hc
      have hxs := (sublist_flatMap xs
        fun y _ => atoms_satisfyConstraint (firstConstraint x) β y).length_le
      simp only [nTerminals_eq, atomsOf_thresh, List.map_cons, List.flatMap_cons,
        List.length_append, List.flatMap_map] at hx ⊢
      omega

def setAtom (w : Atom) (β : Bool) (v : Atom → Bool) : Atom → Bool :=
  fun a => if a = w then β else v a

theorem satisfyConstraint_holdsA (w : Atom) (β : Bool) (v : Atom → Bool) :
    ∀ p, holdsA v (satisfyConstraint (.atom w) β p) = holdsA (setAtom w β v) p := by
  intro p
  induction p using Policy.induct' with
  | unsat | trivial => simp [satisfyConstraint, leafEq, normalized, holdsA]
  | atom a =>
    by_cases h : a = w
    · subst h; cases β <;> simp [satisfyConstraint, leafEq, normalized, holdsA, setAtom]
    · simp [satisfyConstraint, leafEq, normalized, holdsA, setAtom, h]
  | thresh k subs ih =>
    rw [satisfyConstraint_thresh, normalized_holdsA, holdsA_thresh, holdsA_thresh,
      countP_map_congr _ (holdsA (setAtom w β v)) (holdsA v) subs ih]

theorem satisfyConstraint_NF (w : Policy) (β : Bool) (p : Policy) :
    NF (satisfyConstraint w β p) = true := by
  cases p with
  | thresh k ss => rw [satisfyConstraint]; exact normalized_NF _
  | _ => simp only [satisfyConstraint]; exact normalized_NF _

theorem implies_shannon (w : Atom) (a b : Policy) :
    Implies a b ↔
      Implies (satisfyConstraint (.atom w) true a) (satisfyConstraint (.atom w) true b)
      ∧ Implies (satisfyConstraint (.atom w) false a) (satisfyConstraint (.atom w) false b) := by
  constructor
  · intro h
    constructor <;>
    · intro v hv
      rw [satisfyConstraint_holdsA] at hv ⊢
      exact h _ hv
  · intro ⟨h1, h2⟩ v hv
    have hset : ∀ β, v w = β → setAtom w β v = v := by
      intro β hβ
      funext a; unfold setAtom; split
      · rename_i h; rw [h, hβ]
      · rfl
    cases hw : v w
    · have := h2 v (by rw [satisfyConstraint_holdsA, hset _ hw]; exact hv)
      rwa [satisfyConstraint_holdsA, hset _ hw] at this
    · have := h1 v (by rw [satisfyConstraint_holdsA, hset _ hw]; exact hv)
      rwa [satisfyConstraint_holdsA, hset _ hw] at this

theorem entailsF_big (fuel : Nat) (a b : Policy) (h : nTerminals a > 20) :
    entailsF (fuel + 1) a b = .none := by
  simp [entailsF, ENTAILMENT_MAX_TERMINALS, h]

theorem entailsF_small (fuel : Nat) (a b : Policy) (h : nTerminals a ≤ 20) :
    entailsF (fuel + 1) a b = entailsStep (entailsF fuel) (normalized a) (normalized b) := by
  have hn : ¬ (nTerminals a > ENTAILMENT_MAX_TERMINALS) := by
    simp only [ENTAILMENT_MAX_TERMINALS]; omega
  simp only [entailsF, if_neg hn]

theorem entailsStep_unsat (rec : Policy → Policy → EntRes) (b : Policy) :
    entailsStep rec .unsat b = .some true := by
  simp [entailsStep]

theorem entailsStep_trivial (rec : Policy → Policy → EntRes) (b : Policy) :
    entailsStep rec .trivial b = .some (isTrivial b) := by
  cases b <;> simp [entailsStep, isTrivial]

theorem entailsStep_to_unsat (rec : Policy → Policy → EntRes) (a : Policy)
    (ha : isConst a = false) : entailsStep rec a .unsat = .some false := by
  cases a <;> simp_all [entailsStep, isConst, isTrivial, isUnsat]

theorem entailsStep_rec (rec : Policy → Policy → EntRes) (a b : Policy) (ha : isConst a = false)
    (hb : isUnsat b = false) :
    entailsStep rec a b =
      (rec (satisfyConstraint (firstConstraint a) true a)
          (satisfyConstraint (firstConstraint a) true b)).andThen
        (fun _ => rec (satisfyConstraint (firstConstraint a) false a)
          (satisfyConstraint (firstConstraint a) false b)) := by
  cases a <;> cases b <;> simp [isConst, isTrivial, isUnsat] at ha hb <;> simp only [entailsStep]

theorem isConst_satisfyConstraint (w : Policy) (β : Bool) {p : Policy} (h : isConst p = true) :
    isConst (satisfyConstraint w β p) = true := by
  cases p with
  | unsat | trivial => simp only [satisfyConstraint]; split <;> (try split) <;> simp [normalized, isConst, isTrivial, isUnsat]
  | atom _ | thresh _ _ => simp [isConst, isTrivial, isUnsat] at h

/-- With more fuel than the normalized left side has terminals (every recursive call removes one;
`entails` passes `n_terminals + 2`, one more than needed) `entails` returns `Some`, and what it
returns is truth-table implication: Shannon expansion on the first constraint. -/
theorem entailsF_spec : ∀ (fuel : Nat) (a b : Policy), nTerminals a ≤ 20 →
    nTerminals (normalized a) + 1 ≤ fuel →
    ∃ r, entailsF fuel a b = .some r ∧ (r = true ↔ Implies a b) := by
  intro fuel
  induction fuel with
  | zero => intro a b _ h; omega
  | succ fuel ih =>
    intro a b hsz hf
    have himp : Implies (normalized a) (normalized b) ↔ Implies a b := by
      simp only [Implies, normalized_holdsA]
    rw [entailsF_small _ _ _ hsz, ← himp]
    have hna := normalized_NF a
    have hnb := normalized_NF b
    have hle := nTerminals_normalized a
    generalize normalized a = a at hf hna hle
    generalize normalized b = b at hnb
    by_cases hca : isConst a = true
    · cases a with
      | unsat => exact ⟨true, entailsStep_unsat _ _, by simp [Implies, holdsA]⟩
      | trivial =>
        refine ⟨isTrivial b, entailsStep_trivial _ _, ?_⟩
        cases hb : isTrivial b
        · simp only [Bool.false_eq_true, false_iff]
          intro h
          have := h (fun _ => false) rfl
          rw [NF_all_false b hnb hb] at this
          cases this
        · cases b <;> simp [isTrivial] at hb
          simp [Implies]
      | atom _ | thresh _ _ => simp [isConst, isTrivial, isUnsat] at hca
    · have hca : isConst a = false := by simpa using hca
      by_cases hub : isUnsat b = true
      · cases b <;> simp [isUnsat] at hub
        refine ⟨false, entailsStep_to_unsat _ _ hca, ?_⟩
        simp only [Bool.false_eq_true, false_iff]
        intro h
        simp only [isConst, Bool.or_eq_false_iff] at hca
        have := h (fun _ => true) (NF_all_true a hna hca.2)
        cases this
      · have hub : isUnsat b = false := by simpa using hub
        obtain ⟨w, hw⟩ := firstConstraint_atom a hna hca
        rw [entailsStep_rec _ _ _ hca hub, implies_shannon w a b, hw]
        have hrec : ∀ β b', ∃ r, entailsF fuel (satisfyConstraint (.atom w) β a) b' = .some r
            ∧ (r = true ↔ Implies (satisfyConstraint (.atom w) β a) b') := by
          intro β b'
          have hlt := nTerminals_satisfyConstraint_lt β a hna hca
          rw [hw] at hlt
          apply ih
          · omega
          · rw [normalized_of_NF _ (satisfyConstraint_NF (.atom w) β a)]
            omega
        obtain ⟨r1, h1, i1⟩ := hrec true (satisfyConstraint (.atom w) true b)
        rw [h1]
        cases r1
        · exact ⟨false, rfl, by simpa using fun h => absurd h (by simpa using i1)⟩
        · obtain ⟨r2, h2, i2⟩ := hrec false (satisfyConstraint (.atom w) false b)
          exact ⟨r2, h2, by rw [i2]; exact ⟨fun h => ⟨i1.mp rfl, h⟩, fun h => h.2⟩⟩

theorem entails_some (a b : Policy) (h : nTerminals a ≤ 20) :
    ∃ r, entails a b = .some r ∧ (r = true ↔ Implies a b) :=
  entailsF_spec (nTerminals a + 2) a b h (by have := nTerminals_normalized a; omega)

end MsVerif.Pol
