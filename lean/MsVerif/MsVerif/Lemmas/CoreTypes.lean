/-
The type checker of miniscript fragments in equations: `Ty.lift1`/`Ty.lift2`/`Ty.andOr`/`Ty.threshold` as the
correctness rule paired with the malleability rule, every correctness rule `Corr.*` (`Correctness::cast_*`, `and_b`, …
of `src/miniscript/types/correctness.rs`) as one guarded record, the number of arguments the binary and ternary input rules
fix (`numArgs_*`), the loop of `Correctness::threshold` in closed form,
`Mall.threshold` (`malleability.rs`) by counts, and one step of `typeOf`/`typesOf` (`Type::type_check`, applied
bottom-up) per constructor. The letter-level reading of all of it is the judgement of `CoreHasType`.
-/
import MsVerif.Model.TypeCheck

namespace MsVerif

namespace Ty

theorem lift1_eq (fc : Corr → Option Corr) (fm : Mall → Mall) (t : Ty) :
    lift1 fc fm t = (fc t.corr).map (⟨·, fm t.mall⟩) := by
  unfold lift1; cases fc t.corr <;> rfl

theorem lift2_eq (fc : Corr → Corr → Option Corr) (fm : Mall → Mall → Mall) (l r : Ty) :
    lift2 fc fm l r = (fc l.corr r.corr).map (⟨·, fm l.mall r.mall⟩) := by
  unfold lift2; cases fc l.corr r.corr <;> rfl

theorem andOr_eq (a b c : Ty) :
    andOr a b c = (Corr.andOr a.corr b.corr c.corr).map (⟨·, Mall.andOr a.mall b.mall c.mall⟩) := by
  unfold andOr; cases Corr.andOr a.corr b.corr c.corr <;> rfl

theorem threshold_eq (k : Nat) (ts : List Ty) :
    threshold k ts =
      (Corr.threshold k (ts.map (·.corr))).map (⟨·, Mall.threshold k (ts.map (·.mall))⟩) := by
  unfold threshold; cases Corr.threshold k (ts.map (·.corr)) <;> rfl

theorem lift1_of {fc : Corr → Option Corr} {fm : Mall → Mall} {t : Ty} {c : Corr} (h : fc t.corr = some c) :
    lift1 fc fm t = some ⟨c, fm t.mall⟩ := by
  rw [lift1_eq, h]; rfl

theorem lift2_of {fc : Corr → Corr → Option Corr} {fm : Mall → Mall → Mall} {l r : Ty} {c : Corr}
    (h : fc l.corr r.corr = some c) : lift2 fc fm l r = some ⟨c, fm l.mall r.mall⟩ := by
  rw [lift2_eq, h]; rfl

theorem andOr_of {a b c : Ty} {x : Corr} (h : Corr.andOr a.corr b.corr c.corr = some x) :
    andOr a b c = some ⟨x, Mall.andOr a.mall b.mall c.mall⟩ := by
  rw [andOr_eq, h]; rfl

theorem lift1_inv {fc : Corr → Option Corr} {fm : Mall → Mall} {t τ : Ty}
    (h : lift1 fc fm t = some τ) : fc t.corr = some τ.corr ∧ τ.mall = fm t.mall := by
  obtain ⟨c, hc, rfl⟩ := Option.map_eq_some_iff.1 (lift1_eq fc fm t ▸ h)
  exact ⟨hc, rfl⟩

theorem lift2_inv {fc : Corr → Corr → Option Corr} {fm : Mall → Mall → Mall} {l r τ : Ty}
    (h : lift2 fc fm l r = some τ) :
    fc l.corr r.corr = some τ.corr ∧ τ.mall = fm l.mall r.mall := by
  obtain ⟨c, hc, rfl⟩ := Option.map_eq_some_iff.1 (lift2_eq fc fm l r ▸ h)
  exact ⟨hc, rfl⟩

theorem andOr_inv {a b c τ : Ty} (h : andOr a b c = some τ) :
    Corr.andOr a.corr b.corr c.corr = some τ.corr
      ∧ τ.mall = Mall.andOr a.mall b.mall c.mall := by
  obtain ⟨x, hx, rfl⟩ := Option.map_eq_some_iff.1 (andOr_eq a b c ▸ h)
  exact ⟨hx, rfl⟩

theorem threshold_inv {k : Nat} {ts : List Ty} {τ : Ty} (h : threshold k ts = some τ) :
    Corr.threshold k (ts.map (·.corr)) = some τ.corr
      ∧ τ.mall = Mall.threshold k (ts.map (·.mall)) := by
  obtain ⟨c, hc, rfl⟩ := Option.map_eq_some_iff.1 (threshold_eq k ts ▸ h)
  exact ⟨hc, rfl⟩

end Ty

namespace Corr

theorem andInput_eq_zero {a b : Input} : andInput a b = .zero ↔ a = .zero ∧ b = .zero := by
  cases a <;> cases b <;> simp [andInput]

theorem andOrInput_eq_zero {a b c : Input} :
    andOrInput a b c = .zero ↔ a = .zero ∧ b = .zero ∧ c = .zero := by
  constructor
  · intro h
    unfold andOrInput at h
    split at h
    · exact ⟨rfl, rfl, rfl⟩
    all_goals cases h
  · rintro ⟨rfl, rfl, rfl⟩
    rfl

theorem castAlt_eq (s : Corr) :
    castAlt s = if s.base = .B then some ⟨.W, .any, s.dissat, s.unit⟩ else none := by
  unfold castAlt; cases s.base <;> rfl

theorem castSwap_eq (s : Corr) :
    castSwap s = if s.base = .B ∧ (s.input = .one ∨ s.input = .oneNonZero)
      then some ⟨.W, .any, s.dissat, s.unit⟩ else none := by
  unfold castSwap; cases s.base <;> cases s.input <;> rfl

theorem castCheck_eq (s : Corr) :
    castCheck s = if s.base = .K then some ⟨.B, s.input, s.dissat, true⟩ else none := by
  unfold castCheck; cases s.base <;> rfl

theorem castDupIf_eq (s : Corr) :
    castDupIf s = if s.base = .V ∧ s.input = .zero then some ⟨.B, .oneNonZero, true, false⟩
      else none := by
  unfold castDupIf; cases s.base <;> cases s.input <;> rfl

theorem castVerify_eq (s : Corr) :
    castVerify s = if s.base = .B then some ⟨.V, s.input, false, false⟩ else none := by
  unfold castVerify; cases s.base <;> rfl

theorem castNonZero_eq (s : Corr) :
    castNonZero s = if (s.input = .oneNonZero ∨ s.input = .anyNonZero) ∧ s.base = .B
      then some ⟨.B, s.input, true, s.unit⟩ else none := by
  unfold castNonZero; cases s.base <;> cases s.input <;> rfl

theorem castZeroNotEqual_eq (s : Corr) :
    castZeroNotEqual s = if s.base = .B then some ⟨.B, s.input, s.dissat, true⟩ else none := by
  unfold castZeroNotEqual; cases s.base <;> rfl

theorem castTrue_eq (s : Corr) :
    castTrue s = if s.base = .V then some ⟨.B, s.input, false, true⟩ else none := by
  unfold castTrue; cases s.base <;> rfl

theorem castOrIFalse_eq (s : Corr) :
    castOrIFalse s = if s.base = .B
      then some ⟨.B, (match s.input with | .zero => .one | _ => .any), true, s.unit⟩
      else none := by
  unfold castOrIFalse; cases s.base <;> rfl

theorem andB_eq (l r : Corr) :
    andB l r = if l.base = .B ∧ r.base = .W
      then some ⟨.B, andInput l.input r.input, l.dissat && r.dissat, true⟩ else none := by
  unfold andB; cases l.base <;> cases r.base <;> rfl

theorem andV_eq (l r : Corr) :
    andV l r = if l.base = .V ∧ r.base ≠ .W
      then some ⟨r.base, andInput l.input r.input, false, r.unit⟩ else none := by
  unfold andV; cases l.base <;> cases r.base <;> rfl

theorem orB_eq (l r : Corr) :
    orB l r = if l.base = .B ∧ l.dissat = true ∧ r.base = .W ∧ r.dissat = true
      then some ⟨.B, orBInput l.input r.input, true, true⟩ else none := by
  unfold orB
  cases l.dissat <;> cases r.dissat <;> cases l.base <;> try rfl
  all_goals cases r.base <;> rfl

theorem orD_eq (l r : Corr) :
    orD l r = if l.base = .B ∧ l.dissat = true ∧ l.unit = true ∧ r.base = .B
      then some ⟨.B, orDInput l.input r.input, r.dissat, r.unit⟩ else none := by
  unfold orD
  cases l.dissat <;> cases l.unit <;> cases l.base <;> try rfl
  all_goals cases r.base <;> rfl

theorem orC_eq (l r : Corr) :
    orC l r = if l.base = .B ∧ l.dissat = true ∧ l.unit = true ∧ r.base = .V
      then some ⟨.V, orDInput l.input r.input, false, false⟩ else none := by
  unfold orC
  cases l.dissat <;> cases l.unit <;> cases l.base <;> try rfl
  all_goals cases r.base <;> rfl

theorem orI_eq (l r : Corr) :
    orI l r = if l.base = r.base ∧ l.base ≠ .W
      then some ⟨l.base, orIInput l.input r.input, l.dissat || r.dissat, l.unit && r.unit⟩
      else none := by
  unfold orI; cases l.base <;> cases r.base <;> rfl

theorem andOr_eq (a b c : Corr) :
    andOr a b c = if a.base = .B ∧ a.dissat = true ∧ a.unit = true ∧ b.base = c.base ∧ b.base ≠ .W
      then some ⟨b.base, andOrInput a.input b.input c.input, c.dissat, b.unit && c.unit⟩
      else none := by
  unfold andOr
  cases a.dissat <;> cases a.unit <;> cases a.base <;> try rfl
  all_goals cases b.base <;> cases c.base <;> rfl

theorem orIInput_ne_zero (a b : Input) : orIInput a b ≠ .zero := by
  unfold orIInput
  split <;> exact Input.noConfusion

/-! ### the input modifier counts

Where a rule's answer fixes the number of arguments (`z`, `o`: `numArgs ≤ 1`), it is the children's numbers added
(`or_d`: so the right child takes none); `or_i` adds the one selector to either child's, `and_or` adds the first
child's to either continuation's. -/

theorem numArgs_andInput (il ir : Input) : numArgs (andInput il ir) ≤ 1 →
    numArgs il + numArgs ir = numArgs (andInput il ir) := by
  cases il <;> cases ir <;> decide

theorem numArgs_orBInput (il ir : Input) : numArgs (orBInput il ir) ≤ 1 →
    numArgs il + numArgs ir = numArgs (orBInput il ir) := by
  cases il <;> cases ir <;> decide

theorem numArgs_orDInput_left (il ir : Input) : numArgs (orDInput il ir) ≤ 1 →
    numArgs il = numArgs (orDInput il ir) := by
  cases il <;> cases ir <;> decide

theorem numArgs_orDInput (il ir : Input) : numArgs (orDInput il ir) ≤ 1 →
    numArgs il + numArgs ir = numArgs (orDInput il ir) := by
  cases il <;> cases ir <;> decide

theorem numArgs_orIInput (il ir : Input) : numArgs (orIInput il ir) ≤ 1 →
    1 + numArgs il = numArgs (orIInput il ir) ∧
    1 + numArgs ir = numArgs (orIInput il ir) := by
  cases il <;> cases ir <;> decide

theorem numArgs_andOrInput (ia ib iz : Input) : numArgs (andOrInput ia ib iz) ≤ 1 →
    numArgs ia + numArgs ib = numArgs (andOrInput ia ib iz) ∧
    numArgs ia + numArgs iz = numArgs (andOrInput ia ib iz) := by
  cases ia <;> cases ib <;> cases iz <;> decide

/-! ### `thresh`: the loop of `Corr.threshold` step by step, then the rule in closed form (`Corr.threshold_eq`) -/

theorem threshLoop_cons {i acc : Nat} {s : Corr} {rest : List Corr} {n : Nat}
    (h : threshLoop i acc (s :: rest) = some n) :
    (i = 0 → s.base = .B) ∧ (i ≠ 0 → s.base = .W) ∧ s.unit = true ∧ s.dissat = true ∧
      threshLoop (i + 1) (acc + numArgs s.input) rest = some n := by
  unfold threshLoop at h
  dsimp only at h
  by_cases h1 : i = 0 ∧ s.base ≠ .B
  · rw [if_pos h1] at h; cases h
  rw [if_neg h1] at h
  by_cases h2 : i ≠ 0 ∧ s.base ≠ .W
  · rw [if_pos h2] at h; cases h
  rw [if_neg h2] at h
  cases hu : s.unit
  · rw [hu] at h; cases h
  cases hd : s.dissat
  · rw [hu, hd] at h; cases h
  rw [hu, hd] at h
  exact ⟨fun hi => Decidable.byContradiction fun hb => h1 ⟨hi, hb⟩,
    fun hi => Decidable.byContradiction fun hb => h2 ⟨hi, hb⟩, rfl, rfl, h⟩

theorem threshLoop_succ (i acc : Nat) (rest : List Corr) :
    threshLoop (i + 1) acc rest =
      if rest.all (fun s => decide (s.base = .W) && s.unit && s.dissat)
      then some (acc + (rest.map fun s => numArgs s.input).sum) else none := by
  induction rest generalizing i acc with
  | nil => simp [threshLoop]
  | cons s t ih =>
    obtain ⟨b, inp, d, u⟩ := s
    unfold threshLoop
    simp only [Nat.add_one_ne_zero, false_and, if_false, ne_eq, not_false_eq_true, true_and]
    rw [ih]
    cases b <;> cases d <;> cases u <;> simp [Nat.add_assoc]

theorem threshLoop_zero (x : Corr) (rest : List Corr) :
    threshLoop 0 0 (x :: rest) =
      if decide (x.base = .B) && x.unit && x.dissat
        && rest.all (fun s => decide (s.base = .W) && s.unit && s.dissat)
      then some (((x :: rest).map fun s => numArgs s.input).sum) else none := by
  obtain ⟨b, inp, d, u⟩ := x
  unfold threshLoop
  simp only [true_and, ne_eq, not_true_eq_false, false_and, if_false, Nat.zero_add]
  rw [threshLoop_succ]
  cases b <;> cases d <;> cases u <;> simp

theorem threshLoop_d : ∀ (subs : List Corr) (i acc n : Nat),
    threshLoop i acc subs = some n → ∀ s ∈ subs, s.dissat = true
  | [], _, _, _, _ => fun _ hs => nomatch hs
  | s :: rest, i, acc, n, h => by
    obtain ⟨_, _, _, hd, h'⟩ := threshLoop_cons h
    intro t ht
    rcases List.mem_cons.mp ht with rfl | ht
    · exact hd
    · exact threshLoop_d rest _ _ n h' t ht

theorem threshold_eq (k : Nat) (cs : List Corr) :
    threshold k cs = (threshLoop 0 0 cs).map fun n =>
      ⟨.B, (match n with | 0 => .zero | 1 => .one | _ => .any), true, true⟩ := by
  unfold threshold; cases threshLoop 0 0 cs <;> rfl

theorem threshold_base {k : Nat} {xs : List Corr} {y : Corr} (e : threshold k xs = some y) :
    y.base = .B := by
  obtain ⟨_, _, rfl⟩ := Option.map_eq_some_iff.1 (threshold_eq k xs ▸ e)
  rfl

end Corr

namespace Mall

theorem threshFold_eq (l : List Mall) :
    threshFold l = ((l.filter (·.signed)).length, l.all (fun s => s.dissat == .unique),
      l.all (·.nonMall)) := by
  have gen : ∀ (l : List Mall) (c : Nat) (u m : Bool),
      l.foldl (fun (acc : Nat × Bool × Bool) s =>
        (acc.1 + (if s.signed then 1 else 0), acc.2.1 && (s.dissat == .unique),
          acc.2.2 && s.nonMall)) (c, u, m)
      = (c + (l.filter (·.signed)).length, (u && l.all (fun s => s.dissat == .unique)),
          (m && l.all (·.nonMall))) := by
    intro l
    induction l with
    | nil => intro c u m; simp
    | cons s t ih =>
      intro c u m
      rw [List.foldl_cons, ih]
      cases hs : s.signed <;> simp [hs, Bool.and_assoc] <;> omega
  unfold threshFold
  rw [gen]
  simp

theorem threshold_signed (k : Nat) (l : List Mall) :
    (threshold k l).signed = decide ((l.filter (·.signed)).length > l.length - k) := by
  unfold threshold
  rw [threshFold_eq]

end Mall

theorem typeOf_un {f : Ty → Option Ty} {x : Ms} {τ : Ty} (h : (typeOf x).bind f = some τ) :
    ∃ a, typeOf x = some a ∧ f a = some τ :=
  Option.bind_eq_some_iff.mp h

/-- applies to `h : typeOf (.andV l r) = some τ` as it stands: this `match` is the defining equation of `typeOf` at
a constructor with two children (likewise `typeOf_un` at one child) -/
theorem typeOf_bin {f : Ty → Ty → Option Ty} {l r : Ms} {τ : Ty}
    (h : (match typeOf l, typeOf r with | some a, some b => f a b | _, _ => none) = some τ) :
    ∃ a b, typeOf l = some a ∧ typeOf r = some b ∧ f a b = some τ := by
  cases hl : typeOf l with
  | none => simp [hl] at h
  | some a =>
    cases hr : typeOf r with
    | none => simp [hl, hr] at h
    | some b => simp only [hl, hr] at h; exact ⟨a, b, rfl, rfl, h⟩

theorem typeOf_alt_eq (x : Ms) : typeOf (.alt x) = (typeOf x).bind Ty.castAlt := rfl
theorem typeOf_swap_eq (x : Ms) : typeOf (.swap x) = (typeOf x).bind Ty.castSwap := rfl
theorem typeOf_check_eq (x : Ms) : typeOf (.check x) = (typeOf x).bind Ty.castCheck := rfl
theorem typeOf_dupIf_eq (x : Ms) : typeOf (.dupIf x) = (typeOf x).bind Ty.castDupIf := rfl
theorem typeOf_verify_eq (x : Ms) : typeOf (.verify x) = (typeOf x).bind Ty.castVerify := rfl
theorem typeOf_nonZero_eq (x : Ms) : typeOf (.nonZero x) = (typeOf x).bind Ty.castNonZero := rfl
theorem typeOf_zeroNotEqual_eq (x : Ms) :
    typeOf (.zeroNotEqual x) = (typeOf x).bind Ty.castZeroNotEqual := rfl

theorem typeOf_andV_eq (l r : Ms) :
    typeOf (.andV l r) = (typeOf l).bind (fun a => (typeOf r).bind (fun b => Ty.andV a b)) := by
  show (match typeOf l, typeOf r with | some a, some b => Ty.andV a b | _, _ => none) = _
  cases typeOf l <;> cases typeOf r <;> rfl
theorem typeOf_andB_eq (l r : Ms) :
    typeOf (.andB l r) = (typeOf l).bind (fun a => (typeOf r).bind (fun b => Ty.andB a b)) := by
  show (match typeOf l, typeOf r with | some a, some b => Ty.andB a b | _, _ => none) = _
  cases typeOf l <;> cases typeOf r <;> rfl
theorem typeOf_orB_eq (l r : Ms) :
    typeOf (.orB l r) = (typeOf l).bind (fun a => (typeOf r).bind (fun b => Ty.orB a b)) := by
  show (match typeOf l, typeOf r with | some a, some b => Ty.orB a b | _, _ => none) = _
  cases typeOf l <;> cases typeOf r <;> rfl
theorem typeOf_orD_eq (l r : Ms) :
    typeOf (.orD l r) = (typeOf l).bind (fun a => (typeOf r).bind (fun b => Ty.orD a b)) := by
  show (match typeOf l, typeOf r with | some a, some b => Ty.orD a b | _, _ => none) = _
  cases typeOf l <;> cases typeOf r <;> rfl
theorem typeOf_orC_eq (l r : Ms) :
    typeOf (.orC l r) = (typeOf l).bind (fun a => (typeOf r).bind (fun b => Ty.orC a b)) := by
  show (match typeOf l, typeOf r with | some a, some b => Ty.orC a b | _, _ => none) = _
  cases typeOf l <;> cases typeOf r <;> rfl
theorem typeOf_orI_eq (l r : Ms) :
    typeOf (.orI l r) = (typeOf l).bind (fun a => (typeOf r).bind (fun b => Ty.orI a b)) := by
  show (match typeOf l, typeOf r with | some a, some b => Ty.orI a b | _, _ => none) = _
  cases typeOf l <;> cases typeOf r <;> rfl

theorem typeOf_andOr_eq (a b c : Ms) :
    typeOf (.andOr a b c) = (typeOf a).bind fun x => (typeOf b).bind fun y => (typeOf c).bind (Ty.andOr x y) := by
  show (match typeOf a, typeOf b, typeOf c with | some x, some y, some z => Ty.andOr x y z | _, _, _ => none) = _
  cases typeOf a <;> cases typeOf b <;> cases typeOf c <;> rfl

theorem typeOf_thresh_eq (k : Nat) (xs : MsList) : typeOf (.thresh k xs) = (typesOf xs).bind (Ty.threshold k) := rfl

theorem typesOf_cons_eq (x : Ms) (xs : MsList) :
    typesOf (.cons x xs) = (typeOf x).bind fun t => (typesOf xs).bind fun ts => some (t :: ts) := by
  show (match typeOf x, typesOf xs with | some t, some ts => some (t :: ts) | _, _ => none) = _
  cases typeOf x <;> cases typesOf xs <;> rfl

theorem typeOf_andOr_inv {a b c : Ms} {τ : Ty} (h : typeOf (.andOr a b c) = some τ) :
    ∃ ta tb tc, typeOf a = some ta ∧ typeOf b = some tb ∧ typeOf c = some tc
      ∧ Ty.andOr ta tb tc = some τ := by
  rw [typeOf_andOr_eq] at h
  obtain ⟨ta, ha, h⟩ := Option.bind_eq_some_iff.1 h
  obtain ⟨tb, hb, h⟩ := Option.bind_eq_some_iff.1 h
  obtain ⟨tc, hc, h⟩ := Option.bind_eq_some_iff.1 h
  exact ⟨ta, tb, tc, ha, hb, hc, h⟩

theorem typeOf_thresh_inv {k : Nat} {xs : MsList} {τ : Ty} (h : typeOf (.thresh k xs) = some τ) :
    ∃ ts, typesOf xs = some ts ∧ Ty.threshold k ts = some τ :=
  Option.bind_eq_some_iff.mp h

theorem typesOf_cons {x : Ms} {xs : MsList} {ts : List Ty} (h : typesOf (.cons x xs) = some ts) :
    ∃ t ts', typeOf x = some t ∧ typesOf xs = some ts' ∧ ts = t :: ts' := by
  rw [typesOf_cons_eq] at h
  obtain ⟨t, hx, h⟩ := Option.bind_eq_some_iff.1 h
  obtain ⟨ts', hxs, h⟩ := Option.bind_eq_some_iff.1 h
  exact ⟨t, ts', hx, hxs, (Option.some.inj h).symm⟩

end MsVerif
