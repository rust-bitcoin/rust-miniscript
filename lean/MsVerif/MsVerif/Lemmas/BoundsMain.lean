/-
C09: the induction over the AST.  `good` collects the hypotheses under which the library's figures are
proved to be upper bounds; every conjunct that can fail is a documented defect or a documented modelling
assumption (see `Thm/C09.lean`).
-/
import MsVerif.Lemmas.BoundsLeaf
import MsVerif.Lemmas.BoundsSat
import MsVerif.Lemmas.CoreExt

namespace MsVerif.C09
open MsVerif ExtData

def ess (ctx : Ctx) : Bool := decide (ctx ≠ .tap)

theorem SB.bound {ctx : Ctx} {s : Sat} {od : Option SatData} (h : SB (ess ctx) s od) {w : List Ph}
    (hw : s.stack = .stack w) :
    ∃ d, od = some d ∧ w.length ≤ d.wCount
      ∧ (w.map Ph.size).sum ≤ d.wSize ∧ (ctx ≠ .tap → (w.map phSs).sum ≤ d.ssSize) := by
  obtain ⟨d, hd, c1, c2, c3⟩ := h w hw
  exact ⟨d, hd, c1, c2, fun hc => c3 (by simp [ess, hc])⟩

mutual
def noDis : Ms → Bool
  | .tru | .after _ | .older _ | .verify _ | .orC _ _ => true
  | .alt x | .swap x | .check x | .zeroNotEqual x => noDis x
  | .andB l r | .orB l r | .orD l r => noDis l || noDis r
  | .andV _ r => noDis r
  | .andOr a _ z => noDis a || noDis z
  | .orI l r => noDis l && noDis r
  | .thresh _ xs => anyNoDis xs
  | _ => false
def anyNoDis : MsList → Bool
  | .nil => false
  | .cons x xs => noDis x || anyNoDis xs
end

theorem concat_not_stack_left {a b : Sat} (h : ∀ w, a.stack ≠ .stack w) :
    ∀ w, (a.concatenateRev b).stack ≠ .stack w := by
  intro w hw
  obtain ⟨wa, _, ha, _, _⟩ := Sat.concatenateRev_stack hw
  exact h wa ha

theorem concat_not_stack_right {a b : Sat} (h : ∀ w, b.stack ≠ .stack w) :
    ∀ w, (a.concatenateRev b).stack ≠ .stack w := by
  intro w hw
  obtain ⟨_, wb, _, hb, _⟩ := Sat.concatenateRev_stack hw
  exact h wb hb

theorem foldl_concat_not_stack (l : List Sat) : ∀ acc : Sat,
    ((∀ w, acc.stack ≠ .stack w) ∨ ∃ s ∈ l, ∀ w, s.stack ≠ .stack w) →
    ∀ w, (l.foldl Sat.concatenateRev acc).stack ≠ .stack w := by
  induction l with
  | nil =>
    intro acc h w
    rcases h with h | ⟨s, hs, _⟩
    · exact h w
    · simp at hs
  | cons x xs ih =>
    intro acc h
    simp only [List.foldl_cons]
    apply ih
    rcases h with h | ⟨s, hs, hns⟩
    · exact .inl (concat_not_stack_left h)
    · rcases List.mem_cons.1 hs with rfl | hs
      · exact .inl (concat_not_stack_right hns)
      · exact .inr ⟨s, hs, hns⟩

mutual
theorem noDis_sound (c : SatCfg) : (ms : Ms) → noDis ms = true →
    ∀ w, (satDissat c ms).dissat.stack ≠ .stack w
  | .tru, _ | .after _, _ | .older _, _ | .verify _, _ | .orC _ _, _ => by
    intro w; simp [satDissat, Sat.IMPOSSIBLE]
  | .alt x, h | .swap x, h | .check x, h | .zeroNotEqual x, h => noDis_sound c x h
  | .andB l r, h | .orB l r, h | .orD l r, h => by
    simp only [noDis, Bool.or_eq_true] at h
    simp only [satDissat]
    rcases h with h | h
    · exact concat_not_stack_left (noDis_sound c l h)
    · exact concat_not_stack_right (noDis_sound c r h)
  | .andV l r, h => by
    simp only [noDis] at h
    simp only [satDissat]
    exact concat_not_stack_right (noDis_sound c r h)
  | .andOr a b z, h => by
    simp only [noDis, Bool.or_eq_true] at h
    simp only [satDissat]
    rcases h with h | h
    · exact concat_not_stack_left (noDis_sound c a h)
    · exact concat_not_stack_right (noDis_sound c z h)
  | .orI l r, h => by
    simp only [noDis, Bool.and_eq_true] at h
    simp only [satDissat]
    intro w hw
    rcases SatCfg.minFn_stack hw with hw | hw
    · obtain ⟨ws, _, hs, _, _⟩ := Wit.combine_stack hw
      exact noDis_sound c l h.1 ws hs
    · obtain ⟨ws, _, hs, _, _⟩ := Wit.combine_stack hw
      exact noDis_sound c r h.2 ws hs
  | .thresh k xs, h => by
    simp only [noDis] at h
    rw [satDissat_thresh]
    obtain ⟨s, hs, hns⟩ := anyNoDis_sound c xs h
    exact foldl_concat_not_stack _ _ (.inr ⟨s, hs, hns⟩)
  | .fls, h | .pkK _, h | .pkH _, h | .rawPkH _, h | .hash _ _, h | .dupIf _, h | .nonZero _, h
  | .multi _ _, h | .sortedMulti _ _, h | .multiA _ _, h | .sortedMultiA _ _, h => by
    simp [noDis] at h
theorem anyNoDis_sound (c : SatCfg) : (xs : MsList) → anyNoDis xs = true →
    ∃ s ∈ (satDissats c xs).map (·.dissat), ∀ w, s.stack ≠ .stack w
  | .nil, h => by simp [anyNoDis] at h
  | .cons x xs, h => by
    simp only [anyNoDis, Bool.or_eq_true] at h
    simp only [satDissats, List.map_cons]
    rcases h with h | h
    · exact ⟨_, List.mem_cons_self .., noDis_sound c x h⟩
    · obtain ⟨s, hs, hns⟩ := anyNoDis_sound c xs h
      exact ⟨s, List.mem_cons_of_mem _ hs, hns⟩
end

mutual
/-- "whenever the satisfier's DISSATISFACTION of this fragment is a stack, the library has a
dissatisfaction figure bounding it".  Fails only below `and_v` (the satisfier builds
`sat(l) ++ dissat(r)` for it while `ExtData::and_v` has `dissat_data: None`) unless the right
child can never be dissatisfied. -/
def disOK : Ms → Bool
  | .andV _ r => noDis r
  | .alt x | .swap x | .check x | .zeroNotEqual x => disOK x
  | .andB l r | .orB l r | .orD l r | .orI l r => disOK l && disOK r
  | .andOr a _ z => disOK a && disOK z
  | .thresh _ xs => disOKs xs
  | _ => true
def disOKs : MsList → Bool
  | .nil => true
  | .cons x xs => disOK x && disOKs xs
end

mutual
/-- Hypotheses of the bound theorem, fragment by fragment:
* `multi_a` only in tapscript (`check_global_consensus_validity` rejects it elsewhere; its
  scriptSig figure is 0) and with `k ≥ 1` (`Threshold` invariant);
* where a parent's SATISFACTION contains a child's dissatisfaction (`andor` first child, `or_b`
  both, `or_d`/`or_c` left, every `thresh` child) that child is `disOK`; typing makes these
  children `d`, which gives `disOK` except below `and_v` (see `disOK`);
* every `thresh` child has a dissatisfaction figure (typing: thresh children are `d`). -/
def good (ke : KeyEnv) (ctx : Ctx) : Ms → Bool
  | .multiA k _ | .sortedMultiA k _ => decide (ctx = .tap) && decide (1 ≤ k)
  | .alt x | .swap x | .check x | .dupIf x | .verify x | .nonZero x | .zeroNotEqual x => good ke ctx x
  | .andV l r | .andB l r | .orI l r => good ke ctx l && good ke ctx r
  | .orB l r => good ke ctx l && good ke ctx r && disOK l && disOK r
  | .orD l r | .orC l r => good ke ctx l && good ke ctx r && disOK l
  | .andOr a b z => good ke ctx a && good ke ctx b && good ke ctx z && disOK a
  | .thresh _ xs => goods ke ctx xs
  | _ => true
def goods (ke : KeyEnv) (ctx : Ctx) : MsList → Bool
  | .nil => true
  | .cons x xs => good ke ctx x && disOK x && (extOf ke ctx x).dissatData.isSome && goods ke ctx xs
end

theorem pkK_sat (ctx : Ctx) (u : Bool) :
    (ExtData.pkK ctx u).satData = some ⟨(keySig ctx false).2, 1, (keySig ctx false).2, 1, 0⟩ := by
  cases ctx <;> cases u <;> rfl
theorem pkK_dis (ctx : Ctx) (u : Bool) : (ExtData.pkK ctx u).dissatData = some ⟨1, 1, 1, 1, 0⟩ := by
  cases ctx <;> cases u <;> rfl
theorem pkH_sat (ctx : Ctx) (u : Bool) :
    (ExtData.pkH ctx u).satData = some ⟨(keySig ctx u).1 + (keySig ctx false).2, 2,
      (keySig ctx u).1 + (keySig ctx false).2, 2, 0⟩ := by
  cases ctx <;> cases u <;> rfl
theorem pkH_dis (ctx : Ctx) (u : Bool) :
    (ExtData.pkH ctx u).dissatData = some ⟨(keySig ctx u).1 + 1, 2, (keySig ctx u).1 + 1, 2, 0⟩ := by
  cases ctx <;> cases u <;> rfl

theorem Fits_nil (e : Bool) (d : SatData) : Fits e [] d := ⟨Nat.zero_le _, Nat.zero_le _, fun _ => Nat.zero_le _⟩

theorem SB_const {e : Bool} {s : Sat} {w : List Ph} {d : SatData} (hs : s.stack = .stack w)
    (hf : Fits e w d) : SB e s (some d) := by
  intro w' hw'; rw [hs] at hw'; cases hw'; exact ⟨d, rfl, hf⟩

theorem SB_impossible (e : Bool) (od : Option SatData) : SB e Sat.IMPOSSIBLE od :=
  SB_of_not_stack (by intro w; simp [Sat.IMPOSSIBLE])

def PairSB (e : Bool) (sd : SatDissat) (x : ExtData) : Prop :=
  SB e sd.sat x.satData ∧ SB e sd.dissat x.dissatData

theorem zipMap_isSome {f : SatData → SatData → SatData} {a b : Option SatData}
    (h : (zipMap f a b).isSome = true) : a.isSome = true ∧ b.isSome = true :=
  Bool.and_eq_true_iff.1 (MsVerif.zipMap_isSome f a b ▸ h)

theorem pkLen_le_keySig (ke : KeyEnv) (ctx : Ctx) (k : Key) :
    pkLen ke ctx k ≤ (keySig ctx (isUnc ke k)).1 := by
  cases ctx <;> simp only [pkLen, keySig, Ctx.sigType, isUnc, beq_iff_eq] <;> (try split) <;> simp_all

theorem with1_push (x : SatData) : x.wCount + [Ph.pushOne].length ≤ (with1 x).wCount
    ∧ x.wSize + wsz [Ph.pushOne] ≤ (with1 x).wSize ∧ x.ssSize + wss [Ph.pushOne] ≤ (with1 x).ssSize := by
  simp [with1, Ph.size, phSs]; omega
theorem with0_push (x : SatData) : x.wCount + [Ph.pushZero].length ≤ (with0 x).wCount
    ∧ x.wSize + wsz [Ph.pushZero] ≤ (with0 x).wSize ∧ x.ssSize + wss [Ph.pushZero] ≤ (with0 x).ssSize := by
  simp [with0, Ph.size, phSs]; omega

theorem threshold_dissat (k : Nat) (exts : List ExtData) :
    (threshold k exts).dissatData
      = exts.foldl (fun (a : Option SatData) sub => zipMap addD a sub.dissatData) (some ⟨0, 0, 0, 0, 0⟩) := rfl

/-! ### one node at a time

What each constructor does to the two statements "the satisfaction (dissatisfaction) stays within
`sat_data` (`dissat_data`)", given them for the children.  Both inductions over the AST (under `good`,
under typing) are assembled from these. -/

section node
variable (c : SatCfg)

def SatB (ms : Ms) : Prop := SB (ess c.ctx) (satDissat c ms).sat (extOf c.env c.ctx ms).satData
def DisB (ms : Ms) : Prop := SB (ess c.ctx) (satDissat c ms).dissat (extOf c.env c.ctx ms).dissatData

variable {c} {x l r y z : Ms}

theorem SB_push0 (e : Bool) : SB e Sat.push0 (some ⟨1, 1, 1, 1, 0⟩) :=
  SB_const (w := [.pushZero]) rfl ⟨by simp, by simp [Ph.size], fun _ => by simp [phSs]⟩

theorem SatB_dupIf (h : SatB c x) : SatB c (.dupIf x) := by
  simp only [SatB, satDissat, extOf, castDupIf]
  exact SB_push [.pushOne] _ (fun d => by simp [Ph.size, phSs]) h

theorem DisB_dupIf : DisB c (.dupIf x) := SB_push0 _

theorem SatB_nonZero (h : SatB c x) : SatB c (.nonZero x) := h

theorem DisB_nonZero : DisB c (.nonZero x) := SB_push0 _

theorem SatB_verify (h : SatB c x) : SatB c (.verify x) := h

theorem DisB_verify : DisB c (.verify x) := SB_impossible _ _

theorem SatB_andB (hl : SatB c l) (hr : SatB c r) : SatB c (.andB l r) := by
  simp only [SatB, satDissat, extOf, ExtData.andB]
  exact SB_concat additive_catB hl hr

theorem DisB_andB (hl : DisB c l) (hr : DisB c r) : DisB c (.andB l r) := by
  simp only [DisB, satDissat, extOf, ExtData.andB]
  exact SB_concat additive_catB hl hr

theorem SatB_andV (hl : SatB c l) (hr : SatB c r) : SatB c (.andV l r) := by
  simp only [SatB, satDissat, extOf, ExtData.andV]
  exact SB_concat additive_catV hl hr

/-- the satisfier's `sat(l) ++ dissat(r)` has no figure; it is harmless when `r` has no dissatisfaction -/
theorem DisB_andV (h : noDis r = true) : DisB c (.andV l r) := by
  simp only [DisB, satDissat]
  exact SB_of_not_stack (concat_not_stack_right (noDis_sound _ r h))

theorem SatB_andOr (hx : SatB c x) (hy : SatB c y) (dx : DisB c x) (hz : SatB c z) : SatB c (.andOr x y z) := by
  simp only [SatB, satDissat, extOf, ExtData.andOr]
  exact SB_minFn _ (SB_concat additive_catV hx hy) (SB_concat additive_catV dx hz)

theorem DisB_andOr (dx : DisB c x) (dz : DisB c z) : DisB c (.andOr x y z) := by
  simp only [DisB, satDissat, extOf, ExtData.andOr]
  exact SB_concat additive_catV dx dz

theorem SatB_orB (hl : SatB c l) (hr : SatB c r) (dl : DisB c l) (dr : DisB c r) : SatB c (.orB l r) := by
  simp only [SatB, satDissat, extOf, ExtData.orB]
  exact SB_of_stack_or (fun _ hw => (SatCfg.minFn_stack hw).symm) (SB_concat additive_catB hl dr)
    (SB_concat additive_catB dl hr)

theorem DisB_orB (dl : DisB c l) (dr : DisB c r) : DisB c (.orB l r) := by
  simp only [DisB, satDissat, extOf, ExtData.orB]
  exact SB_concat additive_catB dl dr

theorem SatB_orD (hl : SatB c l) (dl : DisB c l) (hr : SatB c r) : SatB c (.orD l r) := by
  simp only [SatB, satDissat, extOf, ExtData.orD]
  exact SB_minFn _ hl (SB_concat additive_catV dl hr)

theorem DisB_orD (dl : DisB c l) (dr : DisB c r) : DisB c (.orD l r) := by
  simp only [DisB, satDissat, extOf, ExtData.orD]
  exact SB_concat additive_catV dl dr

theorem SatB_orC (hl : SatB c l) (dl : DisB c l) (hr : SatB c r) : SatB c (.orC l r) := by
  simp only [SatB, satDissat, extOf, ExtData.orC]
  exact SB_minFn _ hl (SB_concat additive_catV dl hr)

theorem DisB_orC : DisB c (.orC l r) := SB_impossible _ _

theorem SatB_orI (hl : SatB c l) (hr : SatB c r) : SatB c (.orI l r) := by
  simp only [SatB, satDissat, extOf, ExtData.orI]
  exact SB_minFn _ (SB_push [.pushOne] with1 with1_push hl) (SB_push [.pushZero] with0 with0_push hr)

theorem DisB_orI (dl : DisB c l) (dr : DisB c r) : DisB c (.orI l r) := by
  simp only [DisB, satDissat, extOf, ExtData.orI]
  exact SB_minFn _ (SB_push [.pushOne] with1 with1_push dl) (SB_push [.pushZero] with0 with0_push dr)

variable {k : Nat} {xs : MsList}

/-- `thresh`: the satisfier satisfies `min k n` children and dissatisfies the rest; whatever its choice,
the sum of the chosen figures is below the library's fold (`threshold_sat_bound`) -/
theorem SatB_thresh (hall : AllSB (ess c.ctx) (satDissats c xs) (extsOf c.env c.ctx xs))
    (hhd : ∀ p ∈ tv0 (extsOf c.env c.ctx xs), p.2.isSome = true) : SatB c (.thresh k xs) := by
  intro w hw
  obtain ⟨ch, hlen, hcnt, hfc⟩ := SatSpec.thresh_sat_pick (P := fun s => s.stack = .stack w)
    (fun h => Wit.noConfusion h) (fun h => Wit.noConfusion h) c k xs hw
  rw [← satDissats_length c xs] at hlen hcnt
  obtain ⟨ws, hst, e1, e2, e3⟩ := foldConcat_stacks hfc
  obtain ⟨z1, z0, z2, z3, z4, z5, z6⟩ := chosen_bound (ess c.ctx) _ _ ch ws hall hlen hst
  simp only [extOf]
  obtain ⟨d, hd, b1, b2, b3⟩ := threshold_sat_bound k (extsOf c.env c.ctx xs) _ z1 z3
    (by rw [z2, z0]; exact hcnt)
    (fun x hx => hhd x.1 (by rw [← z1]; exact List.mem_map_of_mem hx))
  refine ⟨d, hd, by omega, by omega, fun he => ?_⟩
  have := z6 he; omega

theorem DisB_thresh (hall : AllSB (ess c.ctx) (satDissats c xs) (extsOf c.env c.ctx xs)) :
    DisB c (.thresh k xs) := by
  simp only [DisB, satDissat_thresh, extOf, threshold_dissat]
  intro w hw
  obtain ⟨ws, hst, e1, e2, e3⟩ := foldConcat_stacks hw
  obtain ⟨d, hd, i1, i2, i3⟩ := thresh_dissat_fold (ess c.ctx) _ _ ws ⟨0, 0, 0, 0, 0⟩ hall hst
  refine ⟨d, hd, by simp only at i1; omega, by simp only at i2; omega, fun he => ?_⟩
  have := i3 he; simp only at this; omega

end node

def P (ke : KeyEnv) (ctx : Ctx) (mall rhs : Bool) (a : Assets) (ms : Ms) : Prop :=
  SatB ⟨ke, ctx, mall, rhs, a⟩ ms ∧ (disOK ms = true → DisB ⟨ke, ctx, mall, rhs, a⟩ ms)

section induct
variable (ke : KeyEnv) (ctx : Ctx) (mall rhs : Bool) (a : Assets)

theorem P_leafSB {ms : Ms}
    (h1 : SB (ess ctx) (satDissat (⟨ke, ctx, mall, rhs, a⟩ : SatCfg) ms).sat (extOf ke ctx ms).satData)
    (h2 : SB (ess ctx) (satDissat (⟨ke, ctx, mall, rhs, a⟩ : SatCfg) ms).dissat (extOf ke ctx ms).dissatData) :
    P ke ctx mall rhs a ms := ⟨h1, fun _ => h2⟩

mutual
theorem bound_ms (ha : AssetsOk ke ctx a) : (ms : Ms) → good ke ctx ms = true → P ke ctx mall rhs a ms
  | .tru, _ => ⟨SB_const (w := []) rfl (Fits_nil _ _), fun _ => SB_impossible _ _⟩
  | .fls, _ => ⟨SB_impossible _ _, fun _ => SB_const (w := []) rfl (Fits_nil _ _)⟩
  | .pkK k, _ => by
    apply P_leafSB
    · simp only [satDissat_pkK, extOf, pkK_sat]
      intro w hw
      obtain ⟨p, rfl, p1, p2, p3⟩ := sigWit_isSig ha hw
      exact ⟨_, rfl, by simp, by simpa using p2, fun _ => by simpa using p3⟩
    · simp only [satDissat_pkK, extOf, pkK_dis]
      exact SB_push0 _
  | .pkH k, _ => by
    have hg := pkLen_le_keySig ke ctx k
    apply P_leafSB
    · simp only [satDissat_pkH, extOf, pkH_sat]
      intro w hw
      obtain ⟨ws, wp, hs, hp, rfl⟩ := Wit.combine_stack hw
      cases hp
      obtain ⟨p, rfl, p1, p2, p3⟩ := sigWit_isSig ha hs
      have q1 : (Ph.pubkey k (pkLen ke ctx k)).size = pkLen ke ctx k := rfl
      have q2 : phSs (Ph.pubkey k (pkLen ke ctx k)) = pkLen ke ctx k := rfl
      refine ⟨_, rfl, by simp, ?_, fun _ => ?_⟩
      · simp only [wsz_append, wsz_cons, wsz_nil, q1]; omega
      · simp only [wss_append, wss_cons, wss_nil, q2]; omega
    · simp only [satDissat_pkH, extOf, pkH_dis]
      refine SB_const (w := [.pushZero, .pubkey k (pkLen ke ctx k)]) rfl ⟨by simp, ?_, fun _ => ?_⟩
      · simp [Ph.size]; omega
      · simp [phSs]; omega
  | .rawPkH h, _ => by
    have hu : (ctx == Ctx.bare || ctx == Ctx.legacy) = rawUnc ctx := rfl
    apply P_leafSB
    · simp only [extOf, hu, pkH_sat]
      intro w hw
      rcases satDissat_rawPkH_sat hw with ⟨pk, sz, hc, hr, rfl⟩ | ⟨pk, hc, hr, rfl⟩
      · have r1 := ha.rawSchnorr h pk sz hr
        have r2 := pkLen_le_rawKeySig ke ctx pk
        have hk : (keySig ctx false).2 = 66 := by simp [keySig, show ctx.sigType = _ from hc]
        refine ⟨_, rfl, by simp, ?_, fun _ => ?_⟩
        · simp [Ph.size]; omega
        · simp [phSs]; omega
      · have r2 := pkLen_le_rawKeySig ke ctx pk
        have hk : (keySig ctx false).2 = 73 := by simp [keySig, show ctx.sigType = _ from hc]
        refine ⟨_, rfl, by simp, ?_, fun _ => ?_⟩
        · simp [Ph.size]; omega
        · simp [phSs]; omega
    · simp only [extOf, hu, pkH_dis]
      intro w hw
      obtain ⟨pk, hr, rfl⟩ := satDissat_rawPkH_dis hw
      have r2 := pkLen_le_rawKeySig ke ctx pk
      refine ⟨_, rfl, by simp, ?_, fun _ => ?_⟩
      · simp [Ph.size]; omega
      · simp [phSs]; omega
  | .multi k ks, _ =>
    have h := multi_SB ha (ess ctx) k ks (ks.map (isUnc ke))
    ⟨h.1, fun _ => h.2⟩
  | .sortedMulti k ks, _ =>
    have h := multi_SB ha (ess ctx) k (sortKeys' ke ks) (ks.map (isUnc ke))
    ⟨h.1, fun _ => h.2⟩
  | .multiA k ks, hg => by
    simp only [good, Bool.and_eq_true, decide_eq_true_eq] at hg
    obtain ⟨rfl, hk⟩ := hg
    have h := multiA_SB ha k hk ks
    exact ⟨h.1, fun _ => h.2⟩
  | .sortedMultiA k ks, hg => by
    simp only [good, Bool.and_eq_true, decide_eq_true_eq] at hg
    obtain ⟨rfl, hk⟩ := hg
    have h := multiA_SB ha k hk (sortKeys' ke ks)
    rw [sortKeys'_length] at h
    exact ⟨h.1, fun _ => h.2⟩
  | .after n, _ | .older n, _ => by
    apply P_leafSB
    · simp only [satDissat_after, satDissat_older, extOf, ExtData.after, ExtData.older]
      intro w hw
      split at hw
      · cases hw; exact ⟨_, rfl, Fits_nil _ _⟩
      · split at hw <;> cases hw
    · simpa [satDissat_after, satDissat_older] using SB_impossible _ _
  | .hash kind h, _ => by
    have hs : (extOf ke ctx (.hash kind h)).satData = some ⟨33, 1, 33, 2, 0⟩ := by
      cases kind <;> rfl
    have hd : (extOf ke ctx (.hash kind h)).dissatData = some ⟨33, 2, 33, 2, 0⟩ := by
      cases kind <;> rfl
    apply P_leafSB
    · rw [hs, satDissat_hash]
      intro w hw
      split at hw
      · cases hw; exact ⟨_, rfl, by simp, by simp [Ph.size], fun _ => by simp [phSs]⟩
      · cases hw
    · rw [hd, satDissat_hash]
      exact SB_const (w := [.hashDissat]) rfl ⟨by simp, by simp [Ph.size], fun _ => by simp [phSs]⟩
  | .alt x, hg | .swap x, hg | .check x, hg | .zeroNotEqual x, hg => bound_ms ha x hg
  | .dupIf x, hg => ⟨SatB_dupIf (bound_ms ha x hg).1, fun _ => DisB_dupIf⟩
  | .verify x, hg => ⟨SatB_verify (bound_ms ha x hg).1, fun _ => DisB_verify⟩
  | .nonZero x, hg => ⟨SatB_nonZero (bound_ms ha x hg).1, fun _ => DisB_nonZero⟩
  | .andB l r, hg => by
    simp only [good, Bool.and_eq_true] at hg
    have ihl := bound_ms ha l hg.1
    have ihr := bound_ms ha r hg.2
    refine ⟨SatB_andB ihl.1 ihr.1, fun h => ?_⟩
    simp only [disOK, Bool.and_eq_true] at h
    exact DisB_andB (ihl.2 h.1) (ihr.2 h.2)
  | .andV l r, hg => by
    simp only [good, Bool.and_eq_true] at hg
    exact ⟨SatB_andV (bound_ms ha l hg.1).1 (bound_ms ha r hg.2).1, fun h => DisB_andV h⟩
  | .andOr x y z, hg => by
    simp only [good, Bool.and_eq_true] at hg
    obtain ⟨⟨⟨gx, gy⟩, gz⟩, cx⟩ := hg
    have ihx := bound_ms ha x gx
    have ihz := bound_ms ha z gz
    refine ⟨SatB_andOr ihx.1 (bound_ms ha y gy).1 (ihx.2 cx) ihz.1, fun h => ?_⟩
    simp only [disOK, Bool.and_eq_true] at h
    exact DisB_andOr (ihx.2 cx) (ihz.2 h.2)
  | .orB l r, hg => by
    simp only [good, Bool.and_eq_true] at hg
    obtain ⟨⟨⟨gl, gr⟩, cl⟩, cr⟩ := hg
    have ihl := bound_ms ha l gl
    have ihr := bound_ms ha r gr
    exact ⟨SatB_orB ihl.1 ihr.1 (ihl.2 cl) (ihr.2 cr), fun _ => DisB_orB (ihl.2 cl) (ihr.2 cr)⟩
  | .orD l r, hg => by
    simp only [good, Bool.and_eq_true] at hg
    obtain ⟨⟨gl, gr⟩, cl⟩ := hg
    have ihl := bound_ms ha l gl
    have ihr := bound_ms ha r gr
    refine ⟨SatB_orD ihl.1 (ihl.2 cl) ihr.1, fun h => ?_⟩
    simp only [disOK, Bool.and_eq_true] at h
    exact DisB_orD (ihl.2 cl) (ihr.2 h.2)
  | .orC l r, hg => by
    simp only [good, Bool.and_eq_true] at hg
    obtain ⟨⟨gl, gr⟩, cl⟩ := hg
    have ihl := bound_ms ha l gl
    exact ⟨SatB_orC ihl.1 (ihl.2 cl) (bound_ms ha r gr).1, fun _ => DisB_orC⟩
  | .orI l r, hg => by
    simp only [good, Bool.and_eq_true] at hg
    have ihl := bound_ms ha l hg.1
    have ihr := bound_ms ha r hg.2
    refine ⟨SatB_orI ihl.1 ihr.1, fun h => ?_⟩
    simp only [disOK, Bool.and_eq_true] at h
    exact DisB_orI (ihl.2 h.1) (ihr.2 h.2)
  | .thresh k xs, hg => by
    obtain ⟨hall, hhd⟩ := bound_list ha xs hg
    exact ⟨SatB_thresh hall hhd, fun _ => DisB_thresh hall⟩
theorem bound_list (ha : AssetsOk ke ctx a) : (xs : MsList) → goods ke ctx xs = true →
    AllSB (ess ctx) (satDissats (⟨ke, ctx, mall, rhs, a⟩ : SatCfg) xs) (extsOf ke ctx xs)
      ∧ ∀ p ∈ tv0 (extsOf ke ctx xs), p.2.isSome = true
  | .nil, _ => by simp [satDissats, extsOf, AllSB, tv0]
  | .cons x xs, hg => by
    simp only [goods, Bool.and_eq_true] at hg
    obtain ⟨⟨⟨gx, cx⟩, hx⟩, gxs⟩ := hg
    have ihx := bound_ms ha x gx
    obtain ⟨ih1, ih2⟩ := bound_list ha xs gxs
    simp only [satDissats, extsOf, AllSB, tv0, List.map_cons, List.mem_cons]
    refine ⟨⟨⟨ihx.1, ihx.2 cx⟩, ih1⟩, ?_⟩
    rintro p (rfl | hp)
    · exact hx
    · exact ih2 p hp
end

end induct

end MsVerif.C09
