/-
For the assembly and size theorems of C17: when `witness_to_scriptsig` is a plain
push, how many bytes it spends on an item, monotonicity of the compact-size length, and the list
fact behind `is_key_direct_child_of`.
-/
import MsVerif.Model.Plan

namespace MsVerif.PlanSizes
open MsVerif MsVerif.Plan MsVerif.Script

theorem varintLen_pos (n : Nat) : 1 ≤ varintLen n := by
  unfold varintLen
  split
  · decide
  · split
    · decide
    · split <;> decide

/-- the compact-size length is a step function: follow `a` down its thresholds, `b` is past each
one `a` is past -/
theorem varintLen_mono {a b : Nat} (h : a ≤ b) : varintLen a ≤ varintLen b := by
  unfold varintLen
  by_cases a1 : a < 0xfd
  · rw [if_pos a1]
    exact varintLen_pos b
  · rw [if_neg a1, if_neg (by omega : ¬ b < 0xfd)]
    by_cases a2 : a ≤ 0xffff
    · rw [if_pos a2]
      split
      · decide
      · split <;> decide
    · rw [if_neg a2, if_neg (by omega : ¬ b ≤ 0xffff)]
      by_cases a3 : a ≤ 0xffffffff
      · rw [if_pos a3]
        split <;> decide
      · rw [if_neg a3, if_neg (by omega : ¬ b ≤ 0xffffffff)]
        exact Nat.le_refl 9

theorem varintLen_small {n : Nat} (h : n < 0xfd) : varintLen n = 1 := if_pos h

theorem pushLen_small {n : Nat} (h : n < 0x4c) : pushLen n = n + 1 := by
  unfold pushLen
  rw [if_pos h]

theorem serializedScriptSigSize_le {ss : Bytes} {n : Nat} (h : ss.length ≤ n) :
    serializedScriptSigSize ss ≤ n + varintLen n := by
  have := varintLen_mono h
  unfold serializedScriptSigSize
  omega

/-- a one-byte item is pushed in at most two bytes (evaluated over the 256 bytes) -/
theorem w2ssItem_single (x : UInt8) : (w2ssItem [x]).length ≤ 2 := by
  have h : ∀ n, n < 256 → (w2ssItem [UInt8.ofNat n]).length ≤ 2 := by decide +kernel
  simpa using h x.toNat x.toNat_lt

theorem pushSlice_length (b : Bytes) (h : b.length ≤ 0xffff) :
    (pushSlice b).length = pushLen b.length := by
  unfold pushSlice pushPrefix pushLen
  rw [List.length_append, Nat.add_comm]
  by_cases h1 : b.length < 0x4c
  · rw [if_pos h1, if_pos h1]
    rfl
  · rw [if_neg h1, if_neg h1]
    by_cases h2 : b.length ≤ 0xff
    · rw [if_pos h2, if_pos (show b.length < 0x100 by omega)]
      rfl
    · rw [if_neg h2, if_neg (show ¬ b.length < 0x100 by omega), if_pos h]
      rfl

theorem w2ssItem_eq_pushSlice (b : Bytes)
    (h : b = [] ∨ readScriptInt b = none) : w2ssItem b = pushSlice b := by
  rcases h with rfl | h
  · decide
  · simp [w2ssItem, h]

/-- an item longer than 4 bytes (every signature, every public key) is not a script number -/
theorem readScriptInt_long (b : Bytes) (h : 4 < b.length) : readScriptInt b = none := by
  simp [readScriptInt, numDecode, h]

theorem w2ssItem_long (b : Bytes) (h : 4 < b.length) : w2ssItem b = pushSlice b :=
  w2ssItem_eq_pushSlice b (.inr (readScriptInt_long b h))

theorem w2ssItem_length (b : Bytes)
    (h : b.length = 0 ∨ b.length = 1 ∨ (5 ≤ b.length ∧ b.length ≤ 0xffff)) :
    (w2ssItem b).length ≤ pushLen b.length := by
  rcases h with h | h | h
  · have : b = [] := List.eq_nil_of_length_eq_zero h
    subst this; decide
  · match b, h with
    | [x], _ => have := w2ssItem_single x; simpa [pushLen] using this
  · rw [w2ssItem_long b (by omega), pushSlice_length b h.2]
    exact Nat.le_refl _

theorem ph_fits (p : Ph) (len : Nat) (h : (Item.ph p).fits len = true) :
    (len = 0 ∨ len = 1 ∨ 5 ≤ len) ∧ len < 0x4c ∧ len + 1 ≤ p.size := by
  cases p <;>
    simp only [Item.fits, Ph.size, Bool.and_eq_true, Bool.or_eq_true, beq_iff_eq,
      decide_eq_true_eq] at h ⊢ <;>
    omega

theorem sum_map_le_of_zip {α β : Type} {f : β → Nat} {g : α → Nat} :
    ∀ {t : List α} {l : List β}, l.length = t.length → (∀ p ∈ t.zip l, f p.2 ≤ g p.1) →
      (l.map f).sum ≤ (t.map g).sum
  | [], [], _, _ => Nat.le_refl 0
  | a :: t, b :: l, hlen, h => by
    simp only [List.map_cons, List.sum_cons]
    exact Nat.add_le_add (h (a, b) (by simp))
      (sum_map_le_of_zip (Nat.succ.inj hlen) fun p hp => h p (by simp [hp]))
  | [], _ :: _, hlen, _ => nomatch hlen
  | _ :: _, [], hlen, _ => nomatch hlen

theorem w2ss_length (t : List Ph) (stack : List Bytes) (hlen : stack.length = t.length)
    (hfit : ∀ q ∈ t.zip stack, (Item.ph q.1).fits q.2.length = true) :
    (witnessToScriptSig stack).length ≤ (t.map Ph.size).sum := by
  unfold witnessToScriptSig
  rw [List.length_flatMap]
  refine sum_map_le_of_zip hlen fun q hq => ?_
  have h1 := ph_fits q.1 q.2.length (hfit q hq)
  have h2 := w2ssItem_length q.2 (by omega)
  rw [pushLen_small h1.2.1] at h2
  omega

theorem w2ss_append (a b : List Bytes) :
    witnessToScriptSig (a ++ b) = witnessToScriptSig a ++ witnessToScriptSig b := by
  simp [witnessToScriptSig]

theorem take_pred_eq_iff {α : Type} (pk src : List α) :
    (pk.length > 0 ∧ src = pk.take (pk.length - 1)) ↔ ∃ c, pk = src ++ [c] := by
  constructor
  · rintro ⟨hl, rfl⟩
    have hne : pk ≠ [] := by intro h; simp [h] at hl
    refine ⟨pk.getLast hne, ?_⟩
    rw [← List.dropLast_eq_take]
    exact (List.dropLast_concat_getLast hne).symm
  · rintro ⟨c, rfl⟩
    simp

end MsVerif.PlanSizes
