/-
The stack-limit invariant `StkOk` (stack + altstack ≤ 1000 when `stackLimits` is
on) is kept by every successful `step`.  It is what makes `OP_EQUALVERIFY` = `OP_EQUAL; OP_VERIFY`: the
boolean pushed in between must have room.
-/
import MsVerif.Lemmas.BridgeSkip
import MsVerif.Lemmas.CoreOpc

namespace MsVerif.Bridge
open MsVerif MsVerif.Script

def StkOk (env : Env) (c : Core) : Prop :=
  env.flags.stackLimits = true → c.stack.length + c.alt.length ≤ 1000

/-- `Holds (StkOk env) x` (CoreOpc), whose rules `Holds.error`, `Holds.pure` apply to it as they stand -/
def Good (env : Env) (x : Except Err Core) : Prop := ∀ c', x = .ok c' → StkOk env c'

theorem good_pushElem (env : Env) (c : Core) (b : Bytes) : Good env (pushElem env c b) := by
  fun_cases pushElem env c b
  · exact Holds.error
  · exact Holds.error
  · rename_i hlim
    refine Holds.pure fun hl => ?_
    simp only [hl, Bool.true_and, decide_eq_true_eq] at hlim ⊢
    omega

theorem good_ite (env : Env) (p : Prop) [Decidable p] (x y : Except Err Core)
    (hx : Good env x) (hy : Good env y) : Good env (if p then x else y) :=
  Holds.ite hx hy

theorem good_countOp (env : Env) (c : Core) (n : Nat) (h : StkOk env c) : Good env (countOp env c n) := by
  intro c' h'
  rw [countOp_inv h']
  exact h

theorem good_shrink (env : Env) {c c' : Core} (h : StkOk env c)
    (hle : c'.stack.length + c'.alt.length ≤ c.stack.length + c.alt.length) : Good env (.ok c') :=
  Holds.pure fun hl => Nat.le_trans hle (h hl)

/-- a successful CHECKMULTISIG(VERIFY) leaves fewer elements than it found: the two counts and the dummy go, at
most the verdict comes -/
theorem good_multisig (env : Env) (c : Core) (v : Bool) (h : StkOk env c) : Good env (multisig env c v) := by
  obtain ⟨st, alt, ops⟩ := c
  intro c' hm
  obtain ⟨_, _, _, _, _, _, _, _, _, rfl, _, _, _, _, _, _, _, _, _, _, rfl⟩ := multisig_inv hm
  intro hl
  have := h hl
  simp only [List.length_cons, List.length_append] at this
  cases v <;> simp only [Bool.false_eq_true, if_true, if_false, List.length_cons] <;> omega

/-- every opcode ends in an error, in a push (which checks the limit itself), or in a state with no more
elements than before (the count in `ActOk`) -/
theorem good_execOpc (env : Env) (o : Opc) (c : Core) (h : StkOk env c) : Good env (execOpc env o c) := by
  induction o using Opc.multisig_or with
  | h1 => rw [execOpc_cms]; exact good_multisig env c false h
  | h2 => rw [execOpc_cmsv]; exact good_multisig env c true h
  | h ho =>
    refine holds_execOpc ho c fun pre rest r hst hr => ?_
    obtain ⟨out, al', p⟩ := r
    cases p with
    | some b => exact good_pushElem env _ b
    | none =>
      refine good_shrink env h ?_
      have := hr.count
      simp only [hst, List.length_append] at this ⊢; omega

theorem cnd_ok (env : Env) (nf v : Bool) (c c1 : Core) (hstk : StkOk env c)
    (h : cnd env nf c = .ok (v, c1)) : StkOk env c1 ∧ CntOk env c1 := by
  refine ⟨fun hl => ?_, fun hl => ?_⟩
  · obtain ⟨a, hs, ha, _⟩ := cnd_inv h
    have := hstk hl
    rw [hs, List.length_cons] at this
    rw [ha]
    omega
  · unfold cnd at h
    cases hc : countOp env c 1 with
    | error e => rw [hc] at h; cases h
    | ok c0 =>
      rw [hc] at h
      rw [condPop_ops h]
      exact countOp_cntOk env c c0 1 hc hl

theorem good_pshOp (env : Env) (op : Op) (c : Core) (h : StkOk env c) : Good env (pshOp env op c) := by
  cases op with
  | small n => exact good_pushElem env _ _
  | push bs => exact good_ite env _ _ _ (Holds.error) (good_pushElem env _ _)
  | bad b => exact Holds.error
  | code o =>
    show Good env (opc env o c)
    unfold opc
    cases hc : countOp env c 1 with
    | error e => exact Holds.error
    | ok c1 => exact good_execOpc env o c1 (good_countOp env c 1 h c1 hc)

theorem good_skipStep (env : Env) (op : Op) (c : Core) (h : StkOk env c) : Good env (skipStep env c op) := by
  cases op with
  | code o => exact good_countOp env c 1 h
  | push bs => exact good_ite env _ _ _ (Holds.error) (Holds.pure h)
  | _ => exact Holds.pure h

theorem good_coreStep (env : Env) (exec : Bool) (op : Op) (c : Core) (h : StkOk env c) :
    Good env (coreStep env exec op c) := by
  cases exec with
  | false => exact good_skipStep env op c h
  | true =>
    rcases Op.cases op with hp | ⟨nf, rfl⟩ | rfl | rfl
    · rw [coreStep_plain hp]; exact good_pshOp env op c h
    · rw [coreStep_cond]
      intro c' hc'
      cases hc : cnd env nf c with
      | error e => rw [hc] at hc'; cases hc'
      | ok p => rw [hc] at hc'; cases hc'; exact (cnd_ok env nf p.1 c p.2 h hc).1
    · exact good_countOp env c 1 h
    · exact good_countOp env c 1 h

theorem step_stkOk (env : Env) (s s' : State) (op : Op) (h : StkOk env s.core)
    (hs : step env s op = .ok s') : StkOk env s'.core :=
  good_coreStep env s.executing op s.core h s'.core (step_core hs)

theorem run_stkOk (env : Env) (ops : List Op) (s s' : State) (h : StkOk env s.core)
    (hr : run env ops s = .ok s') : StkOk env s'.core := by
  induction ops generalizing s with
  | nil => cases hr; exact h
  | cons op ops ih =>
    rw [run_cons] at hr
    cases hs : step env s op with
    | error e => rw [hs] at hr; cases hr
    | ok s1 =>
      rw [hs] at hr
      exact ih s1 (step_stkOk env s s1 op h hs) hr

end MsVerif.Bridge
