/-
Insertion sort, once for every order (permutation and sortedness; that the sorts are stable is not needed and not
stated): the model has four of them (`insertByKey`/`sortKeys` of
`Model/Encode`, `insertKey'`/`sortKeys'` and `insertIdx`/`sortIdx` of `Model/Satisfy`, `insertSD`/`sortSD` of
`Model/Ext`), each `sort = foldl (fun acc x => ins x acc) []` over an `ins` with the two equations below.  The
theorems are about any such `ins`; an instance gives the equations by `fun _ => rfl`, `fun _ _ _ => rfl`.
-/

namespace MsVerif.InsertSort

variable {α : Type} (le : α → α → Bool) (ins : α → List α → List α)
  (hnil : ∀ x, ins x [] = [x])
  (hcons : ∀ x y ys, ins x (y :: ys) = if le y x then y :: ins x ys else x :: y :: ys)
include hnil hcons

theorem ins_perm (x : α) : ∀ l, (ins x l).Perm (x :: l)
  | [] => hnil x ▸ .refl _
  | y :: ys => by
    rw [hcons]
    split
    · exact ((ins_perm x ys).cons y).trans (.swap x y ys)
    · exact .refl _

theorem foldl_ins_perm (l acc : List α) : (l.foldl (fun acc x => ins x acc) acc).Perm (l ++ acc) := by
  induction l generalizing acc with
  | nil => exact .refl _
  | cons x t ih =>
    exact (ih _).trans (((ins_perm le ins hnil hcons x acc).append_left t).trans List.perm_middle)

variable (htot : ∀ a b, le a b = true ∨ le b a = true)
  (htrans : ∀ a b c, le a b = true → le b c = true → le a c = true)
include htot htrans

theorem ins_sorted (x : α) : ∀ l, l.Pairwise (le · · = true) → (ins x l).Pairwise (le · · = true)
  | [], _ => hnil x ▸ List.pairwise_singleton _ _
  | y :: ys, h => by
    obtain ⟨hy, hys⟩ := List.pairwise_cons.mp h
    rw [hcons]
    split
    next hyx =>
      refine List.pairwise_cons.mpr ⟨fun z hz => ?_, ins_sorted x ys hys⟩
      rcases List.mem_cons.mp ((ins_perm le ins hnil hcons x ys).mem_iff.mp hz) with rfl | hz
      · exact hyx
      · exact hy z hz
    next hyx =>
      -- `x` goes in front of `y`: by totality `x ≤ y`, and `y` is below the rest
      have hxy := (htot x y).resolve_right hyx
      refine List.pairwise_cons.mpr ⟨fun z hz => ?_, h⟩
      rcases List.mem_cons.mp hz with rfl | hz
      · exact hxy
      · exact htrans _ _ _ hxy (hy z hz)

theorem foldl_ins_sorted : ∀ (l acc : List α), acc.Pairwise (le · · = true) →
    (l.foldl (fun acc x => ins x acc) acc).Pairwise (le · · = true)
  | [], _, h => h
  | x :: l, acc, h => foldl_ins_sorted l _ (ins_sorted le ins hnil hcons htot htrans x acc h)

end MsVerif.InsertSort
