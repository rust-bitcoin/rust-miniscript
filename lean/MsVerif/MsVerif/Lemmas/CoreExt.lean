/-
`Model/Ext` (`ExtData`, the static resource bounds): `zipMap`, the per-child list `extsOf`, and what
`ExtData::threshold`'s re-sorting of the children's figures (`sortSD`) yields.
-/
import MsVerif.Model.Ext
import MsVerif.Lemmas.CoreInsert

namespace MsVerif

theorem zipMap_isSome (f : SatData → SatData → SatData) (a b : Option SatData) :
    (zipMap f a b).isSome = (a.isSome && b.isSome) := by
  cases a <;> cases b <;> rfl

@[simp] theorem fmaxOpt_isSome (a b : Option SatData) :
    (SatData.fmaxOpt a b).isSome = (a.isSome || b.isSome) := by
  cases a <;> cases b <;> rfl

theorem extsOf_length (env : KeyEnv) (ctx : Ctx) : (xs : MsList) → (extsOf env ctx xs).length = xs.length
  | .nil => rfl
  | .cons _ xs => by simp [extsOf, MsList.length, extsOf_length env ctx xs]

namespace ExtData

theorem keyLe_total (a b : Option Int) : keyLe a b = true ∨ keyLe b a = true := by
  cases a <;> cases b <;> simp [keyLe]; omega

theorem keyLe_trans {a b c : Option Int} (h1 : keyLe a b = true) (h2 : keyLe b c = true) :
    keyLe a c = true := by
  cases a <;> cases b <;> cases c <;> simp_all [keyLe]; omega

/-- the vector as the fold of `threshold` sees it: a permutation of the figures, largest key first -/
theorem sortSD_reverse (proj : SatData → Nat) (v : List SD) : (sortSD proj v).reverse.Perm v
    ∧ (sortSD proj v).reverse.Pairwise fun a b => keyLe (sortKey proj b) (sortKey proj a) = true := by
  refine ⟨(List.reverse_perm _).trans ?_, List.pairwise_reverse.2 ?_⟩
  · simpa [sortSD] using InsertSort.foldl_ins_perm
      (fun (a b : SD) => keyLe (sortKey proj a) (sortKey proj b)) (insertSD proj) (fun _ => rfl)
      (fun _ _ _ => rfl) v []
  · exact InsertSort.foldl_ins_sorted (fun (a b : SD) => keyLe (sortKey proj a) (sortKey proj b)) (insertSD proj)
      (fun _ => rfl) (fun _ _ _ => rfl) (fun _ _ => keyLe_total _ _) (fun _ _ _ => keyLe_trans) v [] .nil

end ExtData

end MsVerif
