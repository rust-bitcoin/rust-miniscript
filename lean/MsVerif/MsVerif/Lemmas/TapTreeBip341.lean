/-
Helper lemmas for C15: the byte-level BIP341 hash algebra (`Spec/Bip341.lean`) has a
commutative branch hash (it sorts the children), so every abstract theorem with the `H.Comm`
hypothesis applies to real tagged SHA-256 hashes; and the one-pass (root, sibling paths)
function `rootAndPaths` the driver's judge evaluates (that it is the specification's
`root` / `siblingPaths` is `C15.judge_rootAndPaths`).
-/
import MsVerif.Spec.Bip341


namespace MsVerif.Bip341
open MsVerif.Hash MsVerif.Spec MsVerif.Spec.Tree

/-- `bytesLt` is the library's lexicographic `<` -/
theorem bytesLt_eq : ∀ a b : Bytes, bytesLt a b = decide (a < b)
  | [], [] => by simp [bytesLt]
  | [], _ :: _ => by simp [bytesLt]
  | _ :: _, [] => by simp [bytesLt]
  | x :: xs, y :: ys => by
    simp only [bytesLt, bytesLt_eq xs ys, List.cons_lt_cons_iff]
    by_cases h1 : x < y
    · simp [h1]
    · by_cases h2 : y < x
      · have : x ≠ y := fun e => h1 (e ▸ h2)
        simp [h1, h2, this]
      · have : x = y := UInt8.le_antisymm (UInt8.not_lt.mp h2) (UInt8.not_lt.mp h1)
        simp [this]

theorem bytesLt_asymm : ∀ (a b : Bytes), bytesLt a b = true → bytesLt b a = false := by
  intro a b h
  rw [bytesLt_eq] at h ⊢
  simpa using List.lt_asymm (of_decide_eq_true h)

theorem bytesLt_connected : ∀ (a b : Bytes), bytesLt a b = false → bytesLt b a = false → a = b := by
  intro a b h1 h2
  rw [bytesLt_eq, decide_eq_false_iff_not] at h1 h2
  exact List.le_antisymm h2 h1

theorem tapBranchHash_comm (a b : Bytes) : tapBranchHash a b = tapBranchHash b a := by
  simp only [tapBranchHash]
  cases h1 : bytesLt b a with
  | true => simp [bytesLt_asymm b a h1]
  | false =>
    cases h2 : bytesLt a b with
    | true => simp
    | false => simp [bytesLt_connected a b h2 h1]

end MsVerif.Bip341

namespace MsVerif.Spec.Tree
variable {α ν : Type}

/-- root and sibling paths in one pass (each subtree hashed once) -/
def rootAndPaths (H : HashAlg α ν) : Tree α → ν × List (α × List ν)
  | leaf s => (H.leafHash s, [(s, [])])
  | node l r =>
    let a := rootAndPaths H l
    let b := rootAndPaths H r
    (H.branch a.1 b.1,
     a.2.map (fun p => (p.1, p.2 ++ [b.1])) ++ b.2.map (fun p => (p.1, p.2 ++ [a.1])))

end MsVerif.Spec.Tree
