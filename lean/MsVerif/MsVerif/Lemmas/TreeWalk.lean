/-
The stack machines of `src/iter/tree.rs` (Model/Cmp.lean: `preOrderNext`, `postOrderCollect`,
`Tree.rtl`) yield the structural traversals, for any tree type, once the fuel covers the nodes
(post-order: two steps per node); a stack fold over the post-order maps a forest to its images
(`stackFold`, `popEach_append`); a pre-order label sequence determines the forest (`prefix_code`); then each for `Ms`.
An iterator given by the list it has still to yield (`Remains`) collects that list: `iterCollect_eq_take`, the one fuel
induction for the iterators here and in the C20 modules.
-/
import MsVerif.Model.Cmp

namespace MsVerif.TreeWalk
open MsVerif

variable {α β : Type}

theorem foldl_cons (l : List α) (s : List α) :
    l.foldl (fun st c => c :: st) s = l.reverse ++ s := by
  induction l generalizing s with
  | nil => rfl
  | cons x xs ih => simp [List.foldl_cons, ih]

theorem Tree.rtl_children (t : Tree α) : t.rtl.children = t.children.reverse := by
  cases t <;> rfl

@[simp] theorem pushRev_eq (cs stack : List α) : pushRev cs stack = cs ++ stack := by
  simp [pushRev]

theorem preOrderNext_cons (asNode : α → Tree α) (top : α) (stack : List α) :
    preOrderNext asNode (top :: stack) = some (top, (asNode top).children ++ stack) := by
  simp only [preOrderNext]
  cases asNode top <;> simp [Tree.children]

/-- `rem s` is what the iterator has still to yield from state `s`: nothing when `next` ends, otherwise the item
`next` yields and then what remains from the state it moves to -/
def Remains {σ : Type} (next : σ → Option (β × σ)) (rem : σ → List β) : Prop :=
  ∀ s, match next s with
    | none => rem s = []
    | some (b, s') => rem s = b :: rem s'

theorem iterCollect_eq_take {σ : Type} {next : σ → Option (β × σ)} {rem : σ → List β} (h : Remains next rem) :
    ∀ (fuel : Nat) (s : σ), iterCollect next fuel s = (rem s).take fuel
  | 0, _ => by simp [iterCollect]
  | n + 1, s => by
    have hs := h s
    rw [iterCollect]
    cases hn : next s with
    | none => rw [hn] at hs; simp [hs]
    | some r =>
      rw [hn] at hs
      simp only [hs, iterCollect_eq_take h n r.2, List.take_succ_cons]

theorem preCollect_eq (asNode : α → Tree α) (pre : α → List α)
    (hpre : ∀ x, pre x = x :: (asNode x).children.flatMap pre) :
    ∀ (fuel : Nat) (stack : List α),
      iterCollect (preOrderNext asNode) fuel stack = (stack.flatMap pre).take fuel :=
  iterCollect_eq_take (next := preOrderNext asNode) (rem := List.flatMap pre) fun stack => by
    cases stack with
    | nil => rfl
    | cons top rest =>
      simp only [preOrderNext_cons, List.flatMap_cons, List.flatMap_append, hpre top, List.cons_append]

theorem preOrderIter_eq (asNode : α → Tree α) (pre : α → List α)
    (hpre : ∀ x, pre x = x :: (asNode x).children.flatMap pre) (fuel : Nat) (x : α)
    (h : (pre x).length ≤ fuel) : preOrderIter asNode fuel x = pre x := by
  unfold preOrderIter
  rw [preCollect_eq asNode pre hpre, List.flatMap_singleton]
  exact List.take_of_length_le h

/-- cost of a `PostOrderIter` stack: one step to yield a processed entry, `2·size` steps for an
unprocessed one -/
def cost (size : α → Nat) : List (α × Bool) → Nat
  | [] => 0
  | (x, b) :: st => (if b then 1 else 2 * size x) + cost size st

theorem cost_append (size : α → Nat) (a b : List (α × Bool)) :
    cost size (a ++ b) = cost size a + cost size b := by
  induction a with
  | nil => simp [cost]
  | cons p ps ih => obtain ⟨x, f⟩ := p; simp [cost, ih]; omega

theorem cost_unprocessed (size : α → Nat) (cs : List α) :
    cost size (cs.map (·, false)) = 2 * (cs.map size).sum := by
  induction cs with
  | nil => simp [cost]
  | cons c cs ih => simp [cost, ih]; omega

def entryOut (post : α → List α) (p : α × Bool) : List α := if p.2 then [p.1] else post p.1

theorem postCollect_eq (asNode : α → Tree α) (post : α → List α) (size : α → Nat)
    (hpost : ∀ x, post x = (asNode x).children.flatMap post ++ [x])
    (hsize : ∀ x, size x = 1 + ((asNode x).children.map size).sum) :
    ∀ (fuel : Nat) (stack : List (α × Bool)), cost size stack ≤ fuel →
      postOrderCollect asNode fuel stack = stack.flatMap (entryOut post) := by
  intro fuel
  induction fuel with
  | zero =>
    intro stack h
    cases stack with
    | nil => simp [postOrderCollect]
    | cons p ps =>
      obtain ⟨x, b⟩ := p
      cases b
      · have := hsize x; simp [cost] at h; omega
      · simp [cost] at h
  | succ n ih =>
    intro stack h
    cases stack with
    | nil => simp [postOrderCollect]
    | cons p ps =>
      obtain ⟨x, b⟩ := p
      cases b
      · simp only [postOrderCollect, pushRev_eq]
        rw [ih]
        · simp only [List.flatMap_append, List.flatMap_cons, entryOut]
          rw [hpost x]
          simp [List.flatMap_map, entryOut]
        · have hs := hsize x
          simp only [cost_append, cost_unprocessed, cost] at h ⊢
          simp at h ⊢
          omega
      · simp only [postOrderCollect]
        rw [ih]
        · simp [entryOut]
        · simp [cost] at h; omega

theorem rtlPostOrderIter_eq (asNode : α → Tree α) (post : α → List α) (size : α → Nat)
    (hpost : ∀ x, post x = (asNode x).rtl.children.flatMap post ++ [x])
    (hsize : ∀ x, size x = 1 + ((asNode x).rtl.children.map size).sum) (x : α) :
    rtlPostOrderIter asNode (2 * size x) x = post x := by
  unfold rtlPostOrderIter
  rw [postCollect_eq (fun x => (asNode x).rtl) post size hpost hsize]
  · simp [entryOut]
  · simp [cost]

/-- the pops of an n-ary rebuild (`popEach`, one per child) take exactly the images of the children off the stack -/
theorem popEach_append {γ : Type} : ∀ (cs : List γ) (ys st : List α), cs.length = ys.length →
    popEach cs (ys ++ st) = some (ys, st)
  | [], [], st, _ => rfl
  | [], _ :: _, _, h => by simp at h
  | _ :: _, [], _, h => by simp at h
  | _ :: cs, y :: ys, st, h => by
    simp only [List.length_cons, Nat.add_right_cancel_iff] at h
    simp [popEach, pop?, popEach_append cs ys st h]

/-- The folds over the right-to-left post-order that rebuild a value from a stack without
effects (`clone`, `substitute_raw_pkh`, `translate_unsatisfiable_pk`) are all a `loop` over a `step`
that, finding the images of the children of `x` on the stack, replaces them by the image `F x`.
Such a loop maps a forest to its images: no pop fails, and the order of the children is kept.
(`size` is only the termination measure.) -/
theorem stackFold (asNode : α → Tree α) (post : α → List α) (size : α → Nat) (F : α → α)
    (step : List α → α → Option (List α)) (loop : List α → List α → Except Panic (List α))
    (hpost : ∀ x, post x = (asNode x).rtl.children.flatMap post ++ [x])
    (hsize : ∀ x, size x = 1 + ((asNode x).rtl.children.map size).sum)
    (hloop : ∀ x xs st st', step st x = some st' → loop (x :: xs) st = loop xs st')
    (hstep : ∀ x st, step ((asNode x).children.map F ++ st) x = some (F x :: st)) :
    ∀ (xs rest st : List α),
      loop (xs.reverse.flatMap post ++ rest) st = loop rest (xs.map F ++ st)
  | [], _, _ => rfl
  | x :: xs, rest, st => by
    rw [List.reverse_cons, List.flatMap_append, List.flatMap_singleton, List.append_assoc,
      stackFold asNode post size F step loop hpost hsize hloop hstep xs, hpost x, Tree.rtl_children,
      List.append_assoc,
      stackFold asNode post size F step loop hpost hsize hloop hstep (asNode x).children,
      List.singleton_append, hloop _ _ _ _ (hstep x _)]
    rfl
termination_by xs => (xs.map size).sum
decreasing_by
  · simp only [List.map_cons, List.sum_cons]; have := hsize x; omega
  · have := hsize x
    rw [Tree.rtl_children, List.map_reverse, List.sum_reverse] at this
    simp only [List.map_cons, List.sum_cons]; omega

/-- `lab` labels a node; equal labels force equal numbers of children (`harity`)
and a node is determined by its label and children (`hinj`).  Then two stacks of equal length
whose flattened pre-order LABEL sequences are related by "one is a prefix of the other" are
equal.  (`size` is only the termination measure.) -/
theorem prefix_code {L : Type} (kids : α → List α) (pre : α → List α) (lab : α → L) (size : α → Nat)
    (hpre : ∀ x, pre x = x :: (kids x).flatMap pre)
    (hsize : ∀ x, size x = 1 + ((kids x).map size).sum)
    (harity : ∀ x y, lab x = lab y → (kids x).length = (kids y).length)
    (hinj : ∀ x y, lab x = lab y → kids x = kids y → x = y) :
    ∀ (sa sb : List α), sa.length = sb.length →
      ((sa.flatMap pre).map lab) <+: ((sb.flatMap pre).map lab) → sa = sb
  | [], [], _, _ => rfl
  | [], _ :: _, hl, _ | _ :: _, [], hl, _ => by simp at hl
  | x :: xs, y :: ys, hl, hp => by
    simp only [List.flatMap_cons, hpre x, hpre y, List.cons_append, List.map_cons,
      List.cons_prefix_cons] at hp
    obtain ⟨hlab, hrest⟩ := hp
    have hrec : kids x ++ xs = kids y ++ ys :=
      prefix_code kids pre lab size hpre hsize harity hinj _ _
        (by simp only [List.length_append, List.length_cons] at hl ⊢; have := harity x y hlab; omega)
        (by simpa [List.flatMap_append] using hrest)
    have hk : kids x = kids y ∧ xs = ys := List.append_inj hrec (harity x y hlab)
    rw [hinj x y hlab hk.1, hk.2]
termination_by sa => (sa.map size).sum
decreasing_by
  have := hsize x
  simp only [List.map_cons, List.sum_cons, List.map_append, List.sum_append]
  omega

theorem MsList.pre_eq : (xs : MsList) → xs.pre = xs.toList.flatMap Ms.pre
  | .nil => rfl
  | .cons x xs => by simp [MsList.pre, MsList.toList, MsList.pre_eq xs]

theorem Ms.pre_eq (x : Ms) : x.pre = x :: x.asNode.children.flatMap Ms.pre := by
  cases x <;>
    simp only [Ms.pre, Ms.asNode, Tree.children, MsList.pre_eq, List.flatMap_cons, List.flatMap_nil,
      List.append_nil]

theorem MsList.rtlPost_eq : (xs : MsList) → xs.rtlPost = xs.toList.reverse.flatMap Ms.rtlPost
  | .nil => rfl
  | .cons x xs => by simp [MsList.rtlPost, MsList.toList, MsList.rtlPost_eq xs]

theorem Ms.rtlPost_eq (x : Ms) :
    x.rtlPost = x.asNode.rtl.children.flatMap Ms.rtlPost ++ [x] := by
  cases x <;>
    simp only [Ms.rtlPost, Ms.asNode, Tree.rtl, Tree.children, MsList.rtlPost_eq, List.flatMap_cons,
      List.flatMap_nil, List.append_nil, List.nil_append, List.append_assoc]

theorem MsList.nodes_eq : (xs : MsList) → xs.nodes = (xs.toList.map Ms.nodes).sum
  | .nil => rfl
  | .cons x xs => by simp [MsList.nodes, MsList.toList, MsList.nodes_eq xs]

theorem Ms.nodes_eq (x : Ms) : x.nodes = 1 + (x.asNode.children.map Ms.nodes).sum := by
  cases x <;>
    simp only [Ms.nodes, Ms.asNode, Tree.children, MsList.nodes_eq, List.map_cons, List.map_nil,
      List.sum_cons, List.sum_nil] <;> omega

theorem Ms.nodes_rtl (x : Ms) : x.nodes = 1 + (x.asNode.rtl.children.map Ms.nodes).sum := by
  rw [Tree.rtl_children, List.map_reverse, List.sum_reverse]
  exact Ms.nodes_eq x

mutual
theorem Ms.pre_length : (x : Ms) → x.pre.length = x.nodes
  | .tru | .fls | .pkK _ | .pkH _ | .rawPkH _ | .after _ | .older _ | .hash _ _
  | .multi _ _ | .sortedMulti _ _ | .multiA _ _ | .sortedMultiA _ _ => by simp [Ms.pre, Ms.nodes]
  | .alt x | .swap x | .check x | .dupIf x | .verify x | .nonZero x | .zeroNotEqual x => by
    simp [Ms.pre, Ms.nodes, Ms.pre_length x]
  | .andV l r | .andB l r | .orB l r | .orD l r | .orC l r | .orI l r => by
    simp [Ms.pre, Ms.nodes, Ms.pre_length l, Ms.pre_length r]
  | .andOr a b c => by
    simp [Ms.pre, Ms.nodes, Ms.pre_length a, Ms.pre_length b, Ms.pre_length c]; omega
  | .thresh _ xs => by simp [Ms.pre, Ms.nodes, MsList.pre_length' xs]
theorem MsList.pre_length' : (xs : MsList) → xs.pre.length = xs.nodes
  | .nil => rfl
  | .cons x xs => by simp [MsList.pre, MsList.nodes, Ms.pre_length x, MsList.pre_length' xs]
end

theorem preOrder_eq_pre (ms : Ms) : ms.preOrder = ms.pre :=
  preOrderIter_eq Ms.asNode Ms.pre Ms.pre_eq _ ms (Nat.le_of_eq (Ms.pre_length ms))

theorem rtlPostOrder_eq (ms : Ms) : ms.rtlPostOrder = ms.rtlPost :=
  rtlPostOrderIter_eq Ms.asNode Ms.rtlPost Ms.nodes Ms.rtlPost_eq Ms.nodes_rtl ms

end MsVerif.TreeWalk
