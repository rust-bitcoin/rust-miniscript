/-
Helper lemmas for C08 (translation validation of the policy compiler):

* both sides of the semantic check depend on the world only through the truth values of the
  atoms that occur (`holdsC_congr`, `satEx_congr`; `holdsA_congr` for `Pol.Policy`);
* every world agrees, on any given finite list of atoms, with one of the representative worlds
  the checker enumerates (`reps_adequate`): subsets of the key / hash atoms, one nLockTime and
  one nSequence per gap between the occurring lock values; hence a check over `reps` holds of every world (`reps_sound`);
* the same for the valuations `Pol.forallVals` enumerates (`forallVals_spec`);
* `mem_msKeys`, `pkOk_of_nodeOk`: a key of the script passed the key test of C08's mirror of `validate` at its node.
-/
import MsVerif.Model.CompileCheck
import MsVerif.Lemmas.PolicyBasic
import MsVerif.Lemmas.CoreLocks

namespace MsVerif.CC
open MsVerif MsVerif.SatTable

theorem holdsC_congr (v w : Atom → Bool) :
    ∀ P : CPolicy, (∀ a ∈ Pol.atomsOfC P, v a = w a) → Pol.holdsC v P = Pol.holdsC w P := by
  intro P
  induction P using Pol.CPolicy.induct' with
  | unsat | trivial => intro _; rfl
  | atom a => intro h; simp only [Pol.holdsC]; exact h a (by simp [Pol.atomsOfC])
  | and subs ih | or subs ih | thresh _ subs ih =>
    intro h
    simp only [Pol.holdsC, Pol.countC_eq]
    rw [List.countP_congr fun p hp => by
      rw [ih p hp fun a ha => h a (by
        rw [Pol.atomsOfC, Pol.atomsOfCList_eq]; exact List.mem_flatMap.mpr ⟨p, hp, ha⟩)]]

theorem multi_congr (v w : Atom → Bool) (ks : List Key)
    (h : ∀ a ∈ ks.map Pol.Atom.key, v a = w a) :
    ks.filter (availOfVal v).sig = ks.filter (availOfVal w).sig := by
  apply List.filter_congr
  intro k hk
  exact h (.key k) (List.mem_map.mpr ⟨k, hk, rfl⟩)

mutual
theorem satEx_dsatEx_congr (v w : Atom → Bool) : (m : Ms) → (∀ a ∈ msAtoms m, v a = w a) →
    satEx (availOfVal v) m = satEx (availOfVal w) m ∧ dsatEx (availOfVal v) m = dsatEx (availOfVal w) m
  | .tru, _ | .fls, _ => by simp [satEx, dsatEx]
  | .pkK k, h | .pkH k, h => by
    have := h (.key k) (by simp [msAtoms])
    simp [satEx, dsatEx, availOfVal, this]
  | .rawPkH _, _ => by simp [satEx, dsatEx, availOfVal]
  | .after n, h => by
    have := h (.after n) (by simp [msAtoms])
    simp [satEx, dsatEx, availOfVal, this]
  | .older n, h => by
    have := h (.older n) (by simp [msAtoms])
    simp [satEx, dsatEx, availOfVal, this]
  | .hash kind x, h => by
    have := h (.hash (hkToPol kind) x) (by simp [msAtoms])
    simp [satEx, dsatEx, availOfVal, this]
  | .alt x, h | .swap x, h | .check x, h | .zeroNotEqual x, h | .dupIf x, h | .verify x, h
  | .nonZero x, h => by
    have ih := satEx_dsatEx_congr v w x (by simpa [msAtoms] using h)
    simp [satEx, dsatEx, ih.1, ih.2]
  | .andV x y, h | .andB x y, h | .orB x y, h | .orC x y, h | .orD x y, h | .orI x y, h => by
    have ihx := satEx_dsatEx_congr v w x (fun a ha => h a (by simp [msAtoms, ha]))
    have ihy := satEx_dsatEx_congr v w y (fun a ha => h a (by simp [msAtoms, ha]))
    simp [satEx, dsatEx, ihx.1, ihx.2, ihy.1, ihy.2]
  | .andOr x y z, h => by
    have ihx := satEx_dsatEx_congr v w x (fun a ha => h a (by simp [msAtoms, ha]))
    have ihy := satEx_dsatEx_congr v w y (fun a ha => h a (by simp [msAtoms, ha]))
    have ihz := satEx_dsatEx_congr v w z (fun a ha => h a (by simp [msAtoms, ha]))
    simp [satEx, dsatEx, ihx.1, ihx.2, ihy.1, ihz.1, ihz.2]
  | .thresh k xs, h => by
    have ih := list_congr v w xs (by simpa [msAtoms] using h)
    simp [satEx, dsatEx, threshEx, ih.1, ih.2.1, ih.2.2.1, ih.2.2.2]
  | .multi k ks, h | .sortedMulti k ks, h | .multiA k ks, h | .sortedMultiA k ks, h => by
    have := multi_congr v w ks (by simpa [msAtoms] using h)
    simp [satEx, dsatEx, this]

theorem list_congr (v w : Atom → Bool) : (xs : MsList) → (∀ a ∈ msAtomsL xs, v a = w a) →
    allDsatEx (availOfVal v) xs = allDsatEx (availOfVal w) xs
    ∧ countOnlySat (availOfVal v) xs = countOnlySat (availOfVal w) xs
    ∧ countCanSat (availOfVal v) xs = countCanSat (availOfVal w) xs
    ∧ countDead (availOfVal v) xs = countDead (availOfVal w) xs
  | .nil, _ => by simp [allDsatEx, countOnlySat, countCanSat, countDead]
  | .cons x xs, h => by
    have ihx := satEx_dsatEx_congr v w x (fun a ha => h a (by simp [msAtomsL, ha]))
    have ihl := list_congr v w xs (fun a ha => h a (by simp [msAtomsL, ha]))
    simp [allDsatEx, countOnlySat, countCanSat, countDead, ihx.1, ihx.2, ihl.1, ihl.2.1, ihl.2.2.1,
      ihl.2.2.2]
end

theorem satEx_congr (v w : Atom → Bool) (m : Ms) (h : ∀ a ∈ msAtoms m, v a = w a) :
    satEx (availOfVal v) m = satEx (availOfVal w) m := (satEx_dsatEx_congr v w m h).1

theorem filter_mem_subsets (p : Atom → Bool) (l : List Atom) : l.filter p ∈ Pol.subsets l :=
  (Pol.mem_subsets_iff l _).mpr List.filter_sublist

def maxOf (b : Nat) (l : List Nat) : Nat := (b :: l).max (List.cons_ne_nil _ _)

theorem maxOf_mem (b : Nat) (l : List Nat) : maxOf b l = b ∨ maxOf b l ∈ l :=
  List.mem_cons.mp (List.max_mem _)

theorem base_le_maxOf (b : Nat) (l : List Nat) : b ≤ maxOf b l :=
  List.le_max_of_mem List.mem_cons_self

theorem le_maxOf (b : Nat) (l : List Nat) (x : Nat) (h : x ∈ l) : x ≤ maxOf b l :=
  List.le_max_of_mem (List.mem_cons_of_mem _ h)

theorem maxOf_le (b u : Nat) (hb : b ≤ u) (l : List Nat) (h : ∀ x ∈ l, x ≤ u) : maxOf b l ≤ u :=
  (List.max_le_iff _).mpr (List.forall_mem_cons.mpr ⟨hb, h⟩)

/-- representative of `lt` w.r.t. the given `after` values: the largest satisfied value, or
the smallest lock time of the same unit -/
def repAbs (lt : Nat) (afters : List Nat) : Nat :=
  maxOf (if Pol.absIsHeight lt then 0 else 500000000) (afters.filter (Pol.cltvOk lt))

theorem repAbs_mem (lt : Nat) (afters : List Nat) : repAbs lt afters ∈ absCands afters := by
  unfold repAbs absCands
  rcases maxOf_mem (if Pol.absIsHeight lt then 0 else 500000000) (afters.filter (Pol.cltvOk lt)) with h | h
  · rw [h]; split <;> simp
  · exact List.mem_cons_of_mem _ (List.mem_cons_of_mem _ (List.mem_filter.mp h).1)

theorem repAbs_spec (lt : Nat) (afters : List Nat) (t : Nat) (ht : t ∈ afters) :
    Pol.cltvOk (repAbs lt afters) t = Pol.cltvOk lt t := by
  -- the representative has the unit of `lt`, is ≤ `lt`, and is ≥ every satisfied value
  have hle : repAbs lt afters ≤ lt :=
    maxOf_le _ _ (by unfold Pol.absIsHeight Pol.LOCKTIME_THRESHOLD; split <;> simp_all <;> omega) _
      fun x hx => ((Sat.cltvOk_iff _ _).mp (List.mem_filter.mp hx).2).2
  have hbase : (if Pol.absIsHeight lt then 0 else 500000000) ≤ repAbs lt afters := base_le_maxOf _ _
  have hge : Sat.absLe t lt → t ≤ repAbs lt afters := fun h =>
    le_maxOf _ _ t (List.mem_filter.mpr ⟨ht, (Sat.cltvOk_iff _ _).mpr h⟩)
  rw [Bool.eq_iff_iff, Sat.cltvOk_iff, Sat.cltvOk_iff]
  unfold Sat.absLe at *
  unfold Pol.absIsHeight Pol.LOCKTIME_THRESHOLD at hbase
  split at hbase <;> rename_i hl <;> simp only [decide_eq_true_eq] at hl <;> omega

def repRel (sq : Nat) (olders : List Nat) : Nat :=
  if Pol.seqDisabled sq then 2147483648
  else (if Pol.relIsTime sq then 4194304 else 0)
    + maxOf 0 ((olders.filter (Pol.csvOk sq)).map Pol.relValue)

theorem repRel_mem (sq : Nat) (olders : List Nat) : repRel sq olders ∈ relCands olders := by
  unfold repRel relCands
  split
  · simp
  · rcases maxOf_mem 0 ((olders.filter (Pol.csvOk sq)).map Pol.relValue) with h | h
    · rw [h]; split <;> simp
    · rcases List.mem_map.mp h with ⟨t, ht, hv⟩
      have hsat := (List.mem_filter.mp ht).2
      have hmem := (List.mem_filter.mp ht).1
      rw [← hv]
      refine List.mem_cons_of_mem _ (List.mem_cons_of_mem _ (List.mem_cons_of_mem _ ?_))
      refine List.mem_map.mpr ⟨t, hmem, ?_⟩
      have e : Pol.relIsTime t = Pol.relIsTime sq := ((Sat.csvOk_iff _ _).mp hsat).2.1
      unfold relCanon
      rw [e]

theorem repRel_spec (sq : Nat) (olders : List Nat) (t : Nat) (ht : t ∈ olders) :
    Pol.csvOk (repRel sq olders) t = Pol.csvOk sq t := by
  rw [Bool.eq_iff_iff, Sat.csvOk_iff, Sat.csvOk_iff]
  unfold repRel
  by_cases hd : sq < 2147483648
  · -- the representative has the unit of `sq`, and its value is ≤ that of `sq` and ≥ every satisfied value
    rw [show Pol.seqDisabled sq = false by simp [Pol.seqDisabled, hd], if_neg Bool.false_ne_true]
    have hvm : maxOf 0 ((olders.filter (Pol.csvOk sq)).map Pol.relValue) ≤ Sat.relVal sq :=
      maxOf_le 0 _ (Nat.zero_le _) _ fun x hx => by
        obtain ⟨u, hu, rfl⟩ := List.mem_map.mp hx
        exact ((Sat.csvOk_iff _ _).mp (List.mem_filter.mp hu).2).2.2
    have hge : sq < 2147483648 ∧ Sat.relLe t sq →
        Sat.relVal t ≤ maxOf 0 ((olders.filter (Pol.csvOk sq)).map Pol.relValue) := fun h =>
      le_maxOf 0 _ _ (List.mem_map.mpr ⟨t, List.mem_filter.mpr ⟨ht, (Sat.csvOk_iff _ _).mpr h⟩, rfl⟩)
    generalize maxOf 0 ((olders.filter (Pol.csvOk sq)).map Pol.relValue) = vm at hvm hge
    have hlt : vm < 65536 := Nat.lt_of_le_of_lt hvm (Nat.mod_lt _ (by decide))
    have hen : (if Pol.relIsTime sq then 4194304 else 0) + vm < 2147483648 := by split <;> omega
    unfold Sat.relLe at hge ⊢
    rw [Sat.relIsTime_base _ _ hlt, Sat.relVal_base _ _ hlt]
    exact ⟨fun h => ⟨hd, h.2.1, Nat.le_trans h.2.2 hvm⟩, fun h => ⟨hen, h.2.1, hge h⟩⟩
  · rw [show Pol.seqDisabled sq = true by simp [Pol.seqDisabled, hd], if_pos rfl]
    exact ⟨fun h => absurd h.1 (Nat.lt_irrefl _), fun h => absurd h.1 hd⟩

theorem mem_afterVals {n : Nat} : ∀ {L : List Atom}, Pol.Atom.after n ∈ L → n ∈ afterVals L
  | a :: r, h => by
    rcases List.mem_cons.mp h with h | h
    · subst h; simp [afterVals]
    · have ih := mem_afterVals h
      cases a <;> simp [afterVals, ih]

theorem mem_olderVals {n : Nat} : ∀ {L : List Atom}, Pol.Atom.older n ∈ L → n ∈ olderVals L
  | a :: r, h => by
    rcases List.mem_cons.mp h with h | h
    · subst h; simp [olderVals]
    · have ih := mem_olderVals h
      cases a <;> simp [olderVals, ih]

def repWorld (L : List Atom) (W : World) : World :=
  mkWorld ((nonLocks L).filter W.val) (repAbs W.nLockTime (afterVals L).eraseDups)
    (repRel W.nSequence (olderVals L).eraseDups)

theorem repWorld_mem (L : List Atom) (W : World) : repWorld L W ∈ reps L := by
  unfold reps repWorld
  refine List.mem_flatMap.mpr ⟨_, filter_mem_subsets W.val (nonLocks L), ?_⟩
  refine List.mem_flatMap.mpr ⟨_, repAbs_mem W.nLockTime _, ?_⟩
  exact List.mem_map.mpr ⟨_, repRel_mem W.nSequence _, rfl⟩

theorem repWorld_val (L : List Atom) (W : World) : ∀ a ∈ L, (repWorld L W).val a = W.val a := by
  intro a ha
  cases a with
  | key _ | hash _ _ =>
    show ((nonLocks L).filter W.val).contains _ = _
    rw [Bool.eq_iff_iff, List.contains_iff_mem, List.mem_filter]
    unfold nonLocks
    rw [List.mem_eraseDups, List.mem_filter]
    simp [isLock, ha]
  | after t =>
    show Pol.cltvOk (repAbs W.nLockTime (afterVals L).eraseDups) t = Pol.cltvOk W.nLockTime t
    exact repAbs_spec _ _ t (List.mem_eraseDups.mpr (mem_afterVals ha))
  | older t =>
    show Pol.csvOk (repRel W.nSequence (olderVals L).eraseDups) t = Pol.csvOk W.nSequence t
    exact repRel_spec _ _ t (List.mem_eraseDups.mpr (mem_olderVals ha))

theorem reps_adequate (L : List Atom) (W : World) :
    ∃ W' ∈ reps L, ∀ a ∈ L, W'.val a = W.val a :=
  ⟨repWorld L W, repWorld_mem L W, repWorld_val L W⟩

theorem reps_sound (P : CPolicy) (L : List Atom) (sem : World → Bool)
    (hsem : ∀ W W' : World, (∀ a ∈ L, W.val a = W'.val a) → sem W = sem W')
    (h : ∀ W ∈ reps (Pol.atomsOfC P ++ L), Pol.holdsCW W P = sem W) (W : World) :
    Pol.holdsCW W P = sem W := by
  obtain ⟨W', hm, hv⟩ := reps_adequate (Pol.atomsOfC P ++ L) W
  have hP : Pol.holdsCW W' P = Pol.holdsCW W P :=
    holdsC_congr W'.val W.val P (fun a ha => hv a (List.mem_append_left _ ha))
  rw [← hP, ← hsem W' W (fun a ha => hv a (List.mem_append_right _ ha))]
  exact h W' hm

theorem holdsA_congr (v w : Atom → Bool) :
    ∀ q : Pol.Policy, (∀ a ∈ Pol.atomsOf q, v a = w a) → Pol.holdsA v q = Pol.holdsA w q := by
  intro q
  induction q using Pol.Policy.induct' with
  | unsat | trivial => intro _; rfl
  | atom a => intro h; simp only [Pol.holdsA]; exact h a (by simp [Pol.atomsOf])
  | thresh k subs ih =>
    intro h
    simp only [Pol.holdsA, Pol.countA_eq]
    rw [List.countP_congr fun p hp => by
      rw [ih p hp fun a ha => h a (by
        rw [Pol.atomsOf_thresh]; exact List.mem_flatMap.mpr ⟨p, hp, ha⟩)]]

theorem forallVals_spec (atoms : List Atom) (f : (Atom → Bool) → Bool)
    (h : Pol.forallVals atoms f = true) (v : Atom → Bool) :
    ∃ w, f w = true ∧ ∀ a ∈ atoms, w a = v a := by
  unfold Pol.forallVals at h
  have hm := filter_mem_subsets v atoms.eraseDups
  refine ⟨Pol.valOf (atoms.eraseDups.filter v), List.all_eq_true.mp h _ hm, ?_⟩
  intro a ha
  unfold Pol.valOf
  rw [Bool.eq_iff_iff, List.contains_iff_mem, List.mem_filter, List.mem_eraseDups]
  simp [ha]

theorem mem_msKeys {out : Ms} {k : Key} (h : k ∈ msKeys out) : ∃ n ∈ subterms out, k ∈ nodeKeys n := by
  unfold msKeys at h
  exact List.mem_flatMap.mp h

theorem pkOk_of_nodeOk {env : KeyEnv} {p : VParams} {n : Ms} {k : Key} (hn : nodeOk env p n = true)
    (hk : k ∈ nodeKeys n) : pkOk env p k = true := by
  -- left: `pkK`, `pkH` (`k` is the key) and the four multisigs (`k` is one of the keys)
  cases n <;> simp [nodeKeys] at hk <;> simp [nodeOk] at hn <;>
    first | (subst hk; exact hn) | exact hn.2 k hk

end MsVerif.CC
