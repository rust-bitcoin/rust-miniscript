/-
The `assert!`s of the satisfier (`src/miniscript/satisfy/sat_dissat.rs`, `Terminal::OrB/OrC/OrD`
arms, and `Satisfaction::thresh` in `src/miniscript/satisfy/mod.rs`), stated over the executable
model `satDissat` (which does not model them as panics): `assertsOk c ms` says that none fires
anywhere in the tree.  In malleable mode they are disabled; in non-malleable mode none can fire on a
well-typed script, because every dissatisfaction of a `d`-typed fragment is signature-free (`Inv`).
-/
import MsVerif.Model.Satisfy
import MsVerif.Model.TypeCheck
import MsVerif.Lemmas.CoreSort
import MsVerif.Lemmas.CoreSat
import MsVerif.Lemmas.CoreHasType
import MsVerif.Lemmas.CompleteThresh

namespace MsVerif.SatSpec
open MsVerif

/-- The assert inside `Satisfaction::thresh` (non-malleable, `k < n`), same `key`, `idx`, `ret`,
`rest` as `threshNonMall`:
```text
if sats[sat_indices[k - 1]].stack == Witness::Impossible { IMPOSSIBLE }
else if !sats[sat_indices[k]].has_sig && sats[sat_indices[k]].stack != Witness::Impossible {
    for sat in &ret_stack { assert!(!sat.has_sig); }
    UNAVAILABLE
} else { fold }
```
`true` unless the UNAVAILABLE branch is taken and some entry of `ret_stack` carries a signature. -/
def threshAssertOk (k : Nat) (dissats sats : List Sat) : Bool :=
  let n := dissats.length
  let key := fun i => (⟨decide (sats[i]!.stack = .impossible), sats[i]!.hasSig,
    stackWeight sats[i]! dissats[i]!⟩ : SortKey)
  let idx := sortIdx key n
  let (ret, rest) := swapped k idx dissats sats
  if rest[idx[k - 1]!]!.stack = .impossible then true
  else if !rest[idx[k]!]!.hasSig && decide (rest[idx[k]!]!.stack ≠ .impossible) then
    ret.all (fun s => !s.hasSig)
  else true

mutual
/-- `true` iff none of the satisfier's `assert!`s fires anywhere in the tree:
* `Terminal::OrB`: `assert!(malleable || !l_dis.has_sig); assert!(malleable || !r_dis.has_sig);`
* `Terminal::OrC`, `Terminal::OrD`: `assert!(malleable || !l_dis.has_sig);`
  (the `malleable ||` guard: /repo commit 139fcb34)
* `Terminal::Thresh` with `k ≠ n` in non-malleable mode (`Satisfaction::thresh`):
  `for sat in &ret_stack { assert!(!sat.has_sig); }` in the UNAVAILABLE branch. -/
def assertsOk (c : SatCfg) : Ms → Bool
  | .orB l r =>
    assertsOk c l && assertsOk c r
      && (c.mall || !(satDissat c l).dissat.hasSig) && (c.mall || !(satDissat c r).dissat.hasSig)
  | .orC l r => assertsOk c l && assertsOk c r && (c.mall || !(satDissat c l).dissat.hasSig)
  | .orD l r => assertsOk c l && assertsOk c r && (c.mall || !(satDissat c l).dissat.hasSig)
  | .thresh k xs =>
    let sds := satDissats c xs
    assertsOks c xs
      && (k == sds.length || c.mall
          || threshAssertOk k (sds.map (·.dissat)) (sds.map (·.sat)))
  | .alt x | .swap x | .check x | .dupIf x | .verify x | .nonZero x | .zeroNotEqual x =>
    assertsOk c x
  | .andV l r | .andB l r | .orI l r => assertsOk c l && assertsOk c r
  | .andOr a b z => assertsOk c a && assertsOk c b && assertsOk c z
  | .tru | .fls | .pkK _ | .pkH _ | .rawPkH _ | .after _ | .older _ | .hash _ _
  | .multi _ _ | .sortedMulti _ _ | .multiA _ _ | .sortedMultiA _ _ => true
def assertsOks (c : SatCfg) : MsList → Bool
  | .nil => true
  | .cons x xs => assertsOk c x && assertsOks c xs
end

namespace Asserts

def keToy : KeyEnv :=
  ⟨fun k => [2, UInt8.ofNat k], fun k => [2, UInt8.ofNat k], fun _ => [], fun _ => [], fun _ _ => []⟩

/-- an ECDSA signature for key 2 only; no preimages, no locks satisfied -/
def assetsA : Assets :=
  ⟨fun k => k == 2, fun _ => none, fun _ => none, fun _ => none, fun _ => none,
   fun _ _ => false, fun _ => false, fun _ => false⟩

/-- as `assetsA`, every relative lock satisfied -/
def assetsB : Assets := { assetsA with checkOlder := fun _ => true }

/-- `pk(k)` = `c:pk_k(k)` -/
def pk (k : Key) : Ms := .check (.pkK k)

/-- `or_i(0,and_v(v:older(n),0))`: dissatisfiable, its cheapest dissatisfaction carries `older(n)` -/
def dl (n : Nat) : Ms := .orI .fls (.andV (.verify (.older n)) .fls)

end Asserts
open Asserts

/-- non-malleable mode, segwit v0 -/
def cfgA : SatCfg := ⟨keToy, .segwitv0, false, true, assetsA⟩
/-- malleable mode, segwit v0 -/
def cfgB : SatCfg := ⟨keToy, .segwitv0, true, true, assetsB⟩

/-- `or_d(or_i(j:and_v(v:pk(K0),pk(K1)),and_v(v:pk(K2),0)),pk(K3))`: with IMPOSSIBLE as the dissatisfaction of
`j:`, `minimum` would pick `[sig(K2) 0]` as dissatisfaction of the `or_i` and the `or_d` assert would fire; with
`push_0` it does not -/
def exA : Ms :=
  .orD (.orI (.nonZero (.andV (.verify (pk 0)) (pk 1))) (.andV (.verify (pk 2)) .fls)) (pk 3)

/-- `or_d(or_i(and_b(dl(1),a:dl(4194305)),and_v(v:pk(K2),0)),pk(K3))`: height/time relative locks
mix in the `and_b` dissatisfaction, which `concatenate_rev` turns into IMPOSSIBLE -/
def exB : Ms :=
  .orD (.orI (.andB (dl 1) (.alt (dl 4194305))) (.andV (.verify (pk 2)) .fls)) (pk 3)

theorem exA_typed : (typeOf exA).isSome = true := by decide
theorem exA_nonMall_signed :
    (typeOf exA).map (fun t => (t.mall.nonMall, t.mall.signed)) = some (true, true) := by decide
theorem exB_typed : (typeOf exB).isSome = true := by decide



namespace Asserts

theorem ite_true_left {c : Prop} [Decidable c] {a : Bool} (h : ¬c → a = true) :
    (if c then true else a) = true := by split <;> simp_all
theorem ite_true_right {c : Prop} [Decidable c] {a : Bool} (h : c → a = true) :
    (if c then a else true) = true := by split <;> simp_all

theorem threshAssertOk_eq (k : Nat) (dissats sats : List Sat) :
    threshAssertOk k dissats sats =
      (let idx := sortIdx (nonMallKey dissats sats) dissats.length
       let sw := swapped k idx dissats sats
       if sw.2[idx[k - 1]!]!.stack = .impossible then true
       else if !sw.2[idx[k]!]!.hasSig && decide (sw.2[idx[k]!]!.stack ≠ .impossible) then
         sw.1.all (fun s => !s.hasSig)
       else true) := rfl

/- The UNAVAILABLE branch is taken when the child at sorted position `k` is possible and signature-free
(`MalleThresh.best`); then more than `k` children are (`sortIdx_get_class`), so the `k` chosen ones are
(`sortIdx_take_mem`), and the others are handed back as their dissatisfactions. -/
theorem threshAssertOk_true (k : Nat) (dissats sats : List Sat)
    (hk : k < dissats.length) (hd : ∀ s ∈ dissats, s.hasSig = false) :
    threshAssertOk k dissats sats = true := by
  rw [threshAssertOk_eq]
  dsimp only
  have hL := MalleThresh.lowerSet_best (nonMallKey dissats sats)
  have hkl : k < (sortIdx (nonMallKey dissats sats) dissats.length).length := by
    rw [sortIdx_length]; exact hk
  have hmd := Complete.getElem!_mem_drop _ k hkl
  have hlt := (mem_sortIdx _ _ _).mp (List.mem_of_mem_drop hmd)
  have hnt := not_take_of_mem_drop _ _ _ _ hmd
  refine ite_true_left (fun _ => ite_true_right (fun h => ?_))
  rw [Complete.swapped_snd_get _ _ _ _ _ hlt, if_neg (by simpa using hnt), Bool.and_comm] at h
  have hb : MalleThresh.best
      (nonMallKey dissats sats (sortIdx (nonMallKey dissats sats) dissats.length)[k]!) = true := by
    simpa [MalleThresh.best, nonMallKey] using h
  have hall := Complete.sortIdx_take_mem hL dissats.length k
    (Nat.le_of_lt ((Complete.sortIdx_get_class hL dissats.length k hk).mp hb))
  rw [List.all_eq_true]
  intro s hs
  obtain ⟨i, hi, ⟨hin, rfl⟩ | ⟨_, rfl⟩⟩ := Complete.swapped_fst_mem _ _ _ _ _ hs
  · have := hall i hin
    simp only [MalleThresh.best, nonMallKey, Bool.and_eq_true, Bool.not_eq_true'] at this
    rw [this.2]; rfl
  · rw [getElem!_pos dissats i hi]
    simpa using hd _ (List.getElem_mem hi)

def Clean (s : Sat) : Prop :=
  s.hasSig = false ∧ s.stack ≠ .impossible ∧ s.abs = none ∧ s.rel = none

theorem Clean.concat {a b : Sat} (ha : Clean a) (hb : Clean b) : Clean (a.concatenateRev b) := by
  obtain ⟨a1, a2, a3, a4⟩ := ha
  obtain ⟨b1, b2, b3, b4⟩ := hb
  rw [Sat.concatenateRev_eq, if_neg (not_or.mpr ⟨a2, b2⟩), a3, a4, b3, b4, a1, b1]
  exact ⟨rfl, Wit.combine_ne_impossible.mpr ⟨b2, a2⟩, rfl, rfl⟩

theorem Clean.unavailable : Clean Sat.UNAVAILABLE := ⟨rfl, nofun, rfl, rfl⟩

theorem Clean.minLeft {a : Sat} (b : Sat) (ha : Clean a) : Clean (Sat.minimum a b) := by
  rcases Sat.minimum_pick a b with ⟨e, _⟩ | ⟨_, h | ⟨_, h⟩⟩ | ⟨e, _⟩
  · rw [e]; exact ha
  · exact absurd h ha.2.1
  · rw [ha.1] at h; cases h
  · exact e ▸ .unavailable

theorem Clean.minRight (a : Sat) {b : Sat} (hb : Clean b) : Clean (Sat.minimum a b) := by
  rcases Sat.minimum_pick a b with ⟨_, h | ⟨_, h⟩⟩ | ⟨e, _⟩ | ⟨e, _⟩
  · exact absurd h hb.2.1
  · rw [hb.1] at h; cases h
  · rw [e]; exact hb
  · exact e ▸ .unavailable

theorem Clean.push {s : Sat} (l : List Ph) (h : Clean s) :
    Clean { s with stack := Wit.combine s.stack (.stack l) } :=
  ⟨h.1, Wit.combine_ne_impossible.mpr ⟨h.2.1, nofun⟩, h.2.2.1, h.2.2.2⟩

theorem Clean.foldConcat {l : List Sat} (h : ∀ s ∈ l, Clean s) : Clean (foldConcat l) :=
  foldConcat_ind ⟨rfl, by simp [Sat.empty], rfl, rfl⟩ (fun _ _ ha hb => ha.concat hb) l h

/-- the asserts hold below `ms`, and if `ms` has the `d` property, its computed dissatisfaction is
sig-free, lock-free and not IMPOSSIBLE -/
def Inv (c : SatCfg) (ms : Ms) (τ : Ty) : Prop :=
  assertsOk c ms = true ∧ (τ.corr.dissat = true → Clean (satDissat c ms).dissat)

theorem Inv.wrap {c : SatCfg} {x y : Ms} {t τ : Ty} (hI : Inv c x t)
    (ha : assertsOk c y = assertsOk c x) (hd : (satDissat c y).dissat = (satDissat c x).dissat)
    (ht : τ.corr.dissat = t.corr.dissat) : Inv c y τ :=
  ⟨ha ▸ hI.1, fun h => hd ▸ hI.2 (ht ▸ h)⟩

theorem Inv.ofNoDissat {c : SatCfg} {y : Ms} {τ : Ty} (ha : assertsOk c y = true)
    (ht : τ.corr.dissat = false) : Inv c y τ :=
  ⟨ha, fun h => by rw [ht] at h; cases h⟩

end Asserts
open Asserts

mutual
/-- the `Threshold<T, MAX>` invariant `k ≤ n` at every `thresh` (the Rust type guarantees
`1 ≤ k ≤ n`; `typeOf` does not look at `k`) -/
def threshKOk : Ms → Bool
  | .thresh k xs => decide (k ≤ xs.length) && threshKOks xs
  | .alt x | .swap x | .check x | .dupIf x | .verify x | .nonZero x | .zeroNotEqual x => threshKOk x
  | .andV l r | .andB l r | .orB l r | .orC l r | .orD l r | .orI l r => threshKOk l && threshKOk r
  | .andOr a b z => threshKOk a && threshKOk b && threshKOk z
  | .tru | .fls | .pkK _ | .pkH _ | .rawPkH _ | .after _ | .older _ | .hash _ _
  | .multi _ _ | .sortedMulti _ _ | .multiA _ _ | .sortedMultiA _ _ => true
def threshKOks : MsList → Bool
  | .nil => true
  | .cons x xs => threshKOk x && threshKOks xs
end

namespace Asserts

def Invs (c : SatCfg) (xs : MsList) (ts : List Ty) : Prop :=
  assertsOks c xs = true ∧
    ((∀ t ∈ ts, t.corr.dissat = true) → ∀ sd ∈ satDissats c xs, Clean sd.dissat)

theorem Invs.cons {c : SatCfg} {x : Ms} {xs : MsList} {t : Ty} {ts : List Ty} (Ix : Inv c x t)
    (Ixs : Invs c xs ts) : Invs c (.cons x xs) (t :: ts) := by
  refine ⟨by simp only [assertsOks, Ix.1, Ixs.1, Bool.and_self], fun hall sd hsd => ?_⟩
  simp only [satDissats, List.mem_cons] at hsd
  rcases hsd with rfl | hsd
  · exact Ix.2 (hall t (by simp))
  · exact Ixs.2 (fun t' ht' => hall t' (by simp [ht'])) sd hsd

theorem Inv.thresh {c : SatCfg} (hm : c.mall = false) {k : Nat} {xs : MsList} {ts : List Ty} {τ : Ty}
    (hk : k ≤ xs.length) (I : Invs c xs ts) (hd : ∀ t ∈ ts, t.corr.dissat = true) :
    Inv c (.thresh k xs) τ := by
  have hC : ∀ sd ∈ satDissats c xs, Clean sd.dissat := I.2 hd
  refine ⟨?_, fun _ => ?_⟩
  · simp only [assertsOk, I.1, Bool.true_and, Bool.or_eq_true, beq_iff_eq, hm]
    by_cases hkn : k = (satDissats c xs).length
    · exact .inl (.inl hkn)
    · refine .inr (threshAssertOk_true _ _ _ ?_ ?_)
      · rw [List.length_map]
        have := satDissats_length c xs
        omega
      · intro s hs
        obtain ⟨sd, hsd, rfl⟩ := List.mem_map.1 hs
        exact (hC sd hsd).1
  · refine Clean.foldConcat (l := (satDissats c xs).map (·.dissat)) ?_
    intro s hs
    obtain ⟨sd, hsd, rfl⟩ := List.mem_map.1 hs
    exact hC sd hsd

theorem invs_of (c : SatCfg) (hm : c.mall = false) {xs : MsList} {ts : List Ty} (d : HasTypes xs ts) :
    threshKOks xs = true → Invs c xs ts := by
  induction d using HasTypes.rec (motive_1 := fun ms τ _ => threshKOk ms = true → Inv c ms τ) with
  | tru | after | older => exact Inv.ofNoDissat rfl rfl
  | fls | pkK | pkH | hash => exact ⟨rfl, fun _ => ⟨rfl, nofun, rfl, rfl⟩⟩
  | @rawPkH k =>
    refine ⟨rfl, fun _ => ?_⟩
    simp only [satDissat_rawPkH]
    cases c.assets.rawPkhPk k <;> simp [Clean, Wit.combine]
  | multi | sortedMulti =>
    exact ⟨rfl, fun _ => by
      show Clean (multiSD ..).dissat; rw [multiSD_dis]; exact ⟨rfl, nofun, rfl, rfl⟩⟩
  | multiA | sortedMultiA =>
    exact ⟨rfl, fun _ => by
      show Clean (multiASD ..).dissat; rw [multiASD_dis]; exact ⟨rfl, nofun, rfl, rfl⟩⟩
  | alt _ _ ih | swap _ _ _ ih | check _ _ ih | zeroNotEqual _ _ ih =>
    rename_i hk
    simp only [threshKOk] at hk
    exact (ih hk).wrap rfl rfl rfl
  | dupIf _ _ _ ih | nonZero _ _ _ ih =>
    rename_i hk
    simp only [threshKOk] at hk
    exact ⟨(ih hk).1, fun _ => ⟨rfl, nofun, rfl, rfl⟩⟩
  | verify _ _ ih =>
    rename_i hk
    simp only [threshKOk] at hk
    exact Inv.ofNoDissat ((ih hk).1) rfl
  | andB _ _ _ _ il ir =>
    rename_i hk
    simp only [threshKOk, Bool.and_eq_true] at hk
    have Il := il hk.1
    have Ir := ir hk.2
    refine ⟨Bool.and_eq_true_iff.mpr ⟨Il.1, Ir.1⟩, fun hτ => ?_⟩
    simp only [Bool.and_eq_true] at hτ
    exact (Il.2 hτ.1).concat (Ir.2 hτ.2)
  | andV _ _ _ _ il ir =>
    rename_i hk
    simp only [threshKOk, Bool.and_eq_true] at hk
    exact Inv.ofNoDissat (Bool.and_eq_true_iff.mpr ⟨(il hk.1).1, (ir hk.2).1⟩) rfl
  | @orB l r _ _ _ _ _ _ hdl hdr il ir =>
    rename_i hk
    simp only [threshKOk, Bool.and_eq_true] at hk
    have Il := il hk.1
    have Ir := ir hk.2
    have Cl := Il.2 hdl
    have Cr := Ir.2 hdr
    refine ⟨?_, fun _ => ?_⟩
    · show (assertsOk c l && assertsOk c r && (c.mall || !(satDissat c l).dissat.hasSig)
        && (c.mall || !(satDissat c r).dissat.hasSig)) = true
      rw [Il.1, Ir.1, Cl.1, Cr.1, hm]; rfl
    exact Cl.concat Cr
  | @orC l r _ _ _ _ _ _ hdl _ il ir =>
    rename_i hk
    simp only [threshKOk, Bool.and_eq_true] at hk
    have Il := il hk.1
    refine Inv.ofNoDissat ?_ rfl
    show (assertsOk c l && assertsOk c r && (c.mall || !(satDissat c l).dissat.hasSig)) = true
    rw [Il.1, (ir hk.2).1, (Il.2 hdl).1, hm]; rfl
  | @orD l r _ _ _ _ _ _ hdl _ il ir =>
    rename_i hk
    simp only [threshKOk, Bool.and_eq_true] at hk
    have Il := il hk.1
    have Ir := ir hk.2
    refine ⟨?_, fun hτ => ?_⟩
    · show (assertsOk c l && assertsOk c r && (c.mall || !(satDissat c l).dissat.hasSig)) = true
      rw [Il.1, Ir.1, (Il.2 hdl).1, hm]; rfl
    exact (Il.2 hdl).concat (Ir.2 hτ)
  | orI _ _ _ _ il ir =>
    rename_i hk
    simp only [threshKOk, Bool.and_eq_true] at hk
    have Il := il hk.1
    have Ir := ir hk.2
    refine ⟨Bool.and_eq_true_iff.mpr ⟨Il.1, Ir.1⟩, fun hτ => ?_⟩
    simp only [Bool.or_eq_true] at hτ
    show Clean (c.minFn _ _)
    rw [SatCfg.minFn_nonmall c hm]
    rcases hτ with h1 | h2
    · exact Clean.minLeft _ ((Il.2 h1).push _)
    · exact Clean.minRight _ ((Ir.2 h2).push _)
  | andOr _ _ _ _ hda _ _ _ ia ib iz =>
    rename_i hk
    simp only [threshKOk, Bool.and_eq_true] at hk
    have Ia := ia hk.1.1
    have Ib := ib hk.1.2
    have Iz := iz hk.2
    refine ⟨Bool.and_eq_true_iff.mpr ⟨Bool.and_eq_true_iff.mpr ⟨Ia.1, Ib.1⟩, Iz.1⟩, fun hτ => ?_⟩
    exact (Ia.2 hda).concat (Iz.2 hτ)
  | threshNil =>
    rename_i hk
    simp only [threshKOk, Bool.and_eq_true, decide_eq_true_eq] at hk
    exact Inv.thresh (ts := []) hm hk.1 ⟨rfl, fun _ _ h => nomatch h⟩
      fun _ h => absurd h List.not_mem_nil
  | thresh _ _ _ _ hd hrest ix ixs =>
    rename_i hk
    simp only [threshKOk, threshKOks, Bool.and_eq_true, decide_eq_true_eq] at hk
    refine Inv.thresh hm hk.1 (.cons (ix hk.2.1) (ixs hk.2.2)) fun t ht => ?_
    rcases List.mem_cons.mp ht with rfl | ht
    · exact hd
    · exact (hrest t ht).2.2
  | nil => exact fun _ => ⟨rfl, fun _ _ h => nomatch h⟩
  | cons _ _ ix ixs =>
    intro hk
    simp only [threshKOks, Bool.and_eq_true] at hk
    exact .cons (ix hk.1) (ixs hk.2)

theorem inv_of (c : SatCfg) (hm : c.mall = false) {ms : Ms} {τ : Ty} (d : HasType ms τ)
    (hk : threshKOk ms = true) : Inv c ms τ := by
  have h := invs_of c hm (.cons d .nil) (by simp only [threshKOks, hk, Bool.and_self])
  exact ⟨by simpa only [assertsOks, Bool.and_true] using h.1,
    fun hd => h.2 (by simpa using hd) _ (by simp [satDissats])⟩

theorem inv_of_typed (c : SatCfg) (hm : c.mall = false) (ms : Ms) (τ : Ty) (hty : typeOf ms = some τ)
    (hk : threshKOk ms = true) : Inv c ms τ :=
  inv_of c hm (.of_typeOf ms hty) hk

theorem invs_of_typed (c : SatCfg) (hm : c.mall = false) :
    (xs : MsList) → (ts : List Ty) → typesOf xs = some ts →
      threshKOks xs = true →
      assertsOks c xs = true ∧
        ((∀ t ∈ ts, t.corr.dissat = true) → ∀ sd ∈ satDissats c xs, Clean sd.dissat) :=
  fun xs _ h hk => invs_of c hm (.of_typesOf xs h) hk

end Asserts
open Asserts

/-- **Positive part.**  Non-malleable mode, any well-typed script (with the `Threshold` invariant
`k ≤ n`, which the Rust type `Threshold<T, MAX>` guarantees but `typeOf` does not check): none of
the satisfier's `assert!`s fires, whatever the assets are. -/
theorem asserts_hold_nonmall (c : SatCfg) (hm : c.mall = false) (ms : Ms) (τ : Ty)
    (hty : typeOf ms = some τ) (hk : threshKOk ms = true) :
    assertsOk c ms = true :=
  (inv_of_typed c hm ms τ hty hk).1

/-- by-product of the invariant: under the same hypotheses a `d`-typed script has a computed
dissatisfaction that is sig-free, lock-free and not IMPOSSIBLE -/
theorem dissat_clean_nonmall (c : SatCfg) (hm : c.mall = false) (ms : Ms) (τ : Ty)
    (hty : typeOf ms = some τ) (hk : threshKOk ms = true)
    (hd : τ.corr.dissat = true) :
    (satDissat c ms).dissat.hasSig = false ∧ (satDissat c ms).dissat.stack ≠ .impossible ∧
      (satDissat c ms).dissat.abs = none ∧ (satDissat c ms).dissat.rel = none :=
  (inv_of_typed c hm ms τ hty hk).2 hd

/-- no assert fires on `exA` (`j:`'s dissatisfaction is one empty push) -/
theorem asserts_exA_silent : assertsOk cfgA exA = true := by decide

/-- the same without the `k ≤ n` side condition -/
def asserts_hold_full : Prop :=
  ∀ (c : SatCfg) (ms : Ms) (τ : Ty), typeOf ms = some τ → assertsOk c ms = true

/-- `thresh(2, pk(K0))` (`k > n`, not constructible in Rust): `typeOf` ignores `k`, and the model
of `Satisfaction::thresh` reads `sat_indices[k]` out of range -/
def exK : Ms := .thresh 2 (.cons (pk 0) .nil)

theorem exK_facts :
    (typeOf exK).isSome = true ∧ threshKOk exK = false ∧ assertsOk cfgA exK = false := by decide

/-- the side condition `threshKOk` cannot be dropped (model artefact: `k > n` is
unrepresentable in the library) -/
theorem asserts_hold_full_false : ¬ asserts_hold_full := by
  intro h
  have hty : typeOf exK = some ((typeOf exK).get (by decide)) := by simp
  have := h cfgA exK _ hty
  rw [exK_facts.2.2] at this
  cases this

mutual
/-- malleable mode: every assert is disabled (`malleable || …`; `thresh_mall` has none) -/
theorem assertsOk_mall (c : SatCfg) (hm : c.mall = true) : (ms : Ms) → assertsOk c ms = true
  | .orB l r => by simp [assertsOk, hm, assertsOk_mall c hm l, assertsOk_mall c hm r]
  | .orC l r => by simp [assertsOk, hm, assertsOk_mall c hm l, assertsOk_mall c hm r]
  | .orD l r => by simp [assertsOk, hm, assertsOk_mall c hm l, assertsOk_mall c hm r]
  | .thresh k xs => by simp [assertsOk, hm, assertsOks_mall c hm xs]
  | .alt x | .swap x | .check x | .dupIf x | .verify x | .nonZero x | .zeroNotEqual x => by
    simp only [assertsOk]; exact assertsOk_mall c hm x
  | .andV l r | .andB l r | .orI l r => by
    simp [assertsOk, assertsOk_mall c hm l, assertsOk_mall c hm r]
  | .andOr a b z => by
    simp [assertsOk, assertsOk_mall c hm a, assertsOk_mall c hm b, assertsOk_mall c hm z]
  | .tru | .fls | .pkK _ | .pkH _ | .rawPkH _ | .after _ | .older _ | .hash _ _
  | .multi _ _ | .sortedMulti _ _ | .multiA _ _ | .sortedMultiA _ _ => by simp [assertsOk]
theorem assertsOks_mall (c : SatCfg) (hm : c.mall = true) : (xs : MsList) → assertsOks c xs = true
  | .nil => by simp [assertsOks]
  | .cons x xs => by simp [assertsOks, assertsOk_mall c hm x, assertsOks_mall c hm xs]
end

/-- **No assert of the satisfier can fire**: every well-typed script (with `k ≤ n` at every
`thresh`, which `Threshold::new` guarantees), every asset set, BOTH modes. -/
theorem asserts_hold (c : SatCfg) (ms : Ms) (τ : Ty) (hty : typeOf ms = some τ)
    (hk : threshKOk ms = true) : assertsOk c ms = true := by
  cases hm : c.mall
  · exact asserts_hold_nonmall c hm ms τ hty hk
  · exact assertsOk_mall c hm ms

/-- a script on which an unguarded `Terminal::OrD` assert would fire in malleable mode (mixed relative-lock units
make the `and_b` dissatisfaction IMPOSSIBLE, `minimum_mall` then hands `or_d` a dissatisfaction carrying a
signature): silent under the guard -/
theorem asserts_exB_silent :
    assertsOk cfgB exB = true ∧ (satDissat cfgB (.orI (.andB (dl 1) (.alt (dl 4194305)))
      (.andV (.verify (pk 2)) .fls))).dissat.hasSig = true := by decide

end MsVerif.SatSpec
