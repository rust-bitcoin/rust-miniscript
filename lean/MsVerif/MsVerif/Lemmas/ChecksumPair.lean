/-
The two-character table of C10, in the form used by the engine proof:
`L^(g+δ₁) a₁ + L^g b₁ = a₂·x^δ₂ + b₂` has only the trivial solution for every distance
`1 ≤ g ≤ 1040`, `δ₁, δ₂ ∈ {1,2,3}`, `δ₂ < g` and all 5-bit values.

The right-hand side lives in the four low symbols.  By GF(32)-linearity the left-hand side is
`a₁·x^(g+δ₁) + b₁·x^g`; if its four upper symbols vanish, those of `x^g` and `x^(g+δ₁)` are zero or
proportional, i.e. their projective normal forms are zero or equal.  The kernel computes the normal
forms for `g = 4 … 1043` and finds each non-zero and different from its next three; for `g ≤ 3`
nothing is reduced yet and the four symbols sit at four different places.
-/
import MsVerif.Lemmas.ChecksumTriple

namespace MsVerif.Checksum
open Rank

/-- low-symbol difference `lo`, and class-symbol difference `bs` arriving `δ` symbols later -/
def pat (δ lo bs : Nat) : W := (BitVec.ofNat 40 lo <<< (5 * δ)) ^^^ BitVec.ofNat 40 bs

theorem pat_lt (δ : Nat) (hδ : δ < 4) (lo : Nat) (hlo : lo < 32) (bs : Nat) (hbs : bs < 32) :
    (pat δ lo bs).toNat < 2 ^ (5 * (δ + 1)) := by
  have h1 : lo <<< (5 * δ) < 2 ^ (5 * (δ + 1)) := by
    rw [Nat.shiftLeft_eq, show 5 * (δ + 1) = 5 + 5 * δ by omega, Nat.pow_add]
    exact Nat.mul_lt_mul_of_lt_of_le hlo (Nat.le_refl _) (Nat.two_pow_pos _)
  have h2 : bs < 2 ^ (5 * (δ + 1)) :=
    Nat.lt_of_lt_of_le hbs (Nat.pow_le_pow_right (by decide) (by omega) : 2 ^ 5 ≤ _)
  have h40 : 2 ^ (5 * (δ + 1)) ≤ 2 ^ 40 := Nat.pow_le_pow_right (by decide) (by omega)
  rw [pat, BitVec.toNat_xor, BitVec.toNat_shiftLeft, BitVec.toNat_ofNat, BitVec.toNat_ofNat,
    Nat.mod_eq_of_lt (show lo < 2 ^ 40 by omega), Nat.mod_eq_of_lt (show bs < 2 ^ 40 by omega),
    Nat.mod_eq_of_lt (by omega)]
  exact Nat.xor_lt_two_pow h1 h2

theorem pat_zero {δ lo bs : Nat} (h1 : 1 ≤ δ) (h3 : δ < 8) (hlo : lo < 32) (hbs : bs < 32)
    (h : pat δ lo bs = 0#40) : lo = 0 ∧ bs = 0 := by
  have e1 := congrArg (unpack · δ) h
  have e0 := congrArg (unpack · 0) h
  simp only [pat, unpack_xor] at e0 e1
  rw [unpack_shl lo hlo δ h3 δ h3, unpack_ofNat hbs h3, if_pos rfl, if_neg (by omega),
    show (0#40 : W) = BitVec.ofNat 40 0 from rfl, unpack_ofNat (by decide) h3, if_neg (by omega)] at e1
  rw [unpack_shl lo hlo δ h3 0 (by omega), unpack_ofNat hbs (by omega), if_neg (by omega), if_pos rfl,
    show (0#40 : W) = BitVec.ofNat 40 0 from rfl, unpack_ofNat (by decide) (by omega), if_pos rfl] at e0
  exact ⟨by simpa using e1, by simpa using e0⟩

/-- no entry is zero or equal to one of the next three (the last three entries only serve as
neighbours) -/
def noNear : List Nat → Bool
  | a :: b :: c :: d :: t => a != 0 && a != b && a != c && a != d && noNear (b :: c :: d :: t)
  | _ => true

theorem noNear_sound : ∀ {l : List Nat}, noNear l = true → ∀ {i δ a b : Nat}, δ ≤ 3 →
    l[i]? = some a → l[i + δ]? = some b → (l[i + 3]?).isSome → a ≠ 0 ∧ (1 ≤ δ → a ≠ b)
  | x :: y :: z :: w :: t, h, 0, δ, a, b, hδ, ha, hb, _ => by
    simp only [noNear, Bool.and_eq_true, bne_iff_ne, ne_eq] at h
    cases ha
    have : δ = 0 ∨ δ = 1 ∨ δ = 2 ∨ δ = 3 := by omega
    rcases this with rfl | rfl | rfl | rfl <;> cases hb <;> simp [h]
  | x :: y :: z :: w :: t, h, i + 1, δ, a, b, hδ, ha, hb, h3 => by
    simp only [noNear, Bool.and_eq_true] at h
    rw [show i + 1 + δ = i + δ + 1 by omega] at hb
    rw [show i + 1 + 3 = i + 3 + 1 by omega] at h3
    exact noNear_sound h.2 hδ ha hb h3
  | [], _, _, _, _, _, _, _, _, h3 => by simp at h3
  | [_], _, i, _, _, _, _, _, _, h3 => by simp at h3
  | [_, _], _, i, _, _, _, _, _, _, h3 => by simp at h3
  | [_, _, _], _, i, _, _, _, _, _, _, h3 => by simp at h3

theorem nfs_noNear : noNear (nfs 15 1043 (LNpow 4 1)) = true := by decide +kernel

theorem nf_table {g δ : Nat} (hg : 4 ≤ g) (hN : g ≤ 1043) (hδ : δ ≤ 3) :
    repN (LNpow g 1 >>> 15) ≠ 0 ∧
      (1 ≤ δ → repN (LNpow g 1 >>> 15) ≠ repN (LNpow (g + δ) 1 >>> 15)) := by
  have e : ∀ k, 4 ≤ k → LNpow k 1 = LNpow (k - 4) (LNpow 4 1) := by
    intro k hk; rw [← LNpow_add, Nat.sub_add_cancel hk]
  rw [e g hg, e (g + δ) (by omega), show g + δ - 4 = g - 4 + δ by omega]
  exact noNear_sound nfs_noNear hδ (nfs_get _ _ _ _ (by omega)) (nfs_get _ _ _ _ (by omega))
    (by rw [nfs_get _ _ _ _ (by omega)]; rfl)

/-- **the table**: an error pattern of one corrupted character (`a₁` in the low symbol, `b₁` in the
class symbol `δ₁` places later) can never be cancelled by the pattern of a second corrupted
character whose class symbol lies `g ≤ 1040` symbols after the first one's (1040: the length of
the tables, see `reps_scan`; `nfs_noNear` runs to 1046, for `g + δ₁ ≤ 1043` and its three neighbours). -/
theorem pair_table {g δ1 δ2 a1 b1 a2 b2 : Nat} (hg1 : 1 ≤ g) (hg : g ≤ 1040)
    (hδ1 : 1 ≤ δ1 ∧ δ1 ≤ 3) (hδ2 : 1 ≤ δ2 ∧ δ2 ≤ 3) (hlt : δ2 < g)
    (ha1 : a1 < 32) (hb1 : b1 < 32) (ha2 : a2 < 32) (hb2 : b2 < 32)
    (heq : Lpow (g + δ1) (BitVec.ofNat 40 a1) ^^^ Lpow g (BitVec.ofNat 40 b1)
      = pat δ2 a2 b2) : a1 = 0 ∧ b1 = 0 := by
  by_cases h4 : g < 4
  · -- four symbols at the places `g + δ₁`, `g`, `δ₂`, `0`, all different and below 8
    rw [Lpow_ofNat a1 ha1 _ (by omega), Lpow_ofNat b1 hb1 _ (by omega), pat] at heq
    have e1 := congrArg (unpack · (g + δ1)) heq
    have e2 := congrArg (unpack · g) heq
    simp only [unpack_xor] at e1 e2
    rw [unpack_shl a1 ha1 _ (by omega) _ (by omega), unpack_shl b1 hb1 _ (by omega) _ (by omega),
      unpack_shl a2 ha2 _ (by omega) _ (by omega), unpack_ofNat hb2 (by omega),
      if_pos rfl, if_neg (by omega), if_neg (by omega), if_neg (by omega)] at e1
    rw [unpack_shl a1 ha1 _ (by omega) _ (by omega), unpack_shl b1 hb1 _ (by omega) _ (by omega),
      unpack_shl a2 ha2 _ (by omega) _ (by omega), unpack_ofNat hb2 (by omega),
      if_neg (by omega), if_pos rfl, if_neg (by omega), if_neg (by omega)] at e2
    exact ⟨by simpa using e1, by simpa using e2⟩
  · -- the upper four symbols of `a₁·x^(g+δ₁) + b₁·x^g` vanish
    have hX := nf_table (g := g) (δ := δ1) (by omega) (by omega) hδ1.2
    -- `δ := 0`: only that the form of `x^(g+δ₁)` is not zero; for this `nf_table` takes `δ ≤ 3`
    -- without `1 ≤ δ`
    have hY := nf_table (g := g + δ1) (δ := 0) (by omega) (by omega) (by omega)
    have hP : upper (pat δ2 a2 b2 >>> (5 * 3)) = [0, 0, 0, 0, 0, 0, 0] := by
      apply upper_small
      have := pat_lt δ2 (by omega) a2 ha2 b2 hb2
      have h20 : 2 ^ (5 * (δ2 + 1)) ≤ 2 ^ 20 := Nat.pow_le_pow_right (by decide) (by omega)
      rw [BitVec.toNat_ushiftRight, Nat.shiftRight_eq_div_pow]
      omega
    rw [Lpow_ofNat_smul a1 ha1, Lpow_ofNat_smul b1 hb1] at heq
    rw [← heq, BitVec.ushiftRight_xor_distrib, smul_ushiftRight a1 ha1,
      smul_ushiftRight b1 hb1] at hP
    have hs := upper_scaled_eq ha1 hb1 hP
    have tX : (Lpow g 1#40 >>> (5 * 3)).toNat = LNpow g 1 >>> 15 := by
      rw [BitVec.toNat_ushiftRight, Lpow_toNat]; rfl
    have tY : (Lpow (g + δ1) 1#40 >>> (5 * 3)).toNat = LNpow (g + δ1) 1 >>> 15 := by
      rw [BitVec.toNat_ushiftRight, Lpow_toNat]; rfl
    by_cases za : a1 = 0
    · refine ⟨za, Classical.byContradiction fun zb => hX.1 ?_⟩
      rw [← tX]
      apply repN_zero_of_scaled hb1 zb
      rw [← hs, za]
      exact upper_smul_zero _
    · exfalso
      by_cases zb : b1 = 0
      · apply hY.1
        rw [← tY]
        apply repN_zero_of_scaled ha1 za
        rw [hs, zb]
        exact upper_smul_zero _
      · apply hX.2 hδ1.1
        rw [← tX, ← tY]
        exact (repN_eq_of_scaled ha1 hb1 za zb hs).symm

end MsVerif.Checksum
