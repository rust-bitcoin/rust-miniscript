/-
C10: the model of the Rust checksum engine computes, for EVERY input, exactly what the BIP-380
reference code (`Spec/Bch.lean`: descsum_expand / descsum_polymod / descsum_create) computes.
-/
import MsVerif.Lemmas.ChecksumString
import MsVerif.Lemmas.ChecksumLpow
import MsVerif.Spec.Bch

namespace MsVerif.Checksum
open MsVerif.Spec

/- `Spec.Bch` gives its alphabets as `"…".toList`; the literal is turned into the list of its
characters by `String.toList_ofList` before the kernel evaluates (cf. `eval_chars` in Thm/C10). -/

theorem charset_table : ∀ n, n < 95 →
    Bch.INPUT_CHARSET.idxOf (Char.ofNat (n + 32)) < 95 ∧
    CHAR_MAP[n]? = some (Bch.INPUT_CHARSET.idxOf (Char.ofNat (n + 32))) := by
  unfold Bch.INPUT_CHARSET
  rw [String.toList_ofList]
  decide +kernel

theorem charset_valid : ∀ c ∈ Bch.INPUT_CHARSET, validChar c = true := by
  unfold Bch.INPUT_CHARSET
  rw [String.toList_ofList]
  decide +kernel

theorem charset_length : Bch.INPUT_CHARSET.length = 95 := by
  unfold Bch.INPUT_CHARSET
  rw [String.toList_ofList]
  rfl

theorem inputFind_eq (c : Char) :
    Bch.inputFind c = if validChar c = true then charMap? c.toNat else none := by
  by_cases hv : validChar c = true
  · simp only [hv, if_true]
    have hb := (validChar_iff c).mp hv
    obtain ⟨n, hn⟩ : ∃ n, c.toNat = n + 32 := ⟨c.toNat - 32, by omega⟩
    have hc : c = Char.ofNat (n + 32) := by rw [← hn, Char.ofNat_toNat]
    obtain ⟨h1, h2⟩ := charset_table n (by omega)
    unfold Bch.inputFind charMap?
    rw [hn]
    have : ¬ n + 32 < 32 := by omega
    simp only [this, Nat.add_sub_cancel, h2, charset_length]
    rw [← hc] at h1 ⊢
    simp [h1]
  · simp only [hv]
    have hnm : c ∉ Bch.INPUT_CHARSET := fun h => hv (charset_valid c h)
    unfold Bch.inputFind
    rw [List.idxOf_eq_length hnm]
    simp

theorem range5 : List.range 5 = [0, 1, 2, 3, 4] := by decide

theorem bit_cond (t i : Nat) : ((t >>> i) &&& 1 = 1) ↔ t.testBit i = true := by
  unfold Nat.testBit
  rw [Nat.and_comm]
  have h : (1 &&& (t >>> i)) = 0 ∨ (1 &&& (t >>> i)) = 1 := by
    have : 1 &&& (t >>> i) ≤ 1 := Nat.and_le_left
    omega
  rcases h with h | h <;> simp [h]

theorem ite_sel (c : Prop) [Decidable c] (b : Bool) (h : c ↔ b = true) (x g : Nat) :
    (if c then x ^^^ g else x) = x ^^^ selN b g := by
  cases b
  · have : ¬ c := fun hc => by simpa using h.mp hc
    simp [this, selN]
  · have : c := h.mpr rfl
    simp [this, selN]

theorem polymodStep_eq (c e : Nat) : Bch.polymodStep c e = LN c ^^^ e := by
  unfold Bch.polymodStep LN
  simp only [range5, List.foldl, Bch.GENERATOR, List.getD_cons_zero, List.getD_cons_succ]
  rw [ite_sel _ _ (bit_cond _ 0), ite_sel _ _ (bit_cond _ 1), ite_sel _ _ (bit_cond _ 2),
    ite_sel _ _ (bit_cond _ 3), ite_sel _ _ (bit_cond _ 4)]
  ac_rfl

theorem inputFe_toNat (r : W) (e : Nat) (he : e < 32) :
    (inputFe r e).toNat = Bch.polymodStep r.toNat e := by
  rw [inputFe_eq r e he, polymodStep_eq, BitVec.toNat_xor, L_toNat, BitVec.toNat_ofNat,
    Nat.mod_eq_of_lt (by omega)]

def val3 (gs : List Nat) : Nat := gs.foldl (fun a g => a * 3 + g) 0

theorem shr5 (v : Nat) : v >>> 5 = v / 32 := by rw [Nat.shiftRight_eq_div_pow]
theorem and31 (v : Nat) : v &&& 31 = v % 32 := Nat.and_two_pow_sub_one_eq_mod v 5

theorem val3_append (gs : List Nat) (g : Nat) : val3 (gs ++ [g]) = val3 gs * 3 + g := by
  simp [val3, List.foldl_append]

theorem expandPos_cons_lt (v : Nat) (vs : List Nat) {groups : List Nat} (h : groups.length < 2) :
    Bch.expandPos (v :: vs) groups = (v &&& 31) :: Bch.expandPos vs (groups ++ [v >>> 5]) := by
  match groups, h with
  | [], _ => rfl
  | [_], _ => rfl

theorem expandPos_eq_stream : ∀ (ps groups : List Nat), groups.length ≤ 2 →
    Bch.expandPos ps groups = stream groups.length (val3 groups) ps
  | [], [], _ => rfl
  | [], [_], _ => by simp [Bch.expandPos, Bch.groupTail, stream, val3]
  | [], [_, _], _ => by simp [Bch.expandPos, Bch.groupTail, stream, val3]
  | [], _ :: _ :: _ :: _, h => by simp at h
  | v :: vs, groups, h => by
    by_cases h2 : groups.length < 2
    · rw [expandPos_cons_lt v vs h2, expandPos_eq_stream vs _ (by simp; omega),
        stream_noemit (by omega), and31, shr5, val3_append, List.length_append]
      rfl
    · match groups, h, h2 with
      | [g0, g1], _, _ =>
        have e : g0 * 9 + g1 * 3 + v >>> 5 = val3 [g0, g1] * 3 + v / 32 := by
          rw [shr5]; simp [val3]; omega
        show (v &&& 31) :: (g0 * 9 + g1 * 3 + v >>> 5) :: Bch.expandPos vs [] = _
        rw [expandPos_eq_stream vs [] (by simp), stream_emit (by rfl), and31, e]
        rfl
      | [], _, h => exact absurd Nat.zero_lt_two h
      | [_], _, h => exact absurd Nat.one_lt_two h
      | _ :: _ :: _ :: _, h, _ => simp at h

theorem mapM_inputFind_valid : ∀ {s : List Char}, AllValid s →
    s.mapM Bch.inputFind = some (s.map posOf)
  | [], _ => rfl
  | c :: cs, hs => by
    obtain ⟨hc, hcs⟩ := hs.of_cons
    obtain ⟨p, hp, _⟩ := pos_of_valid c hc
    rw [List.mapM_cons, inputFind_eq, mapM_inputFind_valid hcs]
    simp [hc, hp, posOf_eq hp]

theorem mapM_inputFind_invalid : ∀ (s : List Char), ¬ AllValid s → s.mapM Bch.inputFind = none := by
  intro s
  induction s with
  | nil => intro h; exact absurd (fun c hc => by cases hc) h
  | cons c cs ih =>
    intro h
    rw [List.mapM_cons, inputFind_eq]
    by_cases hc : validChar c = true
    · have : ¬ AllValid cs := fun hcs => h (AllValid.cons hc hcs)
      rw [ih this]
      obtain ⟨p, hp, _⟩ := pos_of_valid c hc
      simp [hc, hp]
    · simp [hc]

theorem foldl_inputFe_toNat : ∀ (es : List Nat), (∀ e ∈ es, e < 32) → ∀ r : W,
    (es.foldl inputFe r).toNat = es.foldl Bch.polymodStep r.toNat
  | [], _, _ => rfl
  | e :: es, he, r => by
    rw [List.foldl_cons, List.foldl_cons,
      foldl_inputFe_toNat es (fun z hz => he z (List.mem_cons_of_mem _ hz)),
      inputFe_toNat _ _ (he e List.mem_cons_self)]

theorem tail8_toNat (r : W) :
    (tail8 r).toNat = ([0, 0, 0, 0, 0, 0, 0, 0].foldl Bch.polymodStep r.toNat) ^^^ 1 := by
  rw [tail8, foldl_inputFe_toNat _ (by decide)]
  simp only [List.foldl]
  have e : ∀ c, Bch.polymodStep c 1 = Bch.polymodStep c 0 ^^^ 1 := by
    intro c; rw [polymodStep_eq, polymodStep_eq, Nat.xor_zero]
  rw [e]

theorem charset_out : ∀ i, i < 32 →
    CHARS_LOWER.getD i 'q' = Bch.CHECKSUM_CHARSET.getD i 'q' := by
  unfold Bch.CHECKSUM_CHARSET
  rw [String.toList_ofList]
  decide +kernel

theorem residueChars_spec (r : W) :
    residueChars r = (List.range 8).map fun i =>
      Bch.CHECKSUM_CHARSET.getD ((r.toNat >>> (5 * (7 - i))) &&& 31) 'q' := by
  have r8 : List.range 8 = [0, 1, 2, 3, 4, 5, 6, 7] := by decide
  have hu : ∀ n, unpack r n = (r.toNat >>> (5 * n)) &&& 31 := by
    intro n; unfold unpack; rw [BitVec.toNat_ushiftRight, and31, Nat.mul_comm]
  have hc : ∀ n, CHARS_LOWER.getD (unpack r n) 'q'
      = Bch.CHECKSUM_CHARSET.getD ((r.toNat >>> (5 * n)) &&& 31) 'q' := by
    intro n; rw [charset_out _ (unpack_lt r n), hu]
  unfold residueChars
  rw [r8]
  simp only [List.map, hc]

/-- **the model is the BIP-380 reference, for every input string** (valid or not, any length) -/
theorem checksumOf_eq_create (s : List Char) : checksumOf s = Bch.create s := by
  unfold Bch.create Bch.expand
  by_cases hs : AllValid s
  · rw [checksumOf_stream hs, mapM_inputFind_valid hs]
    simp only [Option.map]
    congr 1
    rw [residueChars_spec, tail8_toNat,
      foldl_inputFe_toNat _ (stream_lt _ _ _ (by decide) (by decide) (posOf_map_lt hs)),
      expandPos_eq_stream _ [] (by simp)]
    unfold Bch.polymod
    rw [List.foldl_append]
    rfl
  · rw [checksumOf_invalid hs, mapM_inputFind_invalid s hs]
    rfl

end MsVerif.Checksum
