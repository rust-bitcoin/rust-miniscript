/-
Script numbers (Bitcoin Core's `CScriptNum`): sign-magnitude, little-endian, the sign in the top bit of the last
byte.  The magnitude (`leBytes` and `leValue`, inverse to each other); writing and reading (`numEncode` and
`numDecodeRaw`, inverse to each other on minimal strings; operands of at most four bytes: `numDecode`, `num4`); the
magnitude read directly (`absVal`); truth (`castToBool`: the number is not zero, negative zero is false).
The exact length of `numEncode n` by the range of `n` is in `BoundsSize` (`numEncode_length_eq`, `pushInt_len`).
Beside the numbers, the byte form of script elements: `serialize` over `::` and `++`, and a push below 76 bytes (`0x4c`,
OP_PUSHDATA1) as its length byte and the data.
-/
import MsVerif.Spec.Script
import MsVerif.Lemmas.CoreMisc

namespace MsVerif.Script

theorem and_7f (b : UInt8) : (b &&& 0x7f).toNat = b.toNat % 128 := by
  rw [UInt8.toNat_and]
  exact Nat.and_two_pow_sub_one_eq_mod b.toNat 7

theorem and_7f_beq (b : UInt8) : ((b &&& 0x7f) == 0) = (b.toNat % 128 == 0) := by
  rw [Bool.eq_iff_iff, beq_iff_eq, beq_iff_eq, ← UInt8.toNat_inj, and_7f]
  exact Iff.rfl

private theorem toNat_ofNat_mod (n : Nat) : (UInt8.ofNat (n % 256)).toNat = n % 256 := by
  rw [UInt8.toNat_ofNat']
  exact Nat.mod_mod n 256

private theorem div_lt_pow {n m : Nat} (h : n < 256 ^ (m + 1)) : n / 256 < 256 ^ m :=
  Nat.div_lt_of_lt_mul (by rwa [Nat.pow_succ, Nat.mul_comm] at h)

theorem leBytes_zero (fuel : Nat) : leBytes fuel 0 = [] := by
  cases fuel <;> rfl

theorem leBytes_succ {f n : Nat} (h : n ≠ 0) :
    leBytes (f + 1) n = UInt8.ofNat (n % 256) :: leBytes f (n / 256) :=
  if_neg h

theorem leBytes_length : ∀ (fuel n : Nat), (leBytes fuel n).length ≤ fuel
  | 0, _ => Nat.le_refl 0
  | f + 1, n => by
    unfold leBytes
    split
    · exact Nat.zero_le _
    · exact Nat.succ_le_succ (leBytes_length f (n / 256))

theorem leBytes_length_le : ∀ (f n m : Nat), n < 256 ^ m → (leBytes f n).length ≤ m
  | 0, _, _, _ => Nat.zero_le _
  | f + 1, n, 0, h => by
    have : n = 0 := by simpa using h
    rw [this, leBytes_zero]
    exact Nat.zero_le _
  | f + 1, n, m + 1, h => by
    unfold leBytes
    split
    · exact Nat.zero_le _
    · exact Nat.succ_le_succ (leBytes_length_le f (n / 256) m (div_lt_pow h))

theorem leBytes_last : ∀ (fuel n : Nat), 0 < n → n < 256 ^ fuel →
    ∃ init last, leBytes fuel n = init ++ [last] ∧ last.toNat ≠ 0
  | 0, n, h0, h => by simp at h; omega
  | f + 1, n, h0, h => by
    rw [leBytes_succ (Nat.ne_of_gt h0)]
    by_cases hq : n / 256 = 0
    · refine ⟨[], UInt8.ofNat (n % 256), by rw [hq, leBytes_zero]; rfl, ?_⟩
      rw [toNat_ofNat_mod]
      omega
    · obtain ⟨init, last, e, hl⟩ :=
        leBytes_last f (n / 256) (Nat.pos_of_ne_zero hq) (div_lt_pow h)
      exact ⟨UInt8.ofNat (n % 256) :: init, last, by rw [e]; rfl, hl⟩

theorem leValue_lt : ∀ (l : Bytes), leValue l < 256 ^ l.length
  | [] => by simp [leValue]
  | b :: l => by
    have := leValue_lt l
    have hb := b.toNat_lt
    simp only [leValue, List.length_cons, Nat.pow_succ]
    omega

theorem leValue_append (a b : Bytes) :
    leValue (a ++ b) = leValue a + 256 ^ a.length * leValue b := by
  induction a with
  | nil => simp [leValue]
  | cons x a ih =>
    simp only [List.cons_append, leValue, ih, List.length_cons, Nat.pow_succ]
    rw [Nat.mul_add, Nat.mul_comm (256 ^ a.length) 256, Nat.mul_assoc]
    omega

theorem leValue_append_zero (l : Bytes) : leValue (l ++ [0]) = leValue l := by
  rw [leValue_append]
  rfl

theorem leValue_leBytes : ∀ (fuel n : Nat), n < 256 ^ fuel → leValue (leBytes fuel n) = n
  | 0, n, h => by
    have : n = 0 := by simpa using h
    rw [this]
    rfl
  | f + 1, n, h => by
    by_cases hn : n = 0
    · rw [hn, leBytes_zero]
      rfl
    · rw [leBytes_succ hn, leValue, toNat_ofNat_mod,
        leValue_leBytes f (n / 256) (div_lt_pow h)]
      exact Nat.mod_add_div n 256

theorem leValue_leBytes_of_length_lt : ∀ (f n : Nat), (leBytes f n).length < f →
    leValue (leBytes f n) = n
  | 0, _, h => by simp at h
  | f + 1, n, h => by
    by_cases hn : n = 0
    · rw [hn, leBytes_zero]
      rfl
    · rw [leBytes_succ hn] at h ⊢
      rw [leValue, toNat_ofNat_mod,
        leValue_leBytes_of_length_lt f (n / 256) (Nat.lt_of_succ_lt_succ h)]
      exact Nat.mod_add_div n 256

theorem leValue_eq_zero : ∀ (l : Bytes), leValue l = 0 → ∀ b ∈ l, b.toNat = 0
  | [], _, b, hb => by cases hb
  | x :: l, h, b, hb => by
    simp only [leValue] at h
    rcases List.mem_cons.mp hb with rfl | hb
    · omega
    · exact leValue_eq_zero l (by omega) b hb

theorem leValue_pos_of_last {l : Bytes} {x : UInt8} (h : l.getLast? = some x) (hx : x.toNat ≠ 0) :
    0 < leValue l := by
  rcases Nat.eq_zero_or_pos (leValue l) with h0 | h0
  · exact absurd (leValue_eq_zero l h0 x (List.mem_of_getLast? h)) hx
  · exact h0

theorem leBytes_leValue : ∀ (l : Bytes) (fuel : Nat) (x : UInt8), l.getLast? = some x → x.toNat ≠ 0 →
    l.length ≤ fuel → leBytes fuel (leValue l) = l
  | [], _, _, h, _, _ => by cases h
  | b :: rest, fuel, x, h, hx, hl => by
    cases fuel with
    | zero => simp at hl
    | succ f =>
      have hpos := leValue_pos_of_last h hx
      have hb := b.toNat_lt
      simp only [leValue] at hpos ⊢
      simp only [leBytes]
      have hne : ¬ (b.toNat + 256 * leValue rest = 0) := by omega
      simp only [hne, if_false]
      have h1 : (b.toNat + 256 * leValue rest) % 256 = b.toNat := by omega
      have h2 : (b.toNat + 256 * leValue rest) / 256 = leValue rest := by omega
      rw [h1, h2, UInt8.ofNat_toNat]
      cases rest with
      | nil => simp [leValue, leBytes_zero]
      | cons c rest' =>
        rw [List.getLast?_cons_cons] at h
        rw [leBytes_leValue (c :: rest') f x h hx (by simpa using hl)]

theorem leValue_zeros (k : Nat) : leValue (List.replicate k 0) = 0 := by
  induction k with
  | zero => rfl
  | succ k ih => simp [List.replicate_succ, leValue, ih]

theorem numEncode_zero : numEncode 0 = [] := rfl

theorem numEncode_one : numEncode 1 = [1] := by decide

theorem numEncode_pos {n : Nat} (h : n ≠ 0) :
    numEncode (n : Int) =
      match (leBytes 9 n).getLast? with
      | none => []
      | some last => if last.toNat ≥ 0x80 then leBytes 9 n ++ [0x00] else leBytes 9 n := by
  have h1 : (n : Int) ≠ 0 := by omega
  have h2 : ¬ ((n : Int) < 0) := by omega
  simp only [numEncode, h1, h2, if_false, Int.natAbs_natCast]
  rfl

theorem numEncode_small {n : Nat} (h : n ≤ 16) :
    numEncode (n : Int) = if n = 0 then [] else [UInt8.ofNat n] := by
  have : ∀ j : Fin 17, numEncode ((j.val : Nat) : Int) = if j.val = 0 then [] else [UInt8.ofNat j.val] := by
    decide
  exact this ⟨n, by omega⟩

theorem numEncode_length (v : Int) : (numEncode v).length ≤ 10 := by
  unfold numEncode
  have h9 := leBytes_length 9 v.natAbs
  split
  · simp
  · dsimp only
    split
    · simp
    · split
      · simp only [List.length_append, List.length_singleton]; omega
      · split
        · simp only [List.length_append, List.length_singleton, List.length_dropLast]; omega
        · omega

theorem numEncode_nat_length_pos {n : Nat} (h : n ≠ 0) : 1 ≤ (numEncode (n : Int)).length := by
  rw [numEncode_pos h, leBytes_succ h]
  split
  · rename_i he; simp at he
  · split <;> simp

theorem numEncode_shape {n : Nat} (h0 : n ≠ 0) {init : Bytes} {last : UInt8}
    (e : leBytes 9 n = init ++ [last]) :
    numEncode (n : Int) = if last.toNat ≥ 0x80 then init ++ [last] ++ [0] else init ++ [last] := by
  rw [numEncode_pos h0, e]
  simp only [List.getLast?_append, List.getLast?_singleton, Option.some_or]

theorem numDecodeRaw_numEncode {n : Nat} (h : n < 256 ^ 9) :
    numDecodeRaw (numEncode (n : Int)) = (n : Int) := by
  by_cases h0 : n = 0
  · rw [h0]; rfl
  · obtain ⟨init, last, e, _⟩ := leBytes_last 9 n (by omega) h
    have hv := leValue_leBytes 9 n h
    rw [e] at hv
    rw [numEncode_shape h0 e]
    by_cases hbig : last.toNat ≥ 0x80
    · simp only [hbig, if_true, numDecodeRaw, List.getLast?_append, List.getLast?_singleton,
        Option.some_or]
      rw [if_neg (by decide), leValue_append_zero, hv]
      rfl
    · simp only [hbig, if_false, numDecodeRaw, List.getLast?_append, List.getLast?_singleton,
        Option.some_or, hv]
      rfl

theorem numMinimal_numEncode {n : Nat} (h : n < 256 ^ 9) : numMinimal (numEncode (n : Int)) = true := by
  by_cases h0 : n = 0
  · rw [h0]; rfl
  · obtain ⟨init, last, e, hl⟩ := leBytes_last 9 n (by omega) h
    rw [numEncode_shape h0 e]
    by_cases hbig : last.toNat ≥ 0x80
    · simp only [hbig, if_true, numMinimal, List.getLast?_append, List.getLast?_singleton,
        Option.some_or, List.dropLast_concat]
      rfl
    · have hm : ((last &&& 0x7f) == 0) = false := by
        rw [and_7f_beq]
        simp
        omega
      simp only [hbig, if_false, numMinimal, List.getLast?_append, List.getLast?_singleton,
        Option.some_or, hm, Bool.false_eq_true]

/-- the magnitude bytes are `leBytes` of their own value (`leBytes_leValue`), and `numEncode_shape` says which
sign byte follows -/
theorem numEncode_numDecodeRaw {bs : Bytes} (hlen : bs.length ≤ 9) (hmin : numMinimal bs = true)
    (hnn : 0 ≤ numDecodeRaw bs) : numEncode (numDecodeRaw bs) = bs := by
  cases hg : bs.getLast? with
  | none => cases List.getLast?_eq_none_iff.1 hg; rfl
  | some last =>
    have hs := List.eq_dropLast_append_of_getLast? bs last hg
    -- non-negative: the top bit is clear (a set top bit with value 0 is the non-minimal negative zero)
    have hbig : ¬ last.toNat ≥ 0x80 := by
      intro hbig
      simp only [numDecodeRaw, hg, hbig, if_true, Int.ofNat_eq_natCast] at hnn
      have hall := leValue_eq_zero _ (by omega : leValue (bs.dropLast ++ [last &&& 0x7f]) = 0)
      have h7 : ((last &&& 0x7f) == 0) = true := by
        rw [beq_iff_eq]; exact UInt8.toNat_inj.mp (by simpa using hall (last &&& 0x7f) (by simp))
      simp only [numMinimal, hg, h7, if_true] at hmin
      cases hp : bs.dropLast.getLast? with
      | none => simp [hp] at hmin
      | some prev =>
        have := hall prev (List.mem_append_left _ (List.mem_of_getLast? hp))
        simp only [hp, decide_eq_true_eq] at hmin
        omega
    have hv : numDecodeRaw bs = (leValue bs : Int) := by simp [numDecodeRaw, hg, hbig]
    rw [hv]
    by_cases hz : last.toNat = 0
    · -- a trailing 0x00: minimal only after a byte with its top bit set; it is the sign byte `numEncode` appends
      have h7 : ((last &&& 0x7f) == 0) = true := by rw [and_7f_beq]; simp [hz]
      cases UInt8.toNat_inj.mp (by simpa using hz : last.toNat = (0 : UInt8).toNat)
      simp only [numMinimal, hg, h7, if_true] at hmin
      cases hp : bs.dropLast.getLast? with
      | none => simp [hp] at hmin
      | some prev =>
        simp only [hp, decide_eq_true_eq] at hmin
        have hd := List.eq_dropLast_append_of_getLast? bs.dropLast prev hp
        have hmag := leBytes_leValue bs.dropLast 9 prev hp (by omega) (by simp; omega)
        have hpos := leValue_pos_of_last hp (by omega)
        rw [hs, leValue_append_zero, numEncode_shape (by omega) (hmag.trans hd), if_pos hmin, ← hd]
    · rw [numEncode_shape (Nat.pos_iff_ne_zero.1 (leValue_pos_of_last hg hz))
        ((leBytes_leValue bs 9 last hg hz hlen).trans hs), if_neg hbig, ← hs]

theorem numDecodeRaw_single (c : UInt8) :
    numDecodeRaw [c] = if c.toNat ≥ 0x80 then - Int.ofNat (leValue [c &&& 0x7f]) else Int.ofNat c.toNat := by
  simp [numDecodeRaw, leValue]

theorem numEncode_length_le_four {n : Nat} (h : n < 2 ^ 31) : (numEncode (n : Int)).length ≤ 4 := by
  by_cases h0 : n = 0
  · rw [h0]; exact Nat.zero_le _
  · obtain ⟨init, last, e, _⟩ := leBytes_last 9 n (by omega) (by omega)
    have hv := leValue_leBytes 9 n (by omega)
    have hlen := leBytes_length_le 9 n 4 (by omega)
    rw [e] at hv hlen
    rw [leValue_append] at hv
    simp only [leValue, List.length_append, List.length_singleton, Nat.mul_zero, Nat.add_zero] at hv hlen
    rw [numEncode_shape h0 e]
    split
    · rename_i hbig
      have hi : init.length ≠ 3 := by
        intro h3
        rw [h3] at hv
        omega
      simp only [List.length_append, List.length_singleton]
      omega
    · simp only [List.length_append, List.length_singleton]
      omega

theorem numDecode_numEncode {n : Nat} (h : n < 2 ^ 31) (min : Bool) :
    numDecode min 4 (numEncode (n : Int)) = some (n : Int) := by
  have hl : ¬ (numEncode (n : Int)).length > 4 := Nat.not_lt.mpr (numEncode_length_le_four h)
  simp only [numDecode, hl, if_false, numMinimal_numEncode (n := n) (by omega),
    numDecodeRaw_numEncode (n := n) (by omega), Bool.not_true, Bool.and_false, Bool.false_eq_true]

theorem numEncode_inj {a b : Nat} (ha : a < 2 ^ 31) (hb : b < 2 ^ 31)
    (h : numEncode (a : Int) = numEncode (b : Int)) : a = b := by
  have h1 := numDecodeRaw_numEncode (n := a) (by omega)
  rw [h, numDecodeRaw_numEncode (n := b) (by omega)] at h1
  omega

theorem numDecode_nil (m : Bool) {mx : Nat} : numDecode m mx [] = some 0 := by
  cases m <;> rfl

theorem numDecode_one (m : Bool) : numDecode m 4 [1] = some 1 := by
  cases m <;> decide

theorem numDecode_5_of_4 {min : Bool} {bs : Bytes} {v : Int} (h4 : numDecode min 4 bs = some v) :
    numDecode min 5 bs = some v := by
  unfold numDecode at *
  split at h4
  · simp at h4
  · rename_i hl
    have : ¬ bs.length > 5 := by omega
    simp only [this, if_false]
    exact h4

theorem numDecode_eq_some {m : Bool} {mx : Nat} {bs : Bytes} {x : Int} (h : numDecode m mx bs = some x) :
    x = numDecodeRaw bs ∧ bs.length ≤ mx := by
  unfold numDecode at h
  split at h
  · cases h
  · split at h
    · cases h
    · cases h; exact ⟨rfl, by omega⟩

/- `leBytes 9` cuts a magnitude of 256^9 or more short, so `numDecodeRaw_numEncode` needs `n < 256 ^ 9`.  A reader of
an operand knows no bound on `n`, only that the bytes are few; a magnitude that was written in fewer than nine bytes
was not cut. -/
theorem numDecodeRaw_numEncode_of_length_lt {n : Nat} (h : (leBytes 9 n).length < 9) :
    numDecodeRaw (numEncode (n : Int)) = (n : Int) := by
  apply numDecodeRaw_numEncode
  have := leValue_lt (leBytes 9 n)
  rw [leValue_leBytes_of_length_lt 9 n h] at this
  exact Nat.lt_of_lt_of_le this (Nat.pow_le_pow_right (by decide) (Nat.le_of_lt h))

theorem numDecode_numEncode_inv {flag : Bool} {n : Nat} {z : Int}
    (h : numDecode flag 4 (numEncode (n : Int)) = some z) : z = n := by
  obtain ⟨rfl, hlen⟩ := numDecode_eq_some h
  by_cases hn : n = 0
  · subst hn; rfl
  apply numDecodeRaw_numEncode_of_length_lt
  rw [numEncode_pos hn] at hlen
  cases hl : (leBytes 9 n).getLast? with
  | none => rw [List.getLast?_eq_none_iff.mp hl]; decide
  | some last =>
    rw [hl] at hlen
    dsimp only at hlen
    split at hlen
    · rw [List.length_append] at hlen; omega
    · omega

def absVal : Bytes → Nat
  | [] => 0
  | [b] => (b &&& 0x7f).toNat
  | b :: b' :: rest => b.toNat + 256 * absVal (b' :: rest)

theorem numDecodeRaw_natAbs : ∀ (bs : Bytes), (numDecodeRaw bs).natAbs = absVal bs
  | [] => rfl
  | [b] => by
    unfold numDecodeRaw
    simp only [List.getLast?_singleton, List.dropLast_singleton, List.nil_append, leValue, Nat.mul_zero, Nat.add_zero,
      absVal]
    simp only [and_7f]
    split
    · simp only [Int.natAbs_neg, Int.ofNat_eq_natCast, Int.natAbs_natCast]
    · rename_i hlt
      simp only [Int.ofNat_eq_natCast, Int.natAbs_natCast]
      omega
  | b :: b' :: rest => by
    have ih := numDecodeRaw_natAbs (b' :: rest)
    unfold numDecodeRaw at ih ⊢
    have hl : (b :: b' :: rest).getLast? = (b' :: rest).getLast? := by simp [List.getLast?_cons_cons]
    rw [hl]
    cases hlast : (b' :: rest).getLast? with
    | none => simp at hlast
    | some last =>
      simp only [hlast] at ih ⊢
      simp only [absVal]
      by_cases hge : last.toNat ≥ 0x80
      · simp only [hge, if_true] at ih ⊢
        simp only [Int.natAbs_neg, Int.natAbs_natCast, Int.ofNat_eq_natCast] at ih ⊢
        rw [List.dropLast_cons_cons, List.cons_append, leValue, ih]
      · simp only [hge, if_false] at ih ⊢
        simp only [Int.natAbs_natCast, Int.ofNat_eq_natCast] at ih ⊢
        rw [leValue, ih]

theorem absVal_lt : ∀ (bs : Bytes), bs ≠ [] → absVal bs < 128 * 256 ^ (bs.length - 1)
  | [], h => absurd rfl h
  | [b], _ => by simp only [absVal, and_7f, List.length_singleton, Nat.sub_self, Nat.pow_zero]; omega
  | b :: b' :: rest, _ => by
    have ih := absVal_lt (b' :: rest) (List.cons_ne_nil _ _)
    have := b.toNat_lt
    simp only [absVal, List.length_cons, Nat.add_sub_cancel] at ih ⊢
    rw [Nat.pow_succ]
    omega

theorem numDecodeRaw_natAbs_lt {bs : Bytes} (h : bs.length ≤ 4) : (numDecodeRaw bs).natAbs < 2 ^ 31 := by
  rw [numDecodeRaw_natAbs]
  by_cases h0 : bs = []
  · subst h0; decide
  · have := absVal_lt bs h0
    have : 256 ^ (bs.length - 1) ≤ 256 ^ 3 := Nat.pow_le_pow_right (by omega) (by omega)
    omega

/-- the byte strings `CastToBool` maps to false: zeros, optionally ending in the sign byte -/
theorem castToBool_false_shape : ∀ (bs : Bytes), castToBool bs = false →
    ∃ k, bs = List.replicate k 0 ∨ bs = List.replicate k 0 ++ [0x80]
  | [], _ => ⟨0, Or.inl rfl⟩
  | [b], h => by
    simp only [castToBool, Bool.and_eq_false_iff, bne_eq_false_iff_eq] at h
    rcases h with h | h
    · exact ⟨1, Or.inl (by rw [h]; rfl)⟩
    · exact ⟨0, Or.inr (by rw [h]; rfl)⟩
  | b :: b' :: rest, h => by
    simp only [castToBool, Bool.or_eq_false_iff, bne_eq_false_iff_eq] at h
    obtain ⟨hb, hr⟩ := h
    obtain ⟨k, hk⟩ := castToBool_false_shape (b' :: rest) hr
    subst hb
    rcases hk with hk | hk
    · exact ⟨k + 1, Or.inl (by rw [hk]; rfl)⟩
    · exact ⟨k + 1, Or.inr (by rw [hk]; rfl)⟩

theorem absVal_ne_zero_of_castToBool : ∀ (bs : Bytes), castToBool bs = true → absVal bs ≠ 0
  | [], h => by simp [castToBool] at h
  | [b], h => by
    simp only [castToBool, Bool.and_eq_true, bne_iff_ne, ne_eq] at h
    simp only [absVal, and_7f]
    have h1 : b.toNat ≠ 0 := fun h0 => h.1 (UInt8.toNat_inj.mp (by simpa using h0))
    have h2 : b.toNat ≠ 128 := fun h0 => h.2 (UInt8.toNat_inj.mp (by simpa using h0))
    have := b.toNat_lt
    omega
  | b :: b' :: rest, h => by
    simp only [castToBool, Bool.or_eq_true, bne_iff_ne, ne_eq] at h
    simp only [absVal]
    rcases h with h | h
    · have : b.toNat ≠ 0 := fun h0 => h (UInt8.toNat_inj.mp (by simpa using h0))
      omega
    · have := absVal_ne_zero_of_castToBool (b' :: rest) h
      omega

theorem castToBool_eq (bs : Bytes) : castToBool bs = decide (numDecodeRaw bs ≠ 0) := by
  cases h : castToBool bs
  · refine (decide_eq_false (not_not_intro ?_)).symm
    obtain ⟨k, hk | hk⟩ := castToBool_false_shape bs h
    · subst hk
      unfold numDecodeRaw
      cases k with
      | zero => rfl
      | succ k =>
        have : (List.replicate (k + 1) (0 : UInt8)).getLast? = some 0 := by
          rw [List.getLast?_replicate]; simp
        simp only [this, show ¬ ((0 : UInt8).toNat ≥ 0x80) by decide, if_false, leValue_zeros]
        rfl
    · subst hk
      unfold numDecodeRaw
      simp only [List.getLast?_append, List.getLast?_singleton, Option.some_or, List.dropLast_concat,
        show ((0x80 : UInt8).toNat ≥ 0x80) by decide, if_true, show (0x80 : UInt8) &&& 0x7f = 0 by decide,
        leValue_append_zero, leValue_zeros]
      rfl
  · have hne : numDecodeRaw bs ≠ 0 := fun h0 => by
      have := numDecodeRaw_natAbs bs
      rw [h0] at this
      exact absVal_ne_zero_of_castToBool bs h this.symm
    exact (decide_eq_true hne).symm

theorem falsy_decodes_zero {flag : Bool} {mx : Nat} {bs : Bytes} {x : Int} (h : castToBool bs = false)
    (hd : numDecode flag mx bs = some x) : x = 0 := by
  rw [(numDecode_eq_some hd).1]
  simpa [castToBool_eq] using h

theorem truthy_decodes_nonzero {flag : Bool} {mx : Nat} {bs : Bytes} {x : Int} (h : castToBool bs = true)
    (hd : numDecode flag mx bs = some x) : x ≠ 0 := by
  rw [(numDecode_eq_some hd).1]
  simpa [castToBool_eq] using h

theorem castToBool_numEncode {n : Nat} (h0 : n ≠ 0) (h : n < 2 ^ 31) :
    castToBool (numEncode (n : Int)) = true := by
  rw [castToBool_eq, numDecodeRaw_numEncode (by omega)]
  exact decide_eq_true (by omega)

theorem castToBool_boolBytes (b : Bool) : castToBool (boolBytes b) = b := by
  cases b <;> rfl

theorem boolBytes_length (b : Bool) : (boolBytes b).length ≤ 1 := by
  cases b <;> simp [boolBytes]

theorem num4_nil (env : Env) : num4 env [] = .ok 0 := by
  simp [num4, numDecode_nil]

theorem num4_one (env : Env) : num4 env [1] = .ok 1 := by
  simp [num4, numDecode_one]

theorem num4_numEncode {n : Nat} (h : n < 2 ^ 31) (env : Env) :
    num4 env (numEncode (n : Int)) = .ok (n : Int) := by
  simp [num4, numDecode_numEncode h]

theorem num4_ok {env : Env} {bs : Bytes} {x : Int} (h : num4 env bs = .ok x) :
    numDecode env.flags.minimalNum 4 bs = some x := by
  unfold num4 at h
  split at h
  · rename_i v hv; cases h; exact hv
  · cases h

theorem num4_numEncode_inv {env : Env} {z y : Int} (hz : 0 ≤ z) (h : num4 env (numEncode z) = .ok y) :
    y = z := by
  rw [← Int.toNat_of_nonneg hz] at h ⊢
  exact numDecode_numEncode_inv (num4_ok h)

theorem serialize_cons (o : Op) (ops : List Op) : serialize (o :: ops) = o.bytes ++ serialize ops := by
  simp [serialize]

theorem serialize_append (a b : List Op) : serialize (a ++ b) = serialize a ++ serialize b := by
  simp [serialize]

theorem Op.bytes_push_short (bs : Bytes) (h : bs.length < 0x4c) :
    (Op.push bs).bytes = UInt8.ofNat bs.length :: bs := by
  simp [Op.bytes, pushPrefix, h]

end MsVerif.Script
