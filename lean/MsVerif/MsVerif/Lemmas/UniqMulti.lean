/-
C03 (uniqueness): the multisig leaves.  The table offers every `k`-subset of the
adversary's signatures; the adversary's signatures are among the `k` the satisfier used, and
the keys are pairwise distinct — so there is exactly one subset, the satisfier's (`choose_mask`, `altInv_multi`).
The witness layout enters through `h3` of `altInv_multi`: `multi` pushes the chosen signatures in key order (`pickSigs`),
`multi_a` one slot per key, signature or empty, in reverse key order (`slotSigs`, `slots_sel`).
-/
import MsVerif.Lemmas.UniqLeaf
import MsVerif.Lemmas.SatMulti


namespace MsVerif.Uniq
open MsVerif Sat SatTable SatAll MalleLattice Complete SatSpec

theorem chooseK_nil : ∀ (k : Nat) (fl : List Bool), fl.count true < k → chooseK k fl = []
  | 0, _, h => by omega
  | k + 1, [], _ => rfl
  | k + 1, true :: r, h => by
    simp only [List.count_cons_self] at h
    simp only [chooseK]
    rw [chooseK_nil k r (by omega), chooseK_nil (k + 1) r (by omega)]; rfl
  | k + 1, false :: r, h => by
    simp only [List.count_cons, beq_iff_eq, Bool.false_eq_true, if_false, Nat.add_zero] at h
    simp only [chooseK]
    rw [chooseK_nil (k + 1) r h]; rfl

theorem count_map_le {α : Type} (l : List α) (f g : α → Bool) (h : ∀ x ∈ l, f x = true → g x = true) :
    (l.map f).count true ≤ (l.filter g).length := by
  induction l with
  | nil => simp
  | cons a t ih =>
    have iht := ih (fun x hx => h x (by simp [hx]))
    simp only [List.map_cons, List.filter_cons]
    cases hf : f a with
    | false =>
      simp only [List.count_cons, beq_iff_eq, Bool.false_eq_true, if_false, Nat.add_zero]
      split <;> simp <;> omega
    | true =>
      rw [h a (by simp) hf]
      simp only [List.count_cons_self, if_true, List.length_cons]; omega

theorem pickSigs_cons_true (x : Key) (ks : List Key) (fl : List Bool) :
    pickSigs (x :: ks) (true :: fl) = .sig x :: pickSigs ks fl := rfl

theorem pickSigs_cons_false (x : Key) (ks : List Key) (fl : List Bool) :
    pickSigs (x :: ks) (false :: fl) = pickSigs ks fl := rfl

/-- a table choice `fl` of `m` of the adversary's signatures (`g`), all of which are among the
keys the satisfier selected (`sel`): `m` is at most their number, and for equality the choice IS
the satisfier's selection -/
theorem choose_mask {α : Type} (g sel : α → Bool) : ∀ (ks : List α) (m : Nat) (fl : List Bool),
    (∀ y ∈ ks, g y = true → sel y = true) → fl ∈ chooseK m (ks.map g) →
    m ≤ (ks.filter sel).length ∧ (m = (ks.filter sel).length → fl = ks.map sel)
  | [], 0 => by
    intro fl _ hfl
    rw [List.map_nil, chooseK, List.mem_singleton] at hfl
    exact ⟨Nat.le_refl _, fun _ => hfl⟩
  | [], m + 1 => by intro fl _ hfl; cases hfl
  | x :: ks, 0 => by
    intro fl _ hfl
    rw [chooseK, List.mem_singleton] at hfl
    refine ⟨Nat.zero_le _, fun h => ?_⟩
    have hnone : ∀ y ∈ x :: ks, sel y = false := fun y hy => by
      cases hs : sel y with
      | false => rfl
      | true =>
        have := List.mem_filter.mpr ⟨hy, hs⟩
        rw [List.eq_nil_of_length_eq_zero h.symm] at this; cases this
    rw [hfl, List.map_map]
    exact List.map_congr_left (fun y hy => (hnone y hy).symm)
  | x :: ks, m + 1 => by
    intro fl hg hfl
    have hg' : ∀ y ∈ ks, g y = true → sel y = true := fun y hy => hg y (List.mem_cons_of_mem _ hy)
    cases hgx : g x with
    | true =>
      have hsx := hg x List.mem_cons_self hgx
      rw [List.map_cons, hgx, chooseK, List.mem_append, List.mem_map, List.mem_map] at hfl
      rw [List.filter_cons_of_pos hsx, List.length_cons, List.map_cons, hsx]
      rcases hfl with ⟨fl', hfl', rfl⟩ | ⟨fl', hfl', rfl⟩
      · have ih := choose_mask g sel ks m fl' hg' hfl'
        exact ⟨by omega, fun h => by rw [ih.2 (by omega)]⟩
      · have ih := choose_mask g sel ks (m + 1) fl' hg' hfl'
        exact ⟨by omega, fun h => by omega⟩
    | false =>
      rw [List.map_cons, hgx, chooseK, List.mem_map] at hfl
      obtain ⟨fl', hfl', rfl⟩ := hfl
      have ih := choose_mask g sel ks (m + 1) fl' hg' hfl'
      cases hsx : sel x with
      | true =>
        rw [List.filter_cons_of_pos hsx, List.length_cons]
        exact ⟨by omega, fun h => by omega⟩
      | false =>
        rw [List.filter_cons_of_neg (by simp [hsx]), List.map_cons, hsx]
        exact ⟨ih.1, fun h => by rw [ih.2 h]⟩

theorem pickSigs_map (sel : Key → Bool) (ks : List Key) :
    pickSigs ks (ks.map sel) = (ks.filter sel).map Item.sig := by
  induction ks with
  | nil => rfl
  | cons x t ih =>
    cases hs : sel x with
    | true => rw [List.map_cons, hs, pickSigs_cons_true, ih, List.filter_cons_of_pos hs, List.map_cons]
    | false =>
      rw [List.map_cons, hs, pickSigs_cons_false, ih, List.filter_cons_of_neg (by simp [hs])]

theorem filter_mem_sublist {ss ks : List Key} (hss : ss.Sublist ks) (hnd : ks.Nodup) :
    ks.filter (fun y => decide (y ∈ ss)) = ss := by
  induction hss with
  | slnil => rfl
  | cons x hss' ih =>
    have hx := (List.nodup_cons.mp hnd).1
    rw [List.filter_cons_of_neg (by simpa using fun h => hx (hss'.subset h))]
    exact ih (List.nodup_cons.mp hnd).2
  | cons_cons x hss' ih =>
    have hx := (List.nodup_cons.mp hnd).1
    rw [List.filter_cons_of_pos (by simp)]
    congr 1
    rw [← ih (List.nodup_cons.mp hnd).2]
    refine List.filter_congr (fun y hy => ?_)
    have : y ≠ x := fun e => hx (e ▸ hy)
    simp [this, ih (List.nodup_cons.mp hnd).2]

theorem items_replicate_zero (n : Nat) : items (List.replicate n Ph.pushZero) = List.replicate n Item.empty := by
  simp [items, phItem]

theorem no_sig_replicate (n : Nat) (k : Key) : Item.sig k ∉ items (List.replicate n Ph.pushZero) := by
  rw [items_replicate_zero]; intro h; cases List.eq_of_mem_replicate h

/-- what the two multisig leaves share: the table offers the `k`-subsets of the adversary's
signatures, none if fewer than `k` are available to the caller or the adversary holds none;
`h3` is the part that depends on the layout of the witness -/
theorem altInv_multi {adv : Avail} {ctx : Ctx} {a : Assets} (hadv : AdvOK adv (availOf a ctx))
    {k : Nat} {kk : List Key} (hk : 1 ≤ k) {B : Nat} {r : SatDissat}
    (hf : LeafFacts a B (decide ((kk.filter (sigAvail ctx a)).length ≥ k)) r) {f : List Bool → List Item}
    (kin : ∀ w, r.sat.stack = .stack w → ∀ x, Item.sig x ∈ items w → x ∈ kk)
    (h3 : ∀ w, r.sat.stack = .stack w → (∀ y ∈ kk, adv.sig y = true → Item.sig y ∈ items w) →
      ∀ fl ∈ chooseK k (kk.map adv.sig), f fl = items w) :
    AltInv adv kk ((chooseK k (kk.map adv.sig)).map f) r.sat := by
  refine ⟨?_, ?_, ?_, kin, ?_⟩
  · intro hi
    have hns : isStk r.sat.stack = false := by rw [hi]; rfl
    rw [hf.sStk] at hns
    simp only [decide_eq_false_iff_not, ge_iff_le, Nat.not_le] at hns
    have := count_map_le kk adv.sig (sigAvail ctx a) (fun x _ h => by
      have := hadv.sig_le x h; simpa [availOf] using this)
    rw [chooseK_nil k _ (by omega)]; rfl
  · intro _ hn
    have : (kk.map adv.sig).count true = 0 := by
      rw [List.count_eq_zero]
      intro hmem
      obtain ⟨x, hx, hxs⟩ := List.mem_map.mp hmem
      rw [hn x hx] at hxs; cases hxs
    rw [chooseK_nil k _ (by omega)]; rfl
  · intro w hw hv t ht
    obtain ⟨fl, hfl, rfl⟩ := List.mem_map.mp ht
    exact h3 w hw hv fl hfl
  · intro hfalse w hw
    have : r.sat.hasSig = true := hf.sSig (by rw [hw]; simp)
    rw [hfalse] at this; cases this

theorem altInv_multiSD {adv : Avail} (ctx : Ctx) (a : Assets) (hadv : AdvOK adv (availOf a ctx))
    (k : Nat) (kk : List Key) (hk : 1 ≤ k) (hctx : ctx ≠ .tap) (hnd : kk.Nodup)
    (kin : ∀ w, (multiSD ctx a k kk).sat.stack = .stack w → ∀ x, Item.sig x ∈ items w → x ∈ kk) :
    AltInv adv kk ((chooseK k (kk.map adv.sig)).map fun fl => Item.empty :: pickSigs kk fl)
      (multiSD ctx a k kk).sat := by
  refine altInv_multi hadv hk (multiSD_facts ctx a k kk) kin (fun w hw hv fl hfl => ?_)
  obtain ⟨ss, hss, hlen, _, rfl⟩ := multiSD_sat hctx a k kk hw
  have hg : ∀ y ∈ kk, adv.sig y = true → y ∈ ss := by
    intro y hy hs
    have := hv y hy hs
    simp only [items, List.map_cons, List.map_map, List.mem_cons, List.mem_map, Function.comp,
      phItem] at this
    rcases this with h | ⟨z, hz, h⟩
    · cases h
    · cases h; exact hz
  have hf := filter_mem_sublist hss hnd
  rw [(choose_mask adv.sig (fun y => decide (y ∈ ss)) kk k fl (fun y hy h => decide_eq_true (hg y hy h)) hfl).2
    (by rw [hf]; exact hlen.symm), pickSigs_map, hf]
  simp [items, phItem, Function.comp]

section
variable (c : SatCfg) {adv : Avail}

theorem du_multiSD (k : Nat) (kk : List Key) :
    AltInv adv [] [List.replicate (k + 1) Item.empty] (multiSD c.ctx c.assets k kk).dissat := by
  rw [multiSD_dis, ← items_replicate_zero]
  exact altInv_lit [] _ (no_sig_replicate _) none none

theorem uinv_multi (hadv : AdvOK adv (availOf c.assets c.ctx)) (k : Nat) (ks : List Key)
    (hk : 1 ≤ k) (hctx : ¬ c.ctx = .tap) (hnd : (keysOf (.multi k ks)).Nodup) :
    UInv adv (sortKeys' c.env) (.multi k ks) Ty.multi.mall (satDissat c (.multi k ks)) := by
  simp only [keysOf] at hnd
  refine ⟨?_, fun _ => ?_, fun h => by simp [Ty.multi, Mall.multi] at h⟩
  · simp only [satDissat_multi, keysOf, allSat]
    exact altInv_multiSD c.ctx c.assets hadv k ks hk hctx hnd
      (by have := (sig_in_keys c (.multi k ks)).1; simpa only [satDissat_multi, keysOf] using this)
  · simp only [satDissat_multi, allDsat]; exact du_multiSD c k ks

theorem uinv_sortedMulti (hadv : AdvOK adv (availOf c.assets c.ctx)) (k : Nat) (ks : List Key)
    (hk : 1 ≤ k) (hctx : ¬ c.ctx = .tap) (hnd : (keysOf (.sortedMulti k ks)).Nodup) :
    UInv adv (sortKeys' c.env) (.sortedMulti k ks) Ty.sortedmulti.mall (satDissat c (.sortedMulti k ks)) := by
  simp only [keysOf] at hnd
  have hperm := sortKeys'_perm c.env ks
  refine ⟨?_, fun _ => ?_, fun h => by simp [Ty.sortedmulti, Mall.sortedmulti] at h⟩
  · simp only [satDissat_sortedMulti, keysOf, allSat]
    have := altInv_multiSD c.ctx c.assets hadv k (sortKeys' c.env ks) hk hctx (hperm.nodup_iff.mpr hnd)
      (by
        have := (sig_in_keys c (.sortedMulti k ks)).1
        simp only [satDissat_sortedMulti, keysOf] at this
        exact fun w hw x hx => hperm.mem_iff.mpr (this w hw x hx))
    exact this.congr (fun x => hperm.mem_iff) (fun t ht => ht)
  · simp only [satDissat_sortedMulti, allDsat]; exact du_multiSD c k _

end

theorem slotSigs_cons_true (x : Key) (ks : List Key) (fl : List Bool) :
    slotSigs (x :: ks) (true :: fl) = .sig x :: slotSigs ks fl := rfl

theorem slotSigs_cons_false (x : Key) (ks : List Key) (fl : List Bool) :
    slotSigs (x :: ks) (false :: fl) = .empty :: slotSigs ks fl := rfl

theorem slotSigs_allFalse (ks : List Key) :
    slotSigs ks (ks.map fun _ => false) = List.replicate ks.length Item.empty := by
  induction ks with
  | nil => rfl
  | cons x t ih => rw [List.map_cons, slotSigs_cons_false, ih, List.length_cons, List.replicate_succ]

theorem slot_sig_mem {a : Assets} : ∀ (ks : List Key) (slots : List (List Ph)),
    All2 (SlotOk a) ks slots → ∀ y, Item.sig y ∈ items slots.flatten → y ∈ ks
  | _, _, .nil, y, h => by simp [items] at h
  | _, _, .cons (a := x) (b := s) (l := ks) (m := slots) hs hrest, y, h => by
    simp only [List.flatten_cons, items_append, List.mem_append] at h
    rcases h with h | h
    · rcases hs with rfl | ⟨sz, _, rfl⟩
      · simp [items, phItem] at h
      · simp only [items, List.map_cons, List.map_nil, phItem, List.mem_singleton] at h
        cases h; simp
    · simp [slot_sig_mem ks slots hrest y h]

/-- with pairwise distinct keys, "the signature of `y` is among the slots" selects exactly the
keys whose own slot holds a signature -/
theorem slots_sel {a : Assets} {ks : List Key} {slots : List (List Ph)}
    (hall : All2 (SlotOk a) ks slots) (hnd : ks.Nodup) :
    (ks.filter fun y => decide (Item.sig y ∈ items slots.flatten)).length = sigSlots slots ∧
    slotSigs ks (ks.map fun y => decide (Item.sig y ∈ items slots.flatten)) = items slots.flatten := by
  induction hall with
  | nil => exact ⟨rfl, rfl⟩
  | cons hs hrest ih =>
    rename_i x s ks slots
    have hx : x ∉ ks := (List.nodup_cons.mp hnd).1
    obtain ⟨ih1, ih2⟩ := ih (List.nodup_cons.mp hnd).2
    have hxs : Item.sig x ∉ items slots.flatten := fun h => hx (slot_sig_mem ks slots hrest x h)
    rcases hs with rfl | ⟨sz, _, rfl⟩
    · have hsame : ∀ y, decide (Item.sig y ∈ items ([Ph.pushZero] :: slots).flatten)
          = decide (Item.sig y ∈ items slots.flatten) := fun y => by
        rw [decide_eq_decide]
        simp [items, phItem]
      simp only [hsame]
      rw [List.filter_cons_of_neg (by simpa using hxs), List.map_cons, decide_eq_false hxs,
        slotSigs_cons_false, ih1, ih2, sigSlots_cons_zero]
      exact ⟨rfl, rfl⟩
    · have hsame : ∀ y ∈ ks, decide (Item.sig y ∈ items ([Ph.schnorrSig x sz] :: slots).flatten)
          = decide (Item.sig y ∈ items slots.flatten) := fun y hy => by
        have : y ≠ x := fun e => hx (e ▸ hy)
        rw [decide_eq_decide]
        simp [items, phItem, this]
      have hsx : decide (Item.sig x ∈ items ([Ph.schnorrSig x sz] :: slots).flatten) = true := by
        simp [items, phItem]
      rw [List.filter_cons_of_pos (by exact hsx), List.map_cons, hsx, slotSigs_cons_true,
        List.filter_congr hsame, List.map_congr_left hsame, List.length_cons, ih1, ih2,
        sigSlots_cons_of (isSigSlot_sig x sz)]
      exact ⟨rfl, rfl⟩

theorem slots_flatten_reverse {a : Assets} (ks : List Key) (slots : List (List Ph))
    (h : All2 (SlotOk a) ks slots) : slots.reverse.flatten = slots.flatten.reverse := by
  induction h with
  | nil => rfl
  | cons hs hrest ih =>
    rename_i x s ks' slots'
    have hsr : s.reverse = s := by
      rcases hs with rfl | ⟨sz, _, rfl⟩ <;> rfl
    simp [ih, hsr]

theorem altInv_multiASD {adv : Avail} (a : Assets) (hadv : AdvOK adv (availOf a .tap))
    (k : Nat) (kk : List Key) (hk : 1 ≤ k) (hnd : kk.Nodup)
    (kin : ∀ w, (multiASD .tap a k kk).sat.stack = .stack w → ∀ x, Item.sig x ∈ items w → x ∈ kk) :
    AltInv adv kk ((chooseK k (kk.map adv.sig)).map fun fl => (slotSigs kk fl).reverse)
      (multiASD .tap a k kk).sat := by
  refine altInv_multi hadv hk (multiASD_facts .tap a k kk) kin (fun w hw hv fl hfl => ?_)
  obtain ⟨sigs', hall, hcnt, rfl⟩ := multiASD_sat a k kk hk hw
  have hall' : All2 (SlotOk a) kk sigs'.reverse := by
    have := All2.reverse hall; simpa using this
  have hfr : sigs'.flatten = sigs'.reverse.flatten.reverse := by
    have := slots_flatten_reverse kk sigs'.reverse hall'
    simp only [List.reverse_reverse] at this
    rw [this]
  have hg : ∀ y ∈ kk, adv.sig y = true → Item.sig y ∈ items sigs'.reverse.flatten := by
    intro y hy hs
    have := hv y hy hs
    rw [hfr] at this
    simpa [items] using this
  obtain ⟨hlen, hsl⟩ := slots_sel hall' hnd
  rw [(choose_mask adv.sig _ kk k fl (fun y hy h => decide_eq_true (hg y hy h)) hfl).2
    (by rw [hlen, sigSlots_reverse]; exact hcnt.symm), hsl, hfr]
  simp [items]

section
variable (c : SatCfg) {adv : Avail}

theorem du_multiASD (k : Nat) (kk : List Key) (n : Nat) (hn : n = kk.length) :
    AltInv adv [] [List.replicate n Item.empty] (multiASD c.ctx c.assets k kk).dissat := by
  rw [multiASD_dis, ← hn, ← items_replicate_zero]
  exact altInv_lit [] _ (no_sig_replicate _) none none

theorem uinv_multiA (hadv : AdvOK adv (availOf c.assets c.ctx)) (k : Nat) (ks : List Key)
    (hk : 1 ≤ k) (hctx : c.ctx = .tap) (hnd : (keysOf (.multiA k ks)).Nodup) :
    UInv adv (sortKeys' c.env) (.multiA k ks) Ty.multiA.mall (satDissat c (.multiA k ks)) := by
  simp only [keysOf] at hnd
  refine ⟨?_, fun _ => ?_, fun h => by simp [Ty.multiA, Mall.multiA] at h⟩
  · have kin := (sig_in_keys c (.multiA k ks)).1
    simp only [satDissat_multiA, keysOf] at kin ⊢
    simp only [allSat]
    rw [hctx] at hadv kin ⊢
    exact altInv_multiASD c.assets hadv k ks hk hnd kin
  · simp only [satDissat_multiA, allDsat]; exact du_multiASD c k ks _ rfl

theorem uinv_sortedMultiA (hadv : AdvOK adv (availOf c.assets c.ctx)) (k : Nat) (ks : List Key)
    (hk : 1 ≤ k) (hctx : c.ctx = .tap) (hnd : (keysOf (.sortedMultiA k ks)).Nodup) :
    UInv adv (sortKeys' c.env) (.sortedMultiA k ks) Ty.sortedmultiA.mall (satDissat c (.sortedMultiA k ks)) := by
  simp only [keysOf] at hnd
  have hperm := sortKeys'_perm c.env ks
  refine ⟨?_, fun _ => ?_, fun h => by simp [Ty.sortedmultiA, Mall.sortedmultiA] at h⟩
  · have kin := (sig_in_keys c (.sortedMultiA k ks)).1
    simp only [satDissat_sortedMultiA, keysOf] at kin ⊢
    simp only [allSat]
    rw [hctx] at hadv kin ⊢
    have := altInv_multiASD c.assets hadv k (sortKeys' c.env ks) hk (hperm.nodup_iff.mpr hnd)
      (fun w hw x hx => hperm.mem_iff.mpr (kin w hw x hx))
    exact this.congr (fun x => hperm.mem_iff) (fun t ht => ht)
  · simp only [satDissat_sortedMultiA, allDsat]
    exact du_multiASD c k _ _ (sortKeys'_length c.env ks).symm

end

end MsVerif.Uniq
