/-
The induction over the AST — for every fragment, `encode ms` is a
balanced block on which the flat interpreter is simulated by `frag ms` (`sim_encode`, mutually
with `sim_thresh` for the children of `thresh`).  Each case puts `encode` of the fragment into
the shape of a `Sim` combinator; the combinator's function is `frag` of the fragment up to
unfolding.
-/
import MsVerif.Lemmas.BridgeSim

namespace MsVerif.Bridge
open MsVerif MsVerif.Script

theorem pushInt_plain (n : Nat) : Op.plain (pushInt n) = true := by
  unfold pushInt; split <;> rfl

theorem hashOpc_plain (k : HashKind) : Opc.plain (hashOpc k) = true := by
  cases k <;> rfl

theorem straight_pushes (f : Key → Bytes) (ks : List Key) :
    straight (ks.map (fun pk => Op.push (f pk))) = true := by
  simp [straight, Op.plain]

theorem straight_multiA (ke : KeyEnv) (ks : List Key) : straight (encodeMultiA ke ks) = true := by
  cases ks with
  | nil => rfl
  | cons k ks =>
    simp only [encodeMultiA, straight, List.all_append, List.all_cons, List.all_nil, List.all_flatMap,
      Op.plain, Opc.plain, Bool.and_true, Bool.true_and]
    simp

theorem straight_multi (ke : KeyEnv) (k n : Nat) (ks : List Key) :
    straight ([pushInt k] ++ ks.map (fun pk => Op.push (ke.ser pk)) ++ [pushInt n, .code .checkmultisig]) = true := by
  simp only [straight_append, straight_cons, pushInt_plain, straight_pushes]
  rfl

theorem straight_multiA_full (ke : KeyEnv) (k : Nat) (ks : List Key) :
    straight (encodeMultiA ke ks ++ [pushInt k, .code .numequal]) = true := by
  simp only [straight_append, straight_cons, pushInt_plain, straight_multiA]
  rfl

mutual
theorem sim_encode (ke : KeyEnv) (ctx : Ctx) :
    (ms : Ms) → Sim (encode ke ctx ms) (fun env => frag env ke ctx ms)
  | .pkK k => Sim.op1 _ rfl
  | .pkH k => Sim.straight _ rfl
  | .rawPkH h => Sim.straight _ rfl
  | .after n => Sim.straight _ (by simp only [encode, straight_cons, pushInt_plain]; rfl)
  | .older n => Sim.straight _ (by simp only [encode, straight_cons, pushInt_plain]; rfl)
  | .hash kind h =>
    Sim.straight _ (by simp only [encode, straight_cons, Op.plain, hashOpc_plain]; rfl)
  | .tru => Sim.op1 _ rfl
  | .fls => Sim.op1 _ rfl
  | .alt x => by
    simp only [encode, List.cons_append, List.nil_append]
    exact Sim.cons_opc .toalt rfl (Sim.snoc_opc .fromalt rfl (sim_encode ke ctx x))
  | .swap x => by
    simp only [encode, List.cons_append, List.nil_append]
    exact Sim.cons_opc .swap rfl (sim_encode ke ctx x)
  | .check x => Sim.snoc_opc .checksig rfl (sim_encode ke ctx x)
  | .dupIf x => by
    simp only [encode, List.cons_append, List.nil_append]
    exact Sim.cons_opc .dup rfl (Sim.ifThen false (sim_encode ke ctx x))
  | .verify x => Sim.pushVerify (sim_encode ke ctx x)
  | .nonZero x => by
    simp only [encode, List.cons_append, List.nil_append]
    exact Sim.cons_opc .size rfl (Sim.cons_opc .zeronotequal rfl (Sim.ifThen false (sim_encode ke ctx x)))
  | .zeroNotEqual x => Sim.snoc_opc .zeronotequal rfl (sim_encode ke ctx x)
  | .andV l r => Sim.append (sim_encode ke ctx l) (sim_encode ke ctx r)
  | .andB l r => by
    simp only [encode, List.append_assoc]
    exact Sim.append (sim_encode ke ctx l) (Sim.snoc_opc .booland rfl (sim_encode ke ctx r))
  | .andOr a b z => by
    simp only [encode, List.append_assoc, List.cons_append, List.nil_append]
    exact Sim.append (sim_encode ke ctx a)
      (Sim.ifElse true (sim_encode ke ctx z) (sim_encode ke ctx b))
  | .orB l r => by
    simp only [encode, List.append_assoc]
    exact Sim.append (sim_encode ke ctx l) (Sim.snoc_opc .boolor rfl (sim_encode ke ctx r))
  | .orD l r => by
    simp only [encode, List.append_assoc, List.cons_append, List.nil_append]
    exact Sim.append (sim_encode ke ctx l)
      (Sim.cons_opc .ifdup rfl (Sim.ifThen true (sim_encode ke ctx r)))
  | .orC l r => by
    simp only [encode, List.append_assoc, List.cons_append, List.nil_append]
    exact Sim.append (sim_encode ke ctx l) (Sim.ifThen true (sim_encode ke ctx r))
  | .orI l r => by
    simp only [encode, List.append_assoc, List.cons_append, List.nil_append]
    exact Sim.ifElse false (sim_encode ke ctx l) (sim_encode ke ctx r)
  | .thresh k xs =>
    Sim.append (sim_thresh ke ctx true xs)
      (Sim.straight [pushInt k, .code .equal] (by simp only [straight_cons, pushInt_plain]; rfl))
  | .multi k ks => Sim.straight _ (straight_multi ke k _ ks)
  | .sortedMulti k ks => Sim.straight _ (straight_multi ke k _ _)
  | .multiA k ks => Sim.straight _ (straight_multiA_full ke k ks)
  | .sortedMultiA k ks => Sim.straight _ (straight_multiA_full ke k _)
theorem sim_thresh (ke : KeyEnv) (ctx : Ctx) (first : Bool) :
    (xs : MsList) → Sim (encodeThresh ke ctx first xs) (fun env => fragThresh env ke ctx first xs)
  | .nil => Sim.nil
  | .cons x xs => by
    simp only [encodeThresh, List.append_assoc]
    cases first
    · exact Sim.append (sim_encode ke ctx x) (Sim.cons_opc .add rfl (sim_thresh ke ctx false xs))
    · exact Sim.append (sim_encode ke ctx x) (Sim.append (Sim.nil) (sim_thresh ke ctx false xs))
end

end MsVerif.Bridge
