/-
The decoder never reaches one of its `unwrap()`s / `assert_eq!`s: a stack-height invariant
between the nonterminal stack and the terminal stack.

Every nonterminal needs a minimum height of `term` when it is popped and has a net effect on
it (`Expression`: +1, `Check`: needs 1 / ±0, `AndB`: needs 2 / −1, `Tern`: needs 3 / −2,
`ThreshE{n}`: needs n / −(n−1) …).  `sim h nt` runs these effects over the whole stack;
the invariant is `sim term.len non_term = some 1`.
-/
import MsVerif.Lemmas.DecodeBasic

namespace MsVerif
namespace DecodeL

/-- height of the terminal stack after the nonterminal and everything it pushes are gone -/
def after (h : Nat) : NonTerm → Nat
  | .expression | .wExpression => h + 1
  | .maybeAndV | .swap | .alt | .check | .dupIf | .verify | .nonZero | .zeroNotEqual
  | .endIf | .endIfNotIf => h
  | .andV | .andB | .orB | .orC | .orD | .endIfElse => h - 1
  | .tern => h - 2
  | .threshW _ n | .threshE _ n => h - n + 1

def sim : Nat → List NonTerm → Option Nat
  | h, [] => some h
  | h, x :: l => if need x ≤ h then sim (after h x) l else none

theorem sim_append (h : Nat) (a b : List NonTerm) :
    sim h (a ++ b) = (sim h a).bind (fun h' => sim h' b) := by
  induction a generalizing h with
  | nil => simp [sim]
  | cons x a ih =>
    simp only [List.cons_append, sim]
    split
    · exact ih _
    · rfl

def Inv (s : DState) : Prop := sim s.term.length s.nt = some 1

theorem inv_init (toks : List Token) : Inv (initState toks) := by
  simp [Inv, initState, sim, need, after]

theorem exprShape_sim {p : List NonTerm} {q : Nat} (hs : ExprShape p q) (h : Nat) :
    sim (q + h) p = some (h + 1) := by
  cases hs <;> simp [sim, need, after] <;> omega

theorem sim_cons_of_le {h : Nat} {x : NonTerm} {l : List NonTerm} (hle : need x ≤ h) :
    sim h (x :: l) = sim (after h x) l := by
  rw [sim, if_pos hle]

theorem sim_congr {a b : Nat} {l : List NonTerm} {r : Option Nat} (h : a = b) (hs : sim b l = r) : sim a l = r :=
  h ▸ hs

theorem Inv.need {toks : List Token} {top : NonTerm} {nt : List NonTerm} {term : List Ms}
    (h : Inv ⟨toks, top :: nt, term⟩) : need top ≤ term.length ∧ sim (after term.length top) nt = some 1 := by
  simp only [Inv, sim] at h
  split at h
  · exact ⟨‹_›, h⟩
  · cases h

theorem stepNT_inv {dec : AtomDec} {env : KeyEnv} {ctx : Ctx} {top : NonTerm}
    {toks : List Token} {nt : List NonTerm} {term : List Ms} {s' : DState}
    (h : Inv ⟨toks, top :: nt, term⟩) (hs : stepNT dec env ctx top ⟨toks, nt, term⟩ = .ok s') : Inv s' := by
  obtain ⟨hneed, hinv⟩ := h.need
  -- each arm moves the height as `after` says
  cases stepNT_trans hs with
  | expr ha =>
    simp only [Inv, List.length_append, sim_append, exprShape_sim ha.armOk.1]
    simpa [after] using hinv
  | threshE hp _ _ =>
    obtain ⟨hn, _, rfl⟩ := popN_spec _ _ _ _ hp
    simp only [need, after] at hneed hinv
    exact sim_congr (by simp only [List.length_cons, List.length_drop]) hinv
  | _ =>
    simp only [need, after, List.length_cons] at hneed hinv
    simp (disch := (simp only [need, after, List.length_cons] <;> omega)) only
      [Inv, sim_cons_of_le, after, List.length_cons]
    exact sim_congr (by omega) hinv

theorem stepNT_no_panic {dec : AtomDec} {env : KeyEnv} {ctx : Ctx} {top : NonTerm}
    {toks : List Token} {nt : List NonTerm} {term : List Ms} (h : Inv ⟨toks, top :: nt, term⟩) :
    stepNT dec env ctx top ⟨toks, nt, term⟩ ≠ .error .panic :=
  fun hp => absurd (stepNT_panic hp) (Nat.not_lt.mpr h.need.1)

theorem decodeLoop_no_panic {dec : AtomDec} {env : KeyEnv} {ctx : Ctx} :
    ∀ (fuel : Nat) (s : DState), Inv s → decodeLoop dec env ctx fuel s ≠ some (.error .panic) := by
  intro fuel
  induction fuel with
  | zero => intro s _; simp [decodeLoop]
  | succ f ih =>
    intro s hinv
    obtain ⟨toks, nt, term⟩ := s
    cases nt with
    | nil =>
      simp only [Inv, sim] at hinv
      simp only [decodeLoop]
      match term, hinv with
      | [m], _ => simp
    | cons top nt =>
      cases hs : stepNT dec env ctx top ⟨toks, nt, term⟩ with
      | error e =>
        rw [decodeLoop_error hs]
        intro h
        cases h
        exact stepNT_no_panic hinv hs
      | ok s' => rw [decodeLoop_ok hs]; exact ih s' (stepNT_inv hinv hs)

end DecodeL
end MsVerif
