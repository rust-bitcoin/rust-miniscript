/-
XOR-combinations of `Nat` bit vectors; what the kernel-evaluated tables of C10 share: `seqNat`, to force
intermediate values, and `distinctBits`, the one-pass check that a list has no repetition.
-/
namespace MsVerif.Checksum.Rank

def comb : List Bool → List Nat → Nat
  | c :: cs, v :: vs => (if c then v else 0) ^^^ comb cs vs
  | _, _ => 0

/-- force `x` to a literal before continuing (the kernel evaluates lazily without sharing) -/
def seqNat {α : Sort _} (x : Nat) (k : Nat → α) : α :=
  match x with
  | 0 => k 0
  | n + 1 => k (n + 1)

theorem seqNat_eq {α : Sort _} (x : Nat) (k : Nat → α) : seqNat x k = k x := by
  cases x <;> rfl

theorem xor_cancel_left (v x : Nat) : v ^^^ (v ^^^ x) = x := by
  rw [← Nat.xor_assoc, Nat.xor_self, Nat.zero_xor]

theorem xor_pair (w v x : Nat) : (w ^^^ v) ^^^ (x ^^^ v) = w ^^^ x := by
  rw [Nat.xor_assoc, Nat.xor_comm x v, xor_cancel_left]

theorem comb_nil_right (cs : List Bool) : comb cs [] = 0 := by cases cs <;> rfl

end MsVerif.Checksum.Rank

namespace MsVerif.Checksum

/-- no number occurs twice; `seen` is the set of numbers met so far, as a bit set (one pass; every value is forced,
the kernel evaluating lazily without sharing) -/
def distinctBits : List Nat → Nat → Bool
  | [], _ => true
  | x :: xs, seen =>
    Rank.seqNat x fun x => !seen.testBit x && Rank.seqNat (seen ||| 1 <<< x) fun seen' => distinctBits xs seen'

theorem distinctBits_sound : ∀ {l : List Nat} {seen : Nat}, distinctBits l seen = true →
    l.Nodup ∧ ∀ x ∈ l, seen.testBit x = false
  | [], _, _ => ⟨List.nodup_nil, fun _ h => nomatch h⟩
  | x :: xs, seen, h => by
    simp only [distinctBits, Rank.seqNat_eq, Bool.and_eq_true, Bool.not_eq_true'] at h
    obtain ⟨hn, hs⟩ := distinctBits_sound h.2
    simp only [Nat.testBit_or, Nat.one_shiftLeft, Nat.testBit_two_pow, Bool.or_eq_false_iff,
      decide_eq_false_iff_not] at hs
    refine ⟨List.nodup_cons.mpr ⟨fun hx => (hs x hx).2 rfl, hn⟩, fun y hy => ?_⟩
    rcases List.mem_cons.mp hy with e | e
    · rw [e]; exact h.1
    · exact (hs y e).1

end MsVerif.Checksum
