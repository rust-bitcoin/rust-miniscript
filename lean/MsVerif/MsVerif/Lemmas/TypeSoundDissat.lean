/-
C06, the `d` letter: `dissat_stack_of_type` composes
C07.`dissatisfiable_of_type` (type `d` ⇒ the specification's table has a canonical
dissatisfaction) and C02.`mall_complete_table` (table ⇒ the satisfier model returns a
dissatisfaction stack, here for a caller who holds NOTHING: no signature, no preimage, no
lock).  Thm/C06.lean runs that stack, realised, by C01.`dissat_sound`, under any signature oracle (`agrees_oracle`).
`Toy`: the world of the non-vacuity examples of Thm/C06.lean.
-/
import MsVerif.Thm.C02
import MsVerif.Thm.C07

namespace MsVerif.TypeSound
open MsVerif MsVerif.Script MsVerif.SatSpec MsVerif.SatTable MsVerif.Complete

def noAssets : Assets :=
  ⟨fun _ => false, fun _ => none, fun _ => none, fun _ => none, fun _ => none,
   fun _ _ => false, fun _ => false, fun _ => false⟩

def noWorld : Pol.World := ⟨fun _ => false, fun _ _ => false, 0, 0⟩

/-- the satisfier configuration of a caller who holds nothing (malleable mode: every
dissatisfaction the table has is found) -/
def noCfg (ke : KeyEnv) (ctx : Ctx) : SatCfg := ⟨ke, ctx, true, false, noAssets⟩

/-- whether the table has a canonical dissatisfaction depends on the assets only through the
known raw keys -/
theorem dsatEx_rawKey (a a' : Avail) (h : a.rawKey = a'.rawKey) (ms : Ms) : dsatEx a ms = dsatEx a' ms :=
  AccSat.dsatEx_congr a a' ms (List.all_eq_true.2 fun m _ => by cases m <;> simp [h])

theorem allDsatEx_rawKey (a a' : Avail) (h : a.rawKey = a'.rawKey) : (xs : MsList) → allDsatEx a xs = allDsatEx a' xs :=
  fun xs => by simpa only [dsatEx] using dsatEx_rawKey a a' h (.thresh 0 xs)

theorem noMixedLocks_noAssets (ms : Ms) : C02.NoMixedLocks noAssets ms := by
  intro s _ t _
  -- `lockCompat` only looks at two `after` or two `older` nodes, and `noAssets` meets no lock
  cases s with
  | after _ | older _ => cases t <;> rfl
  | _ => rfl

/-- type `d` ⇒ the satisfier, for a caller who holds nothing, returns a dissatisfaction stack -/
theorem dissat_stack_of_type (ke : KeyEnv) (ctx : Ctx) (ms : Ms) (τ : Ty) (hty : typeOf ms = some τ)
    (hr : Lift.noRaw ms = true) (hk : C02.ThreshKOK ms) (hsm : C02.SmallScript ms) (hd : τ.corr.dissat = true) :
    ∃ w, (satDissat (noCfg ke ctx) ms).dissat.stack = .stack w := by
  have h1 := C07.dissatisfiable_of_type noWorld ms τ hty hr hd
  have h2 : dsatEx (C02.avail noAssets ctx) ms = true := by
    rw [dsatEx_rawKey (C02.avail noAssets ctx) (MsSem.availOfWorld noWorld) rfl ms]
    exact h1
  exact (C02.mall_complete_table ke ctx false noAssets ms hk (noMixedLocks_noAssets ms)
    (sizesOK_of_noSchnorr _ (fun _ => rfl) (fun _ => rfl)) hsm).2 h2

/-- replacing the signature oracle does not disturb what a caller WITHOUT assets needs to know -/
theorem agrees_oracle {env : Env} {ke : KeyEnv} {σ : Ph → Bytes} (h : Agrees env ke noAssets σ)
    (so : Bytes → Bytes → Bool) : Agrees { env with sigOk := so } ke noAssets σ where
  pushOne := h.pushOne
  pushZero := h.pushZero
  hashDissat := h.hashDissat
  keyShape := h.keyShape
  pkh := h.pkh
  pubkey := h.pubkey
  ecdsa k hk := by simp [noAssets] at hk
  schnorr k sz hk := by simp [noAssets] at hk
  rawPk hh sz hk := by simp [noAssets] at hk
  rawEcdsa hh pk sz hk := by simp [noAssets] at hk
  rawSchnorr hh pk sz sz' hk := by simp [noAssets] at hk
  preimage kind hh hk := by simp [noAssets] at hk
  zeroNoPreimage := h.zeroNoPreimage
  sizeOk := h.sizeOk


namespace Toy
/-- 33-byte "compressed keys" `02 00…00 k` -/
def ser (k : Key) : Bytes := 2 :: (List.replicate 31 0 ++ [UInt8.ofNat k])
/-- 32-byte preimages `09…09 h` -/
def pre (h : Nat) : Bytes := List.replicate 31 9 ++ [UInt8.ofNat h]
/-- toy hash: append a byte (injective, so "collision free") -/
def toyHash (b : Bytes) : Bytes := b ++ [7]

def ke : KeyEnv where
  ser := ser
  sortKey := ser
  pkh k := toyHash (ser k)
  rawPkh h := toyHash (ser h)
  hashVal _ h := toyHash (pre h)

/-- segwit-v0 standardness flags, limits off; a signature is valid iff it is `key ++ [1]` -/
def env (lockTime seq : Nat) : Env where
  flags := ⟨false, true, true, true, true, false, false⟩
  sigOk pk sig := sig == pk ++ [1]
  hash _ b := toyHash b
  nLockTime := lockTime
  nSequence := seq
  txVersion := 2

def σ : Ph → Bytes
  | .pubkey k _ => ser k
  | .pubkeyHash h _ => ser h
  | .ecdsaSig k => ser k ++ [1]
  | .ecdsaSigPkh h => ser h ++ [1]
  | .schnorrSig k _ => ser k ++ [1]
  | .schnorrSigPkh h _ => ser h ++ [1]
  | .preimage _ h => pre h
  | .hashDissat => List.replicate 32 0
  | .pushOne => [1]
  | .pushZero => []

def pk (k : Key) : Ms := .check (.pkK k)

theorem envOk (lt sq : Nat) : EnvOk (env lt sq) .segwitv0 := ⟨rfl, rfl, rfl⟩

theorem keyOk (lt sq : Nat) (k : Key) : pubkeyOk (env lt sq) (ser k) = true := by
  simp [pubkeyOk, env, ser]

/-- in the toy world every signature / preimage the satisfier could hold is genuine, so `Agrees`
holds for every asset set -/
theorem agrees (lt sq : Nat) (a : Assets) : Agrees (env lt sq) ke a σ where
  pushOne := rfl
  pushZero := rfl
  hashDissat := rfl
  keyShape := keyOk lt sq
  pkh _ := rfl
  pubkey _ _ := rfl
  ecdsa k _ := ⟨by simp [σ], by simp [env, σ, ke]⟩
  schnorr k _ _ := ⟨by simp [σ], by simp [env, σ, ke]⟩
  rawPk h _ _ := ⟨rfl, keyOk lt sq h⟩
  rawEcdsa h _ _ _ := ⟨by simp [σ], by simp [env, σ]⟩
  rawSchnorr h _ _ _ _ := ⟨by simp [σ], by simp [env, σ]⟩
  preimage _ h _ := ⟨by simp [σ, pre], rfl⟩
  zeroNoPreimage _ h := by
    intro e
    have := congrArg List.head? e
    simp [env, ke, toyHash, pre, List.replicate] at this
  sizeOk p := by cases p <;> simp [σ, ser, pre]
end Toy

end MsVerif.TypeSound
