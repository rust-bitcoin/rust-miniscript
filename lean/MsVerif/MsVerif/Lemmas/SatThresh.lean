/-
Soundness of the satisfier model for `thresh`: whichever children the satisfier chooses to
satisfy (`ch`), running the ADD chain on the concatenated witnesses leaves the number of
satisfied children; the satisfier always satisfies exactly `k` (`thresh_sat_pick`), so the final
`k EQUAL` leaves `[1]`; the all-dissatisfied stack leaves `[]` because `k ≥ 1`.
-/
import MsVerif.Lemmas.SatCasesN

namespace MsVerif.SatSpec
open MsVerif Script

variable {env : Env} {σ : Ph → Bytes} {cfg : SatCfg}

theorem thresh_sat_choice (k : Nat) (xs : MsList) (hk : k ≤ xs.length) {w : List Ph}
    (hw : Good env (satDissat cfg (.thresh k xs)).sat w) :
    ∃ ch : List Bool, ch.length = xs.length ∧ ch.count true = k ∧
      Good env (foldConcat (pick ch (satDissats cfg xs))) w := by
  obtain ⟨ch, hl, hc, hg⟩ := thresh_sat_pick (P := fun s => Good env s w) good_impossible
    (fun h => Wit.noConfusion h.1) cfg k xs hw
  exact ⟨ch, hl, hc.trans (Nat.min_eq_left hk), hg⟩

def SoundList (env : Env) (σ : Ph → Bytes) (cfg : SatCfg) : MsList → List Corr → Prop
  | .nil, [] => True
  | .cons x xs, c :: cs =>
    Sound env cfg.env cfg.ctx σ c x (satDissat cfg x) ∧ SoundList env σ cfg xs cs
  | _, _ => False

theorem stk_flatten_cons (w0 : List Ph) (ws : List (List Ph)) :
    stk σ (w0 :: ws).reverse.flatten = stk σ w0 ++ stk σ ws.reverse.flatten := by
  simp [stk]

theorem numEncode_zero : numEncode 0 = [] := Script.numEncode_zero
theorem numEncode_one : numEncode 1 = [1] := Script.numEncode_one

theorem vote_W {x : Ms} {c : Corr} {sd : SatDissat} (hc : c.base = .W ∧ c.unit = true)
    (hx : Sound env cfg.env cfg.ctx σ c x sd) (b : Bool) {w0 : List Ph}
    (hg : Good env (if b then sd.sat else sd.dissat) w0) (top : Bytes) (rest : List Bytes) :
    ∃ v, num4 env v = .ok ((b.toNat : Nat) : Int) ∧
      (Runs (frag env cfg.env cfg.ctx x) (top :: (stk σ w0 ++ rest)) (top :: v :: rest) ∨
       Runs (frag env cfg.env cfg.ctx x) (top :: (stk σ w0 ++ rest)) (v :: top :: rest)) := by
  cases b with
  | true =>
    obtain ⟨v, _, hu, hr⟩ := (satRuns_W hc.1).mp (hx.sat _ hg) top rest
    cases hu hc.2
    exact ⟨[1], Script.num4_one env, hr⟩
  | false => exact ⟨[], Script.num4_nil env, (disRuns_W hc.1).mp (hx.dis _ hg) top rest⟩

theorem vote_B {x : Ms} {c : Corr} {sd : SatDissat} (hc : c.base = .B ∧ c.unit = true)
    (hx : Sound env cfg.env cfg.ctx σ c x sd) (b : Bool) {w0 : List Ph}
    (hg : Good env (if b then sd.sat else sd.dissat) w0) (rest : List Bytes) :
    Runs (frag env cfg.env cfg.ctx x) (stk σ w0 ++ rest) (numEncode ((b.toNat : Nat) : Int) :: rest) := by
  cases b with
  | true =>
    obtain ⟨v, hr, _, hu⟩ := (satRuns_B hc.1).mp (hx.sat _ hg) rest
    cases hu hc.2
    exact hr
  | false => exact (disRuns_B hc.1).mp (hx.dis _ hg) rest

/-- children 2..n (all `W`, unit): each consumes its witness below the running sum and ADDs
0 or 1 -/
theorem thresh_tail (h : EnvOk env cfg.ctx) : (xs : MsList) → (cs : List Corr) → (ch : List Bool) →
    (ws : List (List Ph)) → (acc : Nat) → (rest : List Bytes) →
    SoundList env σ cfg xs cs → (∀ c ∈ cs, c.base = .W ∧ c.unit = true) →
    ch.length = xs.length → All2 (Good env) (pick ch (satDissats cfg xs)) ws →
    (∀ j, j ≤ acc + xs.length → NumOk j) →
    Runs (fragThresh env cfg.env cfg.ctx false xs)
      (numEncode (acc : Int) :: (stk σ ws.reverse.flatten ++ rest))
      (numEncode ((acc + ch.count true : Nat) : Int) :: rest)
  | .nil, cs, ch, ws, acc, rest, _, _, hch, hws, _ => by
    have : ch = [] := by simpa [MsList.length] using hch
    subst this
    cases hws
    simpa [stk] using fragThresh_nil (env := env) (ke := cfg.env) (ctx := cfg.ctx) false _
  | .cons x xs, [], _, _, _, _, hs, _, _, _, _ => by simp [SoundList] at hs
  | .cons x xs, c :: cs, [], _, _, _, _, _, hch, _, _ => by simp [MsList.length] at hch
  | .cons x xs, c :: cs, b :: ch, ws, acc, rest, hs, hcs, hch, hws, hnum => by
    simp only [satDissats, pick, List.zipWith_cons_cons] at hws
    simp only [MsList.length, List.length_cons] at hnum hch
    cases hws with
    | @cons _ w0 _ ws' hg hws' =>
    have hb : b.toNat ≤ 1 := by cases b <;> simp
    rw [stk_flatten_cons, List.append_assoc]
    obtain ⟨v, hv, hr⟩ := vote_W (hcs c (by simp)) hs.1 b hg (numEncode (acc : Int))
      (stk σ ws'.reverse.flatten ++ rest)
    have ih := thresh_tail h xs cs ch ws' (acc + b.toNat) rest hs.2
      (fun c' hc' => hcs c' (by simp [hc'])) (by omega) hws' (fun j hj => hnum j (by omega))
    have hcount : acc + (b :: ch).count true = acc + b.toNat + ch.count true := by
      cases b <;> simp <;> omega
    rw [hcount]
    have hacc := (hnum acc (by omega)).num4 env
    rcases hr with hr | hr
    · refine fragThresh_cons_add h.nl hr hacc hv ?_
      rw [show ((b.toNat : Nat) : Int) + (acc : Int) = ((acc + b.toNat : Nat) : Int) by omega]
      exact ih
    · refine fragThresh_cons_add h.nl hr hv hacc ?_
      rw [show (acc : Int) + ((b.toNat : Nat) : Int) = ((acc + b.toNat : Nat) : Int) by omega]
      exact ih

/-- all children: the first is `B`, the others `W` -/
theorem thresh_run (h : EnvOk env cfg.ctx) (x : Ms) (xs : MsList) (c : Corr) (cs : List Corr)
    (ch : List Bool) (ws : List (List Ph)) (rest : List Bytes)
    (hs : SoundList env σ cfg (.cons x xs) (c :: cs)) (hc0 : c.base = .B ∧ c.unit = true)
    (hcs : ∀ c ∈ cs, c.base = .W ∧ c.unit = true)
    (hch : ch.length = (MsList.cons x xs).length)
    (hws : All2 (Good env) (pick ch (satDissats cfg (.cons x xs))) ws)
    (hnum : ∀ j, j ≤ (MsList.cons x xs).length → NumOk j) :
    Runs (fragThresh env cfg.env cfg.ctx true (.cons x xs)) (stk σ ws.reverse.flatten ++ rest)
      (numEncode ((ch.count true : Nat) : Int) :: rest) := by
  cases ch with
  | nil => simp [MsList.length] at hch
  | cons b ch =>
    simp only [satDissats, pick, List.zipWith_cons_cons] at hws
    simp only [MsList.length, List.length_cons] at hnum hch
    cases hws with
    | @cons _ w0 _ ws' hg hws' =>
    have hb : b.toNat ≤ 1 := by cases b <;> simp
    rw [stk_flatten_cons, List.append_assoc]
    have hcount : (b :: ch).count true = b.toNat + ch.count true := by cases b <;> simp <;> omega
    rw [hcount]
    exact fragThresh_cons_first (vote_B hc0 hs.1 b hg _)
      (thresh_tail h xs cs ch ws' b.toNat rest hs.2 hcs (by omega) hws' (fun j hj => hnum j (by omega)))

theorem thresh_case (h : EnvOk env cfg.ctx) (k : Nat) (x : Ms) (xs' : MsList) (c0 : Corr)
    (cs' : List Corr) (c : Corr) (hwf : WF cfg.ctx (.thresh k (.cons x xs'))) (hcB : c.base = .B)
    (hc0 : c0.base = .B ∧ c0.unit = true) (hcs : ∀ c ∈ cs', c.base = .W ∧ c.unit = true)
    (hs : SoundList env σ cfg (.cons x xs') (c0 :: cs')) :
    Sound env cfg.env cfg.ctx σ c (.thresh k (.cons x xs')) (satDissat cfg (.thresh k (.cons x xs'))) := by
  simp only [WF] at hwf
  obtain ⟨hk1, hkn, hlt, _⟩ := hwf
  have hnum : ∀ j, j ≤ (MsList.cons x xs').length → NumOk j := fun j hj => numOk_of_lt j (by omega)
  have hkk : NumOk k := hnum k hkn
  constructor
  · intro w hw
    obtain ⟨ch, hchl, hcnt, hg⟩ := thresh_sat_choice k (.cons x xs') hkn hw
    obtain ⟨ws, hws, rfl⟩ := foldConcat_good hg
    rw [satRuns_B hcB]
    intro rest
    refine ⟨[1], ?_, trueVal_one, fun _ => rfl⟩
    have run := thresh_run h x xs' c0 cs' ch ws rest hs hc0 hcs hchl hws hnum
    have := frag_thresh (k := k) h.nl run
    rw [hcnt] at this
    simpa [boolBytes] using this
  · intro w hw
    simp only [satDissat_thresh] at hw
    rw [pick_false] at hw
    obtain ⟨ws, hws, rfl⟩ := foldConcat_good hw
    rw [disRuns_B hcB]
    intro rest
    have run := thresh_run h x xs' c0 cs' _ ws rest hs hc0 hcs
      (by simp [satDissats_length]) hws hnum
    have := frag_thresh (k := k) h.nl run
    have hcount : (List.replicate (satDissats cfg (MsList.cons x xs')).length false).count true = 0 := by
      simp [List.count_replicate]
    rw [hcount] at this
    have hne : ¬ numEncode (k : Int) = numEncode 0 := by
      intro e
      have := Script.numEncode_inj (a := k) (b := 0) (by omega) (by omega) e
      omega
    simpa [boolBytes, hne] using this

end MsVerif.SatSpec
