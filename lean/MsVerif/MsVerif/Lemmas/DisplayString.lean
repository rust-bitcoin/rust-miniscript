/-
The shape of a spelling (`Spells.shape`): wrappers handed to the prefix and nodes over atoms and spellings of
smaller subterms.  From it: no spelling has curly brackets, and the tree `Display` prints is well-formed for the
expression grammar and nests at most `height + 1` deep.  With `Expr.fromStr_print_then` the last two lift the
tree-level round trip to CHARACTERS.
-/
import MsVerif.Lemmas.DisplayMain

namespace MsVerif.Display
open MsVerif.Expr

/-- the atoms print without the characters `(){},#` and inside the descriptor character set -/
structure CodecNames (c : Codec) : Prop where
  key : ∀ k, NameOk (c.showKey k)
  hash : ∀ kind h, NameOk (c.showHash kind h)
  raw : ∀ h, NameOk (c.showRaw h)

theorem frag_nameOk (f : Frag) : NameOk f.name :=
  nameOk_of_all _ (frag_table f).2.2

theorem colon_ok : CharOk ':' := charOkB_ok _ (by decide)

theorem joinName_ok (pre : List Char) (f : Frag) (hp : NameOk pre) :
    NameOk (joinName pre f.name) := by
  unfold joinName
  split
  · exact frag_nameOk f
  · intro ch hc
    simp only [List.mem_append, List.mem_cons] at hc
    rcases hc with h | h | h
    · exact hp ch h
    · subst h; exact colon_ok
    · exact frag_nameOk f ch h

theorem digit_ok (k : Nat) : CharOk (digit k) := by
  unfold digit
  split <;> exact charOkB_ok _ (by decide)

theorem showNat_nameOk (n : Nat) : NameOk (showNat n) := by
  induction n using Nat.strongRecOn with
  | _ n ih =>
    by_cases h : n < 10
    · rw [showNat_lt n h]; intro ch hc; simp only [List.mem_singleton] at hc; subst hc; exact digit_ok n
    · rw [showNat_ge n h]
      intro ch hc
      simp only [List.mem_append, List.mem_singleton] at hc
      rcases hc with hc | hc
      · exact ih (n / 10) (by omega) ch hc
      · subst hc; exact digit_ok _

theorem leaf_wf (s : List Char) (h : NameOk s) : (leaf s).WF := by
  unfold leaf Tree.WF; exact ⟨h, by simp, by simp [Tree.WFList]⟩

theorem core_wf (pre : List Char) (f : Frag) (cs : List Tree) (hp : NameOk pre)
    (hcs : Tree.WFList cs) : (core pre f cs).WF := by
  unfold core Tree.WF
  refine ⟨joinName_ok pre f hp, ?_, hcs⟩
  cases cs <;> simp

theorem W.char_ok (w : W) : CharOk w.char := by
  cases w <;> exact charOkB_ok _ (by decide)

theorem depth_core (pre : List Char) (f : Frag) (cs : List Tree) : (core pre f cs).depth = Tree.depthList cs := by
  simp [core, Tree.depth]

/-! ### the shape of a spelling

A spelling either passes a wrapper on to the prefix and spells the argument, or is a node `core pre f kids`
whose children are leaves of atoms and spellings, without prefix, of subterms of smaller height.
`Spells.shape` is that case analysis as an induction principle; what follows are instances of it. -/

/-- the text of an atom: a key, a number, a hash or a raw key hash as the codec prints it -/
inductive Atom (c : Codec) : List Char → Prop
  | key (k : Nat) : Atom c (c.showKey k)
  | num (n : Nat) : Atom c (showNat n)
  | hash (kind : HashKind) (h : Nat) : Atom c (c.showHash kind h)
  | raw (h : Nat) : Atom c (c.showRaw h)

/-- a child of a printed node: the leaf of an atom, or the tree printed for a subterm of smaller height,
for which `P` is known -/
def Kid (c : Codec) (P : List Char → Ms → Tree → Prop) (m : Ms) (t : Tree) : Prop :=
  (∃ s, Atom c s ∧ t = leaf s) ∨ ∃ x, height x < height m ∧ P [] x t

theorem height_apply (w : W) (x : Ms) : height x < height (w.apply x) := by
  cases w <;> simp only [W.apply, height] <;> omega

theorem kids_keys {c : Codec} {P : List Char → Ms → Tree → Prop} {m : Ms} (k : Nat) (ks : List Nat) :
    ∀ t ∈ leaf (showNat k) :: ks.map (fun k => leaf (c.showKey k)), Kid c P m t := by
  intro t ht
  rcases List.mem_cons.mp ht with rfl | ht
  · exact .inl ⟨_, .num k, rfl⟩
  · obtain ⟨k', _, rfl⟩ := List.mem_map.mp ht
    exact .inl ⟨_, .key k', rfl⟩

theorem lt_max_left (a b : Nat) : a < 1 + max a b := by omega
theorem lt_max_right (a b : Nat) : b < 1 + max a b := by omega

theorem kids_two {c : Codec} {P : List Char → Ms → Tree → Prop} {m l r : Ms} {tl tr : Tree}
    (hl : height l < height m) (hr : height r < height m) (pl : P [] l tl) (pr : P [] r tr) :
    ∀ t ∈ [tl, tr], Kid c P m t := by
  intro t ht
  simp only [List.mem_cons, List.not_mem_nil, or_false] at ht
  rcases ht with rfl | rfl
  · exact .inr ⟨l, hl, pl⟩
  · exact .inr ⟨r, hr, pr⟩

theorem Leaf1.atom {c : Codec} {f : Frag} {s : List Char} {m : Ms} (h : Leaf1 c f s m) : Atom c s := by
  cases h <;> constructor

theorem Leaf1.only_pkh {c : Codec} {f : Frag} {s : List Char} {m : Ms} (h : Leaf1 c f s m) :
    f = Frag.pkh → ∃ k, m = .check (.pkH k) := by
  cases h with
  | pkh k => exact fun _ => ⟨k, rfl⟩
  | hash kind h => cases kind <;> nofun
  | _ => nofun

theorem Bin.shape {f : Frag} {g : Ms → Ms → Ms} (hb : Bin f g) (l r : Ms) :
    f ≠ Frag.pkh ∧ height l < height (g l r) ∧ height r < height (g l r) := by
  cases hb
  case and_n => exact ⟨nofun, by simp only [height]; omega, by simp only [height]; omega⟩
  all_goals exact ⟨nofun, lt_max_left _ _, lt_max_right _ _⟩

theorem Keys.ne_pkh {f : Frag} {g : Nat → List Nat → Ms} {max : Nat} (hk : Keys f g max) : f ≠ Frag.pkh := by
  cases hk <;> nofun

theorem MsList.height_mem : ∀ (xs : MsList), ∀ x ∈ xs.toList, height x ≤ heightList xs
  | .nil, _, hx => nomatch hx
  | .cons y ys, x, hx => by
    rcases List.mem_cons.mp hx with rfl | hx
    · simp only [heightList]; omega
    · have := MsList.height_mem ys x hx
      simp only [heightList]; omega

theorem exists_zip_of_mem {α β} : ∀ (as : List α) (bs : List β), as.length = bs.length →
    ∀ a ∈ as, ∃ b, (a, b) ∈ as.zip bs
  | [], _, _, _, h => nomatch h
  | _ :: _, [], h, _, _ => nomatch h
  | a :: as, b :: bs, h, a', ha => by
    rcases List.mem_cons.mp ha with rfl | ha
    · exact ⟨b, by simp⟩
    · obtain ⟨b', hb⟩ := exists_zip_of_mem as bs (by simpa using h) a' ha
      exact ⟨b', by simp [hb]⟩

theorem Spells.shape {c : Codec} {P : List Char → Ms → Tree → Prop}
    (wrap : ∀ (w : W) pre x t, P (pre ++ [w.char]) x t → P pre (w.apply x) t)
    (node : ∀ pre f m kids, (f = Frag.pkh → ∃ k, m = .check (.pkH k)) → (∀ t ∈ kids, Kid c P m t) →
      P pre m (core pre f kids))
    {pre : List Char} {t : Tree} {m : Ms} (h : Spells c pre t m) : P pre m t := by
  induction h with
  | wrap w _ ih => exact wrap w _ _ _ ih
  | tru pre => exact node pre .tru _ [] nofun nofun
  | fls pre => exact node pre .fls _ [] nofun nofun
  | leaf1 pre hl => exact node pre _ _ [_] hl.only_pkh (List.forall_mem_singleton.2 (.inl ⟨_, hl.atom, rfl⟩))
  | bin pre hb _ _ il ir =>
    obtain ⟨hf, h1, h2⟩ := hb.shape _ _
    exact node pre _ _ [_, _] (fun e => absurd e hf) (kids_two h1 h2 il ir)
  | @andor pre ta tb tz a b z _ _ _ ia ib iz =>
    have ha : height a < height (.andOr a b z) := by simp only [height]; omega
    have hb : height b < height (.andOr a b z) := by simp only [height]; omega
    have hz : height z < height (.andOr a b z) := by simp only [height]; omega
    refine node pre .andor _ [_, _, _] nofun fun t ht => ?_
    simp only [List.mem_cons, List.not_mem_nil, or_false] at ht
    rcases ht with rfl | rfl | rfl
    · exact .inr ⟨a, ha, ia⟩
    · exact .inr ⟨b, hb, ib⟩
    · exact .inr ⟨z, hz, iz⟩
  | @thresh pre k cs xs hlen _ ih =>
    refine node pre .thresh _ (_ :: _) nofun fun t ht => ?_
    rcases List.mem_cons.mp ht with rfl | ht
    · exact .inl ⟨_, .num k, rfl⟩
    · obtain ⟨x, hx⟩ := exists_zip_of_mem cs xs.toList (hlen.trans (MsList.length_toList xs).symm) t ht
      have := MsList.height_mem xs x (List.of_mem_zip hx).2
      exact .inr ⟨x, by simp only [height]; omega, ih _ hx⟩
  | keys pre k ks hk => exact node pre _ _ _ (fun e => absurd e hk.ne_pkh) (kids_keys k ks)

theorem hasCurlyL_of_forall : ∀ (ts : List Tree), (∀ t ∈ ts, hasCurly t = false) → hasCurlyL ts = false
  | [], _ => rfl
  | t :: ts, h => by
    rw [hasCurlyL, h t List.mem_cons_self, hasCurlyL_of_forall ts fun u hu => h u (List.mem_cons_of_mem _ hu)]
    rfl

theorem Spells.noCurly {c : Codec} {pre : List Char} {t : Tree} {m : Ms} (h : Spells c pre t m) :
    hasCurly t = false :=
  h.shape (P := fun _ _ t => hasCurly t = false) (fun _ _ _ _ h => h)
    (fun _ _ _ kids _ hk => hasCurly_core _ _ _ (hasCurlyL_of_forall kids fun t ht =>
      match hk t ht with
      | .inl ⟨_, _, e⟩ => e ▸ rfl
      | .inr ⟨_, _, h⟩ => h))

theorem toTreeW_noCurly (c : Codec) (m : Ms) (pre : List Char) : hasCurly (toTreeW c pre m) = false :=
  (toTreeW_spells c m pre).noCurly

theorem toTreeList_noCurly (c : Codec) : ∀ (xs : MsList), hasCurlyL (toTreeList c xs) = false
  | .nil => rfl
  | .cons x xs => by rw [toTreeList, hasCurlyL, toTreeW_noCurly c x [], toTreeList_noCurly c xs]; rfl

theorem plainTreeW_noCurly (c : Codec) : ∀ (m : Ms) (pre : List Char), hasCurly (plainTreeW c pre m) = false :=
  fun m pre => (plainTreeW_spells c m pre).noCurly

theorem plainTreeList_noCurly (c : Codec) : ∀ (xs : MsList), hasCurlyL (plainTreeList c xs) = false
  | .nil => rfl
  | .cons x xs => by
    rw [plainTreeList, hasCurlyL, plainTreeW_noCurly c x [], plainTreeList_noCurly c xs]; rfl

theorem Spells.fromTree_eq {c : Codec} {t : Tree} {m : Ms} (h : Spells c [] t m)
    (hall : Ms.all (nodeOk c) m = true) : fromTree c t = .ok m :=
  fromTree_of c t m h.noCurly (h.parse [] rfl hall) hall

theorem Spells.same {c : Codec} {t u : Tree} {m : Ms} (ht : Spells c [] t m) (hu : Spells c [] u m)
    (hall : Ms.all (nodeOk c) m = true) : fromTree c t = fromTree c u := by
  rw [ht.fromTree_eq hall, hu.fromTree_eq hall]

theorem wfList_of_forall : ∀ (ts : List Tree), (∀ t ∈ ts, t.WF) → Tree.WFList ts
  | [], _ => trivial
  | t :: ts, h => ⟨h t List.mem_cons_self, wfList_of_forall ts fun u hu => h u (List.mem_cons_of_mem _ hu)⟩

theorem Atom.nameOk {c : Codec} (hn : CodecNames c) {s : List Char} : Atom c s → NameOk s
  | .key k => hn.key k
  | .num n => showNat_nameOk n
  | .hash kind h => hn.hash kind h
  | .raw h => hn.raw h

theorem Spells.wf {c : Codec} (hn : CodecNames c) {pre : List Char} {t : Tree} {m : Ms}
    (h : Spells c pre t m) : NameOk pre → t.WF :=
  h.shape (P := fun pre _ t => NameOk pre → t.WF)
    (fun w _ _ _ ih hp => ih (hp.snoc _ (W.char_ok w)))
    (fun _ _ _ kids _ hk hp => core_wf _ _ _ hp (wfList_of_forall kids fun t ht =>
      match hk t ht with
      | .inl ⟨s, ha, e⟩ => e ▸ leaf_wf s (ha.nameOk hn)
      | .inr ⟨_, _, h⟩ => h NameOk.nil))

theorem toTreeW_wf (c : Codec) (hn : CodecNames c) (m : Ms) (pre : List Char)
    (hp : NameOk pre) : (toTreeW c pre m).WF :=
  (toTreeW_spells c m pre).wf hn hp

theorem toTreeList_wf (c : Codec) (hn : CodecNames c) : ∀ (xs : MsList), Tree.WFList (toTreeList c xs)
  | .nil => trivial
  | .cons x xs => ⟨toTreeW_wf c hn x [] NameOk.nil, toTreeList_wf c hn xs⟩

theorem depthList_le : ∀ (ts : List Tree) (d : Nat), (∀ t ∈ ts, t.depth ≤ d) → Tree.depthList ts ≤ d + 1
  | [], _, _ => Nat.zero_le _
  | t :: ts, d, h => by
    have h1 := h t List.mem_cons_self
    have h2 := depthList_le ts d fun u hu => h u (List.mem_cons_of_mem _ hu)
    rw [Tree.depthList]; omega

theorem Spells.depth {c : Codec} {pre : List Char} {t : Tree} {m : Ms} (h : Spells c pre t m) :
    t.depth ≤ height m + 1 :=
  h.shape (P := fun _ m t => t.depth ≤ height m + 1)
    (fun w _ x _ ih => Nat.le_trans ih (Nat.le_succ_of_le (height_apply w x)))
    (fun _ _ m kids _ hk => depth_core _ _ kids ▸ depthList_le kids (height m) fun t ht =>
      match hk t ht with
      | .inl ⟨_, _, e⟩ => e ▸ Nat.zero_le _
      | .inr ⟨_, hx, h⟩ => Nat.le_trans h hx)

theorem toTreeW_depth (c : Codec) (m : Ms) (pre : List Char) : (toTreeW c pre m).depth ≤ height m + 1 :=
  (toTreeW_spells c m pre).depth

theorem toTreeList_depth (c : Codec) : ∀ (xs : MsList), Tree.depthList (toTreeList c xs) ≤ heightList xs + 2
  | .nil => Nat.zero_le _
  | .cons x xs => by
    have h1 := toTreeW_depth c x []
    have h2 := toTreeList_depth c xs
    simp only [toTreeList, Tree.depthList, heightList]; omega

end MsVerif.Display
