/-
C07, timelock refusal: the model's `has_mixed_timelocks` (the `contains_combination` flag that
`ExtData` folds bottom-up, Model/Ext.lean) is exactly the specification's "some structural
spending path mixes height and time" (`Spec/MsSem.lean`: `hasMixedPath true`) — stated in Thm/C07.lean (`has_mixed_timelocks_exact`);
here the representation it rests on (`rep_ms`) and, at the end, that the satisfiable paths are among the structural ones
(`lockSigs_mono`, `hasMixedPath_mono`).

Method: every node's `TimelockInfo` REPRESENTS the node's set of path signatures (`Rep`): the
four unit flags say which lock kinds occur on some path, `containsCombination` says some path is
mixed, and the set is non-empty.  `and` / `or` are direct; for `thresh` the specification's table
(entry j = signatures reachable by choosing exactly j of the children seen so far) is related to
the state of `combine_threshold`'s fold by an invariant with two ghost bits (some child mixed;
some two children contribute a height and a time lock of one kind).
-/
import MsVerif.Model.Lift
import MsVerif.Spec.MsSem
import MsVerif.Lemmas.CoreExt

namespace MsVerif.LiftLocks
open MsVerif MsVerif.MsSem MsVerif.Lift

theorem mem_all (x : LockSig) : x ∈ LockSig.all := by
  cases x with
  | mk a b c d => cases a <;> cases b <;> cases c <;> cases d <;> decide

theorem mem_norm {l : List LockSig} {x : LockSig} : x ∈ normSigs l ↔ x ∈ l := by
  simp [normSigs, mem_all]

theorem mem_cross {a b : List LockSig} {z : LockSig} :
    z ∈ crossSigs a b ↔ ∃ x ∈ a, ∃ y ∈ b, z = x.or y := by
  simp only [crossSigs, mem_norm, List.mem_flatMap, List.mem_map]
  constructor
  · rintro ⟨x, hx, y, hy, rfl⟩; exact ⟨x, hx, y, hy, rfl⟩
  · rintro ⟨x, hx, y, hy, rfl⟩; exact ⟨x, hx, y, hy, rfl⟩

theorem mem_union {a b : List LockSig} {z : LockSig} : z ∈ unionSigs a b ↔ z ∈ a ∨ z ∈ b := by
  simp [unionSigs, mem_norm]

def Has (f : LockSig → Bool) (S : List LockSig) : Prop := ∃ x ∈ S, f x = true
def NE (S : List LockSig) : Prop := ∃ x, x ∈ S

theorem has_union (f : LockSig → Bool) (a b : List LockSig) :
    Has f (unionSigs a b) ↔ Has f a ∨ Has f b := by
  simp only [Has, mem_union, or_and_right, exists_or]

theorem ne_union (a b : List LockSig) : NE (unionSigs a b) ↔ NE a ∨ NE b := by
  simp only [NE, mem_union, exists_or]

theorem ne_cross (a b : List LockSig) : NE (crossSigs a b) ↔ NE a ∧ NE b := by
  unfold NE
  constructor
  · rintro ⟨z, hz⟩
    obtain ⟨x, hx, y, hy, _⟩ := mem_cross.mp hz
    exact ⟨⟨x, hx⟩, ⟨y, hy⟩⟩
  · rintro ⟨⟨x, hx⟩, ⟨y, hy⟩⟩
    exact ⟨x.or y, mem_cross.mpr ⟨x, hx, y, hy, rfl⟩⟩

theorem has_cross_bit (f : LockSig → Bool) (hf : ∀ x y, f (x.or y) = (f x || f y))
    (a b : List LockSig) :
    Has f (crossSigs a b) ↔ (Has f a ∧ NE b) ∨ (Has f b ∧ NE a) := by
  unfold Has NE
  constructor
  · rintro ⟨z, hz, hfz⟩
    obtain ⟨x, hx, y, hy, rfl⟩ := mem_cross.mp hz
    rw [hf, Bool.or_eq_true] at hfz
    rcases hfz with h | h
    · exact Or.inl ⟨⟨x, hx, h⟩, ⟨y, hy⟩⟩
    · exact Or.inr ⟨⟨y, hy, h⟩, ⟨x, hx⟩⟩
  · rintro (⟨⟨x, hx, h⟩, ⟨y, hy⟩⟩ | ⟨⟨y, hy, h⟩, ⟨x, hx⟩⟩)
    · exact ⟨x.or y, mem_cross.mpr ⟨x, hx, y, hy, rfl⟩, by rw [hf, h]; rfl⟩
    · exact ⟨x.or y, mem_cross.mpr ⟨x, hx, y, hy, rfl⟩, by rw [hf, h]; simp⟩

def fOH : LockSig → Bool := (·.olderHeight)
def fOT : LockSig → Bool := (·.olderTime)
def fAH : LockSig → Bool := (·.afterHeight)
def fAT : LockSig → Bool := (·.afterTime)

inductive Kind | oH | oT | aH | aT

def Kind.sig : Kind → LockSig → Bool
  | .oH => fOH
  | .oT => fOT
  | .aH => fAH
  | .aT => fAT

def Kind.info : Kind → TimelockInfo → Bool
  | .oH, t => t.csvWithHeight
  | .oT, t => t.csvWithTime
  | .aH, t => t.cltvWithHeight
  | .aT, t => t.cltvWithTime

/-- the other unit of the same lock type -/
def Kind.conj : Kind → Kind
  | .oH => .oT
  | .oT => .oH
  | .aH => .aT
  | .aT => .aH

theorem Kind.sig_or (κ : Kind) (x y : LockSig) : κ.sig (x.or y) = (κ.sig x || κ.sig y) := by
  cases κ <;> rfl

theorem Kind.info_empty (κ : Kind) : κ.info {} = false := by
  cases κ <;> rfl

def HatS (a b : List LockSig) : Prop := ∃ κ : Kind, Has κ.sig a ∧ Has κ.conj.sig b

theorem mixed_or (x y : LockSig) :
    (x.or y).mixed = true ↔
      x.mixed = true ∨ y.mixed = true ∨ ∃ κ : Kind, κ.sig x = true ∧ κ.conj.sig y = true := by
  simp only [LockSig.mixed, LockSig.or, Bool.or_eq_true, Bool.and_eq_true]
  constructor
  · rintro (⟨h1 | h1, h2 | h2⟩ | ⟨h1 | h1, h2 | h2⟩)
    · exact .inl (.inl ⟨h1, h2⟩)
    · exact .inr (.inr ⟨.oH, h1, h2⟩)
    · exact .inr (.inr ⟨.oT, h2, h1⟩)
    · exact .inr (.inl (.inl ⟨h1, h2⟩))
    · exact .inl (.inr ⟨h1, h2⟩)
    · exact .inr (.inr ⟨.aH, h1, h2⟩)
    · exact .inr (.inr ⟨.aT, h2, h1⟩)
    · exact .inr (.inl (.inr ⟨h1, h2⟩))
  · rintro ((⟨h1, h2⟩ | ⟨h1, h2⟩) | (⟨h1, h2⟩ | ⟨h1, h2⟩) | ⟨κ, h1, h2⟩)
    · exact .inl ⟨.inl h1, .inl h2⟩
    · exact .inr ⟨.inl h1, .inl h2⟩
    · exact .inl ⟨.inr h1, .inr h2⟩
    · exact .inr ⟨.inr h1, .inr h2⟩
    · cases κ
      · exact .inl ⟨.inl h1, .inr h2⟩
      · exact .inl ⟨.inr h2, .inl h1⟩
      · exact .inr ⟨.inl h1, .inr h2⟩
      · exact .inr ⟨.inr h2, .inl h1⟩

theorem has_cross_mixed (a b : List LockSig) :
    Has LockSig.mixed (crossSigs a b) ↔
      (Has LockSig.mixed a ∧ NE b) ∨ (Has LockSig.mixed b ∧ NE a) ∨ HatS a b := by
  unfold HatS Has NE
  constructor
  · rintro ⟨z, hz, hm⟩
    obtain ⟨x, hx, y, hy, rfl⟩ := mem_cross.mp hz
    rcases (mixed_or x y).mp hm with h | h | ⟨κ, h1, h2⟩
    · exact .inl ⟨⟨x, hx, h⟩, y, hy⟩
    · exact .inr (.inl ⟨⟨y, hy, h⟩, x, hx⟩)
    · exact .inr (.inr ⟨κ, ⟨x, hx, h1⟩, y, hy, h2⟩)
  · rintro (⟨⟨x, hx, h⟩, y, hy⟩ | ⟨⟨y, hy, h⟩, x, hx⟩ | ⟨κ, ⟨x, hx, h1⟩, y, hy, h2⟩)
    · exact ⟨_, mem_cross.mpr ⟨x, hx, y, hy, rfl⟩, (mixed_or x y).mpr (.inl h)⟩
    · exact ⟨_, mem_cross.mpr ⟨x, hx, y, hy, rfl⟩, (mixed_or x y).mpr (.inr (.inl h))⟩
    · exact ⟨_, mem_cross.mpr ⟨x, hx, y, hy, rfl⟩, (mixed_or x y).mpr (.inr (.inr ⟨κ, h1, h2⟩))⟩

structure Rep (t : TimelockInfo) (S : List LockSig) : Prop where
  ne : NE S
  bit : ∀ κ : Kind, κ.info t = true ↔ Has κ.sig S
  mx : t.containsCombination = true ↔ Has LockSig.mixed S

theorem has_singleton (f : LockSig → Bool) (x : LockSig) : Has f [x] ↔ f x = true := by
  simp [Has]

theorem rep_lock {t : TimelockInfo} {x : LockSig} (hb : ∀ κ : Kind, κ.info t = κ.sig x)
    (hm : t.containsCombination = x.mixed) : Rep t [x] :=
  ⟨⟨x, by simp⟩, fun κ => by rw [has_singleton, hb], by rw [has_singleton, hm]⟩

theorem rep_empty : Rep {} [{}] := rep_lock (fun κ => by cases κ <;> rfl) rfl

/-- the boolean that `combine_threshold` computes for a new child against the accumulator -/
def hat (a t : TimelockInfo) : Bool :=
  (a.csvWithHeight && t.csvWithTime) || (a.csvWithTime && t.csvWithHeight)
    || (a.cltvWithTime && t.cltvWithHeight) || (a.cltvWithHeight && t.cltvWithTime)

/-- one iteration of the fold in `TimelockInfo::combine_threshold` -/
def step (k : Nat) (acc t : TimelockInfo) : TimelockInfo :=
  { csvWithHeight := acc.csvWithHeight || t.csvWithHeight
    csvWithTime := acc.csvWithTime || t.csvWithTime
    cltvWithHeight := acc.cltvWithHeight || t.cltvWithHeight
    cltvWithTime := acc.cltvWithTime || t.cltvWithTime
    containsCombination :=
      (acc.containsCombination || (decide (k > 1) && hat acc t)) || t.containsCombination }

theorem combineThreshold_eq (k : Nat) (ts : List TimelockInfo) :
    TimelockInfo.combineThreshold k ts = ts.foldl (step k) {} := rfl

theorem Kind.info_step (κ : Kind) (k : Nat) (acc t : TimelockInfo) :
    κ.info (step k acc t) = (κ.info acc || κ.info t) := by
  cases κ <;> rfl

theorem hat_iff_exists (a t : TimelockInfo) :
    hat a t = true ↔ ∃ κ : Kind, κ.info a = true ∧ κ.conj.info t = true := by
  simp only [hat, Bool.or_eq_true, Bool.and_eq_true]
  constructor
  · rintro (((h | h) | h) | h)
    · exact ⟨.oH, h⟩
    · exact ⟨.oT, h⟩
    · exact ⟨.aT, h⟩
    · exact ⟨.aH, h⟩
  · rintro ⟨κ, h⟩
    cases κ
    · exact .inl (.inl (.inl h))
    · exact .inl (.inl (.inr h))
    · exact .inr h
    · exact .inl (.inr h)

theorem hat_iff {a t : TimelockInfo} {Sa St : List LockSig} (ha : Rep a Sa) (ht : Rep t St) :
    hat a t = true ↔ HatS Sa St := by
  simp only [hat_iff_exists, HatS, ha.bit, ht.bit]

theorem step_comb (k : Nat) (acc t : TimelockInfo) :
    (step k acc t).containsCombination = true ↔
      acc.containsCombination = true ∨ (1 < k ∧ hat acc t = true) ∨ t.containsCombination = true := by
  simp only [step, Bool.or_eq_true, Bool.and_eq_true, decide_eq_true_eq, or_assoc, gt_iff_lt]

theorem rep_and {a b : TimelockInfo} {Sa Sb : List LockSig} (ha : Rep a Sa) (hb : Rep b Sb) :
    Rep (TimelockInfo.combineAnd a b) (crossSigs Sa Sb) := by
  have e : TimelockInfo.combineAnd a b = step 2 (step 2 {} a) b := rfl
  rw [e]
  refine ⟨(ne_cross _ _).mpr ⟨ha.ne, hb.ne⟩, fun κ => ?_, ?_⟩
  · rw [has_cross_bit _ κ.sig_or, ← ha.bit, ← hb.bit, Kind.info_step, Kind.info_step,
      Kind.info_empty]
    simp [ha.ne, hb.ne]
  · have hh : hat (step 2 {} a) b = hat a b := by simp [hat, step]
    rw [has_cross_mixed, ← hat_iff ha hb, ← ha.mx, ← hb.mx, step_comb, step_comb, hh]
    have h0 : hat {} a = false := rfl
    simp [ha.ne, hb.ne, h0, or_comm]

theorem rep_or {a b : TimelockInfo} {Sa Sb : List LockSig} (ha : Rep a Sa) (hb : Rep b Sb) :
    Rep (TimelockInfo.combineOr a b) (unionSigs Sa Sb) := by
  have e : TimelockInfo.combineOr a b = step 1 (step 1 {} a) b := rfl
  rw [e]
  refine ⟨(ne_union _ _).mpr (Or.inl ha.ne), fun κ => ?_, ?_⟩
  · rw [has_union, ← ha.bit, ← hb.bit, Kind.info_step, Kind.info_step, Kind.info_empty]
    simp
  · rw [has_union, ← ha.mx, ← hb.mx, step_comb, step_comb]
    simp

theorem chooseStep_eq (s : List LockSig) : ∀ (tb : List (List LockSig)) (prev : List LockSig),
    chooseStep s prev tb
      = List.zipWith (fun p cur => unionSigs cur (crossSigs p s)) (prev :: tb) tb
  | [], _ => rfl
  | cur :: rest, _ => by rw [chooseStep, chooseStep_eq s rest cur]; rfl

theorem chooseChild_length (s : List LockSig) (tb : List (List LockSig)) :
    (chooseChild s tb).length = tb.length := by
  cases tb <;> simp [chooseChild, chooseStep_eq]

theorem chooseChild_zero (s : List LockSig) (tb : List (List LockSig)) :
    (chooseChild s tb)[0]? = tb[0]? := by
  cases tb <;> simp [chooseChild]

/-- The invariant tying the fold state `acc` of `combine_threshold` after `i` children to the
specification's table.  Ghost bits: `C` = some child has a mixed path, `Pr` = two different
children contribute a height and a time lock of one kind.  The clauses for the four unit flags are
spelled out per flag; proofs read them uniformly in the lock kind through `TInv.bit`, `TInv.bitPos`. -/
structure TInv (k i : Nat) (acc : TimelockInfo) (C Pr : Bool) (table : List (List LockSig)) :
    Prop where
  len : table.length = k + 1
  comb : acc.containsCombination = (C || (decide (k > 1) && Pr))
  cPos : C = true → 1 ≤ i
  prPos : Pr = true → 2 ≤ i
  oHPos : acc.csvWithHeight = true → 1 ≤ i
  oTPos : acc.csvWithTime = true → 1 ≤ i
  aHPos : acc.cltvWithHeight = true → 1 ≤ i
  aTPos : acc.cltvWithTime = true → 1 ≤ i
  ne : ∀ j T, table[j]? = some T → (NE T ↔ j ≤ i)
  oH : ∀ j T, table[j]? = some T → (Has fOH T ↔ 1 ≤ j ∧ j ≤ i ∧ acc.csvWithHeight = true)
  oT : ∀ j T, table[j]? = some T → (Has fOT T ↔ 1 ≤ j ∧ j ≤ i ∧ acc.csvWithTime = true)
  aH : ∀ j T, table[j]? = some T → (Has fAH T ↔ 1 ≤ j ∧ j ≤ i ∧ acc.cltvWithHeight = true)
  aT : ∀ j T, table[j]? = some T → (Has fAT T ↔ 1 ≤ j ∧ j ≤ i ∧ acc.cltvWithTime = true)
  mx : ∀ j T, table[j]? = some T →
    (Has LockSig.mixed T ↔ (1 ≤ j ∧ j ≤ i ∧ C = true) ∨ (2 ≤ j ∧ j ≤ i ∧ Pr = true))

section
variable {k i : Nat} {acc : TimelockInfo} {C Pr : Bool} {table : List (List LockSig)}

theorem TInv.bit (inv : TInv k i acc C Pr table) (κ : Kind) {j : Nat} {T : List LockSig}
    (h : table[j]? = some T) : Has κ.sig T ↔ 1 ≤ j ∧ j ≤ i ∧ κ.info acc = true := by
  cases κ
  · exact inv.oH j T h
  · exact inv.oT j T h
  · exact inv.aH j T h
  · exact inv.aT j T h

theorem TInv.bitPos (inv : TInv k i acc C Pr table) (κ : Kind) (h : κ.info acc = true) :
    1 ≤ i := by
  cases κ
  · exact inv.oHPos h
  · exact inv.oTPos h
  · exact inv.aHPos h
  · exact inv.aTPos h

end

theorem getElem?_init (k j : Nat) (T : List LockSig)
    (h : (([{}] : List LockSig) :: List.replicate k [])[j]? = some T) :
    (j = 0 ∧ T = [{}]) ∨ (1 ≤ j ∧ T = []) := by
  cases j with
  | zero => simp at h; exact Or.inl ⟨rfl, h.symm⟩
  | succ j =>
    simp only [List.getElem?_cons_succ] at h
    have := List.mem_of_getElem? h
    simp only [List.mem_replicate] at this
    exact Or.inr ⟨by omega, this.2⟩

theorem has_nil (f : LockSig → Bool) : ¬ Has f [] := by simp [Has]
theorem ne_nil : ¬ NE [] := by simp [NE]

theorem tinv_init (k : Nat) : TInv k 0 {} false false ([{}] :: List.replicate k []) := by
  -- entry 0 is the empty path, the others are empty: no flag anywhere
  have flag : ∀ (f : LockSig → Bool), f {} = false → ∀ (j : Nat) (T : List LockSig),
      (([{}] : List LockSig) :: List.replicate k [])[j]? = some T → ¬ Has f T := by
    intro f hf j T h
    rcases getElem?_init k j T h with ⟨rfl, rfl⟩ | ⟨_, rfl⟩
    · simp [has_singleton, hf]
    · exact has_nil f
  exact
    { len := by simp, comb := by simp, cPos := by simp, prPos := by simp, oHPos := by simp
      oTPos := by simp, aHPos := by simp, aTPos := by simp
      ne := by
        intro j T h
        rcases getElem?_init k j T h with ⟨rfl, rfl⟩ | ⟨hj, rfl⟩
        · simp [NE]
        · simp only [ne_nil, false_iff]; omega
      oH := fun j T h => by simp [flag fOH rfl j T h]
      oT := fun j T h => by simp [flag fOT rfl j T h]
      aH := fun j T h => by simp [flag fAH rfl j T h]
      aT := fun j T h => by simp [flag fAT rfl j T h]
      mx := fun j T h => by simp [flag LockSig.mixed rfl j T h] }

theorem table_step (s : List LockSig) (tb : List (List LockSig)) (j : Nat) (T' : List LockSig)
    (h : (chooseChild s tb)[j]? = some T') :
    (j = 0 ∧ tb[0]? = some T') ∨
    (∃ j' p cur, j = j' + 1 ∧ tb[j']? = some p ∧ tb[j' + 1]? = some cur
      ∧ T' = unionSigs cur (crossSigs p s)) := by
  cases j with
  | zero => rw [chooseChild_zero] at h; exact Or.inl ⟨rfl, h⟩
  | succ j =>
    cases tb with
    | nil => simp [chooseChild] at h
    | cons t0 rest =>
      rw [chooseChild, List.getElem?_cons_succ, chooseStep_eq, List.getElem?_zipWith] at h
      cases hp : (t0 :: rest)[j]? <;> cases hc : rest[j]? <;> simp [hp, hc] at h
      exact Or.inr ⟨j, _, _, rfl, hp, by simpa using hc, h.symm⟩

/-- a unit flag through one table step (pure arithmetic + propositional part) -/
theorem bit_step {i j : Nat} {F tf : Bool} {hasNew hasCur hasP hasS neS neP : Prop}
    (hpos : F = true → 1 ≤ i)
    (hnew : hasNew ↔ hasCur ∨ ((hasP ∧ neS) ∨ (hasS ∧ neP)))
    (hcur : hasCur ↔ 1 ≤ j + 1 ∧ j + 1 ≤ i ∧ F = true)
    (hp : hasP ↔ 1 ≤ j ∧ j ≤ i ∧ F = true)
    (hs : tf = true ↔ hasS) (hneS : neS) (hneP : neP ↔ j ≤ i) :
    hasNew ↔ 1 ≤ j + 1 ∧ j + 1 ≤ i + 1 ∧ (F || tf) = true := by
  rw [hnew, hcur, hp, ← hs, hneP]
  simp only [hneS, and_true, Bool.or_eq_true]
  grind

theorem tinv_step {k i : Nat} {acc t : TimelockInfo} {C Pr : Bool} {table : List (List LockSig)}
    {s : List LockSig} (inv : TInv k i acc C Pr table) (ht : Rep t s) :
    TInv k (i + 1) (step k acc t) (C || t.containsCombination) (Pr || hat acc t)
      (chooseChild s table) := by
  have bit : ∀ (κ : Kind) (j : Nat) (T' : List LockSig), (chooseChild s table)[j]? = some T' →
      (Has κ.sig T' ↔ 1 ≤ j ∧ j ≤ i + 1 ∧ κ.info (step k acc t) = true) := by
    intro κ j T' h
    rcases table_step s table j T' h with ⟨rfl, h0⟩ | ⟨j', p, cur, rfl, hp, hc, rfl⟩
    · simpa using inv.bit κ h0
    · rw [Kind.info_step]
      exact bit_step (inv.bitPos κ) (by rw [has_union, has_cross_bit _ κ.sig_or])
        (inv.bit κ hc) (inv.bit κ hp) (ht.bit κ) ht.ne (inv.ne _ _ hp)
  exact
    { len := by rw [chooseChild_length, inv.len]
      comb := by
        simp only [step, inv.comb]
        cases C <;> cases Pr <;> cases t.containsCombination <;> cases hat acc t <;>
          cases decide (k > 1) <;> rfl
      cPos := fun _ => by omega
      prPos := by
        intro h
        rw [Bool.or_eq_true] at h
        rcases h with h | h
        · have := inv.prPos h; omega
        · obtain ⟨κ, h1, _⟩ := (hat_iff_exists _ _).mp h
          have := inv.bitPos κ h1
          omega
      oHPos := fun _ => by omega
      oTPos := fun _ => by omega
      aHPos := fun _ => by omega
      aTPos := fun _ => by omega
      ne := by
        intro j T' h
        rcases table_step s table j T' h with ⟨rfl, h0⟩ | ⟨j', p, cur, rfl, hp, hc, rfl⟩
        · have := inv.ne 0 T' h0; simp only [Nat.zero_le, iff_true] at this ⊢; exact this
        · rw [ne_union, ne_cross, inv.ne _ _ hc, inv.ne _ _ hp]
          simp only [ht.ne, and_true]; omega
      oH := bit .oH
      oT := bit .oT
      aH := bit .aH
      aT := bit .aT
      mx := by
        intro j T' h
        rcases table_step s table j T' h with ⟨rfl, h0⟩ | ⟨j', p, cur, rfl, hp, hc, rfl⟩
        · have := inv.mx 0 T' h0; simp at this ⊢; exact this
        · -- the accumulated flags represent entry j' as far as `hat` is concerned
          have hhat : HatS p s ↔ (1 ≤ j' ∧ j' ≤ i ∧ hat acc t = true) := by
            simp only [HatS, inv.bit _ hp, ← ht.bit, hat_iff_exists]
            exact ⟨fun ⟨κ, ⟨a, b, c⟩, d⟩ => ⟨a, b, κ, c, d⟩, fun ⟨a, b, κ, c, d⟩ => ⟨κ, ⟨a, b, c⟩, d⟩⟩
          rw [has_union, has_cross_mixed, inv.mx _ _ hc, inv.mx _ _ hp, inv.ne _ _ hp, hhat,
            ← ht.mx]
          have cP := inv.cPos
          have pP := inv.prPos
          simp only [ht.ne, and_true, Bool.or_eq_true]
          grind }

theorem rep_of_tinv {k n : Nat} {acc : TimelockInfo} {C Pr : Bool} {table : List (List LockSig)}
    (inv : TInv k n acc C Pr table) (hk1 : 1 ≤ k) (hkn : k ≤ n) :
    Rep acc ((table.getLast?).getD []) := by
  have hlast : table.getLast? = table[k]? := by
    rw [List.getLast?_eq_getElem?, inv.len]; rfl
  have hlt : k < table.length := by rw [inv.len]; omega
  have hk : table[k]? = some (table[k]'hlt) := List.getElem?_eq_getElem hlt
  rw [hlast, hk]
  simp only [Option.getD_some]
  refine ⟨(inv.ne _ _ hk).mpr hkn, fun κ => by rw [inv.bit κ hk]; simp [hk1, hkn], ?_⟩
  · rw [inv.mx _ _ hk, inv.comb]
    simp only [Bool.or_eq_true, Bool.and_eq_true, decide_eq_true_eq]
    grind

mutual
/-- `k ≤ n` (and `1 ≤ k` for `thresh`) at every threshold — guaranteed by `Threshold::new` -/
def kBounds : Ms → Bool
  | .alt x | .swap x | .check x | .dupIf x | .verify x | .nonZero x | .zeroNotEqual x => kBounds x
  | .andV l r | .andB l r | .orB l r | .orD l r | .orC l r | .orI l r => kBounds l && kBounds r
  | .andOr a b c => kBounds a && kBounds b && kBounds c
  | .thresh k xs => decide (1 ≤ k) && decide (k ≤ xs.length) && kBoundsL xs
  | .multi k ks | .sortedMulti k ks | .multiA k ks | .sortedMultiA k ks => decide (k ≤ ks.length)
  | _ => true
def kBoundsL : MsList → Bool
  | .nil => true
  | .cons x xs => kBounds x && kBoundsL xs
end

theorem extsOf_length (env : KeyEnv) (ctx : Ctx) : ∀ xs : MsList, (extsOf env ctx xs).length = xs.length :=
  _root_.MsVerif.extsOf_length env ctx

mutual
theorem rep_ms (env : KeyEnv) (ctx : Ctx) : ∀ ms : Ms, kBounds ms = true →
    Rep (extOf env ctx ms).timelockInfo (lockSigs true ms)
  | .tru, _ | .fls, _ | .pkK _, _ | .pkH _, _ | .rawPkH _, _ => by
    simp only [extOf, lockSigs, if_true, ExtData.pkK, ExtData.pkH]; exact rep_empty
  | .hash kind h, _ => by
    cases kind <;> simp only [extOf, lockSigs] <;> exact rep_empty
  | .after n, _ => by
    simp only [extOf, lockSigs, ExtData.after, Pol.absIsHeight, Pol.LOCKTIME_THRESHOLD]
    by_cases h : n < 500000000
    · have h' : ¬ n ≥ 500000000 := by omega
      simp only [h, h', decide_true, decide_false, if_true]
      exact rep_lock (fun κ => by cases κ <;> rfl) rfl
    · have h' : n ≥ 500000000 := by omega
      simp only [h, h', decide_true, decide_false, Bool.false_eq_true, if_false]
      exact rep_lock (fun κ => by cases κ <;> rfl) rfl
  | .older n, _ => by
    simp only [extOf, lockSigs, ExtData.older, Pol.relIsTime]
    by_cases h : (n / 4194304 % 2 == 1) = true
    · simp only [h, Bool.not_true, if_true]
      exact rep_lock (fun κ => by cases κ <;> rfl) rfl
    · have h' : (n / 4194304 % 2 == 1) = false := by simpa using h
      simp only [h', Bool.not_false, Bool.false_eq_true, if_false]
      exact rep_lock (fun κ => by cases κ <;> rfl) rfl
  | .multi k ks, hk | .sortedMulti k ks, hk | .multiA k ks, hk | .sortedMultiA k ks, hk => by
    simp only [kBounds, decide_eq_true_eq] at hk
    simp only [extOf, lockSigs, ExtData.multi, ExtData.multiA, hk, if_true]; exact rep_empty
  | .alt x, hk | .swap x, hk | .check x, hk | .dupIf x, hk | .verify x, hk | .nonZero x, hk
  | .zeroNotEqual x, hk => by
    simp only [kBounds] at hk
    simpa only [extOf, lockSigs, ExtData.castAlt, ExtData.castSwap, ExtData.castCheck,
      ExtData.castDupIf, ExtData.castVerify, ExtData.castNonZero, ExtData.castZeroNotEqual]
      using rep_ms env ctx x hk
  | .andB l r, hk | .andV l r, hk => by
    simp only [kBounds, Bool.and_eq_true] at hk
    simp only [extOf, lockSigs, ExtData.andB, ExtData.andV]
    exact rep_and (rep_ms env ctx l hk.1) (rep_ms env ctx r hk.2)
  | .orB l r, hk | .orD l r, hk | .orC l r, hk | .orI l r, hk => by
    simp only [kBounds, Bool.and_eq_true] at hk
    simp only [extOf, lockSigs, ExtData.orB, ExtData.orD, ExtData.orC, ExtData.orI]
    exact rep_or (rep_ms env ctx l hk.1) (rep_ms env ctx r hk.2)
  | .andOr a b c, hk => by
    simp only [kBounds, Bool.and_eq_true] at hk
    simp only [extOf, lockSigs, ExtData.andOr]
    exact rep_or (rep_and (rep_ms env ctx a hk.1.1) (rep_ms env ctx b hk.1.2))
      (rep_ms env ctx c hk.2)
  | .thresh k xs, hk => by
    simp only [kBounds, Bool.and_eq_true, decide_eq_true_eq] at hk
    -- against the specification's table, entry by entry (`TInv`); the same fact against the closed form
    -- of the k-of-n choice is `rep_pick` (Lemmas/LockRep.lean), which the concrete policies use
    simp only [extOf, lockSigs, ExtData.threshold, combineThreshold_eq]
    obtain ⟨C', Pr', inv⟩ := tinv_list env ctx xs hk.2 k 0 {} _ _ _ (tinv_init k)
    rw [List.foldl_map]
    rw [Nat.zero_add] at inv
    exact rep_of_tinv inv hk.1.1 hk.1.2
theorem tinv_list (env : KeyEnv) (ctx : Ctx) : ∀ xs : MsList, kBoundsL xs = true →
    ∀ (k i : Nat) (acc : TimelockInfo) (C Pr : Bool) (table : List (List LockSig)),
      TInv k i acc C Pr table →
      ∃ C' Pr', TInv k (i + xs.length)
        ((extsOf env ctx xs).foldl (fun a e => step k a e.timelockInfo) acc) C' Pr'
        (chooseSigs true xs table)
  | .nil, _, k, i, acc, C, Pr, table, inv =>
    ⟨C, Pr, by simpa [extsOf, chooseSigs, MsList.length] using inv⟩
  | .cons x xs, hk, k, i, acc, C, Pr, table, inv => by
    simp only [kBoundsL, Bool.and_eq_true] at hk
    have hx := rep_ms env ctx x hk.1
    have inv' := tinv_step inv hx
    obtain ⟨C', Pr', this⟩ := tinv_list env ctx xs hk.2 k (i + 1) _ _ _ _ inv'
    refine ⟨C', Pr', ?_⟩
    simp only [extsOf, chooseSigs, MsList.length, List.foldl_cons]
    have e : i + (xs.length + 1) = i + 1 + xs.length := by omega
    rw [e]
    exact this
end

def Sub (a b : List LockSig) : Prop := ∀ x ∈ a, x ∈ b

theorem sub_cross {a a' b b' : List LockSig} (h1 : Sub a a') (h2 : Sub b b') :
    Sub (crossSigs a b) (crossSigs a' b') := by
  intro z hz
  obtain ⟨x, hx, y, hy, rfl⟩ := mem_cross.mp hz
  exact mem_cross.mpr ⟨x, h1 x hx, y, h2 y hy, rfl⟩

theorem sub_union {a a' b b' : List LockSig} (h1 : Sub a a') (h2 : Sub b b') :
    Sub (unionSigs a b) (unionSigs a' b') := by
  intro z hz
  rcases mem_union.mp hz with h | h
  · exact mem_union.mpr (Or.inl (h1 z h))
  · exact mem_union.mpr (Or.inr (h2 z h))

def TSub (t1 t2 : List (List LockSig)) : Prop :=
  t1.length = t2.length ∧ ∀ (j : Nat) a b, t1[j]? = some a → t2[j]? = some b → Sub a b

theorem tsub_child {s1 s2 : List LockSig} {t1 t2 : List (List LockSig)} (hs : Sub s1 s2)
    (ht : TSub t1 t2) : TSub (chooseChild s1 t1) (chooseChild s2 t2) := by
  refine ⟨by rw [chooseChild_length, chooseChild_length, ht.1], ?_⟩
  intro j a b ha hb
  rcases table_step s1 t1 j a ha with ⟨rfl, h0⟩ | ⟨j1, p1, c1, rfl, hp1, hc1, rfl⟩
  · rw [chooseChild_zero] at hb
    exact ht.2 0 a b h0 hb
  · have hb'' : ∃ j' p cur, j1 + 1 = j' + 1 ∧ t2[j']? = some p ∧ t2[j' + 1]? = some cur
        ∧ b = unionSigs cur (crossSigs p s2) := by
      rcases table_step s2 t2 (j1 + 1) b hb with h | h
      · exact absurd h.1 (by omega)
      · exact h
    obtain ⟨j2, p2, c2, hj, hp2, hc2, rfl⟩ := hb''
    have : j2 = j1 := by omega
    subst this
    exact sub_union (ht.2 _ _ _ hc1 hc2) (sub_cross (ht.2 _ _ _ hp1 hp2) hs)

theorem tsub_last {t1 t2 : List (List LockSig)} (h : TSub t1 t2) :
    Sub ((t1.getLast?).getD []) ((t2.getLast?).getD []) := by
  rw [List.getLast?_eq_getElem?, List.getLast?_eq_getElem?, h.1]
  show Sub ((t1[t2.length - 1]?).getD []) ((t2[t2.length - 1]?).getD [])
  cases h1 : t1[t2.length - 1]? with
  | none => intro x hx; simp at hx
  | some a =>
    cases h2 : t2[t2.length - 1]? with
    | none =>
      have := (List.getElem?_eq_some_iff.mp h1).1
      rw [h.1] at this
      have := List.getElem?_eq_none_iff.mp h2
      omega
    | some b => exact h.2 _ a b h1 h2

theorem tsub_refl (t : List (List LockSig)) : TSub t t :=
  ⟨rfl, fun j a b ha hb => by rw [ha] at hb; cases hb; exact fun x hx => hx⟩

mutual
theorem lockSigs_mono : ∀ ms : Ms, Sub (lockSigs false ms) (lockSigs true ms)
  | .tru | .pkK _ | .pkH _ | .rawPkH _ | .hash _ _ | .after _ | .older _
  | .multi _ _ | .sortedMulti _ _ | .multiA _ _ | .sortedMultiA _ _ => by
    simp only [lockSigs]; exact fun x hx => hx
  | .fls => by simp [lockSigs, Sub]
  | .alt x | .swap x | .check x | .dupIf x | .verify x | .nonZero x | .zeroNotEqual x => by
    simp only [lockSigs]; exact lockSigs_mono x
  | .andV l r | .andB l r => by
    simp only [lockSigs]; exact sub_cross (lockSigs_mono l) (lockSigs_mono r)
  | .orB l r | .orD l r | .orC l r | .orI l r => by
    simp only [lockSigs]; exact sub_union (lockSigs_mono l) (lockSigs_mono r)
  | .andOr a b c => by
    simp only [lockSigs]
    exact sub_union (sub_cross (lockSigs_mono a) (lockSigs_mono b)) (lockSigs_mono c)
  | .thresh k xs => by
    simp only [lockSigs]
    exact tsub_last (chooseSigs_mono xs _ _ (tsub_refl _))
theorem chooseSigs_mono : ∀ (xs : MsList) (t1 t2 : List (List LockSig)), TSub t1 t2 →
    TSub (chooseSigs false xs t1) (chooseSigs true xs t2)
  | .nil, _, _, h => by simpa [chooseSigs] using h
  | .cons x xs, t1, t2, h => by
    simp only [chooseSigs]
    exact chooseSigs_mono xs _ _ (tsub_child (lockSigs_mono x) h)
end

theorem hasMixedPath_mono (ms : Ms) (h : hasMixedPath false ms = true) :
    hasMixedPath true ms = true := by
  unfold hasMixedPath at *
  rw [List.any_eq_true] at *
  obtain ⟨x, hx, hm⟩ := h
  exact ⟨x, lockSigs_mono ms x hx, hm⟩

end MsVerif.LiftLocks
