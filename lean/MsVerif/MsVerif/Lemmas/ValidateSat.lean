/-
Helper lemmas for C12 (switch `allow_unsatisfiable`): the library's size analysis finds a
satisfaction figure (`ExtData.sat_data = Some`) exactly when the specification's table of
canonical satisfactions (Spec/SatTable.lean) has a satisfaction with every asset available —
for scripts whose thresholds are in range and whose `thresh` children are all dissatisfiable
(what the type rule of `thresh` demands).
`threshold_sat_isSome` / `threshold_dissat_isSome` (when `ExtData::threshold` has a figure) are also what C09's
Lemmas/BoundsSat.lean / Lemmas/BoundsTyped.lean start from.
-/
import MsVerif.Lemmas.CoreExt
import MsVerif.Spec.CtxRules
import MsVerif.Lemmas.CoreSatTable

namespace MsVerif
open Spec SatTable

def hasSat (p : ExtData.SD) : Bool := p.1.isSome

def AllDis (l : List ExtData.SD) : Prop := ∀ p ∈ l, p.2.isSome = true

/-- entries with a satisfaction figure come first -/
def SatFirst (l : List ExtData.SD) : Prop := l.Pairwise fun p q => hasSat p = false → hasSat q = false

theorem sortKey_none_of_noSat (proj : SatData → Nat) (p : ExtData.SD) (h : hasSat p = false) :
    ExtData.sortKey proj p = none := by
  obtain ⟨s, d⟩ := p
  cases s <;> simp_all [hasSat, ExtData.sortKey]

theorem sortKey_some_of_both (proj : SatData → Nat) (p : ExtData.SD) (h1 : hasSat p = true)
    (h2 : p.2.isSome = true) : ∃ a, ExtData.sortKey proj p = some a := by
  obtain ⟨s, d⟩ := p
  cases s <;> cases d <;> simp_all [hasSat, ExtData.sortKey]

/-- an entry lacking a figure has key `none`, one with both has key `some`, and `none` sorts below every
`some`: in a vector sorted by key, largest first, the entries with a satisfaction figure come first
(every entry having a dissatisfaction figure) -/
theorem satFirst_of_sorted {proj : SatData → Nat} {l : List ExtData.SD} (hd : AllDis l)
    (h : l.Pairwise fun a b => ExtData.keyLe (ExtData.sortKey proj b) (ExtData.sortKey proj a) = true) :
    SatFirst l :=
  h.imp_of_mem fun {p q} _ hq hle hp => by
    cases hs : hasSat q with
    | false => rfl
    | true =>
      obtain ⟨a, ha⟩ := sortKey_some_of_both proj q hs (hd q hq)
      rw [ha, sortKey_none_of_noSat proj p hp] at hle
      cases hle

theorem threshFold_isSome (k : Nat) (proj : SatData → Nat) (cmb : Nat → Nat → Nat) :
    ∀ (r : List ExtData.SD) (i acc : Nat), SatFirst r → AllDis r →
      (ExtData.threshFold k proj cmb i acc r).isSome
        = decide (min (k - i) r.length ≤ r.countP hasSat)
  | [], i, acc, _, _ => by simp [ExtData.threshFold]
  | (sat, dissat) :: rest, i, acc, hsf, hd => by
    have hd' : AllDis rest := fun p hp => hd p (by simp [hp])
    have hdis : dissat.isSome = true := hd (sat, dissat) (by simp)
    simp only [ExtData.threshFold]
    by_cases hik : i < k
    · simp only [hik, if_true]
      cases sat with
      | none =>
        have hc : rest.countP hasSat = 0 := List.countP_eq_zero.2 fun q hq => by
          rw [(List.pairwise_cons.1 hsf).1 q hq rfl]; exact Bool.false_ne_true
        simp only [Option.isSome_none, List.countP_cons, hc, hasSat, List.length_cons]
        simp; omega
      | some x =>
        simp only []
        rw [threshFold_isSome k proj cmb rest (i + 1) _ (List.pairwise_cons.1 hsf).2 hd']
        simp only [List.countP_cons, hasSat, Option.isSome_some, if_true, List.length_cons]
        exact decide_eq_decide.2 (by omega)
    · simp only [hik, if_false]
      cases dissat with
      | none => simp at hdis
      | some y =>
        simp only []
        rw [threshFold_isSome k proj cmb rest (i + 1) _ (List.pairwise_cons.1 hsf).2 hd']
        have h0 : k - i = 0 := by omega
        have h1 : k - (i + 1) = 0 := by omega
        simp [h0, h1]

/-- each of the five folds of `ExtData::threshold`, on its own re-sorted vector `v`, a permutation of the
children's figures `v0` -/
theorem sorted_fold_isSome (k : Nat) (proj : SatData → Nat) (cmb : Nat → Nat → Nat)
    {v v0 : List ExtData.SD} (hp : v.Perm v0) (hd : AllDis v0) :
    (ExtData.threshFold k proj cmb 0 0 (ExtData.sortSD proj v).reverse).isSome
      = decide (min k v0.length ≤ v0.countP hasSat) := by
  obtain ⟨h1, h2⟩ := ExtData.sortSD_reverse proj v
  have hp' := h1.trans hp
  have hd' : AllDis (ExtData.sortSD proj v).reverse := fun p hp'' => hd p (hp'.mem_iff.1 hp'')
  rw [threshFold_isSome k proj cmb _ 0 0 (satFirst_of_sorted hd' h2) hd', hp'.length_eq, hp'.countP_eq,
    Nat.sub_zero]

theorem match5_isSome (a b c d e : Option Nat) (D : Bool)
    (ha : a.isSome = D) (hb : b.isSome = D) (hc : c.isSome = D) (hd : d.isSome = D)
    (he : e.isSome = D) :
    (match a, b, c, d, e with
      | some c', some s, some ss, some st, some o => some (⟨s, c', ss, st, o⟩ : SatData)
      | _, _, _, _, _ => none).isSome = D := by
  cases D with
  | false =>
    cases a with
    | none => rfl
    | some _ => cases ha
  | true =>
    obtain ⟨_, rfl⟩ := Option.isSome_iff_exists.1 ha
    obtain ⟨_, rfl⟩ := Option.isSome_iff_exists.1 hb
    obtain ⟨_, rfl⟩ := Option.isSome_iff_exists.1 hc
    obtain ⟨_, rfl⟩ := Option.isSome_iff_exists.1 hd
    obtain ⟨_, rfl⟩ := Option.isSome_iff_exists.1 he
    rfl

/-- `ExtData::threshold`: a satisfaction figure exists iff at least `min k n` children have one
(all children having a dissatisfaction figure) -/
theorem threshold_sat_isSome (k : Nat) (exts : List ExtData)
    (hd : ∀ e ∈ exts, e.dissatData.isSome = true) :
    (ExtData.threshold k exts).satData.isSome
      = decide (min k exts.length ≤ exts.countP (fun e => e.satData.isSome)) := by
  have a0 : AllDis (exts.map (fun s => (s.satData, s.dissatData))) := by
    intro p hp
    obtain ⟨e, he, rfl⟩ := List.mem_map.mp hp
    exact hd e he
  have c0 : (exts.map (fun s => (s.satData, s.dissatData))).countP hasSat
      = exts.countP (fun e => e.satData.isSome) := by
    rw [List.countP_map]; rfl
  have l0 : (exts.map (fun s => (s.satData, s.dissatData))).length = exts.length := by simp
  have p0 := List.Perm.refl (exts.map (fun s => (s.satData, s.dissatData)))
  have p1 := ((List.reverse_perm _).symm.trans (ExtData.sortSD_reverse (·.wCount) _).1).trans p0
  have p2 := ((List.reverse_perm _).symm.trans (ExtData.sortSD_reverse (·.wSize) _).1).trans p1
  have p3 := ((List.reverse_perm _).symm.trans (ExtData.sortSD_reverse (·.ssSize) _).1).trans p2
  have p4 := ((List.reverse_perm _).symm.trans (ExtData.sortSD_reverse (·.execStack) _).1).trans p3
  have f1 := sorted_fold_isSome k (·.wCount) (· + ·) p0 a0
  have f2 := sorted_fold_isSome k (·.wSize) (· + ·) p1 a0
  have f3 := sorted_fold_isSome k (·.ssSize) (· + ·) p2 a0
  have f4 := sorted_fold_isSome k (·.execStack) ExtData.execCmb p3 a0
  have f5 := sorted_fold_isSome k (·.execOps) (· + ·) p4 a0
  rw [l0, c0] at f1 f2 f3 f4 f5
  unfold ExtData.threshold
  exact match5_isSome _ _ _ _ _ _ f1 f2 f3 f4 f5

theorem threshold_dissat_isSome (k : Nat) (exts : List ExtData) :
    (ExtData.threshold k exts).dissatData.isSome = exts.all (fun e => e.dissatData.isSome) := by
  unfold ExtData.threshold
  simp only []
  suffices H : ∀ (acc : Option SatData), (exts.foldl (fun (acc : Option SatData) sub =>
      zipMap (fun a s => (⟨a.wSize + s.wSize, a.wCount + s.wCount, a.ssSize + s.ssSize,
        max a.execStack s.execStack, a.execOps + s.execOps⟩ : SatData)) acc sub.dissatData) acc).isSome
      = (acc.isSome && exts.all (fun e => e.dissatData.isSome)) by
    simpa using H (some ⟨0, 0, 0, 0, 0⟩)
  induction exts with
  | nil => intro acc; simp
  | cons e es ih => intro acc; simp only [List.foldl_cons, ih, zipMap_isSome, List.all_cons, Bool.and_assoc]

/-- every `thresh` node has only dissatisfiable children (what its type rule demands: `Bdu`
first child, `Wdu` others) -/
def kidsPred : Ms → Bool
  | .thresh _ xs => allDsatEx allAvail xs
  | _ => true
def threshKidsOK (ms : Ms) : Bool := everyNode kidsPred ms

def SatAgree (env : KeyEnv) (ctx : Ctx) (ms : Ms) : Prop :=
  (extOf env ctx ms).satData.isSome = satEx allAvail ms
    ∧ (extOf env ctx ms).dissatData.isSome = dsatEx allAvail ms

theorem filter_true (ks : List Key) : ks.filter allAvail.sig = ks := by
  simp [allAvail]

mutual
theorem satAgree_ms (env : KeyEnv) (ctx : Ctx) : (ms : Ms) → ruleRange ms = true →
    threshKidsOK ms = true → SatAgree env ctx ms
  | .tru, _, _ | .fls, _, _ | .after _, _, _ | .older _, _, _ => by
    simp [SatAgree, extOf, ExtData.TRUE, ExtData.FALSE, ExtData.after, ExtData.older, satEx,
      dsatEx, allAvail]
  | .pkK _, _, _ | .pkH _, _, _ | .rawPkH _, _, _ => by
    simp only [SatAgree, extOf, ExtData.pkK, ExtData.pkH, satEx, dsatEx, allAvail]
    cases ExtData.keySig ctx _ <;> simp
  | .hash k _, _, _ => by
    cases k <;> simp [SatAgree, extOf, ExtData.hash32, ExtData.hash20, satEx, dsatEx, allAvail]
  | .multi k ks, hr, _ | .sortedMulti k ks, hr, _ | .multiA k ks, hr, _
  | .sortedMultiA k ks, hr, _ => by
    simp only [ruleRange, everyNode, rangeOk, Bool.and_eq_true, decide_eq_true_eq] at hr
    refine ⟨?_, rfl⟩
    simp only [extOf, ExtData.multi, ExtData.multiA, Option.isSome_some, satEx, filter_true]
    simp; omega
  | .alt x, hr, hk | .swap x, hr, hk | .check x, hr, hk | .zeroNotEqual x, hr, hk => by
    obtain ⟨h1, h2⟩ := satAgree_ms env ctx x hr hk
    exact ⟨by simp only [extOf, ExtData.castAlt, ExtData.castSwap, ExtData.castCheck,
        ExtData.castZeroNotEqual, satEx, h1],
      by simp only [extOf, ExtData.castAlt, ExtData.castSwap, ExtData.castCheck,
        ExtData.castZeroNotEqual, dsatEx, h2]⟩
  | .dupIf x, hr, hk | .verify x, hr, hk | .nonZero x, hr, hk => by
    obtain ⟨h1, _⟩ := satAgree_ms env ctx x hr hk
    exact ⟨by simp only [extOf, ExtData.castDupIf, ExtData.castVerify, ExtData.castNonZero, satEx,
      Option.isSome_map, h1], rfl⟩
  | .andV l r, hr, hk | .andB l r, hr, hk | .orB l r, hr, hk | .orD l r, hr, hk | .orC l r, hr, hk
  | .orI l r, hr, hk => by
    simp only [ruleRange, threshKidsOK, everyNode, Bool.and_eq_true] at hr hk
    obtain ⟨l1, l2⟩ := satAgree_ms env ctx l hr.1.2 hk.1.2
    obtain ⟨r1, r2⟩ := satAgree_ms env ctx r hr.2 hk.2
    constructor <;>
      simp only [extOf, ExtData.andV, ExtData.andB, ExtData.orB, ExtData.orD, ExtData.orC,
        ExtData.orI, satEx, dsatEx, fmaxOpt_isSome, zipMap_isSome, Option.isSome_map, Option.isSome_none, l1,
        l2, r1, r2]
  | .andOr a b c, hr, hk => by
    simp only [ruleRange, threshKidsOK, everyNode, Bool.and_eq_true] at hr hk
    obtain ⟨a1, a2⟩ := satAgree_ms env ctx a hr.1.1.2 hk.1.1.2
    obtain ⟨b1, _⟩ := satAgree_ms env ctx b hr.1.2 hk.1.2
    obtain ⟨c1, c2⟩ := satAgree_ms env ctx c hr.2 hk.2
    exact ⟨by simp only [extOf, ExtData.andOr, satEx, fmaxOpt_isSome, zipMap_isSome, a1, a2, b1, c1],
      by simp only [extOf, ExtData.andOr, dsatEx, zipMap_isSome, a2, c2]⟩
  | .thresh k xs, hr, hk => by
    simp only [ruleRange, threshKidsOK, everyNode, Bool.and_eq_true, rangeOk, kidsPred,
      decide_eq_true_eq] at hr hk
    obtain ⟨⟨hk1, hk2⟩, hrest⟩ := hr
    obtain ⟨hkids, hkrest⟩ := hk
    obtain ⟨hs, hd, hlen⟩ := satAgree_list env ctx xs hrest hkrest
    have hdis : ∀ e ∈ extsOf env ctx xs, e.dissatData.isSome = true := by
      intro e he
      have : e.dissatData.isSome ∈ (extsOf env ctx xs).map (fun e => e.dissatData.isSome) :=
        List.mem_map.mpr ⟨e, he, rfl⟩
      rw [hd] at this
      obtain ⟨x, hx, ex⟩ := List.mem_map.mp this
      rw [← ex]
      exact List.all_eq_true.mp ((Complete.allDsatEx_eq _ xs).symm.trans hkids) x hx
    refine ⟨?_, ?_⟩
    · rw [satEx_thresh_of_allDsat _ _ _ hkids, (counts_of_allDsat allAvail xs hkids).2.2]
      simp only [extOf]
      rw [threshold_sat_isSome k _ hdis, Nat.min_eq_left (by rw [hlen]; exact hk2)]
      have : (extsOf env ctx xs).countP (fun e => e.satData.isSome)
          = (xs.toList.map (satEx allAvail)).countP id := by
        rw [← hs, List.countP_map]; rfl
      rw [this]
    · simp only [extOf, dsatEx, threshold_dissat_isSome, hkids]
      rw [List.all_eq_true]; exact hdis
theorem satAgree_list (env : KeyEnv) (ctx : Ctx) : (xs : MsList) →
    everyNodeL rangeOk xs = true → everyNodeL kidsPred xs = true →
    (extsOf env ctx xs).map (fun e => e.satData.isSome) = xs.toList.map (satEx allAvail)
      ∧ (extsOf env ctx xs).map (fun e => e.dissatData.isSome) = xs.toList.map (dsatEx allAvail)
      ∧ (extsOf env ctx xs).length = xs.length
  | .nil, _, _ => ⟨rfl, rfl, rfl⟩
  | .cons x xs, hr, hk => by
    simp only [everyNodeL, Bool.and_eq_true] at hr hk
    obtain ⟨h1, h2⟩ := satAgree_ms env ctx x hr.1 hk.1
    obtain ⟨i1, i2, i3⟩ := satAgree_list env ctx xs hr.2 hk.2
    exact ⟨by simp only [extsOf, MsList.toList, List.map_cons, h1, i1],
      by simp only [extsOf, MsList.toList, List.map_cons, h2, i2],
      by simp only [extsOf, MsList.length, List.length_cons, i3]⟩
end

/-- `sat_data = Some` ⇔ the specification's table has a satisfaction with every asset available -/
theorem satData_isSome_eq_satEx (env : KeyEnv) (ctx : Ctx) (ms : Ms) (hr : ruleRange ms = true)
    (hk : threshKidsOK ms = true) :
    (extOf env ctx ms).satData.isSome = !hasDefect_unsatisfiable ms := by
  rw [(satAgree_ms env ctx ms hr hk).1, hasDefect_unsatisfiable, Bool.not_not]

end MsVerif
