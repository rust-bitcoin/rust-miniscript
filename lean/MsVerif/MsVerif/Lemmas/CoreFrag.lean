/-
The structured fragment semantics `frag` (`Spec/Frag.lean`: what the opcodes emitted for each Miniscript fragment do
on any machine state) and the interpreter primitives it is built from (`Script.countOp`, `Script.pushElem`,
`Script.condPop`, `Script.checkSig`: the opcode counter, the stack push with its size checks, the IF/NOTIF argument
and the signature check of Bitcoin Core's `EvalScript`; `Script.run`, the flat interpreter's fold).  The primitives
are stated in closed form with the resource limits off, for the proofs that run a script forwards (C01, C13,
C17), and, those a run is taken apart at (`countOp`, `pushElem`, `condPop`, `checkSig`, `opc`, `cnd`), as what a successful step
leaves behind (C06); CHECKMULTISIG's walk over
keys and signatures, `Script.multisigLoop`, accepts every in-order matching of the signatures to (well-formed) keys whose
pairs verify, and nothing else (`multisigLoop_pairs`, `multisigLoop_true_inv`).  One unfolding equation
per fragment; the seven fragments with an IF / NOTIF through the combinators `ifThen`, `ifElse` and the `v:` tail
`verifyTail`, so that a fact about a conditional is proved once.  `CoreNum` is needed for the value `pushInt` pushes.
-/
import MsVerif.Spec.Frag
import MsVerif.Lemmas.CoreMisc
import MsVerif.Lemmas.CoreNum

namespace MsVerif.InterpSound
open MsVerif Script

/-- resource limits off: op-count and stack-size limits are static properties of a script
(C09 / C12); the interpreter of `Model/Interp` does not model them -/
structure NoLimits (env : Env) : Prop where
  op : env.flags.opLimit = false
  st : env.flags.stackLimits = false

end MsVerif.InterpSound

namespace MsVerif.Script

variable {env : Env}

theorem countOp_ok (h : env.flags.opLimit = false) (c : Core) (n : Nat) :
    countOp env c n = .ok { c with ops := c.ops + n } := by
  simp [countOp, h]

theorem countOp_inv {c c' : Core} {n : Nat} (h : countOp env c n = .ok c') :
    c' = { c with ops := c.ops + n } := by
  unfold countOp at h
  dsimp only at h
  split at h
  · cases h
  · cases h; rfl

theorem countOp_stack {c c' : Core} {n : Nat} (h : countOp env c n = .ok c') :
    c'.stack = c.stack ∧ c'.alt = c.alt := by
  rw [countOp_inv h]
  exact ⟨rfl, rfl⟩

/-- the first count fails only if the sum does -/
theorem countOp_countOp (c : Core) (m n : Nat) :
    (countOp env c m >>= fun c1 => countOp env c1 n) = countOp env c (m + n) := by
  unfold countOp
  dsimp only
  cases env.flags.opLimit && !env.flags.tapscript
  · simp only [Bool.false_and, Bool.false_eq_true, if_false, Except.bind_ok, Nat.add_assoc]
  · simp only [Bool.true_and, decide_eq_true_eq]
    split
    · rw [if_pos (by omega)]; rfl
    · simp only [Except.bind_ok, Nat.add_assoc]

theorem pushElem_ok (h : env.flags.stackLimits = false) (c : Core) (b : Bytes) :
    pushElem env c b = .ok { c with stack := b :: c.stack } := by
  simp [pushElem, h]

theorem pushElem_inv {c c' : Core} {b : Bytes} (h : pushElem env c b = .ok c') :
    c' = { c with stack := b :: c.stack } := by
  unfold pushElem at h
  dsimp only at h
  split at h
  · cases h
  · split at h
    · cases h
    · cases h; rfl

theorem pushElem_stack {c c' : Core} {b : Bytes} (h : pushElem env c b = .ok c') :
    c'.stack = b :: c.stack ∧ c'.alt = c.alt := by
  rw [pushElem_inv h]
  exact ⟨rfl, rfl⟩

theorem condPop_ok {nf v : Bool} {c c' : Core} (h : condPop env nf c = .ok (v, c')) :
    ∃ a, c.stack = a :: c'.stack ∧ c'.alt = c.alt ∧ c'.ops = c.ops := by
  unfold condPop at h
  split at h
  · rename_i a r hs
    split at h
    · cases h
    · cases h; exact ⟨a, hs, rfl, rfl⟩
  · cases h

theorem condPop_ops {nf v : Bool} {c c' : Core} (h : condPop env nf c = .ok (v, c')) :
    c'.ops = c.ops := by
  obtain ⟨_, _, _, ho⟩ := condPop_ok h
  exact ho

theorem checkSig_empty {pk : Bytes} (hpk : pubkeyOk env pk = true) :
    checkSig env [] pk = .ok false := by
  simp [checkSig, hpk]

theorem checkSig_ok {sig pk : Bytes} (hpk : pubkeyOk env pk = true) (hne : sig ≠ [])
    (hs : env.sigOk pk sig = true) : checkSig env sig pk = .ok true := by
  simp [checkSig, hpk, hs, hne]

theorem checkSig_inv {sig pk : Bytes} {b : Bool} (h : checkSig env sig pk = .ok b) :
    pubkeyOk env pk = true ∧ b = (!sig.isEmpty && env.sigOk pk sig) := by
  unfold checkSig at h
  cases hp : pubkeyOk env pk <;> cases he : sig.isEmpty <;> cases hs : env.sigOk pk sig <;>
    simp only [hp, he, hs, Bool.not_true, Bool.not_false, if_true, if_false, Bool.false_eq_true] at h <;>
    (try split at h) <;> cases h <;> exact ⟨rfl, rfl⟩

/-- all-empty signatures never match: the dissatisfaction of `multi` -/
theorem multisigLoop_empty (m : Nat) (keys : List Bytes)
    (hk : ∀ key ∈ keys, pubkeyOk env key = true) :
    multisigLoop env (List.replicate (m + 1) []) keys = .ok false := by
  induction keys with
  | nil => simp [List.replicate_succ, multisigLoop]
  | cons key keys ih =>
    rw [List.replicate_succ, multisigLoop]
    split
    · rfl
    · have hp := hk key (by simp)
      have ih' := ih (fun k' hk' => hk k' (by simp [hk']))
      rw [List.replicate_succ] at ih'
      simp [hp, ih']

theorem multisigLoop_pairs : ∀ (keys : List Bytes), (∀ key ∈ keys, pubkeyOk env key = true) →
    ∀ ps : List (Bytes × Bytes), (ps.map (·.1)).Sublist keys →
      (∀ p ∈ ps, p.2 ≠ [] ∧ env.sigOk p.1 p.2 = true) → multisigLoop env (ps.map (·.2)) keys = .ok true := by
  intro keys
  induction keys with
  | nil =>
    intro _ ps hss _
    cases ps with
    | nil => simp [multisigLoop]
    | cons p ps => simp at hss
  | cons a ks ih =>
    intro hk ps hss hs
    have hk' : ∀ key ∈ ks, pubkeyOk env key = true := fun q hq => hk q (List.mem_cons_of_mem _ hq)
    cases ps with
    | nil => simp [multisigLoop]
    | cons p ps' =>
      have hlen := hss.length_le
      simp only [List.map_cons] at hss ⊢
      rw [multisigLoop]
      have h1 : ¬ (ps'.map (·.2)).length + 1 > ks.length + 1 := by simp at hlen ⊢; omega
      simp only [h1, if_false, hk a (by simp), Bool.not_true, Bool.false_eq_true]
      split
      · -- matched: the remaining signatures against the remaining keys
        refine ih hk' ps' ?_ (fun q hq => hs q (List.mem_cons_of_mem _ hq))
        cases hss with
        | cons _ h => exact (List.sublist_cons_self _ _).trans h
        | cons_cons _ h => exact h
      · rename_i hno
        -- not matched: then `a` was not this signature's key, so all of `p :: ps'` is still to come
        refine ih hk' (p :: ps') ?_ hs
        cases hss with
        | cons _ h => exact h
        | cons_cons _ h =>
          exfalso
          have := hs p (by simp)
          apply hno
          simp [this.2, this.1]

/-- the converse of `multisigLoop_pairs`: what a match leaves to know about the signatures -/
theorem multisigLoop_true_inv (sigs keys : List Bytes) (h : multisigLoop env sigs keys = .ok true) :
    ∃ ps : List (Bytes × Bytes), (ps.map (·.1)).Sublist keys ∧ ps.map (·.2) = sigs ∧
      ∀ p ∈ ps, p.2 ≠ [] ∧ env.sigOk p.1 p.2 = true := by
  fun_induction multisigLoop env sigs keys with
  | case1 keys => exact ⟨[], List.nil_sublist _, rfl, nofun⟩
  | case2 | case3 | case4 => cases h
  | case5 sig sigs key keys _ _ ok hok ih =>
    obtain ⟨ps, hs, rfl, hv⟩ := ih h
    simp only [ok, Bool.and_eq_true, Bool.not_eq_true', List.isEmpty_eq_false_iff] at hok
    exact ⟨(key, sig) :: ps, hs.cons_cons key, rfl, List.forall_mem_cons.mpr ⟨hok, hv⟩⟩
  | case6 sig sigs key keys _ _ ok _ ih =>
    obtain ⟨ps, hs, he, hv⟩ := ih h
    exact ⟨ps, hs.cons key, he, hv⟩

theorem run_nil (env : Env) (s : State) : run env [] s = .ok s := rfl

theorem run_cons (env : Env) (op : Op) (ops : List Op) (s : State) :
    run env (op :: ops) s = (step env s op >>= run env ops) := by
  simp only [run, List.foldlM_cons]; rfl

theorem run_append (env : Env) (xs ys : List Op) (s : State) :
    run env (xs ++ ys) s = (run env xs s >>= run env ys) := by
  simp only [run, List.foldlM_append]; rfl

theorem run_single (env : Env) (op : Op) (s : State) : run env [op] s = step env s op := by
  rw [run_cons]; cases step env s op <;> rfl

end MsVerif.Script

namespace MsVerif
open Script

variable {env : Env}

theorem psh_ok (h : env.flags.stackLimits = false) (c : Core) (b : Bytes) :
    psh env b c = .ok { c with stack := b :: c.stack } := by
  simp [psh, h, pushElem_ok h]

theorem psh_stack {c c' : Core} {b : Bytes} (h : psh env b c = .ok c') :
    c'.stack = b :: c.stack ∧ c'.alt = c.alt := by
  unfold psh at h
  split at h
  · cases h
  · exact pushElem_stack h

theorem opc_eq (h : env.flags.opLimit = false) (o : Opc) (c : Core) :
    opc env o c = execOpc env o { c with ops := c.ops + 1 } := by
  simp [opc, countOp_ok h]

theorem opc_inv {o : Opc} {c c' : Core} (h : opc env o c = .ok c') :
    ∃ c1, c1.stack = c.stack ∧ c1.alt = c.alt ∧ execOpc env o c1 = .ok c' := by
  unfold opc at h
  split at h
  · cases h
  · rename_i c1 hc
    exact ⟨c1, (countOp_stack hc).1, (countOp_stack hc).2, h⟩

theorem skipCount_ok (hs : env.flags.stackLimits = false) (ho : env.flags.opLimit = false)
    (s : List Op) (c : Core) :
    skipCount env s c = .ok { c with ops := c.ops + codeCount s } := by
  simp [skipCount, hs, countOp_ok ho]

theorem skipCount_stack {s : List Op} {c c' : Core} (h : skipCount env s c = .ok c') :
    c'.stack = c.stack ∧ c'.alt = c.alt := by
  unfold skipCount at h
  split at h
  · cases h
  · exact countOp_stack h

theorem cnd_eq (h : env.flags.opLimit = false) (notif : Bool) (c : Core) :
    cnd env notif c = condPop env notif { c with ops := c.ops + 1 } := by
  simp [cnd, countOp_ok h]

/-- the flag IF (`nf = false`) / NOTIF (`nf = true`) reads off the element it pops -/
def condFlag (nf : Bool) (a : Bytes) : Bool := if nf then !castToBool a else castToBool a

theorem cnd_inv {nf v : Bool} {c c' : Core} (h : cnd env nf c = .ok (v, c')) :
    ∃ a, c.stack = a :: c'.stack ∧ c'.alt = c.alt ∧ v = condFlag nf a := by
  unfold cnd at h
  split at h
  · cases h
  · rename_i c1 hc
    have h1 := countOp_stack hc
    unfold condPop at h
    split at h
    · rename_i a r hs
      split at h
      · cases h
      · cases h
        exact ⟨a, by rw [← h1.1, hs], h1.2, rfl⟩
    · cases h

theorem cnd_ops {nf v : Bool} {c c' : Core} (h : cnd env nf c = .ok (v, c')) : c'.ops = c.ops + 1 := by
  unfold cnd at h
  cases hc : countOp env c 1 with
  | error e => rw [hc] at h; cases h
  | ok c1 =>
    rw [hc] at h
    cases countOp_inv hc
    exact condPop_ops h

theorem pshOp_pushInt (h : env.flags.stackLimits = false) (n : Nat) (c : Core) :
    pshOp env (pushInt n) c = .ok { c with stack := numEncode (n : Int) :: c.stack } := by
  unfold pushInt
  split
  · rename_i hn
    simp [pshOp, pushElem_ok h, numEncode_small hn]
  · simp [pshOp, psh_ok h]

theorem seqOps_nil (env : Env) (c : Core) : seqOps env [] c = .ok c := rfl

theorem seqOps_cons (env : Env) (o : Op) (os : List Op) (c : Core) :
    seqOps env (o :: os) c = pshOp env o c >>= seqOps env os := by
  unfold seqOps
  rw [List.foldlM_cons]

theorem seqOps_append (env : Env) (a b : List Op) (c : Core) :
    seqOps env (a ++ b) c = seqOps env a c >>= seqOps env b := by
  unfold seqOps
  rw [List.foldlM_append]

theorem seqOps_single (env : Env) (op : Op) (c : Core) : seqOps env [op] c = pshOp env op c := by
  rw [seqOps_cons]
  cases pshOp env op c <;> rfl

theorem codeCount_nil : codeCount [] = 0 := rfl

theorem codeCount_append (a b : List Op) : codeCount (a ++ b) = codeCount a + codeCount b := by
  simp [codeCount, List.filter_append]

theorem codeCount_cons (op : Op) (rest : List Op) :
    codeCount (op :: rest) = codeCount [op] + codeCount rest :=
  codeCount_append [op] rest

theorem codeCount_code (o : Opc) (s : List Op) : codeCount (.code o :: s) = 1 + codeCount s :=
  codeCount_cons (.code o) s

theorem codeCount_cons_plain (op : Op) (ops : List Op) (h : ∀ o, op ≠ .code o) :
    codeCount (op :: ops) = codeCount ops := by
  cases op with
  | code o => exact absurd rfl (h o)
  | _ => simp [codeCount]

section unfold
variable (env : Env) (ke : KeyEnv) (ctx : Ctx)

theorem frag_pkK (k : Key) (c : Core) : frag env ke ctx (.pkK k) c = psh env (ke.ser k) c := rfl

theorem frag_pkH (k : Key) (c : Core) : frag env ke ctx (.pkH k) c =
    seqOps env [.code .dup, .code .hash160, .push (ke.pkh k), .code .equalverify] c := rfl

theorem frag_rawPkH (h : Nat) (c : Core) : frag env ke ctx (.rawPkH h) c =
    seqOps env [.code .dup, .code .hash160, .push (ke.rawPkh h), .code .equalverify] c := rfl

theorem frag_after (n : Nat) (c : Core) : frag env ke ctx (.after n) c =
    seqOps env [pushInt n, .code .cltv] c := rfl

theorem frag_older (n : Nat) (c : Core) : frag env ke ctx (.older n) c =
    seqOps env [pushInt n, .code .csv] c := rfl

theorem frag_hash (kind : HashKind) (h : Nat) (c : Core) : frag env ke ctx (.hash kind h) c =
    seqOps env [.code .size, pushInt 32, .code .equalverify, .code (hashOpc kind),
      .push (ke.hashVal kind h), .code .equal] c := rfl

theorem frag_tru (c : Core) : frag env ke ctx .tru c = pshOp env (.small 1) c := rfl

theorem frag_fls (c : Core) : frag env ke ctx .fls c = pshOp env (.small 0) c := rfl

theorem frag_alt (x : Ms) (c : Core) : frag env ke ctx (.alt x) c =
    (opc env .toalt c >>= fun c => frag env ke ctx x c >>= opc env .fromalt) := rfl

theorem frag_swap (x : Ms) (c : Core) : frag env ke ctx (.swap x) c =
    (opc env .swap c >>= frag env ke ctx x) := rfl

theorem frag_check (x : Ms) (c : Core) : frag env ke ctx (.check x) c =
    (frag env ke ctx x c >>= opc env .checksig) := rfl

theorem frag_zeroNotEqual (x : Ms) (c : Core) : frag env ke ctx (.zeroNotEqual x) c =
    (frag env ke ctx x c >>= opc env .zeronotequal) := rfl

theorem frag_andV (l r : Ms) (c : Core) : frag env ke ctx (.andV l r) c =
    (frag env ke ctx l c >>= frag env ke ctx r) := rfl

theorem frag_andB (l r : Ms) (c : Core) : frag env ke ctx (.andB l r) c =
    (frag env ke ctx l c >>= fun c => frag env ke ctx r c >>= opc env .booland) := rfl

theorem frag_orB (l r : Ms) (c : Core) : frag env ke ctx (.orB l r) c =
    (frag env ke ctx l c >>= fun c => frag env ke ctx r c >>= opc env .boolor) := rfl

theorem frag_thresh (k : Nat) (xs : MsList) (c : Core) : frag env ke ctx (.thresh k xs) c =
    (fragThresh env ke ctx true xs c >>= seqOps env [pushInt k, .code .equal]) := rfl

theorem frag_multi (k : Nat) (ks : List Key) (c : Core) : frag env ke ctx (.multi k ks) c =
    seqOps env ([pushInt k] ++ ks.map (fun pk => Op.push (ke.ser pk))
      ++ [pushInt ks.length, .code .checkmultisig]) c := rfl

theorem frag_sortedMulti (k : Nat) (ks : List Key) (c : Core) :
    frag env ke ctx (.sortedMulti k ks) c =
    seqOps env ([pushInt k] ++ (sortKeys ke ks).map (fun pk => Op.push (ke.ser pk))
      ++ [pushInt ks.length, .code .checkmultisig]) c := rfl

theorem frag_multiA (k : Nat) (ks : List Key) (c : Core) : frag env ke ctx (.multiA k ks) c =
    seqOps env (encodeMultiA ke ks ++ [pushInt k, .code .numequal]) c := rfl

theorem frag_sortedMultiA (k : Nat) (ks : List Key) (c : Core) :
    frag env ke ctx (.sortedMultiA k ks) c =
    seqOps env (encodeMultiA ke (sortKeys ke ks) ++ [pushInt k, .code .numequal]) c := rfl

theorem fragThresh_nil (first : Bool) (c : Core) : fragThresh env ke ctx first .nil c = .ok c := rfl

theorem fragThresh_cons (first : Bool) (x : Ms) (xs : MsList) (c : Core) :
    fragThresh env ke ctx first (.cons x xs) c =
    (frag env ke ctx x c >>= fun c => (if first then .ok c else opc env .add c) >>=
      fragThresh env ke ctx false xs) := by
  rw [fragThresh]
  cases first <;> cases frag env ke ctx x c <;> rfl

theorem fragThresh_single (x : Ms) (c : Core) :
    fragThresh env ke ctx true (.cons x .nil) c = frag env ke ctx x c := by
  rw [fragThresh_cons]
  cases frag env ke ctx x c <;> rfl

end unfold

/-- `IF/NOTIF X ENDIF` with the branch `f`; `X` is only counted when the branch is skipped (`skipCount`) and must be
the code of what `f` runs -/
def ifThen (env : Env) (nf : Bool) (X : List Op) (f : Core → Except Err Core) (c : Core) : Except Err Core := do
  let (v, c) ← cnd env nf c
  let c ← if v then f c else skipCount env X c
  countOp env c 1

/-- `IF/NOTIF X ELSE Y ENDIF` with the branches `f` (taken when the flag is true) and `g` -/
def ifElse (env : Env) (nf : Bool) (X Y : List Op) (f g : Core → Except Err Core) (c : Core) :
    Except Err Core := do
  let (v, c) ← cnd env nf c
  let c ← if v then f c else skipCount env X c
  let c ← countOp env c 1
  let c ← if v then skipCount env Y c else g c
  countOp env c 1

/-- `ifThen` after `cnd`, with the flag as an argument (`ifThen_eq`).  `ifThen` itself has to be the `do` block of `frag`
word for word, or `frag_dupIf` … would not hold by `rfl`: binding the pair by `match` and by projections is not a
definitional equality. -/
def thenTail (env : Env) (X : List Op) (f : Core → Except Err Core) (v : Bool) (c : Core) : Except Err Core :=
  (if v then f c else skipCount env X c) >>= fun c => countOp env c 1

/-- `ifElse` after `cnd` (`ifElse_eq`) -/
def elseTail (env : Env) (X Y : List Op) (f g : Core → Except Err Core) (v : Bool) (c : Core) : Except Err Core :=
  (if v then f c else skipCount env X c) >>= fun c =>
    countOp env c 1 >>= fun c => (if v then skipCount env Y c else g c) >>= fun c => countOp env c 1

theorem ifThen_eq (env : Env) (nf : Bool) (X : List Op) (f : Core → Except Err Core) (c : Core) :
    ifThen env nf X f c = (cnd env nf c >>= fun p => thenTail env X f p.1 p.2) := by
  unfold ifThen
  cases cnd env nf c with
  | error e => rfl
  | ok p => obtain ⟨v, c2⟩ := p; cases v <;> rfl

theorem ifElse_eq (env : Env) (nf : Bool) (X Y : List Op) (f g : Core → Except Err Core) (c : Core) :
    ifElse env nf X Y f g c = (cnd env nf c >>= fun p => elseTail env X Y f g p.1 p.2) := by
  unfold ifElse
  cases cnd env nf c with
  | error e => rfl
  | ok p => obtain ⟨v, c2⟩ := p; cases v <;> rfl

/-- the tail of `v:X`: a fused `*VERIFY` or a separate `OP_VERIFY` -/
def verifyTail (env : Env) (fused : Bool) (c : Core) : Except Err Core :=
  if fused then
    match c.stack with
    | a :: r => if castToBool a then .ok { c with stack := r } else .error .verifyFailed
    | [] => .error .stackUnderflow
  else opc env .verify c

theorem verifyTail_fused (env : Env) (a : Bytes) (r alt : List Bytes) (ops : Nat) :
    verifyTail env true ⟨a :: r, alt, ops⟩ = if castToBool a then .ok ⟨r, alt, ops⟩ else .error .verifyFailed := rfl

section combinators
variable (env : Env) (ke : KeyEnv) (ctx : Ctx)

theorem frag_dupIf (x : Ms) (c : Core) : frag env ke ctx (.dupIf x) c =
    (opc env .dup c >>= ifThen env false (encode ke ctx x) (frag env ke ctx x)) := rfl

theorem frag_verify (x : Ms) (c : Core) : frag env ke ctx (.verify x) c =
    (frag env ke ctx x c >>= verifyTail env (endsFusable (encode ke ctx x))) := rfl

theorem frag_nonZero (x : Ms) (c : Core) : frag env ke ctx (.nonZero x) c =
    (opc env .size c >>= fun c => opc env .zeronotequal c >>=
      ifThen env false (encode ke ctx x) (frag env ke ctx x)) := rfl

theorem frag_andOr (a b z : Ms) (c : Core) : frag env ke ctx (.andOr a b z) c =
    (frag env ke ctx a c >>= ifElse env true (encode ke ctx z) (encode ke ctx b)
      (frag env ke ctx z) (frag env ke ctx b)) := rfl

theorem frag_orD (l r : Ms) (c : Core) : frag env ke ctx (.orD l r) c =
    (frag env ke ctx l c >>= fun c => opc env .ifdup c >>=
      ifThen env true (encode ke ctx r) (frag env ke ctx r)) := rfl

theorem frag_orC (l r : Ms) (c : Core) : frag env ke ctx (.orC l r) c =
    (frag env ke ctx l c >>= ifThen env true (encode ke ctx r) (frag env ke ctx r)) := rfl

theorem frag_orI (l r : Ms) (c : Core) : frag env ke ctx (.orI l r) c =
    ifElse env false (encode ke ctx l) (encode ke ctx r) (frag env ke ctx l) (frag env ke ctx r) c := rfl

end combinators

end MsVerif
