/-
T4, parser half: whatever `decode` accepts is the token list of the miniscript it returns.

`decodeToks toks = ok (ms, rest)  ⇒  toks.reverse = (tokens ms).reverse ++ rest`

Method: every nonterminal `X` has a SPECIFICATION `SpecOf X term C term'`: started with `X` on top
of the nonterminal stack and `term` as terminal stack, by the time `X` and everything it pushed
are gone the machine has consumed exactly the tokens `C`, and `term'` is `term` with X's operands
replaced by ONE miniscript `y` whose reversed token list is an explicit function of the operands'
token lists and `C`.  `step_info` shows that one loop iteration refines the specification of the
popped nonterminal into those of the nonterminals it pushes; `seg` chains this along any
successful run (induction on the fuel).

Hypotheses: the atom tables are sound (`DecSound`: a byte string that `dec` maps to an atom is
that atom's serialisation in `env`) and the tokens are well-formed (`Token.wf`: a `Bytes33` token
carries 33 bytes, …, numbers are below 2^31) — which every lexer output is.
-/
import MsVerif.Lemmas.DecodeTrans
import MsVerif.Lemmas.DecodeNoPanic

namespace MsVerif
namespace DecodeL

/-- shape guaranteed by the lexer: byte tokens have the length of their constructor -/
def Token.wf : Token → Bool
  | .num n => decide (n < 2147483648)
  | .hash20 b => b.length == 20
  | .bytes32 b => b.length == 32
  | .bytes33 b => b.length == 33
  | .bytes65 b => b.length == 65
  | _ => true

def WfAll (ts : List Token) : Prop := ∀ t ∈ ts, Token.wf t = true

/-- the reverse lookup `dec` is sound for the serialisations of `env` -/
structure DecSound (dec : AtomDec) (env : KeyEnv) (ctx : Ctx) : Prop where
  key : ∀ bs k, parseKey dec ctx bs = .ok k → env.ser k = bs
  rawPkh : ∀ bs h, dec.rawPkh bs = some h → env.rawPkh h = bs
  hash : ∀ kind bs h, dec.hash kind bs = some h → env.hashVal kind h = bs

section
variable (env : KeyEnv) (ctx : Ctx)

/-- reversed tokens of `W` children lying on the terminal stack (top = leftmost child) -/
def rtW : List Ms → List Token
  | [] => []
  | w :: ws => rtW ws ++ (.add :: rt env ctx w)

theorem rtW_eq (ws : List Ms) :
    rtW env ctx ws = (threshTokens env ctx false (MsList.ofList ws)).reverse := by
  induction ws with
  | nil => simp [rtW, MsList.ofList, threshTokens]
  | cons w ws ih => simp [rtW, MsList.ofList, threshTokens, ih, rt]

def SpecOf : NonTerm → List Ms → List Token → List Ms → Prop
  | .expression, t, C, t' => ∃ y, t' = y :: t ∧ rt env ctx y = C
  | .wExpression, t, C, t' => ∃ y, t' = y :: t ∧ rt env ctx y = C
  | .maybeAndV, x :: t, C, t' => ∃ y, t' = y :: t ∧ rt env ctx y = rt env ctx x ++ C
  | .swap, x :: t, C, t' => ∃ y, t' = y :: t ∧ rt env ctx y = rt env ctx x ++ C
  | .alt, x :: t, C, t' => ∃ y, t' = y :: t ∧ rt env ctx y = .fromAlt :: (rt env ctx x ++ C)
  | .check, x :: t, C, t' => ∃ y, t' = y :: t ∧ rt env ctx y = .checkSig :: (rt env ctx x ++ C)
  | .dupIf, x :: t, C, t' =>
    ∃ y, t' = y :: t ∧ rt env ctx y = .endIf :: (rt env ctx x ++ (.if_ :: .dup :: C))
  | .verify, x :: t, C, t' => ∃ y, t' = y :: t ∧ rt env ctx y = .verify :: (rt env ctx x ++ C)
  | .nonZero, x :: t, C, t' =>
    ∃ y, t' = y :: t ∧ rt env ctx y = .endIf :: (rt env ctx x ++ (.if_ :: .zeroNotEqual :: .size :: C))
  | .zeroNotEqual, x :: t, C, t' =>
    ∃ y, t' = y :: t ∧ rt env ctx y = .zeroNotEqual :: (rt env ctx x ++ C)
  | .andV, l :: r :: t, C, t' => ∃ y, t' = y :: t ∧ rt env ctx y = rt env ctx r ++ (rt env ctx l ++ C)
  | .andB, l :: r :: t, C, t' =>
    ∃ y, t' = y :: t ∧ rt env ctx y = .boolAnd :: (rt env ctx r ++ (rt env ctx l ++ C))
  | .orB, l :: r :: t, C, t' =>
    ∃ y, t' = y :: t ∧ rt env ctx y = .boolOr :: (rt env ctx r ++ (rt env ctx l ++ C))
  | .orD, l :: r :: t, C, t' =>
    ∃ y, t' = y :: t ∧ rt env ctx y = .endIf :: (rt env ctx r ++ (.notIf :: .ifDup :: (rt env ctx l ++ C)))
  | .orC, l :: r :: t, C, t' =>
    ∃ y, t' = y :: t ∧ rt env ctx y = .endIf :: (rt env ctx r ++ (.notIf :: (rt env ctx l ++ C)))
  | .tern, a :: c :: b :: t, C, t' =>
    ∃ y, t' = y :: t ∧
      rt env ctx y = .endIf :: (rt env ctx b ++ (.else_ :: (rt env ctx c ++ (.notIf :: (rt env ctx a ++ C)))))
  | .threshW k n, term, C, t' =>
    n ≤ term.length ∧
      ∃ y, t' = y :: term.drop n ∧ rt env ctx y = .equal :: .num k :: (rtW env ctx (term.take n) ++ C)
  | .threshE k n, term, C, t' =>
    n ≤ term.length ∧ ∃ e ws, term.take n = e :: ws ∧
      ∃ y, t' = y :: term.drop n ∧
        rt env ctx y = .equal :: .num k :: (rtW env ctx ws ++ (rt env ctx e ++ C))
  | .endIf, x :: t, C, t' => ∃ y, t' = y :: t ∧ rt env ctx y = .endIf :: (rt env ctx x ++ C)
  | .endIfNotIf, x :: t, C, t' =>
    ∃ y, t' = y :: t ∧ rt env ctx y = .endIf :: (rt env ctx x ++ (.notIf :: C))
  | .endIfElse, l :: x :: t, C, t' =>
    ∃ y, t' = y :: t ∧ rt env ctx y = .endIf :: (rt env ctx x ++ (.else_ :: (rt env ctx l ++ C)))
  | _, _, _, _ => False

def SpecList : List NonTerm → List Ms → List Token → List Ms → Prop
  | [], t, C, t' => C = [] ∧ t' = t
  | Y :: Ys, t, C, t' =>
    ∃ C1 C2 mid, C = C1 ++ C2 ∧ SpecOf env ctx Y t C1 mid ∧ SpecList Ys mid C2 t'

theorem SpecList_append (a b : List NonTerm) : ∀ (t : List Ms) (C : List Token) (t' : List Ms),
    SpecList env ctx (a ++ b) t C t' →
    ∃ C1 C2 mid, C = C1 ++ C2 ∧ SpecList env ctx a t C1 mid ∧ SpecList env ctx b mid C2 t' := by
  induction a with
  | nil => intro t C t' h; exact ⟨[], C, t, rfl, ⟨rfl, rfl⟩, h⟩
  | cons Y a ih =>
    intro t C t' h
    obtain ⟨C1, C2, mid, rfl, hY, hrest⟩ := h
    obtain ⟨D1, D2, mid2, rfl, ha, hb⟩ := ih mid C2 t' hrest
    exact ⟨C1 ++ D1, D2, mid2, by simp, ⟨C1, D1, mid, rfl, hY, ha⟩, hb⟩

end

section
variable {dec : AtomDec} {env : KeyEnv} {ctx : Ctx}

/-- one iteration refines the specification: `Y`, popped, consumed `C0` and pushed `Ps`, and whatever run meets
the specifications of `Ps` meets that of `Y` -/
def Info (env : KeyEnv) (ctx : Ctx) (Y : NonTerm) (toks : List Token) (rest : List NonTerm)
    (term : List Ms) (s1 : DState) : Prop :=
  ∃ Ps C0, s1.nt = Ps ++ rest ∧ toks = C0 ++ s1.toks ∧
    ∀ C t', SpecList env ctx Ps s1.term C t' → SpecOf env ctx Y term (C0 ++ C) t'

theorem Info.plain {Y : NonTerm} {toks : List Token} {rest : List NonTerm} {term : List Ms} {s1 : DState}
    (C0 : List Token) (hnt : s1.nt = rest) (htoks : toks = C0 ++ s1.toks)
    (h : SpecOf env ctx Y term C0 s1.term) : Info env ctx Y toks rest term s1 :=
  ⟨[], C0, by simp [hnt], htoks, by rintro C t' ⟨rfl, rfl⟩; simpa using h⟩

/-- close `SpecOf …` goals of the form `∃ y, t' = y :: t ∧ rt y = …` after the hypotheses have
been destructured: the witness is forced, the token equation is list arithmetic -/
macro "spec_close" : tactic => `(tactic| (refine ⟨_, rfl, ?_⟩; simp_all [rt, tokens]))


/-- what an arm promises: it consumed `C0`, and what it pushed refines the specification of `Expression` -/
def EInfo (env : KeyEnv) (ctx : Ctx) (ts : List Token) (o : ExprOut) : Prop :=
  ∃ C0, ts = C0 ++ o.toks ∧
    ∀ term C t', SpecList env ctx o.pushNt (o.pushTerm ++ term) C t' →
      SpecOf env ctx .expression term (C0 ++ C) t'

theorem EInfo.leaf {ts ts' : List Token} (m : Ms) (C0 : List Token) (hts : ts = C0 ++ ts')
    (hr : rt env ctx m = C0) : EInfo env ctx ts ⟨ts', [], [m]⟩ :=
  ⟨C0, hts, by rintro term C t' ⟨rfl, rfl⟩; exact ⟨m, rfl, by simp [hr]⟩⟩

theorem keyTok_of_parse (hs : DecSound dec env ctx) {pk : Bytes} {k : Key} {tok : Token}
    (hp : parseKey dec ctx pk = .ok k)
    (htok : tok = .bytes33 pk ∨ tok = .bytes65 pk ∨ tok = .bytes32 pk) (hw : Token.wf tok = true) :
    keyTok (env.ser k) = tok := by
  rw [hs.key pk k hp]
  rcases htok with rfl | rfl | rfl <;> simp [Token.wf] at hw <;> simp [keyTok, hw]

theorem wf_head {t : Token} {ts : List Token} (h : WfAll (t :: ts)) : Token.wf t = true ∧ WfAll ts :=
  ⟨h t (by simp), fun x hx => h x (by simp [hx])⟩

theorem wf_append {a b : List Token} (h : WfAll (a ++ b)) : WfAll a ∧ WfAll b :=
  ⟨fun x hx => h x (by simp [hx]), fun x hx => h x (by simp [hx])⟩

theorem readMultiKeys_spec (hs : DecSound dec env ctx) (n : Nat) (ts : List Token) (acc : List Key) :
    ∀ ks ts', readMultiKeys dec ctx n ts acc = .ok (ks, ts') → WfAll ts →
      ∃ new, ks = acc ++ new ∧ new.length = n ∧ ts = new.map (fun k => keyTok (env.ser k)) ++ ts' := by
  fun_induction readMultiKeys dec ctx n ts acc <;> intro ks ts' h hw
  · simp at h; obtain ⟨rfl, rfl⟩ := h; exact ⟨[], by simp, rfl, rfl⟩
  · cases h
  · cases h
  · rename_i n pk ts acc k hp ih
    obtain ⟨hw1, hw2⟩ := wf_head hw
    obtain ⟨new, rfl, hl, rfl⟩ := ih ks ts' h hw2
    have hk := keyTok_of_parse hs hp (tok := .bytes33 pk) (.inl rfl) hw1
    exact ⟨k :: new, by simp, by simp [hl], by simp [hk]⟩
  · cases h
  · rename_i n pk ts acc k hp ih
    obtain ⟨hw1, hw2⟩ := wf_head hw
    obtain ⟨new, rfl, hl, rfl⟩ := ih ks ts' h hw2
    have hk := keyTok_of_parse hs hp (tok := .bytes65 pk) (.inr (.inl rfl)) hw1
    exact ⟨k :: new, by simp, by simp [hl], by simp [hk]⟩
  · cases h

theorem readCsaKeys_spec (hs : DecSound dec env ctx) (ts : List Token) (acc : List Key) :
    ∀ ks ts', readCsaKeys dec ctx ts acc = .ok (ks, ts') → WfAll ts →
      ∃ new, ks = acc ++ new ∧
        ts = new.flatMap (fun k => [.checkSigAdd, keyTok (env.ser k)]) ++ ts' := by
  fun_induction readCsaKeys dec ctx ts acc <;> intro ks ts' h hw
  · cases h
  · rename_i pk ts acc k hp ih
    obtain ⟨_, hw1⟩ := wf_head hw
    obtain ⟨hw2, hw3⟩ := wf_head hw1
    obtain ⟨new, rfl, rfl⟩ := ih ks ts' h hw3
    have hk := keyTok_of_parse hs hp (tok := .bytes32 pk) (.inr (.inr rfl)) hw2
    exact ⟨k :: new, by simp, by simp [hk]⟩
  · cases h
  · cases h
  · simp at h; obtain ⟨rfl, rfl⟩ := h; exact ⟨[], by simp, rfl⟩

theorem EInfo.wrap {ts : List Token} (t : Token) (W : NonTerm)
    (hW : ∀ (x : Ms) (term : List Ms) (C : List Token) (t' : List Ms),
      SpecOf env ctx W (x :: term) C t' → ∃ y, t' = y :: term ∧ rt env ctx y = t :: (rt env ctx x ++ C)) :
    EInfo env ctx (t :: ts) ⟨ts, [.expression, W], []⟩ := by
  refine ⟨[t], rfl, ?_⟩
  rintro term C t' ⟨C1, C2, mid, rfl, ⟨x, rfl, hx⟩, D1, D2, mid2, rfl, hWs, rfl, rfl⟩
  obtain ⟨y, rfl, hy⟩ := hW x term D1 _ hWs
  exact ⟨y, rfl, by simp [hy, hx]⟩

theorem EArm.info (hs : DecSound dec env ctx) {ts : List Token} {o : ExprOut} (hw : WfAll ts)
    (h : EArm dec ctx ts o) : EInfo env ctx ts o := by
  cases h with
  | key ht hp =>
    have := keyTok_of_parse hs hp ht (wf_head hw).1
    exact EInfo.leaf _ [_] rfl (by simp [rt, tokens, this])
  | checkSig => exact EInfo.wrap .checkSig .check (fun x term C t' h => h)
  | zeroNotEqual => exact EInfo.wrap .zeroNotEqual .zeroNotEqual (fun x term C t' h => h)
  | verifyUn => exact EInfo.wrap .verify .verify (fun x term C t' h => h)
  | older | after => exact EInfo.leaf _ [_, _] rfl (by simp [rt, tokens])
  | fls | tru => exact EInfo.leaf _ [_] rfl (by simp [rt, tokens])
  | endIf =>
    refine ⟨[.endIf], rfl, ?_⟩
    rintro term C t' ⟨C1, C2, mid, rfl, ⟨x0, rfl, h0⟩, D1, D2, mid2, rfl, ⟨x, rfl, hx⟩,
      E1, E2, mid3, rfl, ⟨y, rfl, hy⟩, rfl, rfl⟩
    exact ⟨y, rfl, by simp [hy, hx, h0]⟩
  | boolAnd =>
    refine ⟨[.boolAnd], rfl, ?_⟩
    rintro term C t' ⟨C1, C2, mid, rfl, ⟨w, rfl, hw'⟩, D1, D2, mid2, rfl, ⟨l, rfl, hl⟩,
      E1, E2, mid3, rfl, ⟨y, rfl, hy⟩, rfl, rfl⟩
    exact ⟨y, rfl, by simp [hy, hl, hw']⟩
  | boolOr =>
    refine ⟨[.boolOr], rfl, ?_⟩
    rintro term C t' ⟨C1, C2, mid, rfl, ⟨w, rfl, hw'⟩, D1, D2, mid2, rfl, ⟨l, rfl, hl⟩,
      E1, E2, mid3, rfl, ⟨y, rfl, hy⟩, rfl, rfl⟩
    exact ⟨y, rfl, by simp [hy, hl, hw']⟩
  | @hash v kind bs a ts' hl =>
    have hv := hs.hash _ _ _ hl
    cases v
    · exact EInfo.leaf _ (_ :: _ :: _ :: hashTail) rfl (by simp [rt, tokens, hv, hashTail])
    · refine ⟨_ :: _ :: _ :: _ :: hashTail, rfl, ?_⟩
      rintro term C t' ⟨C1, C2, mid, rfl, ⟨y, rfl, hy⟩, rfl, rfl⟩
      exact ⟨y, rfl, by simp [hy, rt, tokens, hv, hashTail]⟩
  | rawPkh hl =>
    have hv := hs.rawPkh _ _ hl
    exact EInfo.leaf _ [_, _, _, _, _] rfl (by simp [rt, tokens, hv])
  | thresh v =>
    cases v
    · refine ⟨[.equal, .num _], rfl, ?_⟩
      rintro term C t' ⟨C1, C2, mid, rfl, ⟨_, y, rfl, hy⟩, rfl, rfl⟩
      exact ⟨y, by simp, by simp [hy, rtW]⟩
    · refine ⟨[.verify, .equal, .num _], rfl, ?_⟩
      rintro term C t' ⟨C1, C2, mid, rfl, ⟨_, x, rfl, hx⟩, D1, D2, mid2, rfl, ⟨y, rfl, hy⟩, rfl, rfl⟩
      exact ⟨y, by simp, by simp [hy, hx, rtW]⟩
  | @multi n k _ ts' keys hn hr hk =>
    obtain ⟨new, rfl, hl, rfl⟩ := readMultiKeys_spec hs _ _ _ _ _ hr (wf_head (wf_head hw).2).2
    refine EInfo.leaf _ (.checkMultiSig :: .num n :: (keys.map (fun k => keyTok (env.ser k)) ++ [.num k])) (by simp) ?_
    simp [rt, tokens, hl, List.map_reverse]
  | @multiA k _ ts' keys pk key hk0 hr hp hk =>
    have hw1 := (wf_head (wf_head hw).2).2
    obtain ⟨new, rfl, rfl⟩ := readCsaKeys_spec hs _ _ _ _ hr hw1
    have hkt := keyTok_of_parse hs hp (tok := .bytes32 pk) (.inr (.inr rfl))
      (wf_head (wf_head (wf_append hw1).2).2).1
    refine EInfo.leaf _ (.numEqual :: .num k :: (keys.flatMap (fun k => [.checkSigAdd, keyTok (env.ser k)]) ++
      [.checkSig, .bytes32 pk])) (by simp) ?_
    have := multiATokens_rev env key keys.reverse
    simp only [List.reverse_reverse] at this
    simp [rt, tokens, this, hkt]

/-- `hneed`: the stack-height invariant of Lemmas/DecodeNoPanic.lean, which holds along every run
from the initial state -/
theorem step_info (hs : DecSound dec env ctx) {Y : NonTerm} {toks : List Token} {rest : List NonTerm}
    {term : List Ms} {s1 : DState} (hw : WfAll toks) (hneed : need Y ≤ term.length)
    (h : stepNT dec env ctx Y ⟨toks, rest, term⟩ = .ok s1) :
    Info env ctx Y toks rest term s1 := by
  cases stepNT_trans h with
  | @expr _ _ _ o ha =>
    obtain ⟨C0, h1, h2⟩ := ha.info hs hw
    exact ⟨o.pushNt, C0, rfl, h1, fun C t' hsl => by simpa using h2 term C t' hsl⟩
  | maybeYes =>
    match term, hneed with
    | x :: t, _ =>
      refine ⟨[.expression, .andV], [], rfl, rfl, ?_⟩
      rintro C t' ⟨C1, C2, mid, rfl, ⟨z, rfl, hz⟩, D1, D2, mid2, rfl, ⟨y, rfl, hr⟩, rfl, rfl⟩
      exact ⟨y, rfl, by simp [hr, hz]⟩
  | maybeNo =>
    match term, hneed with
    | x :: t, _ => exact Info.plain [] rfl rfl ⟨x, rfl, by simp⟩
  | andVYes =>
    match term, hneed with
    | l :: r :: t, _ =>
      refine ⟨[.maybeAndV, .andV], [], rfl, rfl, ?_⟩
      rintro C t' ⟨C1, C2, mid, rfl, ⟨l', rfl, hl⟩, D1, D2, mid2, rfl, ⟨y, rfl, hr⟩, rfl, rfl⟩
      exact ⟨y, rfl, by simp [hr, hl]⟩
  | andVNo | check | dupIf | verify | nonZero | zeroNotEqual | andB | orB | orC | orD | tern =>
    exact Info.plain [] rfl rfl (by spec_close)
  | swap => exact Info.plain [.swap] rfl rfl (by spec_close)
  | alt => exact Info.plain [.toAlt] rfl rfl (by spec_close)
  | elseIf => exact Info.plain [.if_] rfl rfl (by spec_close)
  | wAlt =>
    refine ⟨[.expression, .maybeAndV, .alt], [.fromAlt], rfl, rfl, ?_⟩
    rintro C t' ⟨C1, C2, mid, rfl, ⟨x0, rfl, h0⟩, D1, D2, mid2, rfl, ⟨x, rfl, hx⟩,
      E1, E2, mid3, rfl, ⟨y, rfl, hy⟩, rfl, rfl⟩
    exact ⟨y, rfl, by simp [hy, hx, h0]⟩
  | wUn =>
    refine ⟨[.expression, .maybeAndV, .swap], [], rfl, rfl, ?_⟩
    rintro C t' ⟨C1, C2, mid, rfl, ⟨x0, rfl, h0⟩, D1, D2, mid2, rfl, ⟨x, rfl, hx⟩,
      E1, E2, mid3, rfl, ⟨y, rfl, hy⟩, rfl, rfl⟩
    exact ⟨y, rfl, by simp [hy, hx, h0]⟩
  | endIfElse =>
    match term, hneed with
    | x :: t, _ =>
      refine ⟨[.expression, .maybeAndV, .endIfElse], [.else_], rfl, rfl, ?_⟩
      rintro C t' ⟨C1, C2, mid, rfl, ⟨l0, rfl, h0⟩, D1, D2, mid2, rfl, ⟨l, rfl, hl⟩,
        E1, E2, mid3, rfl, ⟨y, rfl, hy⟩, rfl, rfl⟩
      exact ⟨y, rfl, by simp [hy, hl, h0]⟩
  | endIfDup =>
    match term, hneed with
    | x :: t, _ =>
      refine ⟨[.dupIf], [.if_, .dup], rfl, rfl, ?_⟩
      rintro C t' ⟨C1, C2, mid, rfl, ⟨y, rfl, hy⟩, rfl, rfl⟩
      exact ⟨y, rfl, by simp [hy]⟩
  | endIfNz =>
    match term, hneed with
    | x :: t, _ =>
      refine ⟨[.nonZero], [.if_, .zeroNotEqual, .size], rfl, rfl, ?_⟩
      rintro C t' ⟨C1, C2, mid, rfl, ⟨y, rfl, hy⟩, rfl, rfl⟩
      exact ⟨y, rfl, by simp [hy]⟩
  | endIfNotIf =>
    match term, hneed with
    | x :: t, _ =>
      refine ⟨[.endIfNotIf], [.notIf], rfl, rfl, ?_⟩
      rintro C t' ⟨C1, C2, mid, rfl, ⟨y, rfl, hy⟩, rfl, rfl⟩
      exact ⟨y, rfl, by simp [hy]⟩
  | notIfIfDup =>
    match term, hneed with
    | x :: t, _ =>
      refine ⟨[.expression, .orD], [.ifDup], rfl, rfl, ?_⟩
      rintro C t' ⟨C1, C2, mid, rfl, ⟨l, rfl, hl⟩, D1, D2, mid2, rfl, ⟨y, rfl, hy⟩, rfl, rfl⟩
      exact ⟨y, rfl, by simp [hy, hl]⟩
  | notIfUn =>
    match term, hneed with
    | x :: t, _ =>
      refine ⟨[.expression, .orC], [], rfl, rfl, ?_⟩
      rintro C t' ⟨C1, C2, mid, rfl, ⟨l, rfl, hl⟩, D1, D2, mid2, rfl, ⟨y, rfl, hy⟩, rfl, rfl⟩
      exact ⟨y, rfl, by simp [hy, hl]⟩
  | elseNotIf =>
    match term, hneed with
    | l :: x :: t, _ =>
      refine ⟨[.expression, .tern], [.notIf], rfl, rfl, ?_⟩
      rintro C t' ⟨C1, C2, mid, rfl, ⟨a, rfl, ha⟩, D1, D2, mid2, rfl, ⟨y, rfl, hy⟩, rfl, rfl⟩
      exact ⟨y, rfl, by simp [hy, ha]⟩
  | @threshWAdd _ _ _ k n =>
    simp only [need] at hneed
    refine ⟨[.wExpression, .threshW k (n + 1)], [.add], rfl, rfl, ?_⟩
    rintro C t' ⟨C1, C2, mid, rfl, ⟨w, rfl, hw⟩, D1, D2, mid2, rfl, ⟨hn, y, rfl, hy⟩, rfl, rfl⟩
    refine ⟨hneed, y, by simp, ?_⟩
    simp only [List.take_succ_cons, rtW, hw] at hy
    simp [hy]
  | @threshWUn _ _ _ k n =>
    simp only [need] at hneed
    refine ⟨[.expression, .threshE k (n + 1)], [], rfl, rfl, ?_⟩
    rintro C t' ⟨C1, C2, mid, rfl, ⟨e, rfl, he⟩, D1, D2, mid2, rfl, ⟨hn, e', ws, htk, y, rfl, hy⟩, rfl, rfl⟩
    simp only [List.take_succ_cons, List.cons.injEq] at htk
    obtain ⟨rfl, rfl⟩ := htk
    refine ⟨hneed, y, by simp, ?_⟩
    simp [hy, he]
  | @threshE _ _ _ k n subs t hp hk =>
    obtain ⟨hn, rfl, rfl⟩ := popN_spec _ _ _ _ hp
    cases hs : List.take n term with
    | nil => rw [hs] at hk; simp at hk; omega
    | cons e ws =>
      refine Info.plain [] rfl rfl ⟨hn, e, ws, hs, _, rfl, ?_⟩
      simp [rt, tokens, MsList.ofList, threshTokens, rtW_eq]

theorem seg (hs : DecSound dec env ctx) : ∀ (f : Nat) (Ys nt : List NonTerm) (term : List Ms)
    (toks : List Token) (r : Ms × List Token), WfAll toks → Inv ⟨toks, Ys ++ nt, term⟩ →
    decodeLoop dec env ctx f ⟨toks, Ys ++ nt, term⟩ = some (.ok r) →
    ∃ f' toks' term' C, decodeLoop dec env ctx f' ⟨toks', nt, term'⟩ = some (.ok r) ∧
      toks = C ++ toks' ∧ SpecList env ctx Ys term C term' := by
  intro f
  induction f with
  | zero => intro Ys nt term toks r _ _ h; simp [decodeLoop] at h
  | succ f ih =>
    intro Ys nt term toks r hw hinv h
    cases Ys with
    | nil => exact ⟨f + 1, toks, term, [], by simpa using h, rfl, rfl, rfl⟩
    | cons Y Ys' =>
      rw [List.cons_append] at h
      have hinv' : Inv ⟨toks, Y :: (Ys' ++ nt), term⟩ := hinv
      have hneed := hinv'.need.1
      cases hst : stepNT dec env ctx Y ⟨toks, Ys' ++ nt, term⟩ with
      | error e => rw [decodeLoop_error hst] at h; cases h
      | ok s1 =>
        rw [decodeLoop_ok hst] at h
        obtain ⟨Ps, C0, hnt, htoks, hspec⟩ := step_info hs hw hneed hst
        obtain ⟨toks1, nt1, term1⟩ := s1
        simp only at hnt htoks hspec
        subst hnt
        have hw1 : WfAll toks1 := by
          intro t ht; exact hw t (by rw [htoks]; simp [ht])
        have hinv1 : Inv ⟨toks1, (Ps ++ Ys') ++ nt, term1⟩ := by
          simpa [List.append_assoc] using stepNT_inv hinv' hst
        have h' : decodeLoop dec env ctx f ⟨toks1, (Ps ++ Ys') ++ nt, term1⟩ = some (.ok r) := by
          simpa [List.append_assoc] using h
        obtain ⟨f', toks', term', C, hrun, hC, hsl⟩ := ih (Ps ++ Ys') nt term1 toks1 r hw1 hinv1 h'
        obtain ⟨Ca, Cb, mid, rfl, hPs, hYs⟩ := SpecList_append env ctx Ps Ys' _ _ _ hsl
        refine ⟨f', toks', term', C0 ++ Ca ++ Cb, hrun, by rw [htoks, hC]; simp, ?_⟩
        exact ⟨C0 ++ Ca, Cb, mid, rfl, hspec Ca mid hPs, hYs⟩

/-- T4, parser half: `decode` consumed exactly the tokens of the miniscript it returns -/
theorem decodeToks_canonical (hs : DecSound dec env ctx) {toks : List Token} {ms : Ms}
    {rest : List Token} (hw : WfAll toks) (h : decodeToks dec env ctx toks = .ok (ms, rest)) :
    toks.reverse = rt env ctx ms ++ rest := by
  unfold decodeToks at h
  cases hl : decodeLoop dec env ctx (decodeFuel toks) (initState toks.reverse) with
  | none => rw [hl] at h; cases h
  | some r0 =>
    rw [hl] at h
    simp only at h
    subst h
    have hw' : WfAll toks.reverse := fun t ht => hw t (by simpa using ht)
    obtain ⟨f', toks', term', C, hrun, hC, hsl⟩ :=
      seg hs (decodeFuel toks) [.expression, .maybeAndV] [] [] toks.reverse (ms, rest) hw'
        (inv_init toks.reverse) (by simpa [initState] using hl)
    -- the run ends here: the nonterminal stack is empty
    cases f' with
    | zero => simp [decodeLoop] at hrun
    | succ f' =>
      simp only [decodeLoop] at hrun
      obtain ⟨C1, C2, mid, rfl, ⟨y0, rfl, h0⟩, D1, D2, mid2, rfl, ⟨y, rfl, hy⟩, rfl, rfl⟩ := hsl
      simp only at hrun
      simp only [Option.some.injEq, Except.ok.injEq, Prod.mk.injEq] at hrun
      obtain ⟨rfl, rfl⟩ := hrun
      rw [hC, hy, h0]; simp

end
end DecodeL
end MsVerif
