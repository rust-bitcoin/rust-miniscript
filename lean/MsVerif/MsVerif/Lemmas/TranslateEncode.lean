/-
Lemmas for C20 (T3/T4/T5): script, type and ext data of a key-substituted miniscript; key
iteration (`for_each_key`, `Miniscript::iter`, `iter_pk`).
-/
import MsVerif.Lemmas.TreeWalk
import MsVerif.Model.Translate
import MsVerif.Model.Encode
import MsVerif.Model.TypeCheck
import MsVerif.Model.Ext
import MsVerif.Lemmas.CoreEncode

namespace MsVerif.TranslateEncode
open MsVerif MsVerif.TreeWalk Script

/-- the key table seen through a mapping: atom `k` is serialised as the mapped key `f k` -/
def KeyEnv.comap (env : KeyEnv) (f : Key → Key) (g : HashKind → Nat → Nat) : KeyEnv where
  ser k := env.ser (f k)
  sortKey k := env.sortKey (f k)
  pkh k := env.pkh (f k)
  rawPkh := env.rawPkh
  hashVal kind h := env.hashVal kind (g kind h)

mutual
theorem encode_mapKeys (env : KeyEnv) (ctx : Ctx) (f : Key → Key) (g : HashKind → Nat → Nat) : (ms : Ms) →
    encode env ctx (ms.mapKeys f g) = encode (KeyEnv.comap env f g) ctx ms
  | .tru | .fls | .rawPkH _ | .after _ | .older _ | .pkK _ | .pkH _ | .hash _ _ => by
    simp only [Ms.mapKeys, encode, KeyEnv.comap]
  | .multi _ _ | .sortedMulti _ _ | .multiA _ _ | .sortedMultiA _ _ => by
    have hs := sortKeys_map env (KeyEnv.comap env f g) f (fun _ => rfl)
    have ha := encodeMultiA_map env (KeyEnv.comap env f g) f (fun _ => rfl)
    simp [Ms.mapKeys, encode, hs, ha, Function.comp_def, KeyEnv.comap]
  | .alt x | .swap x | .check x | .dupIf x | .verify x | .nonZero x | .zeroNotEqual x => by
    simp only [Ms.mapKeys, encode, encode_mapKeys env ctx f g x]
  | .andV l r | .andB l r | .orB l r | .orD l r | .orC l r | .orI l r => by
    simp only [Ms.mapKeys, encode, encode_mapKeys env ctx f g l, encode_mapKeys env ctx f g r]
  | .andOr a b c => by
    simp only [Ms.mapKeys, encode, encode_mapKeys env ctx f g a, encode_mapKeys env ctx f g b,
      encode_mapKeys env ctx f g c]
  | .thresh _ xs => by simp only [Ms.mapKeys, encode, encodeThresh_mapKeys env ctx f g true xs]
theorem encodeThresh_mapKeys (env : KeyEnv) (ctx : Ctx) (f : Key → Key) (g : HashKind → Nat → Nat)
    (first : Bool) : (xs : MsList) →
    encodeThresh env ctx first (xs.mapKeys f g) = encodeThresh (KeyEnv.comap env f g) ctx first xs
  | .nil => rfl
  | .cons x xs => by
    simp only [MsList.mapKeys, encodeThresh, encode_mapKeys env ctx f g x,
      encodeThresh_mapKeys env ctx f g false xs]
end

theorem encodeBytes_mapKeys (env : KeyEnv) (ctx : Ctx) (f : Key → Key) (g : HashKind → Nat → Nat) (ms : Ms) :
    encodeBytes env ctx (ms.mapKeys f g) = encodeBytes (KeyEnv.comap env f g) ctx ms := by
  unfold encodeBytes
  rw [encode_mapKeys]

mutual
theorem typeOf_mapKeys (f : Key → Key) (g : HashKind → Nat → Nat) : (ms : Ms) →
    typeOf (ms.mapKeys f g) = typeOf ms
  | .tru | .fls | .rawPkH _ | .after _ | .older _ | .pkK _ | .pkH _ | .hash _ _
  | .multi _ _ | .sortedMulti _ _ | .multiA _ _ | .sortedMultiA _ _ => by simp only [Ms.mapKeys, typeOf]
  | .alt x | .swap x | .check x | .dupIf x | .verify x | .nonZero x | .zeroNotEqual x => by
    simp only [Ms.mapKeys, typeOf, typeOf_mapKeys f g x]
  | .andV l r | .andB l r | .orB l r | .orD l r | .orC l r | .orI l r => by
    simp only [Ms.mapKeys, typeOf, typeOf_mapKeys f g l, typeOf_mapKeys f g r]
  | .andOr a b c => by
    simp only [Ms.mapKeys, typeOf, typeOf_mapKeys f g a, typeOf_mapKeys f g b, typeOf_mapKeys f g c]
  | .thresh _ xs => by simp only [Ms.mapKeys, typeOf, typesOf_mapKeys f g xs]
theorem typesOf_mapKeys (f : Key → Key) (g : HashKind → Nat → Nat) : (xs : MsList) →
    typesOf (xs.mapKeys f g) = typesOf xs
  | .nil => rfl
  | .cons x xs => by simp only [MsList.mapKeys, typesOf, typeOf_mapKeys f g x, typesOf_mapKeys f g xs]
end

mutual
theorem extOf_mapKeys (env : KeyEnv) (ctx : Ctx) (f : Key → Key) (g : HashKind → Nat → Nat)
    (hk : ∀ k, isUnc env (f k) = isUnc env k) : (ms : Ms) →
    extOf env ctx (ms.mapKeys f g) = extOf env ctx ms
  | .tru | .fls | .rawPkH _ | .after _ | .older _ | .pkK _ | .pkH _ => by
    simp only [Ms.mapKeys, extOf, hk]
  | .hash kind _ => by cases kind <;> simp only [Ms.mapKeys, extOf]
  | .multi _ _ | .sortedMulti _ _ | .multiA _ _ | .sortedMultiA _ _ => by
    simp [Ms.mapKeys, extOf, hk, Function.comp_def]
  | .alt x | .swap x | .check x | .dupIf x | .verify x | .nonZero x | .zeroNotEqual x => by
    simp only [Ms.mapKeys, extOf, extOf_mapKeys env ctx f g hk x]
  | .andV l r | .andB l r | .orB l r | .orD l r | .orC l r | .orI l r => by
    simp only [Ms.mapKeys, extOf, extOf_mapKeys env ctx f g hk l, extOf_mapKeys env ctx f g hk r]
  | .andOr a b c => by
    simp only [Ms.mapKeys, extOf, extOf_mapKeys env ctx f g hk a, extOf_mapKeys env ctx f g hk b,
      extOf_mapKeys env ctx f g hk c]
  | .thresh _ xs => by simp only [Ms.mapKeys, extOf, extsOf_mapKeys env ctx f g hk xs]
theorem extsOf_mapKeys (env : KeyEnv) (ctx : Ctx) (f : Key → Key) (g : HashKind → Nat → Nat)
    (hk : ∀ k, isUnc env (f k) = isUnc env k) : (xs : MsList) →
    extsOf env ctx (xs.mapKeys f g) = extsOf env ctx xs
  | .nil => rfl
  | .cons x xs => by
    simp only [MsList.mapKeys, extsOf, extOf_mapKeys env ctx f g hk x, extsOf_mapKeys env ctx f g hk xs]
end

theorem allVisit_append (pred : Key → Bool) (a b : List Key) :
    allVisit pred (a ++ b) =
      if (allVisit pred a).2 then ((allVisit pred a).1 ++ (allVisit pred b).1, (allVisit pred b).2)
      else ((allVisit pred a).1, false) := by
  induction a with
  | nil => simp [allVisit]
  | cons k ks ih =>
    simp only [List.cons_append, allVisit]
    by_cases hk : pred k = true
    · simp only [hk, if_true, ih]
      split <;> simp
    · simp [hk]

theorem allVisit_single (pred : Key → Bool) (k : Key) : allVisit pred [k] = ([k], pred k) := by
  cases h : pred k <;> simp [allVisit, h]

theorem forEachKeyLoop_eq (pred : Key → Bool) (l : List Ms) :
    forEachKeyLoop pred l = allVisit pred (l.flatMap Ms.keysAt) := by
  induction l with
  | nil => rfl
  | cons x xs ih =>
    rw [List.flatMap_cons, allVisit_append, ← ih]
    cases x
    case pkK k | pkH k => cases h : pred k <;> simp [forEachKeyLoop, Ms.keysAt, allVisit, h]
    case multi | sortedMulti | multiA | sortedMultiA =>
      simp only [forEachKeyLoop, Ms.keysAt]
      rfl
    all_goals simp only [forEachKeyLoop, Ms.keysAt, allVisit]

theorem forEachKey_eq (pred : Key → Bool) (ms : Ms) : forEachKey pred ms = allVisit pred ms.keys := by
  unfold forEachKey Ms.keys
  rw [preOrder_eq_pre, forEachKeyLoop_eq]

theorem branches_eq (ms : Ms) : ms.branches = ms.asNode.children := by
  cases ms <;> simp only [Ms.branches, Ms.asNode, Tree.children]

theorem getNthChild_eq (ms : Ms) (n : Nat) : ms.getNthChild n = ms.asNode.children[n]? := by
  -- `get_nth_child` matches on the index first: split it the same way, then every node is `rfl`
  match n with
  | 0 | 1 | 2 | n + 3 => cases ms <;> rfl

theorem drop_getElem? {α : Type} (l : List α) (i : Nat) :
    l.drop i = match l[i]? with | some x => x :: l.drop (i + 1) | none => [] := by
  induction l generalizing i with
  | nil => simp
  | cons y ys ih =>
    cases i with
    | zero => simp
    | succ i => simpa using ih i

/-- what a path entry `(node, i)` still has to yield: the subtrees of children `i, i+1, …` -/
def pathOut (p : Ms × Nat) : List Ms := (p.1.asNode.children.drop p.2).flatMap Ms.pre

/-- what the iterator state still has to yield -/
def remaining (s : IterState) : List Ms :=
  (match s.next with | some n => n.pre | none => []) ++ s.path.flatMap pathOut

theorem iterUnwind_spec : (path : List (Ms × Nat)) →
    path.flatMap pathOut =
      (match (iterUnwind path).1 with | some c => c.pre | none => []) ++ (iterUnwind path).2.flatMap pathOut
  | [] => by simp [iterUnwind]
  | (node, child) :: path => by
    simp only [iterUnwind, getNthChild_eq]
    have hd := drop_getElem? node.asNode.children child
    cases h : node.asNode.children[child]? with
    | none =>
      simp only [h] at hd
      simp only [List.flatMap_cons, pathOut, hd, List.flatMap_nil, List.nil_append]
      exact iterUnwind_spec path
    | some c =>
      simp only [h] at hd
      simp [List.flatMap_cons, pathOut, hd]

theorem iterUnwind_none (path : List (Ms × Nat)) (h : (iterUnwind path).1 = none) :
    (iterUnwind path).2 = [] := by
  induction path with
  | nil => rfl
  | cons p ps ih =>
    obtain ⟨node, child⟩ := p
    simp only [iterUnwind] at h ⊢
    cases hc : node.getNthChild child with
    | none => simp only [hc] at h ⊢; exact ih h
    | some c => simp [hc] at h

theorem remaining_descend (c : Ms) (path : List (Ms × Nat)) :
    remaining ⟨c.getNthChild 0, (c, 1) :: path⟩ =
      c.asNode.children.flatMap Ms.pre ++ path.flatMap pathOut := by
  have hd := drop_getElem? c.asNode.children 0
  rw [List.drop_zero] at hd
  simp only [remaining, getNthChild_eq, List.flatMap_cons, pathOut]
  cases h0 : c.asNode.children[0]? with
  | none => simp only [h0] at hd; simp [hd]
  | some c0 => simp only [h0] at hd; rw [hd]; simp

theorem iterNext_spec : Remains iterNext remaining := fun s => by
  obtain ⟨next, path⟩ := s
  cases next with
  | some c =>
    simp only [iterNext, remaining_descend]
    simp [remaining, Ms.pre_eq c]
  | none =>
    have hs := iterUnwind_spec path
    have hr : remaining ⟨none, path⟩ = path.flatMap pathOut := rfl
    rw [hr, hs]
    simp only [iterNext]
    cases hu : (iterUnwind path).1 with
    | none => simp [iterUnwind_none path hu]
    | some c =>
      have he : iterUnwind path = (some c, (iterUnwind path).2) := by rw [← hu]
      rw [he]
      simp only [remaining_descend]
      simp [Ms.pre_eq c]

theorem iterCollect_eq (fuel : Nat) (s : IterState) :
    iterCollect iterNext fuel s = (remaining s).take fuel :=
  iterCollect_eq_take iterNext_spec fuel s

theorem iterNodes_eq (ms : Ms) : ms.iterNodes = ms.pre := by
  unfold Ms.iterNodes
  rw [iterCollect_eq]
  simp only [remaining, List.flatMap_nil, List.append_nil]
  rw [← Ms.pre_length ms, List.take_length]

theorem getNthPk_eq (ms : Ms) (n : Nat) : ms.getNthPk n = ms.keysAt[n]? := by
  cases n <;> cases ms <;> rfl

theorem pkIterNode_eq (node : Ms) : ∀ (fuel idx : Nat),
    pkIterNode node fuel idx = (node.keysAt.drop idx).take fuel
  | 0, _ => by simp [pkIterNode]
  | fuel + 1, idx => by
    rw [pkIterNode, getNthPk_eq, drop_getElem? node.keysAt idx]
    cases node.keysAt[idx]? with
    | none => simp
    | some pk => simp only [pkIterNode_eq node fuel (idx + 1), List.take_succ_cons]

theorem iterPk_eq (ms : Ms) : ms.iterPkLit = ms.keys := by
  unfold Ms.iterPkLit Ms.keys
  rw [iterNodes_eq]
  congr 1; funext node
  rw [pkIterNode_eq]
  simp only [List.drop_zero]
  exact List.take_of_length_le (by omega)

mutual
theorem keysPre_mapKeys (f : Key → Key) (g : HashKind → Nat → Nat) : (ms : Ms) →
    (ms.mapKeys f g).pre.flatMap Ms.keysAt = (ms.pre.flatMap Ms.keysAt).map f
  | .tru | .fls | .rawPkH _ | .after _ | .older _ | .pkK _ | .pkH _ | .hash _ _
  | .multi _ _ | .sortedMulti _ _ | .multiA _ _ | .sortedMultiA _ _ => by
    simp [Ms.mapKeys, Ms.pre, Ms.keysAt]
  | .alt x | .swap x | .check x | .dupIf x | .verify x | .nonZero x | .zeroNotEqual x => by
    simp [Ms.mapKeys, Ms.pre, Ms.keysAt, keysPre_mapKeys f g x]
  | .andV l r | .andB l r | .orB l r | .orD l r | .orC l r | .orI l r => by
    simp [Ms.mapKeys, Ms.pre, Ms.keysAt, List.flatMap_append, keysPre_mapKeys f g l,
      keysPre_mapKeys f g r]
  | .andOr a b c => by
    simp [Ms.mapKeys, Ms.pre, Ms.keysAt, List.flatMap_append, keysPre_mapKeys f g a,
      keysPre_mapKeys f g b, keysPre_mapKeys f g c]
  | .thresh _ xs => by simp [Ms.mapKeys, Ms.pre, Ms.keysAt, keysPre_mapKeys_list f g xs]
theorem keysPre_mapKeys_list (f : Key → Key) (g : HashKind → Nat → Nat) : (xs : MsList) →
    (xs.mapKeys f g).pre.flatMap Ms.keysAt = (xs.pre.flatMap Ms.keysAt).map f
  | .nil => rfl
  | .cons x xs => by
    simp [MsList.mapKeys, MsList.pre, List.flatMap_append, keysPre_mapKeys f g x,
      keysPre_mapKeys_list f g xs]
end

end MsVerif.TranslateEncode
