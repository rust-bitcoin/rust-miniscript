/-
Every constraint the interpreter reports was checked successfully on the way (all fragments,
including `multi`, `multi_a` and `thresh`).
-/
import MsVerif.Lemmas.InterpRules

namespace MsVerif.InterpSound
open MsVerif Interp

/-- what a reported constraint claims, in terms of the interpreter's own oracles -/
def CValid (ie : IEnv) : Constraint → Prop
  | .pk pk sg => ie.verifySig pk sg = true
  | .pkh hh pk sg => ie.verifySig pk sg = true ∧ ie.hash160 pk = hh ∧ ie.keyParse pk = true
  | .hashLock k hh pre => ie.hash k pre = hh ∧ pre.length = 32
  | .after n =>
    ie.sequence ≠ Interp.SEQ_FINAL ∧
    ((n < Interp.LOCKTIME_THRESHOLD ∧ ie.lockTime < Interp.LOCKTIME_THRESHOLD)
      ∨ (n ≥ Interp.LOCKTIME_THRESHOLD ∧ ie.lockTime ≥ Interp.LOCKTIME_THRESHOLD)) ∧ n ≤ ie.lockTime
  | .older n =>
    (ie.sequence / Interp.SEQ_DISABLE) % 2 = 0
      ∧ ((ie.sequence / Interp.SEQ_TYPE) % 2 = 1 ↔ (n / Interp.SEQ_TYPE) % 2 = 1)
      ∧ n % 65536 ≤ ie.sequence % 65536

def AllValid (ie : IEnv) (cs : List Constraint) : Prop := ∀ c ∈ cs, CValid ie c

variable {ie : IEnv} {ke : KeyEnv}

theorem AllValid.nil : AllValid ie [] := fun _ h => by simp at h

theorem AllValid.append {a b : List Constraint} (ha : AllValid ie a) (hb : AllValid ie b) :
    AllValid ie (a ++ b) := fun c hc => by
  rcases List.mem_append.mp hc with h | h
  · exact ha c h
  · exact hb c h

theorem AllValid.cons {c : Constraint} {b : List Constraint} (ha : CValid ie c) (hb : AllValid ie b) :
    AllValid ie (c :: b) := fun x hx => by
  rcases List.mem_cons.mp hx with h | h
  · subst h; exact ha
  · exact hb x h

theorem evalSig_valid {pk : Bytes} {mk : Bytes → Constraint} {st a' : AStack} {cs : List Constraint}
    (hmk : ∀ sg, ie.verifySig pk sg = true → CValid ie (mk sg))
    (h : evalSig ie pk mk st = .ok (a', cs)) : AllValid ie cs := by
  rcases evalSig_ok h with ⟨_, _, _, rfl⟩ | ⟨_, _, _, hv, _, rfl⟩
  · exact .nil
  · exact .cons (hmk _ hv) .nil

theorem evaluatePkh_valid {hh : Bytes} {st a' : AStack} {cs : List Constraint}
    (h : evaluatePkh ie hh st = .ok (a', cs)) : AllValid ie cs := by
  obtain ⟨pk, _, _, e1, e2, hs⟩ := evaluatePkh_ok h
  exact evalSig_valid (fun sg hv => (show CValid ie (.pkh hh pk sg) from ⟨hv, e1, e2⟩)) hs

theorem multiLoop_valid {k : Nat} : ∀ (keys : List Bytes) (nSat : Nat) (st a' : AStack) (cs : List Constraint),
    multiLoop ie k keys nSat st = .ok (a', cs) → AllValid ie cs :=
  multiLoop_induct (P := fun _ _ _ _ cs => AllValid ie cs)
    (fun _ _ => .nil)
    (fun _ _ _ _ _ _ _ _ hv _ ih => .cons hv ih)
    (fun _ _ _ _ _ _ _ _ _ _ ih => ih)

theorem evalMulti_valid {k : Nat} {keys : List Bytes} {st a' : AStack} {cs : List Constraint}
    (h : evalMulti ie k keys st = .ok (a', cs)) : AllValid ie cs := by
  obtain ⟨_, ⟨_, _, _, _, rfl⟩ | ⟨_, hm⟩⟩ := evalMulti_ok h
  · exact .nil
  · exact multiLoop_valid _ _ _ _ _ hm

theorem multiALoop_valid {k : Nat} : ∀ (keys : List Bytes) (nSat : Nat) (st a' : AStack) (cs : List Constraint),
    Interp.multiALoop ie k keys nSat st = .ok (a', cs) → AllValid ie cs :=
  multiALoop_induct (P := fun _ _ _ _ cs => AllValid ie cs)
    (fun _ _ => .nil)
    (fun _ _ _ _ _ _ _ hv _ ih => .cons hv ih)
    (fun _ _ _ _ _ _ _ ih => ih)

/-- a leaf reports what it has just checked, a combinator concatenates its children's reports -/
theorem validRules : Rules ke ie (fun _ _ _ cs => AllValid ie cs) (fun _ _ _ _ _ cs => AllValid ie cs) where
  tru _ := .nil
  fls _ := .nil
  pkK k _ _ _ h := evalSig_valid (mk := .pk (ke.ser k)) (fun _ hv => hv) h
  pkH _ _ _ _ h := evaluatePkh_valid h
  rawPkH _ _ _ _ h := evaluatePkh_valid h
  after _ _ _ _ h := by obtain ⟨_, rfl, hc⟩ := evaluateAfter_ok h; exact .cons hc .nil
  older _ _ _ _ h := by obtain ⟨_, rfl, hc⟩ := evaluateOlder_ok h; exact .cons hc .nil
  hash _ _ _ _ _ h := by
    obtain ⟨_, _, _, hl, ⟨he, _, rfl⟩ | ⟨_, _, rfl⟩⟩ := evaluateHash_ok h
    · exact .cons ⟨he, hl⟩ .nil
    · exact .nil
  alt _ _ _ _ _ ih := ih
  swap _ _ _ _ _ ih := ih
  check _ _ _ _ _ ih := ih
  dupIf_dis _ _ := .nil
  dupIf_sat _ _ _ _ _ ih := ih
  verify _ _ _ _ _ ih := ih
  zne_dis _ _ _ _ _ ih := ih
  zne_sat _ _ _ _ _ _ _ ih := ih
  nonZero_dis _ _ := .nil
  nonZero _ _ _ _ _ _ _ ih := ih
  andV _ _ _ _ _ _ _ _ ihl _ ihr := ihl.append ihr
  andB _ _ _ _ _ _ _ _ _ _ _ ihl _ ihr := ihl.append ihr
  orB _ _ _ _ _ _ _ _ _ _ _ ihl _ ihr := ihl.append ihr
  andOr_sat _ _ _ _ _ _ _ _ _ ihx _ ihy := ihx.append ihy
  andOr_dis _ _ _ _ _ _ _ _ _ ihx _ ihz := ihx.append ihz
  orC_sat _ _ _ _ _ _ ih := ih
  orC_dis _ _ _ _ _ _ _ _ ihl _ ihr := ihl.append ihr
  orD_sat _ _ _ _ _ _ ih := ih
  orD_dis _ _ _ _ _ _ _ _ ihl _ ihr := ihl.append ihr
  orI_left _ _ _ _ _ _ ih := ih
  orI_right _ _ _ _ _ _ ih := ih
  thresh _ _ _ _ _ _ _ _ _ _ _ _ ihx _ ihr := ihx.append ihr
  multi _ _ _ _ _ h := evalMulti_valid h
  sortedMulti _ _ _ _ _ h := evalMulti_valid h
  multiA _ _ _ _ _ h := multiALoop_valid _ _ _ _ _ h
  sortedMultiA _ _ _ _ _ h := multiALoop_valid _ _ _ _ _ h
  rest_nil _ _ := .nil
  rest_cons _ _ _ _ _ _ _ _ _ _ _ _ ihx _ ihr := ihx.append ihr

theorem interp_valid : (ms : Ms) → ∀ (st a' : AStack) (cs : List Constraint),
    interp ke ie ms st = .ok (a', cs) → AllValid ie cs :=
  validRules.interp

theorem interpRest_valid : (xs : MsList) → ∀ (n : Nat) (st a' : AStack) (n' : Nat) (cs : List Constraint),
    interpRest ke ie xs n st = .ok (a', n', cs) → AllValid ie cs :=
  validRules.interpRest

end MsVerif.InterpSound
