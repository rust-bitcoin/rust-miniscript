/-
What the completeness inductions of C02 need of one signature (`sigWit_avail_cases`, sizes under
`SigSizesOK`) and of a `multi` / `multi_a` leaf (`LeafFacts`): the leaf in normal form (`multiSD_eq`,
`multiASD_eq`: a stack iff `k` signatures are available, `sigAvail`), its sizes read off `CoreSat`'s shapes.
`pkLen_le`: a key push is at most 66 bytes.
-/
import MsVerif.Lemmas.CompleteBasic

namespace MsVerif.Complete
open MsVerif Sat

/-- a signature for key `k` is available in context `ctx` (`Witness::signature` is a stack) -/
def sigAvail (ctx : Ctx) (a : Assets) (k : Key) : Bool :=
  match ctx.sigType with
  | .schnorr => (a.schnorrSig k).isSome
  | .ecdsa => a.ecdsaSig k

/-- announced Schnorr signature sizes are real ones (64, or 65 with a sighash byte) -/
def SigSizesOK (a : Assets) : Prop :=
  (∀ k sz, a.schnorrSig k = some sz → sz ≤ 65) ∧
  (∀ h p, a.rawPkhSchnorr h = some p → p.2 ≤ 65)

theorem sizesOK_of_noSchnorr (a : Assets) (h1 : ∀ k, a.schnorrSig k = none)
    (h2 : ∀ h, a.rawPkhSchnorr h = none) : SigSizesOK a :=
  ⟨fun k sz h => (by rw [h1] at h; cases h), fun h p hp => (by rw [h2] at hp; cases hp)⟩

theorem sigWit_avail_cases (ctx : Ctx) (a : Assets) (k : Key) :
    (sigAvail ctx a k = false ∧ sigWit ctx a k = .impossible) ∨
    (sigAvail ctx a k = true ∧ ∃ p, sigWit ctx a k = .stack [p] ∧
      (SigSizesOK a → p.size ≤ 73)) := by
  unfold sigAvail sigWit
  cases ctx.sigType with
  | schnorr =>
    cases h : a.schnorrSig k with
    | none => left; simp
    | some sz =>
      right; refine ⟨by simp, _, rfl, ?_⟩
      intro hs; have := hs.1 k sz h; simp [Ph.size]; omega
  | ecdsa =>
    cases h : a.ecdsaSig k with
    | false => left; simp
    | true => right; exact ⟨rfl, .ecdsaSig k, by simp, fun _ => by simp [Ph.size]⟩

theorem sigWit_isStk (ctx : Ctx) (a : Assets) (k : Key) :
    isStk (sigWit ctx a k) = sigAvail ctx a k := by
  rcases sigWit_avail_cases ctx a k with ⟨h1, h2⟩ | ⟨h1, p, h2, _⟩ <;> rw [h1, h2] <;> rfl

theorem sigWit_ne_unav (ctx : Ctx) (a : Assets) (k : Key) : sigWit ctx a k ≠ .unavailable := by
  rcases sigWit_avail_cases ctx a k with ⟨_, h2⟩ | ⟨_, p, h2, _⟩ <;> rw [h2] <;> simp

theorem sigWit_wsz (ctx : Ctx) (a : Assets) (k : Key) (hs : SigSizesOK a) :
    wsz (sigWit ctx a k) ≤ 73 := by
  rcases sigWit_avail_cases ctx a k with ⟨_, h2⟩ | ⟨_, p, h2, h3⟩ <;> rw [h2]
  · simp [wsz]
  · have := h3 hs; simp [wsz]; omega

theorem pkLen_le (env : KeyEnv) (ctx : Ctx) (k : Key) : pkLen env ctx k ≤ 66 := by
  unfold pkLen; cases ctx <;> simp <;> split <;> omega

def availSigs (ctx : Ctx) (a : Assets) (ks : List Key) : List (List Ph) :=
  ks.filterMap fun pk => match sigWit ctx a pk with | .stack s => some s | _ => none

theorem availSigs_length (ctx : Ctx) (a : Assets) (ks : List Key) :
    (availSigs ctx a ks).length = (ks.filter (sigAvail ctx a)).length := by
  induction ks with
  | nil => rfl
  | cons k t ih =>
    unfold availSigs at *
    rcases sigWit_avail_cases ctx a k with ⟨h1, h2⟩ | ⟨h1, p, h2, _⟩
    · simp [h2, h1, ih]
    · simp [h2, h1, ih]

theorem sigWit_size {ctx : Ctx} {a : Assets} {x : Key} {p : Ph} (hs : SigSizesOK a)
    (h : sigWit ctx a x = .stack [p]) : p.size ≤ 73 := by
  rcases sigWit_avail_cases ctx a x with ⟨_, h2⟩ | ⟨_, q, h2, h3⟩ <;> rw [h2] at h
  · cases h
  · cases List.head_eq_of_cons_eq (Wit.stack.inj h); exact h3 hs

theorem sumSize_flatten_le (l : List (List Ph)) (B : Nat) (h : ∀ s ∈ l, sumSize s ≤ B) :
    sumSize l.flatten ≤ B * l.length := by
  induction l with
  | nil => simp
  | cons s t ih =>
    have h1 := h s (by simp)
    have h2 := ih (fun x hx => h x (by simp [hx]))
    simp only [List.flatten_cons, sumSize_append, List.length_cons]
    rw [Nat.mul_succ]; omega

theorem multiSD_eq (ctx : Ctx) (a : Assets) (k : Nat) (ks : List Key) :
    multiSD ctx a k ks =
      let dissat : Sat := ⟨.stack (List.replicate (k + 1) .pushZero), false, none, none⟩
      if (availSigs ctx a ks).length < k then ⟨dissat, Sat.IMPOSSIBLE⟩
      else ⟨dissat, ⟨.stack ([.pushZero] ++
        (dropMostExpensive ((availSigs ctx a ks).length - k) (availSigs ctx a ks)).flatten),
        true, none, none⟩⟩ := by
  unfold multiSD availSigs
  simp only [Wit.foldl_combine_stack]
  rfl

theorem sumSize_replicate_zero (n : Nat) : sumSize (List.replicate n Ph.pushZero) = n := by
  induction n with
  | zero => rfl
  | succ n ih => simp [List.replicate_succ, ih, Ph.size]; omega

/-- everything the inductions need about a `multi` leaf: `B` bounds the number of items (`73 * B` bytes),
`can` is whether the satisfaction is a stack -/
structure LeafFacts (a : Assets) (B : Nat) (can : Bool) (r : SatDissat) : Prop where
  dStk : isStk r.dissat.stack = true
  dNoSig : r.dissat.hasSig = false
  dAbs : r.dissat.abs = none
  dRel : r.dissat.rel = none
  sAbs : r.sat.abs = none
  sRel : r.sat.rel = none
  sStk : isStk r.sat.stack = can
  sNU : r.sat.stack ≠ .unavailable
  sSig : r.sat.stack ≠ .impossible → r.sat.hasSig = true
  dSz : SigSizesOK a → wsz r.dissat.stack ≤ 73 * B
  sSz : SigSizesOK a → wsz r.sat.stack ≤ 73 * B

theorem LeafFacts.of {a : Assets} {B n : Nat} {can : Bool} {r : SatDissat}
    (hd : r.dissat = ⟨.stack (List.replicate n .pushZero), false, none, none⟩) (hn : n ≤ 73 * B)
    (hs : r.sat = IMPOSSIBLE ∨ ∃ w, r.sat = ⟨.stack w, true, none, none⟩)
    (hstk : isStk r.sat.stack = can) (hsz : SigSizesOK a → wsz r.sat.stack ≤ 73 * B) :
    LeafFacts a B can r := by
  have dsz : wsz r.dissat.stack ≤ 73 * B := by rw [hd]; simpa only [wsz, sumSize_replicate_zero] using hn
  rcases hs with e | ⟨w, e⟩
  · exact ⟨by rw [hd]; rfl, by rw [hd], by rw [hd], by rw [hd], by rw [e]; rfl, by rw [e]; rfl, hstk,
      by rw [e]; simp [IMPOSSIBLE], by rw [e]; simp [IMPOSSIBLE], fun _ => dsz, hsz⟩
  · exact ⟨by rw [hd]; rfl, by rw [hd], by rw [hd], by rw [hd], by rw [e], by rw [e], hstk,
      by rw [e]; simp, fun _ => by rw [e], fun _ => dsz, hsz⟩

theorem multiSD_facts (ctx : Ctx) (a : Assets) (k : Nat) (ks : List Key) :
    LeafFacts a (ks.length + k + 1) (decide ((ks.filter (sigAvail ctx a)).length ≥ k))
      (multiSD ctx a k ks) := by
  have hstk : isStk (multiSD ctx a k ks).sat.stack = decide ((ks.filter (sigAvail ctx a)).length ≥ k) := by
    rw [multiSD_eq]
    simp only
    have hlen := availSigs_length ctx a ks
    split <;> simp [IMPOSSIBLE, isStk] <;> omega
  have hsz : SigSizesOK a → wsz (multiSD ctx a k ks).sat.stack ≤ 73 * (ks.length + k + 1) := fun hs => by
    cases hw : (multiSD ctx a k ks).sat.stack with
    | stack w =>
      obtain ⟨ss, -, hlen, hss, rfl⟩ := SatSpec.multiSD_stack ctx a k ks hw
      have := sumSize_flatten_le (ss.map fun q => [q.2]) 73 (fun s h => by
        obtain ⟨q, hq, rfl⟩ := List.mem_map.mp h
        simpa using sigWit_size hs (hss q hq))
      rw [SatSpec.flatten_map_singleton, List.length_map, hlen] at this
      have e : wsz (.stack (Ph.pushZero :: ss.map (·.2))) = 1 + sumSize (ss.map (·.2)) := by
        simp [wsz, Ph.size]
      rw [e]
      have this : sumSize (ss.map (·.2)) ≤ 73 * k := this
      omega
    | _ => exact Nat.zero_le _
  exact .of (multiSD_dis ctx a k ks) (by omega) (multiSD_sat_cases ctx a k ks) hstk hsz

theorem multiALoop_count (ctx : Ctx) (a : Assets) (k : Nat) (rest : List Key) (i cnt : Nat)
    (sigs : List (List Ph)) :
    (cnt + (rest.filter (sigAvail ctx a)).length ≥ k ↔ (multiALoop ctx a k rest i cnt sigs).1 ≥ k) := by
  induction rest generalizing i cnt sigs with
  | nil => simp [multiALoop]
  | cons pk t ih =>
    unfold multiALoop
    rcases sigWit_avail_cases ctx a pk with ⟨h1, h2⟩ | ⟨h1, p, h2, _⟩
    · rw [h2]; simp only [List.filter_cons, h1]; exact ih _ _ _
    · rw [h2]; simp only [List.filter_cons, h1, if_true, List.length_cons]
      split
      · simp only; omega
      · rw [← ih]; omega

theorem multiASD_eq (ctx : Ctx) (a : Assets) (k : Nat) (ks : List Key) :
    multiASD ctx a k ks =
      let dissat : Sat := ⟨.stack (List.replicate ks.length .pushZero), false, none, none⟩
      let r := multiALoop ctx a k ks.reverse 0 0 (List.replicate ks.length [.pushZero])
      if r.1 < k then ⟨dissat, Sat.IMPOSSIBLE⟩
      else ⟨dissat, ⟨.stack r.2.flatten, true, none, none⟩⟩ := by
  unfold multiASD
  simp only [Wit.foldl_combine_stack, List.nil_append]

theorem multiASD_facts (ctx : Ctx) (a : Assets) (k : Nat) (ks : List Key) :
    LeafFacts a ks.length (decide ((ks.filter (sigAvail ctx a)).length ≥ k))
      (multiASD ctx a k ks) := by
  have hstk : isStk (multiASD ctx a k ks).sat.stack = decide ((ks.filter (sigAvail ctx a)).length ≥ k) := by
    rw [multiASD_eq]
    simp only
    have hcnt := multiALoop_count ctx a k ks.reverse 0 0 (List.replicate ks.length [.pushZero])
    rw [List.filter_reverse, List.length_reverse, Nat.zero_add] at hcnt
    split <;> simp [IMPOSSIBLE, isStk] <;> omega
  have hsz : SigSizesOK a → wsz (multiASD ctx a k ks).sat.stack ≤ 73 * ks.length := fun hs => by
    cases hw : (multiASD ctx a k ks).sat.stack with
    | stack w =>
      obtain ⟨sigs, hall, rfl, -⟩ := SatSpec.multiASD_slots ctx a k ks hw
      have := sumSize_flatten_le sigs 73 (fun s h => by
        obtain ⟨pk, -, rfl | hs'⟩ := hall.of_mem_right h
        · decide
        · have := sigWit_wsz ctx a pk hs
          rwa [hs'] at this)
      rw [← hall.length_eq, List.length_reverse] at this
      exact this
    | _ => exact Nat.zero_le _
  exact .of (multiASD_dis ctx a k ks) (by omega) (multiASD_sat_cases ctx a k ks) hstk hsz

end MsVerif.Complete
