/-
Powers of the linear step `L` of the checksum engine, on `BitVec 40` and on `Nat`
(the `Nat` copy `LN` is what the kernel evaluates in the tables).
-/
import MsVerif.Lemmas.ChecksumLinear

namespace MsVerif.Checksum

def Lpow : Nat → W → W
  | 0, x => x
  | n + 1, x => L (Lpow n x)

theorem Lpow_succ (n : Nat) (x : W) : Lpow (n + 1) x = L (Lpow n x) := rfl

theorem Lpow_succ' (n : Nat) (x : W) : Lpow (n + 1) x = Lpow n (L x) := by
  induction n with
  | zero => rfl
  | succ k ih => show L (Lpow (k + 1) x) = L (Lpow k (L x)); rw [ih]

theorem Lpow_add (m n : Nat) (x : W) : Lpow (m + n) x = Lpow m (Lpow n x) := by
  induction m with
  | zero => simp [Lpow]
  | succ k ih => rw [Nat.succ_add]; show L _ = L _; rw [ih]

theorem Lpow_xor (n : Nat) (x y : W) : Lpow n (x ^^^ y) = Lpow n x ^^^ Lpow n y := by
  induction n with
  | zero => rfl
  | succ k ih => show L _ = L _ ^^^ L _; rw [ih, L_xor]

theorem Lpow_zero (n : Nat) : Lpow n 0#40 = 0#40 := by
  induction n with
  | zero => rfl
  | succ k ih => show L _ = 0#40; rw [ih]; exact L_zero

theorem Lpow_inj (n : Nat) {x y : W} (h : Lpow n x = Lpow n y) : x = y := by
  induction n with
  | zero => exact h
  | succ k ih => exact ih (L_inj _ _ h)

theorem Lpow_eq_zero (n : Nat) {x : W} (h : Lpow n x = 0#40) : x = 0#40 := by
  apply Lpow_inj n; rw [h, Lpow_zero]

theorem Lpow_small (n : Nat) (x : W) (h : x.toNat * 32 ^ n < 2 ^ 40) :
    (Lpow n x).toNat = x.toNat * 32 ^ n := by
  induction n with
  | zero => simp [Lpow]
  | succ k ih =>
    have hk : x.toNat * 32 ^ k < 2 ^ 35 := by
      rw [Nat.pow_succ] at h
      have : x.toNat * 32 ^ k * 32 < 2 ^ 35 * 32 := by
        rw [Nat.mul_assoc]; exact h
      exact Nat.lt_of_mul_lt_mul_right this
    have hk' : x.toNat * 32 ^ k < 2 ^ 40 := by omega
    show (L (Lpow k x)).toNat = _
    rw [L_small _ (by rw [ih hk']; exact hk), ih hk', Nat.pow_succ, Nat.mul_assoc]

theorem L_shift : ∀ lo, lo < 32 → ∀ d, d < 7 →
    L (BitVec.ofNat 40 lo <<< (5 * d)) = BitVec.ofNat 40 lo <<< (5 * (d + 1)) := by decide +kernel

theorem Lpow_shift (lo : Nat) (hlo : lo < 32) (k d : Nat) (h : d + k ≤ 7) :
    Lpow k (BitVec.ofNat 40 lo <<< (5 * d)) = BitVec.ofNat 40 lo <<< (5 * (d + k)) := by
  induction k with
  | zero => rfl
  | succ k ih =>
    show L (Lpow k _) = _
    rw [ih (by omega), L_shift lo hlo (d + k) (by omega)]
    rfl

theorem Lpow_ofNat (lo : Nat) (hlo : lo < 32) (k : Nat) (h : k ≤ 7) :
    Lpow k (BitVec.ofNat 40 lo) = BitVec.ofNat 40 lo <<< (5 * k) := by
  have := Lpow_shift lo hlo k 0 (by omega)
  simpa using this

def selN (b : Bool) (g : Nat) : Nat := if b then g else 0

def LN (c : Nat) : Nat :=
  let t := c >>> 35
  ((c &&& 0x7ffffffff) <<< 5) ^^^ selN (t.testBit 0) 0xf5dee51989 ^^^ selN (t.testBit 1) 0xa9fdca3312
    ^^^ selN (t.testBit 2) 0x1bab10e32d ^^^ selN (t.testBit 3) 0x3706b1677a
    ^^^ selN (t.testBit 4) 0x644d626ffd

theorem sel_toNat (b : Bool) (g : W) : (sel b g).toNat = selN b g.toNat := by
  cases b <;> simp [sel, selN]

theorem L_toNat (c : W) : (L c).toNat = LN c.toNat := by
  have hs : (shiftPart c).toNat = (c.toNat &&& 0x7ffffffff) <<< 5 := by
    unfold shiftPart
    rw [mask_eq, BitVec.toNat_shiftLeft, BitVec.toNat_and]
    have h1 : (0x7ffffffff#40).toNat = 0x7ffffffff := by decide
    rw [h1]
    apply Nat.mod_eq_of_lt
    have : c.toNat &&& 0x7ffffffff ≤ 0x7ffffffff := Nat.and_le_right
    rw [Nat.shiftLeft_eq]; omega
  have hb : ∀ i, (c >>> 35).getLsbD i = (c.toNat >>> 35).testBit i := by
    intro i; rw [BitVec.getLsbD, BitVec.toNat_ushiftRight]
  have g0 : GEN0.toNat = 0xf5dee51989 := by decide
  have g1 : GEN1.toNat = 0xa9fdca3312 := by decide
  have g2 : GEN2.toNat = 0x1bab10e32d := by decide
  have g3 : GEN3.toNat = 0x3706b1677a := by decide
  have g4 : GEN4.toNat = 0x644d626ffd := by decide
  unfold L G LN
  simp only [BitVec.toNat_xor, hs, sel_toNat, hb, g0, g1, g2, g3, g4, Nat.xor_assoc]

def LNpow : Nat → Nat → Nat
  | 0, x => x
  | n + 1, x => LN (LNpow n x)

theorem LNpow_succ' (n x : Nat) : LNpow (n + 1) x = LNpow n (LN x) := by
  induction n with
  | zero => rfl
  | succ k ih => show LN _ = LN _; rw [ih]

theorem LNpow_add (m n x : Nat) : LNpow (m + n) x = LNpow m (LNpow n x) := by
  induction m with
  | zero => simp [LNpow]
  | succ k ih => rw [Nat.succ_add]; show LN _ = LN _; rw [ih]

theorem Lpow_toNat (n : Nat) (x : W) : (Lpow n x).toNat = LNpow n x.toNat := by
  induction n with
  | zero => rfl
  | succ k ih => show (L _).toNat = LN _; rw [L_toNat, ih]

end MsVerif.Checksum
