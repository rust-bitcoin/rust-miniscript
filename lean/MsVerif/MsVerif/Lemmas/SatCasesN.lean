/-
Soundness of the satisfier model for `multi`, `sortedmulti`, `multi_a`, `sortedmulti_a`: two cores, `multi_core` and `multiA_core`,
each with the fragment's execution lemma as a parameter, so that the sorted form is the same case on the sorted keys.
-/
import MsVerif.Lemmas.SatCases
import MsVerif.Lemmas.SatMulti

namespace MsVerif.SatSpec
open MsVerif Script

variable {env : Env} {σ : Ph → Bytes} {cfg : SatCfg}

theorem stk_replicate_zero (hz : σ .pushZero = []) (n : Nat) :
    stk σ (List.replicate n .pushZero) = List.replicate n [] := by
  simp [stk, hz]

theorem multi_core (hag : Agrees env cfg.env cfg.assets σ)
    (k : Nat) (ks : List Key) (hctx : cfg.ctx ≠ .tap) (hk1 : 1 ≤ k) (ms : Ms)
    (hfrag : ∀ (sigs : List Bytes) (rest : List Bytes) (b : Bool), sigs.length = k →
      multisigLoop env sigs (ks.map cfg.env.ser).reverse = .ok b →
      (b = true ∨ sigs.all (·.isEmpty) = true) →
      Runs (frag env cfg.env cfg.ctx ms) (sigs ++ [] :: rest) (boolBytes b :: rest)) :
    Sound env cfg.env cfg.ctx σ Corr.multi ms (multiSD cfg.ctx cfg.assets k ks) where
  sat := fun w hw => by
    obtain ⟨ss, hss, hlen, hav, rfl⟩ := multiSD_sat hctx cfg.assets k ks hw.1
    rw [satRuns_B (by rfl)]
    intro rest
    refine ⟨[1], ?_, trueVal_one, fun _ => rfl⟩
    have hloop := multisigLoop_sublist (env := env) cfg.env.ser (fun x => σ (.ecdsaSig x))
      hag.keyShape ks.reverse ss.reverse hss.reverse
      (fun x hx => hag.ecdsa x (hav x (by simpa using hx)))
    have := hfrag (ss.reverse.map (fun x => σ (.ecdsaSig x))) rest true (by simp [hlen])
      (by simpa [List.map_reverse] using hloop) (.inl rfl)
    simpa [stk, hag.pushZero, List.map_reverse, boolBytes, Function.comp_def] using this
  dis := fun w hw => by
    rw [multiSD_dis] at hw
    have : w = List.replicate (k + 1) .pushZero := good_lit hw
    subst this
    rw [disRuns_B (by rfl)]
    intro rest
    obtain ⟨m, rfl⟩ : ∃ m, k = m + 1 := ⟨k - 1, by omega⟩
    have hloop := multisigLoop_empty (env := env) m (ks.map cfg.env.ser).reverse
      (by intro key hkey; simp at hkey; obtain ⟨x, _, rfl⟩ := hkey; exact hag.keyShape x)
    have := hfrag (List.replicate (m + 1) []) rest false (by simp) hloop (.inr (by simp))
    rw [stk_replicate_zero hag.pushZero, List.replicate_succ' (n := m + 1)]
    simpa [boolBytes] using this

theorem tap_false (h : EnvOk env cfg.ctx) (hctx : cfg.ctx ≠ .tap) : env.flags.tapscript = false := by
  rw [h.tap]; simp [hctx]

theorem tap_true (h : EnvOk env cfg.ctx) (hctx : cfg.ctx = .tap) : env.flags.tapscript = true := by
  rw [h.tap]; simp [hctx]

theorem multi_case (h : EnvOk env cfg.ctx) (hag : Agrees env cfg.env cfg.assets σ)
    (k : Nat) (ks : List Key) (hwf : WF cfg.ctx (.multi k ks)) :
    Sound env cfg.env cfg.ctx σ Corr.multi (.multi k ks) (satDissat cfg (.multi k ks)) := by
  simp only [WF] at hwf
  obtain ⟨hctx, hk1, hkn, hn⟩ := hwf
  simp only [satDissat_multi]
  exact multi_core hag k ks hctx hk1 _
    (fun sigs rest b hl hloop hnf =>
      frag_multi h.nl (tap_false h hctx) k ks hn hkn sigs hl rest hloop hnf)

theorem sortedMulti_case (h : EnvOk env cfg.ctx) (hag : Agrees env cfg.env cfg.assets σ)
    (k : Nat) (ks : List Key) (hwf : WF cfg.ctx (.sortedMulti k ks)) :
    Sound env cfg.env cfg.ctx σ Corr.sortedmulti (.sortedMulti k ks)
      (satDissat cfg (.sortedMulti k ks)) := by
  simp only [WF] at hwf
  obtain ⟨hctx, hk1, hkn, hn⟩ := hwf
  simp only [satDissat_sortedMulti, sortKeys'_eq]
  exact multi_core hag k (sortKeys cfg.env ks) hctx hk1 _
    (fun sigs rest b hl' hloop hnf =>
      frag_sortedMulti h.nl (tap_false h hctx) k ks hn hkn sigs hl' rest hloop hnf)

/-- slots in key order ↦ (key, stack element, outcome of CHECKSIG) triples -/
theorem slots_triples (hag : Agrees env cfg.env cfg.assets σ) {ks : List Key} {rs : List (List Ph)}
    (h : All2 (SlotOk cfg.assets) ks rs) :
    ∃ ps : List (Key × Bytes × Bool), ps.map (·.1) = ks ∧ ps.map (·.2.1) = rs.flatten.map σ ∧
      (∀ p ∈ ps, checkSig env p.2.1 (cfg.env.ser p.1) = .ok p.2.2) ∧
      (ps.filter (·.2.2)).length = sigSlots rs := by
  induction h with
  | nil => exact ⟨[], rfl, rfl, by simp, rfl⟩
  | @cons pk s ks rs hr _ ih =>
    obtain ⟨ps, h1, h2, h3, h4⟩ := ih
    rcases hr with rfl | ⟨sz, hsz, rfl⟩
    · refine ⟨(pk, [], false) :: ps, by simp [h1], by simp [h2, hag.pushZero], ?_, ?_⟩
      · intro p hp
        rcases List.mem_cons.mp hp with rfl | hp
        · exact checkSig_empty (hag.keyShape pk)
        · exact h3 p hp
      · simp [sigSlots_cons_zero, h4]
    · have hs := hag.schnorr pk sz hsz
      refine ⟨(pk, σ (.schnorrSig pk sz), true) :: ps, by simp [h1], by simp [h2], ?_, ?_⟩
      · intro p hp
        rcases List.mem_cons.mp hp with rfl | hp
        · exact checkSig_ok (hag.keyShape pk) hs.1 hs.2
        · exact h3 p hp
      · simp [sigSlots_cons_of (isSigSlot_sig pk sz), h4]

theorem slots_singletons {a : Assets} {ks : List Key} {rs : List (List Ph)}
    (h : All2 (SlotOk a) ks rs) : rs.map List.reverse = rs := by
  induction h with
  | nil => rfl
  | cons hr _ ih =>
    rcases hr with rfl | ⟨sz, _, rfl⟩ <;> simp [ih]

theorem multiA_core (hag : Agrees env cfg.env cfg.assets σ)
    (k : Nat) (ks : List Key) (hctx : cfg.ctx = .tap) (hk1 : 1 ≤ k) (ms : Ms)
    (hfrag : ∀ (ps : List (Key × Bytes × Bool)) (rest : List Bytes), ps.map (·.1) = ks →
      (∀ p ∈ ps, checkSig env p.2.1 (cfg.env.ser p.1) = .ok p.2.2) →
      Runs (frag env cfg.env cfg.ctx ms) (ps.map (·.2.1) ++ rest)
        (boolBytes ((k : Int) == (((ps.filter (·.2.2)).length : Nat) : Int)) :: rest)) :
    Sound env cfg.env cfg.ctx σ Corr.multiA ms (multiASD cfg.ctx cfg.assets k ks) where
  sat := fun w hw => by
    rw [hctx] at hw
    obtain ⟨sigs', hall, hcnt, rfl⟩ := multiASD_sat cfg.assets k ks hk1 hw.1
    rw [satRuns_B (by rfl)]
    intro rest
    refine ⟨[1], ?_, trueVal_one, fun _ => rfl⟩
    have hall' := hall.reverse
    rw [List.reverse_reverse] at hall'
    obtain ⟨ps, h1, h2, h3, h4⟩ := slots_triples hag hall'
    have := hfrag ps rest h1 h3
    rw [h4, sigSlots_reverse, hcnt, h2] at this
    have hst : stk σ sigs'.flatten = sigs'.reverse.flatten.map σ := by
      have := slots_singletons hall
      simp only [stk, ← List.map_reverse, List.reverse_flatten, this]
    rw [hst]
    simpa [boolBytes] using this
  dis := fun w hw => by
    rw [multiASD_dis] at hw
    have : w = List.replicate ks.length .pushZero := good_lit hw
    subst this
    rw [disRuns_B (by rfl)]
    intro rest
    have hps : ∀ p ∈ ks.map (fun x => (x, ([] : Bytes), false)),
        checkSig env p.2.1 (cfg.env.ser p.1) = .ok p.2.2 := by
      intro p hp
      simp only [List.mem_map] at hp
      obtain ⟨x, _, rfl⟩ := hp
      exact checkSig_empty (hag.keyShape x)
    have := hfrag (ks.map (fun x => (x, ([] : Bytes), false))) rest (by simp [Function.comp_def]) hps
    rw [stk_replicate_zero hag.pushZero]
    have hk0 : ¬ (k = 0) := by omega
    have hf : (List.filter (fun x : Key × Bytes × Bool => x.2.2)
        (ks.map (fun x => (x, ([] : Bytes), false)))).length = 0 := by
      simp [List.filter_map, Function.comp_def]
    rw [hf] at this
    simpa [Function.comp_def, boolBytes, hk0, List.map_const'] using this

theorem multiA_case (h : EnvOk env cfg.ctx) (hag : Agrees env cfg.env cfg.assets σ)
    (k : Nat) (ks : List Key) (hwf : WF cfg.ctx (.multiA k ks)) :
    Sound env cfg.env cfg.ctx σ Corr.multiA (.multiA k ks) (satDissat cfg (.multiA k ks)) := by
  simp only [WF] at hwf
  obtain ⟨hctx, hk1, hkn, hlt⟩ := hwf
  have hnum : ∀ j, j ≤ ks.length → NumOk j := fun j hj => numOk_of_lt j (by omega)
  simp only [satDissat_multiA]
  refine multiA_core hag k ks hctx hk1 _ ?_
  intro ps rest h1 h3
  have hlen : ps.length = ks.length := by rw [← h1]; simp
  have hne : ps ≠ [] := by intro e; rw [e] at hlen; simp at hlen; omega
  have := frag_multiA (ke := cfg.env) (ctx := cfg.ctx) h.nl (tap_true h hctx) k ps hne h3 (by rw [hlen]; exact hnum)
    (hnum k hkn) rest
  rwa [h1] at this

theorem sortedMultiA_case (h : EnvOk env cfg.ctx) (hag : Agrees env cfg.env cfg.assets σ)
    (k : Nat) (ks : List Key) (hwf : WF cfg.ctx (.sortedMultiA k ks)) :
    Sound env cfg.env cfg.ctx σ Corr.sortedmultiA (.sortedMultiA k ks)
      (satDissat cfg (.sortedMultiA k ks)) := by
  simp only [WF] at hwf
  obtain ⟨hctx, hk1, hkn, hlt⟩ := hwf
  have hnum : ∀ j, j ≤ ks.length → NumOk j := fun j hj => numOk_of_lt j (by omega)
  simp only [satDissat_sortedMultiA, sortKeys'_eq]
  have hl := sortKeys_length cfg.env ks
  refine multiA_core hag k (sortKeys cfg.env ks) hctx hk1 _ ?_
  intro ps rest h1 h3
  have hlen : ps.length = ks.length := by rw [← hl, ← h1]; simp
  have hne : ps ≠ [] := by intro e; rw [e] at hlen; simp at hlen; omega
  exact frag_sortedMultiA (ke := cfg.env) h.nl (tap_true h hctx) k ks ps h1.symm hne h3
    (by rw [hlen]; exact hnum) (hnum k hkn) rest

end MsVerif.SatSpec
