/-
C02: the satisfier with the `j:` dissatisfaction as a parameter.

`satDissatG nz` is a verbatim copy of `satDissat` (Model/Satisfy.lean) except that the
dissatisfaction of `j:X` is the parameter `nz` instead of the literal of the Rust code.
  * `satDissatG nz = satDissat` when `nz` is the model's literal or the script has no `j:`
    (`satDissatG_eq`; `satDissatG_model` for `MODEL_NZ`)
  * `satDissatFixed = satDissatG Sat.push0`         (the specification's `dsat(j:X) = 0`)
The completeness inductions (CompleteMall, CompleteNonMall) are about `satDissat`; the statements
about `satDissatG nz` follow by that equation.  Their side conditions are predicates over the nodes of
a script (`allNodes`): `isNotNonZero`, `isNotRawPkH`, `preKnown`, `threshKOK`, `lockUnit` (units exist iff the
available locks are pairwise `lockCompat`: `exists_units`, `compat_of_units`).  Also here: `itemBound`, `availOf`,
the threshold row of the table in list terms (`satEx_thresh`, `countP_satEx_le`).
-/
import MsVerif.Model.Satisfy
import MsVerif.Model.TypeCheck
import MsVerif.Spec.SatTable
import MsVerif.Lemmas.CompleteMulti
import MsVerif.Lemmas.CoreSatTable

namespace MsVerif.Complete
open MsVerif Sat SatTable

mutual
def satDissatG (nz : Sat) (c : SatCfg) : Ms → SatDissat
  | .fls => ⟨Sat.TRIVIAL, Sat.IMPOSSIBLE⟩
  | .tru => ⟨Sat.IMPOSSIBLE, Sat.TRIVIAL⟩
  | .pkK k => ⟨Sat.push0, ⟨sigWit c.ctx c.assets k, true, none, none⟩⟩
  | .pkH k =>
    let pkp : Wit := .stack [.pubkey k (pkLen c.env c.ctx k)]
    ⟨⟨Wit.combine (.stack [.pushZero]) pkp, false, none, none⟩,
     ⟨Wit.combine (sigWit c.ctx c.assets k) pkp, true, none, none⟩⟩
  | .rawPkH h =>
    let pkw : Wit := match c.assets.rawPkhPk h with
      | some pk => .stack [.pubkeyHash h (pkLen c.env c.ctx pk)]
      | none => .unavailable
    let sg : Wit := match c.ctx.sigType with
      | .schnorr => match c.assets.rawPkhSchnorr h with
        | some (pk, sz) => .stack [.schnorrSigPkh h sz, .pubkeyHash h (pkLen c.env c.ctx pk)]
        | none => .impossible
      | .ecdsa => match c.assets.rawPkhEcdsa h with
        | some pk => .stack [.ecdsaSigPkh h, .pubkeyHash h (pkLen c.env c.ctx pk)]
        | none => .impossible
    ⟨⟨Wit.combine (.stack [.pushZero]) pkw, false, none, none⟩, ⟨sg, true, none, none⟩⟩
  | .multi k ks => multiSD c.ctx c.assets k ks
  | .sortedMulti k ks => multiSD c.ctx c.assets k (sortKeys' c.env ks)
  | .multiA k ks => multiASD c.ctx c.assets k ks
  | .sortedMultiA k ks => multiASD c.ctx c.assets k (sortKeys' c.env ks)
  | .after n =>
    let (st, abs) : Wit × Option Nat :=
      if c.assets.checkAfter n then (.stack [], some n)
      else if c.rootHasSig then (.impossible, none) else (.unavailable, none)
    ⟨Sat.IMPOSSIBLE, ⟨st, false, abs, none⟩⟩
  | .older n =>
    let (st, rel) : Wit × Option Nat :=
      if c.assets.checkOlder (relCanon n) then (.stack [], some n)
      else if c.rootHasSig then (.impossible, none) else (.unavailable, none)
    ⟨Sat.IMPOSSIBLE, ⟨st, false, none, rel⟩⟩
  | .hash kind h =>
    ⟨⟨.stack [.hashDissat], false, none, none⟩,
     ⟨if c.assets.preimage kind h then .stack [.preimage kind h] else .unavailable, false, none, none⟩⟩
  | .alt x | .swap x | .check x | .zeroNotEqual x => satDissatG nz c x
  | .dupIf x =>
    let sub := (satDissatG nz c x).sat
    ⟨Sat.push0, { sub with stack := Wit.combine sub.stack (.stack [.pushOne]) }⟩
  | .verify x => ⟨Sat.IMPOSSIBLE, (satDissatG nz c x).sat⟩
  | .nonZero x => ⟨nz, (satDissatG nz c x).sat⟩          -- ← the only difference
  | .andB l r =>
    let l := satDissatG nz c l; let r := satDissatG nz c r
    ⟨l.dissat.concatenateRev r.dissat, l.sat.concatenateRev r.sat⟩
  | .andV l r =>
    let l := satDissatG nz c l; let r := satDissatG nz c r
    ⟨l.sat.concatenateRev r.dissat, l.sat.concatenateRev r.sat⟩
  | .andOr a b z =>
    let a := satDissatG nz c a; let b := satDissatG nz c b; let z := satDissatG nz c z
    ⟨a.dissat.concatenateRev z.dissat,
     c.minFn (a.sat.concatenateRev b.sat) (a.dissat.concatenateRev z.sat)⟩
  | .orB l r =>
    let l := satDissatG nz c l; let r := satDissatG nz c r
    ⟨l.dissat.concatenateRev r.dissat,
     c.minFn (l.dissat.concatenateRev r.sat) (l.sat.concatenateRev r.dissat)⟩
  | .orC l r =>
    let l := satDissatG nz c l; let r := satDissatG nz c r
    ⟨Sat.IMPOSSIBLE, c.minFn l.sat (l.dissat.concatenateRev r.sat)⟩
  | .orD l r =>
    let l := satDissatG nz c l; let r := satDissatG nz c r
    ⟨l.dissat.concatenateRev r.dissat, c.minFn l.sat (l.dissat.concatenateRev r.sat)⟩
  | .orI l r =>
    let l := satDissatG nz c l; let r := satDissatG nz c r
    let w1 (s : Sat) : Sat := { s with stack := Wit.combine s.stack (.stack [.pushOne]) }
    let w0 (s : Sat) : Sat := { s with stack := Wit.combine s.stack (.stack [.pushZero]) }
    ⟨c.minFn (w1 l.dissat) (w0 r.dissat), c.minFn (w1 l.sat) (w0 r.sat)⟩
  | .thresh k xs =>
    let sds := satDissatsG nz c xs
    let dissats := sds.map (·.dissat)
    let sats := sds.map (·.sat)
    let dissat := foldConcat dissats
    let sat :=
      if k = sds.length then foldConcat sats
      else if c.mall then threshMall k dissats sats else threshNonMall k dissats sats
    ⟨dissat, sat⟩
def satDissatsG (nz : Sat) (c : SatCfg) : MsList → List SatDissat
  | .nil => []
  | .cons x xs => satDissatG nz c x :: satDissatsG nz c xs
end

/-- the `dissat` literal of the `Terminal::NonZero` arm in `Model/Satisfy.lean`
(= `src/miniscript/satisfy/sat_dissat.rs`): `push_0`, the specification's row -/
def MODEL_NZ : Sat := Sat.push0

/-- the satisfier with the specification's `j:` row (`dsat(j:X) = 0`) -/
def satDissatFixed (c : SatCfg) (ms : Ms) : SatDissat := satDissatG Sat.push0 c ms

theorem satDissatsG_eq_map (nz : Sat) (c : SatCfg) :
    (xs : MsList) → satDissatsG nz c xs = xs.toList.map (satDissatG nz c)
  | .nil => by simp [satDissatsG, MsList.toList]
  | .cons x xs => by simp [satDissatsG, MsList.toList, satDissatsG_eq_map nz c xs]

theorem satDissats_eq_map (c : SatCfg) : (xs : MsList) → satDissats c xs = xs.toList.map (satDissat c)
  | .nil => rfl
  | .cons x xs => by simp [satDissats, MsList.toList, satDissats_eq_map c xs]

mutual
/-- all sub-fragments, the fragment itself first -/
def subterms : Ms → List Ms
  | .alt x => .alt x :: subterms x
  | .swap x => .swap x :: subterms x
  | .check x => .check x :: subterms x
  | .dupIf x => .dupIf x :: subterms x
  | .verify x => .verify x :: subterms x
  | .nonZero x => .nonZero x :: subterms x
  | .zeroNotEqual x => .zeroNotEqual x :: subterms x
  | .andV l r => .andV l r :: (subterms l ++ subterms r)
  | .andB l r => .andB l r :: (subterms l ++ subterms r)
  | .orB l r => .orB l r :: (subterms l ++ subterms r)
  | .orD l r => .orD l r :: (subterms l ++ subterms r)
  | .orC l r => .orC l r :: (subterms l ++ subterms r)
  | .orI l r => .orI l r :: (subterms l ++ subterms r)
  | .andOr a b c => .andOr a b c :: (subterms a ++ subterms b ++ subterms c)
  | .thresh k xs => .thresh k xs :: subtermsL xs
  | m => [m]
def subtermsL : MsList → List Ms
  | .nil => []
  | .cons x xs => subterms x ++ subtermsL xs
end

def allNodes (p : Ms → Bool) (ms : Ms) : Bool := (subterms ms).all p
def allNodesL (p : Ms → Bool) (xs : MsList) : Bool := (subtermsL xs).all p

/-! `subterms` lists the node first and then the nodes of the children, so a node predicate that
holds everywhere holds at the root and everywhere in each child.  The shape of `subterms m` is
supplied by `rfl` at the call (`allNodes_bin hP rfl`), whatever the constructor. -/

theorem allNodes_un {p : Ms → Bool} {m x : Ms} (h : allNodes p m = true)
    (e : subterms m = m :: subterms x) : p m = true ∧ allNodes p x = true := by
  unfold allNodes at *
  rwa [e, List.all_cons, Bool.and_eq_true] at h

theorem allNodes_bin {p : Ms → Bool} {m l r : Ms} (h : allNodes p m = true)
    (e : subterms m = m :: (subterms l ++ subterms r)) :
    p m = true ∧ allNodes p l = true ∧ allNodes p r = true := by
  unfold allNodes at *
  rwa [e, List.all_cons, List.all_append, Bool.and_eq_true, Bool.and_eq_true] at h

theorem allNodes_andOr {p : Ms → Bool} {x y z : Ms} (h : allNodes p (.andOr x y z) = true) :
    p (.andOr x y z) = true ∧ allNodes p x = true ∧ allNodes p y = true ∧ allNodes p z = true := by
  unfold allNodes at *
  rw [subterms, List.all_cons, List.all_append, List.all_append] at h
  simpa only [Bool.and_eq_true, and_assoc] using h

theorem allNodes_thresh {p : Ms → Bool} {k : Nat} {xs : MsList} (h : allNodes p (.thresh k xs) = true) :
    p (.thresh k xs) = true ∧ allNodesL p xs = true := by
  unfold allNodes allNodesL at *
  rwa [subterms, List.all_cons, Bool.and_eq_true] at h

theorem allNodes_leaf {p : Ms → Bool} {m : Ms} (h : allNodes p m = true) (e : subterms m = [m]) :
    p m = true := by
  unfold allNodes at h
  rwa [e, List.all_cons, List.all_nil, Bool.and_true] at h

theorem allNodesL_cons (p : Ms → Bool) (x : Ms) (xs : MsList) :
    allNodesL p (.cons x xs) = (allNodes p x && allNodesL p xs) := by
  simp [allNodesL, allNodes, subtermsL, List.all_append]

theorem allNodesL_mem {p : Ms → Bool} :
    (xs : MsList) → (h : allNodesL p xs = true) → ∀ x ∈ xs.toList, allNodes p x = true
  | .nil, _ => by simp [MsList.toList]
  | .cons y ys, h => by
    rw [allNodesL_cons, Bool.and_eq_true] at h
    intro x hx
    simp only [MsList.toList, List.mem_cons] at hx
    rcases hx with rfl | hx
    · exact h.1
    · exact allNodesL_mem ys h.2 x hx

def isNotNonZero : Ms → Bool
  | .nonZero _ => false
  | _ => true

theorem nzOK {nz : Sat} {ms : Ms} (h : nz = Sat.push0 ∨ allNodes isNotNonZero ms = true) :
    allNodes (fun m => isNotNonZero m || decide (nz = Sat.push0)) ms = true := by
  unfold allNodes
  rw [List.all_eq_true]
  intro m hm
  rcases h with h | h
  · simp [h]
  · unfold allNodes at h
    rw [List.all_eq_true] at h
    simp [h m hm]

theorem allNodes_mono {p q : Ms → Bool} {ms : Ms} (h : ∀ m, p m = true → q m = true)
    (hp : allNodes p ms = true) : allNodes q ms = true := by
  unfold allNodes at *
  rw [List.all_eq_true] at *
  exact fun m hm => h m (hp m hm)

/-- the copy IS the model's satisfier wherever its parameter is the model's literal or is not
reached (no `j:` node): the inductions are about `satDissat`, and the statements about
`satDissatG nz` follow by this rewriting -/
theorem satDissatG_eq {nz : Sat} (c : SatCfg) (ms : Ms)
    (hP : allNodes (fun m => isNotNonZero m || decide (nz = Sat.push0)) ms = true) :
    satDissatG nz c ms = satDissat c ms := by
  induction ms using Ms.rec (motive_2 := fun xs =>
    allNodesL (fun m => isNotNonZero m || decide (nz = Sat.push0)) xs = true →
      satDissatsG nz c xs = satDissats c xs) with
  | fls | tru | pkK _ | pkH _ | rawPkH _ | multi _ _ | sortedMulti _ _ | multiA _ _ | sortedMultiA _ _
  | after _ | older _ | hash _ _ => simp only [satDissatG, satDissat] <;> rfl
  | alt x ih | swap x ih | check x ih | zeroNotEqual x ih | dupIf x ih | verify x ih =>
    simp only [satDissatG, satDissat, ih (allNodes_un hP rfl).2]
  | nonZero x ih =>
    obtain ⟨hn, hx⟩ := allNodes_un hP rfl
    have hnz : nz = Sat.push0 := by simpa [isNotNonZero] using hn
    subst hnz
    simp only [satDissatG, satDissat, ih hx]
  | andB l r ihl ihr | andV l r ihl ihr | orB l r ihl ihr | orC l r ihl ihr | orD l r ihl ihr
  | orI l r ihl ihr =>
    obtain ⟨-, hl, hr⟩ := allNodes_bin hP rfl
    simp only [satDissatG, satDissat, ihl hl, ihr hr]
  | andOr x y z ihx ihy ihz =>
    obtain ⟨-, hx, hy, hz⟩ := allNodes_andOr hP
    simp only [satDissatG, satDissat, ihx hx, ihy hy, ihz hz]
  | thresh k xs ihs => simp only [satDissatG, satDissat, ihs (allNodes_thresh hP).2]
  | nil => simp only [satDissatsG, satDissats]
  | cons x xs ihx ihs =>
    rename_i h
    rw [allNodesL_cons, Bool.and_eq_true] at h
    simp only [satDissatsG, satDissats, ihx h.1, ihs h.2]

theorem satDissatG_model (c : SatCfg) (ms : Ms) : satDissatG MODEL_NZ c ms = satDissat c ms :=
  satDissatG_eq c ms (nzOK (.inl rfl))

theorem satDissatsG_model (c : SatCfg) : (xs : MsList) → satDissatsG MODEL_NZ c xs = satDissats c xs
  | .nil => by simp only [satDissatsG, satDissats]
  | .cons x xs => by
    simp only [satDissatsG, satDissats, satDissatG_model c x, satDissatsG_model c xs]

/-- no raw `pkh` hash (they are refused by the library's sanity rules) -/
def isNotRawPkH : Ms → Bool
  | .rawPkH _ => false
  | _ => true

def preKnown (a : Assets) : Ms → Bool
  | .hash kind h => a.preimage kind h
  | _ => true

/-- `Threshold` invariant `1 ≤ k ≤ n` (guaranteed by the Rust type) -/
def threshKOK : Ms → Bool
  | .thresh k xs => decide (1 ≤ k) && decide (k ≤ xs.length)
  | _ => true

def lockCompat (a : Assets) : Ms → Ms → Bool
  | .after x, .after y => !(a.checkAfter x && a.checkAfter y) || (absUnit x == absUnit y)
  | .older x, .older y =>
    !(a.checkOlder (relCanon x) && a.checkOlder (relCanon y)) || (relIsTime x == relIsTime y)
  | _, _ => true

def lockUnit (a : Assets) (ua ur : Bool) : Ms → Bool
  | .after n => !a.checkAfter n || (absUnit n == ua)
  | .older n => !a.checkOlder (relCanon n) || (relIsTime n == ur)
  | _ => true

theorem exists_units (a : Assets) (ms : Ms)
    (h : ∀ s ∈ subterms ms, ∀ t ∈ subterms ms, lockCompat a s t = true) :
    ∃ ua ur, allNodes (lockUnit a ua ur) ms = true := by
  have hA : ∃ ua, ∀ n, Ms.after n ∈ subterms ms → a.checkAfter n = true → absUnit n = ua := by
    by_cases hex : ∃ x, Ms.after x ∈ subterms ms ∧ a.checkAfter x = true
    · obtain ⟨x, hx, hax⟩ := hex
      refine ⟨absUnit x, fun n hn han => ?_⟩
      have := h _ hn _ hx
      simpa [lockCompat, han, hax] using this
    · exact ⟨true, fun n hn han => absurd ⟨n, hn, han⟩ hex⟩
  have hR : ∃ ur, ∀ n, Ms.older n ∈ subterms ms → a.checkOlder (relCanon n) = true →
      relIsTime n = ur := by
    by_cases hex : ∃ x, Ms.older x ∈ subterms ms ∧ a.checkOlder (relCanon x) = true
    · obtain ⟨x, hx, hax⟩ := hex
      refine ⟨relIsTime x, fun n hn han => ?_⟩
      have := h _ hn _ hx
      simpa [lockCompat, han, hax] using this
    · exact ⟨true, fun n hn han => absurd ⟨n, hn, han⟩ hex⟩
  obtain ⟨ua, hua⟩ := hA
  obtain ⟨ur, hur⟩ := hR
  refine ⟨ua, ur, ?_⟩
  unfold allNodes
  rw [List.all_eq_true]
  intro s hs
  cases s <;> simp only [lockUnit]
  case after n =>
    cases han : a.checkAfter n with
    | false => rfl
    | true => simp [hua n hs han]
  case older n =>
    cases han : a.checkOlder (relCanon n) with
    | false => rfl
    | true => simp [hur n hs han]

/-- conversely, common units make any two lock nodes compatible (a linear test for `lockCompat`) -/
theorem compat_of_units {a : Assets} {ms : Ms} {ua ur : Bool} (h : allNodes (lockUnit a ua ur) ms = true) :
    ∀ s ∈ subterms ms, ∀ t ∈ subterms ms, lockCompat a s t = true := by
  unfold allNodes at h
  rw [List.all_eq_true] at h
  intro s hs t ht
  have hs := h s hs
  have ht := h t ht
  unfold lockCompat
  split
  · simp only [lockUnit, Bool.or_eq_true, Bool.not_eq_true', beq_iff_eq] at hs ht
    rcases hs with hs | hs <;> rcases ht with ht | ht <;> simp [hs, ht]
  · simp only [lockUnit, Bool.or_eq_true, Bool.not_eq_true', beq_iff_eq] at hs ht
    rcases hs with hs | hs <;> rcases ht with ht | ht <;> simp [hs, ht]
  · rfl

mutual
/-- the number of witness items allowed for per fragment; it enters only as the byte bound
`wsz … ≤ 73 * itemBound ms` (`MallInv.szS` / `.szD` in CompleteMall: malleable mode, under `SigSizesOK`) -/
def itemBound : Ms → Nat
  | .tru | .fls | .after _ | .older _ => 0
  | .pkK _ | .hash _ _ => 1
  | .pkH _ | .rawPkH _ => 2
  | .multi k ks | .sortedMulti k ks => ks.length + k + 1
  | .multiA _ ks | .sortedMultiA _ ks => ks.length
  | .alt x | .swap x | .check x | .verify x | .zeroNotEqual x => itemBound x
  | .dupIf x | .nonZero x => itemBound x + 1
  | .andV l r | .andB l r | .orB l r | .orD l r | .orC l r => itemBound l + itemBound r
  | .orI l r => itemBound l + itemBound r + 1
  | .andOr a b c => itemBound a + itemBound b + itemBound c
  | .thresh _ xs => itemBounds xs
def itemBounds : MsList → Nat
  | .nil => 0
  | .cons x xs => itemBound x + itemBounds xs
end

theorem itemBounds_eq : (xs : MsList) → itemBounds xs = (xs.toList.map itemBound).sum
  | .nil => by simp [itemBounds, MsList.toList]
  | .cons x xs => by simp [itemBounds, MsList.toList, itemBounds_eq xs]

theorem itemBound_le_of_mem {x : Ms} :
    (xs : MsList) → (h : x ∈ xs.toList) → itemBound x ≤ itemBounds xs
  | .nil, h => by simp [MsList.toList] at h
  | .cons y ys, h => by
    simp only [MsList.toList, List.mem_cons] at h
    simp only [itemBounds]
    rcases h with rfl | h
    · omega
    · have := itemBound_le_of_mem ys h; omega

def availOf (a : Assets) (ctx : Ctx) : Avail where
  sig := sigAvail ctx a
  preimage := a.preimage
  after := a.checkAfter
  older n := a.checkOlder (relCanon n)
  rawKey h := (a.rawPkhPk h).isSome
  rawSig h := match ctx.sigType with
    | .schnorr => (a.rawPkhSchnorr h).isSome
    | .ecdsa => (a.rawPkhEcdsa h).isSome

/-- the threshold row of the table in list terms: no dead child, at most `k` children that can only
be satisfied, at least `k` that can be satisfied -/
theorem satEx_thresh {av : Avail} {k : Nat} {xs : MsList} (h : satEx av (.thresh k xs) = true) :
    xs.toList.countP (fun x => !satEx av x && !dsatEx av x) = 0 ∧
    xs.toList.countP (fun x => satEx av x && !dsatEx av x) ≤ k ∧
    k ≤ xs.toList.countP (fun x => satEx av x) := by
  simpa only [satEx, threshEx, Bool.and_eq_true, beq_iff_eq, decide_eq_true_eq, countOnlySat_eq,
    countCanSat_eq, countDead_eq, and_assoc] using h

theorem countP_satEx_le {av : Avail} {l : List Ms} {f : Ms → SatDissat}
    (h : ∀ x ∈ l, satEx av x = true → isStk (f x).sat.stack = true) :
    l.countP (fun x => satEx av x) ≤ (l.map f).countP (fun sd => isStk sd.sat.stack) := by
  rw [List.countP_map]
  exact List.countP_mono_left h

end MsVerif.Complete
