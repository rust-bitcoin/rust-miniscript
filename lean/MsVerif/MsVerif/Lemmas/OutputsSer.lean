/-
Lemmas for C16/T1: the opcode lists rust-bitcoin's script constructors build serialise to the
byte templates of Spec/Outputs.lean when the hashes have their standard sizes; the leaf-script
list of a `tr` descriptor is the depth list of the tree of encoded leaf scripts (link to C15).
-/
import MsVerif.Model.Descriptor
import MsVerif.Lemmas.TapTreeSpec
import MsVerif.Lemmas.CoreNum

namespace MsVerif.Desc
open MsVerif MsVerif.Script MsVerif.Outputs

theorem ser_newP2pkh (h : Bytes) (hl : h.length = 20) : serialize (newP2pkh h) = p2pkh h := by
  simp [serialize, newP2pkh, Op.bytes, Opc.byte, pushPrefix, hl, p2pkh]

theorem ser_newP2sh (h : Bytes) (hl : h.length = 20) : serialize (newP2sh h) = p2sh h := by
  simp [serialize, newP2sh, Op.bytes, Opc.byte, pushPrefix, hl, p2sh]

theorem ser_witness0_20 (h : Bytes) (hl : h.length = 20) :
    serialize (newWitnessProgram 0 h) = p2wpkh h := by
  simp [serialize, newWitnessProgram, Op.bytes, pushPrefix, hl, p2wpkh]

theorem ser_witness0_32 (h : Bytes) (hl : h.length = 32) :
    serialize (newWitnessProgram 0 h) = p2wsh h := by
  simp [serialize, newWitnessProgram, Op.bytes, pushPrefix, hl, p2wsh]

theorem ser_witness1_32 (h : Bytes) (hl : h.length = 32) :
    serialize (newWitnessProgram 1 h) = p2tr h := by
  simp [serialize, newWitnessProgram, Op.bytes, pushPrefix, hl, p2tr]

theorem pushSlice_short (s : Bytes) (hl : s.length < 0x4c) : pushSliceScript s = singlePush s := by
  simp [pushSliceScript, serialize, Op.bytes_push_short s hl, singlePush]

theorem pushSlice_p2wpkh (h : Bytes) (hl : h.length = 20) : pushSliceScript (p2wpkh h) = singlePush (p2wpkh h) :=
  pushSlice_short _ (by simp [p2wpkh, hl])

theorem pushSlice_p2wsh (h : Bytes) (hl : h.length = 32) : pushSliceScript (p2wsh h) = singlePush (p2wsh h) :=
  pushSlice_short _ (by simp [p2wsh, hl])

section blocks
variable (P : Params) (hH : P.H.WellSized)
include hH

theorem pkhScriptPubkey_eq (pk : Key) : pkhScriptPubkey P pk = p2pkh (P.H.hash160 (P.env.ser pk)) :=
  ser_newP2pkh _ (hH.hash160_len _)

theorem wpkhScriptPubkey_eq (pk : Key) : wpkhScriptPubkey P pk = p2wpkh (P.H.hash160 (P.env.ser pk)) :=
  ser_witness0_20 _ (hH.hash160_len _)

theorem toP2wsh_eq (s : Bytes) : toP2wsh P.H s = p2wsh (P.H.sha256 s) :=
  ser_witness0_32 _ (hH.sha256_len _)

theorem toP2sh_eq (s : Bytes) : toP2sh P.H s = p2sh (P.H.hash160 s) :=
  ser_newP2sh _ (hH.hash160_len _)

end blocks

/-- without `tr`, which needs the size of the output key (`C16.spk_is_template`) -/
theorem scriptPubkey_eq_template (P : Params) (hH : P.H.WellSized) (d : Desc)
    (hd : ∀ ik leaves, d ≠ .tr ik leaves) : d.scriptPubkey P = (d.toOutput P).scriptPubKey P.H := by
  cases d with
  | bare ms => rfl
  | pkh pk => exact pkhScriptPubkey_eq P hH pk
  | wpkh pk => exact wpkhScriptPubkey_eq P hH pk
  | wsh ms => exact toP2wsh_eq P hH _
  | tr ik leaves => exact absurd rfl (hd ik leaves)
  | sh inner =>
    cases inner with
    | ms ms => exact toP2sh_eq P hH _
    | wpkh pk => exact (toP2sh_eq P hH _).trans (by rw [wpkhScriptPubkey_eq P hH]; rfl)
    | wsh ms =>
      exact (toP2sh_eq P hH _).trans (by rw [show wshScriptPubkey P ms = _ from toP2wsh_eq P hH _]; rfl)

/-- `multi_a` over the pushed serialisations, so that the order-independence of `sortKeys` up to `env.ser`
(`SortKeys.sortKeys_map_perm_invariant`) applies to it (`C16.sortedmulti_a_perm_invariant`) -/
def encodeMultiABytes : List Bytes → List Op
  | [] => []
  | k :: ks => [.push k, .code .checksig] ++ ks.flatMap (fun pk => [Op.push pk, .code .checksigadd])

theorem encodeMultiA_eq (env : KeyEnv) (l : List Key) :
    encodeMultiA env l = encodeMultiABytes (l.map env.ser) := by
  cases l with
  | nil => rfl
  | cons k ks => simp [encodeMultiA, encodeMultiABytes, List.flatMap_map]

open MsVerif.Spec MsVerif.Spec.Tree

def treeMap {α β : Type} (f : α → β) : Tree α → Tree β
  | .leaf s => .leaf (f s)
  | .node l r => .node (treeMap f l) (treeMap f r)

theorem depthsFrom_treeMap {α β : Type} (f : α → β) (t : Tree α) (d : Nat) :
    depthsFrom d (treeMap f t) = (depthsFrom d t).map (fun p => (p.1, f p.2)) := by
  induction t generalizing d with
  | leaf s => rfl
  | node l r ihl ihr => simp [treeMap, depthsFrom, ihl, ihr]

theorem height_treeMap {α β : Type} (f : α → β) (t : Tree α) : height (treeMap f t) = height t := by
  induction t with
  | leaf s => rfl
  | node l r ihl ihr => simp [treeMap, height, ihl, ihr]

theorem trLeafScripts_depths (P : Params) (t : Tree Ms) :
    trLeafScripts P (depths t) = depths (treeMap (encodeBytes P.env .tap) t) := by
  simp [trLeafScripts, depths, depthsFrom_treeMap]

theorem depths_isEmpty {α : Type} (t : Tree α) : (depths t).isEmpty = false := by
  have := depthsFrom_ne_nil t 0
  cases h : depths t with
  | nil => exact absurd h this
  | cons _ _ => rfl

end MsVerif.Desc
