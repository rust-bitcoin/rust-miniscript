/-
C09: the witness bounds for every WELL-TYPED fragment in NON-MALLEABLE
mode, without the structural side conditions of `good`.

Why this works where `good` was needed: in non-malleable mode `Satisfaction::minimum` never
prefers an alternative that carries a signature over a signature-free one, and the
dissatisfaction of a `d`-typed fragment is signature-free and never IMPOSSIBLE
(`Asserts.inv_of`, Lemmas/SatAsserts.lean; C01's `dissat_clean_nonmall` states it).  So wherever a parent uses a child's dissatisfaction the
typing rule makes that child `d`, and inside a `d`-typed `or_i` the satisfier can only pick the
dissatisfaction of a `d`-typed branch — never the signature-carrying "dissatisfaction" the
satisfier builds for `and_v`, for which `ExtData` has no figure.
-/
import MsVerif.Lemmas.BoundsMain
import MsVerif.Lemmas.CoreHasType
import MsVerif.Lemmas.SatAsserts
import MsVerif.Spec.SatSpec
import MsVerif.Lemmas.ValidateSat

namespace MsVerif.C09
open MsVerif ExtData MsVerif.SatSpec

mutual
theorem wf_threshKOk (ctx : Ctx) : (ms : Ms) → WF ctx ms → threshKOk ms = true
  | .tru, _ | .fls, _ | .pkK _, _ | .pkH _, _ | .rawPkH _, _ | .after _, _ | .older _, _ | .hash _ _, _
  | .multi _ _, _ | .sortedMulti _ _, _ | .multiA _ _, _ | .sortedMultiA _ _, _ => by simp [threshKOk]
  | .alt x, h | .swap x, h | .check x, h | .dupIf x, h | .verify x, h | .nonZero x, h
  | .zeroNotEqual x, h => by
    simp only [WF] at h; simp only [threshKOk]; exact wf_threshKOk ctx x h
  | .andV l r, h | .andB l r, h | .orB l r, h | .orC l r, h | .orD l r, h | .orI l r, h => by
    simp only [WF] at h
    simp only [threshKOk, Bool.and_eq_true]
    exact ⟨wf_threshKOk ctx l h.1, wf_threshKOk ctx r h.2⟩
  | .andOr a b c, h => by
    simp only [WF] at h
    simp only [threshKOk, Bool.and_eq_true]
    exact ⟨⟨wf_threshKOk ctx a h.1, wf_threshKOk ctx b h.2.1⟩, wf_threshKOk ctx c h.2.2⟩
  | .thresh k xs, h => by
    simp only [WF] at h
    simp only [threshKOk, Bool.and_eq_true, decide_eq_true_eq]
    exact ⟨h.2.1, wfs_threshKOks ctx xs h.2.2.2⟩
theorem wfs_threshKOks (ctx : Ctx) : (xs : MsList) → WFs ctx xs → threshKOks xs = true
  | .nil, _ => rfl
  | .cons x xs, h => by
    simp only [WFs] at h
    simp only [threshKOks, Bool.and_eq_true]
    exact ⟨wf_threshKOk ctx x h.1, wfs_threshKOks ctx xs h.2⟩
end

/-- a signature-free alternative that is not IMPOSSIBLE is the only one `minimum` can return
as a stack -/
theorem minimum_stack_left_clean {s1 s2 : Sat} (hs : s1.hasSig = false) (hi : s1.stack ≠ .impossible)
    {w : List Ph} (h : (Sat.minimum s1 s2).stack = .stack w) : s1.stack = .stack w := by
  rcases Sat.minimum_pick s1 s2 with ⟨e, _⟩ | ⟨_, i1 | ⟨_, f1⟩⟩ | ⟨e, _⟩
  · rwa [e] at h
  · exact absurd i1 hi
  · rw [hs] at f1; cases f1
  · rw [e] at h; cases h

theorem minimum_stack_right_clean {s1 s2 : Sat} (hs : s2.hasSig = false) (hi : s2.stack ≠ .impossible)
    {w : List Ph} (h : (Sat.minimum s1 s2).stack = .stack w) : s2.stack = .stack w := by
  rcases Sat.minimum_pick s1 s2 with ⟨_, i2 | ⟨_, f2⟩⟩ | ⟨e, _⟩ | ⟨e, _⟩
  · exact absurd i2 hi
  · rw [hs] at f2; cases f2
  · rwa [e] at h
  · rw [e] at h; cases h

theorem zipMap_some_of {f : SatData → SatData → SatData} {a b : Option SatData}
    (ha : a.isSome = true) (hb : b.isSome = true) : (zipMap f a b).isSome = true := by
  rw [MsVerif.zipMap_isSome, ha, hb]
  rfl

variable (ke : KeyEnv) (ctx : Ctx) (rhs : Bool) (a : Assets)

def Q (ms : Ms) (τ : Ty) : Prop :=
  SatB ⟨ke, ctx, false, rhs, a⟩ ms
  ∧ (τ.corr.dissat = true →
      DisB ⟨ke, ctx, false, rhs, a⟩ ms ∧ (extOf ke ctx ms).dissatData.isSome = true)

theorem Q_of_leaf {ms : Ms} {τ : Ty} (hg : good ke ctx ms = true) (hd : disOK ms = true)
    (hs : (extOf ke ctx ms).dissatData.isSome = true ∨ τ.corr.dissat = false)
    (ha : AssetsOk ke ctx a) : Q ke ctx rhs a ms τ := by
  have hP := bound_ms ke ctx false rhs a ha ms hg
  refine ⟨hP.1, fun h => ⟨hP.2 hd, ?_⟩⟩
  rcases hs with hs | hs
  · exact hs
  · rw [hs] at h; cases h

theorem clean_of (c : SatCfg) (hm : c.mall = false) {x : Ms} {τ : Ty} (hty : HasType x τ)
    (hwf : WF ctx x) (hd : τ.corr.dissat = true) :
    (satDissat c x).dissat.hasSig = false ∧ (satDissat c x).dissat.stack ≠ .impossible := by
  obtain ⟨h1, h2, _, _⟩ := (Asserts.inv_of c hm hty (wf_threshKOk ctx x hwf)).2 hd
  exact ⟨h1, h2⟩

theorem allSB_cons {x : Ms} {xs : MsList} {t : Ty} (hq : Q ke ctx rhs a x t) (hd : t.corr.dissat = true)
    (ih : AllSB (ess ctx) (satDissats (⟨ke, ctx, false, rhs, a⟩ : SatCfg) xs) (extsOf ke ctx xs)
      ∧ ∀ p ∈ tv0 (extsOf ke ctx xs), p.2.isSome = true) :
    AllSB (ess ctx) (satDissats (⟨ke, ctx, false, rhs, a⟩ : SatCfg) (.cons x xs)) (extsOf ke ctx (.cons x xs))
      ∧ ∀ p ∈ tv0 (extsOf ke ctx (.cons x xs)), p.2.isSome = true := by
  obtain ⟨dx, dx2⟩ := hq.2 hd
  simp only [satDissats, extsOf, AllSB, tv0, List.map_cons, List.mem_cons]
  refine ⟨⟨⟨hq.1, dx⟩, ih.1⟩, ?_⟩
  rintro p (rfl | hp)
  · exact dx2
  · exact ih.2 p hp

theorem Q_thresh {k : Nat} {xs : MsList} {τ : Ty}
    (h : AllSB (ess ctx) (satDissats (⟨ke, ctx, false, rhs, a⟩ : SatCfg) xs) (extsOf ke ctx xs)
      ∧ ∀ p ∈ tv0 (extsOf ke ctx xs), p.2.isSome = true) : Q ke ctx rhs a (.thresh k xs) τ := by
  refine ⟨SatB_thresh h.1 h.2, fun _ => ⟨DisB_thresh h.1, ?_⟩⟩
  simp only [extOf]
  rw [threshold_dissat_isSome, List.all_eq_true]
  intro e he
  exact h.2 (e.satData, e.dissatData) (by simp only [tv0]; exact List.mem_map_of_mem he)

theorem bound_typed (ha : AssetsOk ke ctx a) {ms : Ms} {τ : Ty} (h : HasType ms τ) :
    WF ctx ms → Q ke ctx rhs a ms τ := by
  induction h using HasType.rec (motive_2 := fun xs ts _ => WFs ctx xs → (∀ s ∈ ts, s.corr.dissat = true) →
      AllSB (ess ctx) (satDissats (⟨ke, ctx, false, rhs, a⟩ : SatCfg) xs) (extsOf ke ctx xs)
        ∧ ∀ p ∈ tv0 (extsOf ke ctx xs), p.2.isSome = true) with
  | tru | after | older => exact fun _ => Q_of_leaf ke ctx rhs a rfl rfl (.inr rfl) ha
  | fls | multi | sortedMulti => exact fun _ => Q_of_leaf ke ctx rhs a rfl rfl (.inl rfl) ha
  | pkK | pkH | rawPkH =>
    exact fun _ => Q_of_leaf ke ctx rhs a rfl rfl (.inl (by simp [extOf, pkK_dis, pkH_dis])) ha
  | @hash kind _ => exact fun _ => Q_of_leaf ke ctx rhs a rfl rfl (.inl (by cases kind <;> rfl)) ha
  | multiA | sortedMultiA =>
    intro hwf
    simp only [WF] at hwf
    exact Q_of_leaf ke ctx rhs a (by simp [good, hwf.1, hwf.2.1]) rfl (.inl rfl) ha
  | alt _ _ ih | swap _ _ _ ih | check _ _ ih | zeroNotEqual _ _ ih => exact ih
  | dupIf _ _ _ ih => exact fun hwf => ⟨SatB_dupIf (ih hwf).1, fun _ => ⟨DisB_dupIf, rfl⟩⟩
  | verify _ _ ih => exact fun hwf => ⟨SatB_verify (ih hwf).1, fun h => nomatch h⟩
  | nonZero _ _ _ ih => exact fun hwf => ⟨SatB_nonZero (ih hwf).1, fun _ => ⟨DisB_nonZero, rfl⟩⟩
  | andB _ _ _ _ ihl ihr =>
    intro hwf
    refine ⟨SatB_andB (ihl hwf.1).1 (ihr hwf.2).1, fun h => ?_⟩
    simp only [Bool.and_eq_true] at h
    obtain ⟨l1, l2⟩ := (ihl hwf.1).2 h.1
    obtain ⟨r1, r2⟩ := (ihr hwf.2).2 h.2
    exact ⟨DisB_andB l1 r1, zipMap_some_of l2 r2⟩
  | andV _ _ _ _ ihl ihr => exact fun hwf => ⟨SatB_andV (ihl hwf.1).1 (ihr hwf.2).1, fun h => nomatch h⟩
  | andOr _ _ _ _ hxd _ _ _ ihx ihy ihz =>
    intro hwf
    obtain ⟨dx, dx2⟩ := (ihx hwf.1).2 hxd
    refine ⟨SatB_andOr (ihx hwf.1).1 (ihy hwf.2.1).1 dx (ihz hwf.2.2).1, fun h => ?_⟩
    obtain ⟨dz, dz2⟩ := (ihz hwf.2.2).2 h
    exact ⟨DisB_andOr dx dz, zipMap_some_of dx2 dz2⟩
  | orB _ _ _ _ hld hrd ihl ihr =>
    intro hwf
    obtain ⟨dl, dl2⟩ := (ihl hwf.1).2 hld
    obtain ⟨dr, dr2⟩ := (ihr hwf.2).2 hrd
    exact ⟨SatB_orB (ihl hwf.1).1 (ihr hwf.2).1 dl dr, fun _ => ⟨DisB_orB dl dr, zipMap_some_of dl2 dr2⟩⟩
  | orD _ _ _ _ hld _ ihl ihr =>
    intro hwf
    obtain ⟨dl, dl2⟩ := (ihl hwf.1).2 hld
    refine ⟨SatB_orD (ihl hwf.1).1 dl (ihr hwf.2).1, fun h => ?_⟩
    obtain ⟨dr, dr2⟩ := (ihr hwf.2).2 h
    exact ⟨DisB_orD dl dr, zipMap_some_of dl2 dr2⟩
  | orC _ _ _ _ hld _ ihl ihr =>
    exact fun hwf => ⟨SatB_orC (ihl hwf.1).1 ((ihl hwf.1).2 hld).1 (ihr hwf.2).1, fun h => nomatch h⟩
  | @orI l r tl tr hl hr _ _ ihl ihr =>
    intro hwf
    refine ⟨SatB_orI (ihl hwf.1).1 (ihr hwf.2).1, fun h => ?_⟩
    -- a `d` branch's dissatisfaction is clean, so `minimum` can only return that one
    -- when the other branch is not `d` (its "dissatisfaction" may be `and_v`'s, without a figure)
    simp only [DisB, satDissat, extOf, ExtData.orI]
    rw [SatCfg.minFn_nonmall _ rfl]
    cases hl1 : tl.corr.dissat with
    | true =>
      obtain ⟨dl, dl2⟩ := (ihl hwf.1).2 hl1
      have sl := SB_push [.pushOne] with1 with1_push dl
      refine ⟨?_, by simp [dl2]⟩
      cases hr1 : tr.corr.dissat with
      | true =>
        exact SB_of_stack_or (fun _ => Sat.minimum_stack) sl
          (SB_push [.pushZero] with0 with0_push ((ihr hwf.2).2 hr1).1)
      | false =>
        obtain ⟨c1, c2⟩ := clean_of ctx ⟨ke, ctx, false, rhs, a⟩ rfl hl hwf.1 hl1
        exact SB_of_stack (fun w hw => minimum_stack_left_clean (by exact c1)
          (Wit.combine_ne_impossible.mpr ⟨c2, by simp⟩) hw) (SB_fmaxOpt_left _ sl)
    | false =>
      have hr1 : tr.corr.dissat = true := by simpa [hl1] using h
      obtain ⟨dr, dr2⟩ := (ihr hwf.2).2 hr1
      obtain ⟨c1, c2⟩ := clean_of ctx ⟨ke, ctx, false, rhs, a⟩ rfl hr hwf.2 hr1
      exact ⟨SB_of_stack (fun w hw => minimum_stack_right_clean (by exact c1)
        (Wit.combine_ne_impossible.mpr ⟨c2, by simp⟩) hw)
          (SB_fmaxOpt_right _ (SB_push [.pushZero] with0 with0_push dr)), by simp [dr2]⟩
  | threshNil => exact fun _ => Q_thresh ke ctx rhs a (by simp [satDissats, extsOf, AllSB, tv0])
  | thresh _ _ _ _ hd hrest ihx ihxs =>
    intro hwf
    exact Q_thresh ke ctx rhs a (allSB_cons ke ctx rhs a (ihx hwf.2.2.2.1) hd
      (ihxs hwf.2.2.2.2 fun s hs => (hrest s hs).2.2))
  | nil => simp [satDissats, extsOf, AllSB, tv0]
  | cons _ _ ihx ihxs =>
    rename_i hwf hd
    exact allSB_cons ke ctx rhs a (ihx hwf.1) (hd _ (List.mem_cons_self ..))
      (ihxs hwf.2 fun s hs => hd s (List.mem_cons_of_mem _ hs))

theorem bound_typed_all (ha : AssetsOk ke ctx a) {xs : MsList} {ts : List Ty} (h : HasTypes xs ts) :
    WFs ctx xs → (∀ s ∈ ts, s.corr.dissat = true) →
    AllSB (ess ctx) (satDissats (⟨ke, ctx, false, rhs, a⟩ : SatCfg) xs) (extsOf ke ctx xs)
      ∧ ∀ p ∈ tv0 (extsOf ke ctx xs), p.2.isSome = true := by
  induction h using HasTypes.rec (motive_1 := fun _ _ _ => True) with
  | nil => simp [satDissats, extsOf, AllSB, tv0]
  | cons hx _ _ ih =>
    intro hwf hd
    exact allSB_cons ke ctx rhs a (bound_typed ke ctx rhs a ha hx hwf.1) (hd _ (List.mem_cons_self ..))
      (ih hwf.2 fun s hs => hd s (List.mem_cons_of_mem _ hs))
  | _ => trivial

theorem bound_typed_list (ha : AssetsOk ke ctx a) : (xs : MsList) → (ts : List Ty) →
    typesOf xs = some ts → WFs ctx xs → ∀ i acc n, Corr.threshLoop i acc (ts.map (·.corr)) = some n →
    AllSB (ess ctx) (satDissats (⟨ke, ctx, false, rhs, a⟩ : SatCfg) xs) (extsOf ke ctx xs)
      ∧ ∀ p ∈ tv0 (extsOf ke ctx xs), p.2.isSome = true :=
  fun xs _ hts hwf i acc n hloop => bound_typed_all ke ctx rhs a ha (.of_typesOf xs hts) hwf fun s hs =>
    Corr.threshLoop_d _ i acc n hloop s.corr (List.mem_map_of_mem hs)

end MsVerif.C09
