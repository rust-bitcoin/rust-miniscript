/-
The projective normal form of the upper seven symbols of a word, on which both tables of C10
rest, and the three-symbol-error table: `e₁·x^d₁ + e₂·x^d₂ = e₃` (a weight-3 code word) forces the
upper symbols of `x^d₁` and `x^d₂` to be GF(32)-proportional, i.e. to have the same normal form,
and the normal forms of `x^d`, `d = 1 … 1040`, are pairwise distinct.  The two-character table
(`ChecksumPair`) uses the same form on words shifted down by three symbols.
-/
import MsVerif.Lemmas.ChecksumGF32
import MsVerif.Lemmas.ChecksumRank

namespace MsVerif.Checksum
open Rank

def digitsU (v : Nat) : List Nat :=
  [(v >>> 5) % 32, (v >>> 10) % 32, (v >>> 15) % 32, (v >>> 20) % 32, (v >>> 25) % 32,
   (v >>> 30) % 32, (v >>> 35) % 32]

def lead : List Nat → Nat
  | [] => 0
  | d :: ds => if d = 0 then lead ds else d

def repL (ds : List Nat) : List Nat := ds.map (gmul (ginv (lead ds)))

def repN (v : Nat) : Nat := pack (repL (digitsU v))

def All32 (l : List Nat) : Prop := ∀ d ∈ l, d < 32

theorem lead_lt {l : List Nat} (h : All32 l) : lead l < 32 := by
  induction l with
  | nil => simp [lead]
  | cons d ds ih =>
    simp only [lead]
    split
    · exact ih (fun x hx => h x (List.mem_cons_of_mem _ hx))
    · exact h d List.mem_cons_self

theorem lead_map (l : Nat) (hl : l < 32) (h0 : l ≠ 0) {C : List Nat} (hC : All32 C) :
    lead (C.map (gmul l)) = gmul l (lead C) := by
  induction C with
  | nil => simp [lead, gmul_zero_right l hl]
  | cons d ds ih =>
    have hd : d < 32 := hC d List.mem_cons_self
    simp only [List.map_cons, lead]
    by_cases hz : d = 0
    · subst hz
      have : gmul l 0 = 0 := gmul_zero_right l hl
      simp only [this, if_true]
      exact ih (fun x hx => hC x (List.mem_cons_of_mem _ hx))
    · have : gmul l d ≠ 0 := by
        intro e
        rcases (gmul_zero_iff l hl d hd).mp e with h | h
        · exact h0 h
        · exact hz h
      simp [hz, this]

theorem lead_zero_all {C : List Nat} (h : lead C = 0) : ∀ d ∈ C, d = 0 := by
  induction C with
  | nil => intro d hd; cases hd
  | cons d ds ih =>
    simp only [lead] at h
    by_cases hz : d = 0
    · simp only [hz, if_true] at h
      intro x hx
      rcases List.mem_cons.mp hx with e | e
      · rw [e, hz]
      · exact ih h x e
    · simp only [hz, if_false] at h

/-- scaling a vector does not change its normal form -/
theorem repL_map (l : Nat) (hl : l < 32) (h0 : l ≠ 0) {C : List Nat} (hC : All32 C) :
    repL (C.map (gmul l)) = repL C := by
  unfold repL
  rw [lead_map l hl h0 hC, List.map_map]
  apply List.map_congr_left
  intro y hy
  have hy32 := hC y hy
  have hx32 := lead_lt hC
  simp only [Function.comp]
  by_cases hx : lead C = 0
  · have hyz : y = 0 := lead_zero_all hx y hy
    rw [hyz, gmul_zero_right l hl, gmul_zero_right _ (ginv_lt _ (gmul_lt l hl _ hx32)),
      gmul_zero_right _ (ginv_lt _ hx32)]
  · -- y = x · w with w = x⁻¹ · y
    have hw := gmul_lt _ (ginv_lt _ hx32) y hy32
    have e1 : y = gmul (lead C) (gmul (ginv (lead C)) y) := (mul_ginv _ hx32 hx y hy32).symm
    have hu : gmul l (lead C) ≠ 0 := by
      intro e
      rcases (gmul_zero_iff l hl _ hx32).mp e with h | h
      · exact h0 h
      · exact hx h
    have hu32 := gmul_lt l hl _ hx32
    calc gmul (ginv (gmul l (lead C))) (gmul l y)
        = gmul (ginv (gmul l (lead C))) (gmul l (gmul (lead C) (gmul (ginv (lead C)) y))) := by
          rw [← e1]
      _ = gmul (ginv (gmul l (lead C))) (gmul (gmul l (lead C)) (gmul (ginv (lead C)) y)) := by
          rw [gmul_assoc l hl _ hx32 _ hw]
      _ = gmul (ginv (lead C)) y := ginv_mul _ hu32 hu _ hw

theorem digitsU_all (v : Nat) : All32 (digitsU v) := by
  intro d hd
  simp only [digitsU, List.mem_cons, List.not_mem_nil, or_false] at hd
  rcases hd with h | h | h | h | h | h | h <;> rw [h] <;> exact Nat.mod_lt _ (by decide)

/-- `repN` as the kernel evaluates it: the scalar forced once, products through logarithms -/
def repF (v : Nat) : Nat :=
  seqNat (ginv (lead (digitsU v))) fun c => pack ((digitsU v).map (gmulT c))

theorem repF_eq (v : Nat) : repF v = repN v := by
  have hc := ginv_lt _ (lead_lt (digitsU_all v))
  rw [repF, seqNat_eq, repN, repL]
  congr 1
  exact List.map_congr_left fun d hd => gmulT_eq _ hc d (digitsU_all v d hd)

def upper (v : W) : List Nat :=
  [unpack v 1, unpack v 2, unpack v 3, unpack v 4, unpack v 5, unpack v 6, unpack v 7]

theorem upper_eq (v : W) : upper v = digitsU v.toNat := by
  unfold upper digitsU
  simp only [unpack_eq, Nat.shiftRight_eq_div_pow]

theorem upper_all (v : W) : All32 (upper v) := by
  intro d hd
  unfold upper at hd
  simp only [List.mem_cons, List.not_mem_nil, or_false] at hd
  rcases hd with h | h | h | h | h | h | h <;> rw [h] <;> exact unpack_lt _ _

theorem upper_smul (l : Nat) (hl : l < 32) (v : W) : upper (smul l v) = (upper v).map (gmul l) := by
  unfold upper
  simp only [List.map, unpack_smul l hl]

theorem upper_ofNat : ∀ e, e < 32 → upper (BitVec.ofNat 40 e) = [0, 0, 0, 0, 0, 0, 0] := by
  decide +kernel

theorem upper_small {w : W} (h : w.toNat < 32) : upper w = [0, 0, 0, 0, 0, 0, 0] := by
  have e : w = BitVec.ofNat 40 w.toNat := by simp
  rw [e]; exact upper_ofNat _ h

theorem upper_xor (x y : W) : upper (x ^^^ y) = List.zipWith (· ^^^ ·) (upper x) (upper y) := by
  unfold upper; simp only [unpack_xor, List.zipWith]

theorem upper_scaled_eq {x y : W} {a b : Nat} (ha : a < 32) (hb : b < 32)
    (h : upper (smul a x ^^^ smul b y) = [0, 0, 0, 0, 0, 0, 0]) :
    (upper x).map (gmul a) = (upper y).map (gmul b) := by
  rw [upper_xor, upper_smul a ha, upper_smul b hb] at h
  unfold upper at h ⊢
  simp only [List.map, List.zipWith, List.cons.injEq, and_true] at h ⊢
  obtain ⟨a1, a2, a3, a4, a5, a6, a7⟩ := h
  exact ⟨xor_eq_zero_iff.mp a1, xor_eq_zero_iff.mp a2, xor_eq_zero_iff.mp a3,
    xor_eq_zero_iff.mp a4, xor_eq_zero_iff.mp a5, xor_eq_zero_iff.mp a6, xor_eq_zero_iff.mp a7⟩

theorem repN_eq_of_scaled {x y : W} {a b : Nat} (ha : a < 32) (hb : b < 32) (na : a ≠ 0) (nb : b ≠ 0)
    (h : (upper x).map (gmul a) = (upper y).map (gmul b)) : repN x.toNat = repN y.toNat := by
  have r1 := repL_map a ha na (upper_all x)
  rw [h, repL_map b hb nb (upper_all y)] at r1
  unfold repN
  rw [← upper_eq, ← upper_eq, r1]

theorem repN_zero_of_scaled {x : W} {a : Nat} (ha : a < 32) (na : a ≠ 0)
    (h : (upper x).map (gmul a) = [0, 0, 0, 0, 0, 0, 0]) : repN x.toNat = 0 := by
  have hz : ∀ n, gmul a (unpack x n) = 0 → unpack x n = 0 := fun n e =>
    ((gmul_zero_iff a ha _ (unpack_lt x n)).mp e).resolve_left na
  unfold upper at h
  simp only [List.map, List.cons.injEq, and_true] at h
  obtain ⟨a1, a2, a3, a4, a5, a6, a7⟩ := h
  unfold repN
  rw [← upper_eq, upper, hz 1 a1, hz 2 a2, hz 3 a3, hz 4 a4, hz 5 a5, hz 6 a6, hz 7 a7]
  rfl

theorem upper_smul_zero (x : W) : (upper x).map (gmul 0) = [0, 0, 0, 0, 0, 0, 0] := by
  simp only [upper, List.map, gmul_zero_left _ (unpack_lt x _)]

/-- the normal forms of `v >>> s`, `x·v >>> s`, `x²·v >>> s`, … (`n` of them), every value forced: the walk of both
tables (`s = 0`: the upper seven symbols, here; `s = 15`: the upper four, ChecksumPair) -/
def nfs (s : Nat) : Nat → Nat → List Nat
  | 0, _ => []
  | n + 1, v => seqNat (repF (v >>> s)) fun r => seqNat (LN v) fun v' => r :: nfs s n v'

theorem nfs_get (s : Nat) : ∀ (n v i : Nat), i < n → (nfs s n v)[i]? = some (repN (LNpow i v >>> s))
  | n + 1, v, 0, _ => by simp only [nfs, seqNat_eq, repF_eq, List.getElem?_cons_zero]; rfl
  | n + 1, v, i + 1, h => by
    simp only [nfs, seqNat_eq, List.getElem?_cons_succ, LNpow_succ']
    exact nfs_get s n (LN v) i (by omega)

theorem nfs_length (s : Nat) : ∀ (n v : Nat), (nfs s n v).length = n
  | 0, _ => rfl
  | n + 1, v => by simp only [nfs, seqNat_eq, List.length_cons, nfs_length s n (LN v)]

/-- 1040, here and in `nfs_noNear` (ChecksumPair), is the length chosen for the two tables: the
distance in symbols up to which the distance theorems hold.  `n` characters make at most
`n + n / 3 + 1` symbols and the checksum eight more, so it serves bodies of some 770 characters
(the property asks for 500, i.e. 675 symbols).
59347 is the least modulus under which the 1040 normal forms stay distinct (found by search); it keeps the bit
set of `distinctBits` small. -/
theorem reps_scan : distinctBits ((nfs 0 1040 (LN 1)).map (· % 59347)) 0 = true := by decide +kernel

theorem repN_distinct {d1 d2 : Nat} (h1 : 1 ≤ d2) (h : d2 < d1) (hN : d1 ≤ 1040) :
    repN (LNpow d1 1) ≠ repN (LNpow d2 1) := by
  have hnd : (nfs 0 1040 (LN 1)).Nodup := 
    List.Pairwise.of_map (· % 59347) (fun _ _ h e => h (congrArg (· % 59347) e)) (distinctBits_sound reps_scan).1
  have g : ∀ d, 1 ≤ d → d ≤ 1040 → (nfs 0 1040 (LN 1))[d - 1]? = some (repN (LNpow d 1)) := fun d h1 hd => by
    rw [nfs_get 0 _ _ _ (by omega), ← LNpow_succ', Nat.sub_add_cancel h1]; rfl
  intro e
  have := (List.getElem?_inj (by rw [nfs_length]; omega) hnd).mp
    ((g d1 (by omega) hN).trans ((congrArg some e).trans (g d2 h1 (by omega)).symm))
  omega

/-- **no code word of weight 3** (nor of weight 2: `e₃` may be 0): `L^d₁ e₁ + L^d₂ e₂ ≠ e₃` -/
theorem triple_free {d1 d2 e1 e2 e3 : Nat} (h1 : 1 ≤ d2) (h : d2 < d1) (hN : d1 ≤ 1040)
    (he1 : e1 < 32) (he2 : e2 < 32) (he3 : e3 < 32) (n1 : e1 ≠ 0) (n2 : e2 ≠ 0) :
    Lpow d1 (BitVec.ofNat 40 e1) ^^^ Lpow d2 (BitVec.ofNat 40 e2) ≠ BitVec.ofNat 40 e3 := by
  intro heq
  rw [Lpow_ofNat_smul e1 he1, Lpow_ofNat_smul e2 he2] at heq
  have hu := congrArg upper heq
  rw [upper_ofNat e3 he3] at hu
  have hrep := repN_eq_of_scaled he1 he2 n1 n2 (upper_scaled_eq he1 he2 hu)
  rw [Lpow_toNat, Lpow_toNat] at hrep
  exact repN_distinct h1 h hN hrep

end MsVerif.Checksum
