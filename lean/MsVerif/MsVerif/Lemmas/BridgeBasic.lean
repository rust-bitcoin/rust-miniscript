/-
What one `step` of the flat interpreter `Script.run` does, by kind of element (plain, IF / NOTIF, ELSE,
ENDIF: `Op.cases`) in an executing state, and for any element in a dead state (`step_dead`); `coreStep` is
its effect on the core alone, whatever the condition stack (`step_core`).
-/
import MsVerif.Lemmas.CoreFrag

namespace MsVerif.Bridge
open MsVerif MsVerif.Script

@[simp] theorem map_ok {ε α β} (f : α → β) (a : α) : (Except.ok a : Except ε α).map f = .ok (f a) := rfl
@[simp] theorem map_error {ε α β} (f : α → β) (e : ε) : (Except.error e : Except ε α).map f = .error e := rfl
@[simp] theorem bind_ok {ε α β} (f : α → Except ε β) (a : α) : ((Except.ok a : Except ε α) >>= f) = f a :=
  Except.bind_ok f a
@[simp] theorem bind_error {ε α β} (f : α → Except ε β) (e : ε) :
    ((Except.error e : Except ε α) >>= f) = .error e :=
  Except.bind_error f e

def lift (cs : List Bool) (x : Except Err Core) : Except Err State := x.map (fun c => ⟨c, cs⟩)

@[simp] theorem lift_ok (cs : List Bool) (c : Core) : lift cs (.ok c) = .ok ⟨c, cs⟩ := rfl
@[simp] theorem lift_error (cs : List Bool) (e : Err) : lift cs (.error e) = .error e := rfl

theorem lift_bind (cs : List Bool) (x : Except Err Core) (f : Core → Except Err Core) :
    lift cs (x >>= f) = (lift cs x >>= fun s => lift cs (f s.core)) := by
  cases x <;> rfl

@[simp] theorem run_nil (env : Env) (s : State) : run env [] s = .ok s := Script.run_nil env s

def Opc.plain : Opc → Bool
  | .if_ | .notif | .else_ | .endif => false
  | _ => true

def Op.plain : Op → Bool
  | .code o => Opc.plain o
  | _ => true

def condOpc : Bool → Opc
  | true => .notif
  | false => .if_

/-- the four kinds of element the interpreter distinguishes -/
theorem Op.cases (op : Op) :
    Op.plain op = true ∨ (∃ nf, op = .code (condOpc nf)) ∨ op = .code .else_ ∨ op = .code .endif := by
  cases op with
  | code o =>
    cases o
    case if_ => exact .inr (.inl ⟨false, rfl⟩)
    case notif => exact .inr (.inl ⟨true, rfl⟩)
    case else_ => exact .inr (.inr (.inl rfl))
    case endif => exact .inr (.inr (.inr rfl))
    all_goals exact .inl rfl
  | _ => exact .inl rfl

def straight (ops : List Op) : Bool := ops.all Op.plain

theorem straight_append (xs ys : List Op) : straight (xs ++ ys) = (straight xs && straight ys) := by
  simp [straight]

theorem straight_cons (x : Op) (xs : List Op) : straight (x :: xs) = (Op.plain x && straight xs) := by
  simp [straight]

theorem step_code (env : Env) (o : Opc) (h : Opc.plain o = true) (s : State) :
    step env s (.code o) =
      (match countOp env s.core 1 with
       | .error e => .error e
       | .ok c => if s.executing then (execOpc env o c).map (⟨·, s.conds⟩) else .ok ⟨c, s.conds⟩) := by
  cases o <;> first | rfl | cases h

theorem step_plain (env : Env) (op : Op) (h : Op.plain op = true) (c : Core) (cs : List Bool)
    (hcs : cs.all id = true) :
    step env ⟨c, cs⟩ op = lift cs (pshOp env op c) := by
  cases op with
  | code o =>
    rw [step_code env o h]
    show _ = lift cs (opc env o c)
    rw [opc]
    cases countOp env c 1 with
    | error e => rfl
    | ok c1 => simp only [State.executing, hcs, if_true]; rfl
  | small n => simp [step, State.executing, hcs, pshOp, lift]
  | push bs =>
    simp only [step, State.executing, hcs, pshOp, psh, lift]
    split <;> simp
  | bad b => simp [step, State.executing, hcs, pshOp, lift]

theorem step_cond (env : Env) (nf : Bool) (c : Core) (cs : List Bool) (hcs : cs.all id = true) :
    step env ⟨c, cs⟩ (.code (condOpc nf)) =
      (match cnd env nf c with
       | .error e => .error e
       | .ok (v, c1) => .ok ⟨c1, v :: cs⟩) := by
  unfold step cnd
  cases countOp env c 1 with
  | error e => rfl
  | ok c1 =>
    have hb : ∀ nf, (condOpc nf == .notif) = nf := by decide
    simp only [State.executing, hcs, hb, if_true]
    cases nf <;> cases condPop env _ c1 <;> rfl

theorem step_else (env : Env) (c : Core) (b : Bool) (cs : List Bool) :
    step env ⟨c, b :: cs⟩ (.code .else_) = lift ((!b) :: cs) (countOp env c 1) := by
  unfold step
  cases countOp env c 1 <;> rfl

theorem step_endif (env : Env) (c : Core) (b : Bool) (cs : List Bool) :
    step env ⟨c, b :: cs⟩ (.code .endif) = lift cs (countOp env c 1) := by
  unfold step
  cases countOp env c 1 <;> rfl

/-- what a dead state does to the core -/
def skipStep (env : Env) (c : Core) (op : Op) : Except Err Core :=
  match op with
  | .code _ => countOp env c 1
  | .push bs => if env.flags.stackLimits && bs.length > 520 then .error .pushSize else .ok c
  | _ => .ok c

/-- what a dead state does to the condition stack -/
def deadConds : Op → List Bool → List Bool
  | .code .if_, cs | .code .notif, cs => false :: cs
  | .code .else_, b :: cs => (!b) :: cs
  | .code .endif, _ :: cs => cs
  | _, cs => cs

theorem deadConds_plain (op : Op) (h : Op.plain op = true) (cs : List Bool) : deadConds op cs = cs := by
  cases op with
  | code o => cases o <;> first | rfl | cases h
  | _ => rfl

theorem step_dead (env : Env) (op : Op) (c : Core) (cs : List Bool) (hcs : cs.all id = false) :
    step env ⟨c, cs⟩ op = lift (deadConds op cs) (skipStep env c op) := by
  rcases Op.cases op with h | ⟨nf, rfl⟩ | rfl | rfl
  · rw [deadConds_plain op h]
    cases op with
    | code o =>
      rw [step_code env o h, skipStep]
      cases countOp env c 1 with
      | error e => rfl
      | ok c1 => simp only [State.executing, hcs, Bool.false_eq_true, if_false]; rfl
    | push bs => simp only [step, State.executing, hcs, skipStep]; split <;> rfl
    | _ => simp only [step, State.executing, hcs, skipStep]; rfl
  · unfold step skipStep
    cases countOp env c 1 with
    | error e => rfl
    | ok c1 => cases nf <;> simp only [condOpc, State.executing, hcs, Bool.false_eq_true, if_false] <;> rfl
  all_goals
    unfold step skipStep
    cases cs with
    | nil => cases hcs
    | cons b cs => cases countOp env c 1 <;> rfl

def coreStep (env : Env) (exec : Bool) (op : Op) (c : Core) : Except Err Core :=
  if exec then
    if Op.plain op then pshOp env op c
    else match op with
      | .code .if_ => (cnd env false c).map (·.2)
      | .code .notif => (cnd env true c).map (·.2)
      | _ => countOp env c 1
  else skipStep env c op

section coreStep
variable {env : Env} {op : Op} {c : Core}

theorem coreStep_plain (h : Op.plain op = true) : coreStep env true op c = pshOp env op c := by
  simp only [coreStep, h, if_true]

theorem coreStep_cond (nf : Bool) : coreStep env true (.code (condOpc nf)) c = (cnd env nf c).map (·.2) := by
  cases nf <;> rfl

theorem coreStep_else : coreStep env true (.code .else_) c = countOp env c 1 := rfl

theorem coreStep_endif : coreStep env true (.code .endif) c = countOp env c 1 := rfl

theorem coreStep_dead : coreStep env false op c = skipStep env c op := rfl

end coreStep

theorem lift_core {cs : List Bool} {x : Except Err Core} {s1 : State} (h : lift cs x = .ok s1) :
    x = .ok s1.core ∧ s1.conds = cs := by
  cases x with
  | error e => cases h
  | ok c => cases h; exact ⟨rfl, rfl⟩

theorem step_core {env : Env} {s s1 : State} {op : Op} (h : step env s op = .ok s1) :
    coreStep env s.executing op s.core = .ok s1.core := by
  obtain ⟨c, cs⟩ := s
  show coreStep env (cs.all id) op c = _
  cases hcs : cs.all id with
  | false =>
    rw [step_dead env op c cs hcs] at h
    exact (lift_core h).1
  | true =>
    rcases Op.cases op with hp | ⟨nf, rfl⟩ | rfl | rfl
    · rw [step_plain env op hp c cs hcs] at h
      rw [coreStep_plain hp]
      exact (lift_core h).1
    · rw [step_cond env nf c cs hcs] at h
      rw [coreStep_cond]
      cases hc : cnd env nf c with
      | error e => rw [hc] at h; cases h
      | ok p => rw [hc] at h; cases h; rfl
    all_goals
      cases cs with
      | nil => simp only [step] at h; split at h <;> cases h
      | cons b cs =>
        first
        | (rw [step_else] at h; exact (lift_core h).1)
        | (rw [step_endif] at h; exact (lift_core h).1)

theorem lift_of_core {cs : List Bool} {x : Except Err Core} {s1 : State} (hx : x = .ok s1.core) (hc : s1.conds = cs) :
    lift cs x = .ok s1 := by
  rw [hx, ← hc]; rfl

/-- The condition stack after a step does not depend on the environment (the flag IF / NOTIF pushes is read off the
element popped): a step that succeeds in `env` succeeds in `env'` with the same state as soon as its core part does. -/
theorem step_of_core {env env' : Env} {s s1 : State} {op : Op} (h : step env s op = .ok s1)
    (hc : coreStep env' s.executing op s.core = .ok s1.core) : step env' s op = .ok s1 := by
  obtain ⟨c, cs⟩ := s
  change coreStep env' (cs.all id) op c = _ at hc
  cases hcs : cs.all id with
  | false =>
    rw [hcs] at hc
    rw [step_dead _ op c cs hcs] at h ⊢
    exact lift_of_core hc (lift_core h).2
  | true =>
    rw [hcs] at hc
    rcases Op.cases op with hp | ⟨nf, rfl⟩ | rfl | rfl
    · rw [step_plain _ op hp c cs hcs] at h ⊢
      rw [coreStep_plain hp] at hc
      exact lift_of_core hc (lift_core h).2
    · rw [step_cond _ nf c cs hcs] at h ⊢
      rw [coreStep_cond] at hc
      cases h1 : cnd env nf c with
      | error e => rw [h1] at h; cases h
      | ok p =>
        rw [h1] at h
        cases h
        cases h2 : cnd env' nf c with
        | error e => rw [h2] at hc; cases hc
        | ok q =>
          rw [h2] at hc
          obtain ⟨v', c2⟩ := q
          cases hc
          obtain ⟨a, ha, _, hv⟩ := cnd_inv h1
          obtain ⟨a', ha', _, hv'⟩ := cnd_inv h2
          cases (List.cons.inj (ha.symm.trans ha')).1
          rw [hv, ← hv']
    all_goals
      cases cs with
      | nil => simp only [step] at h; split at h <;> cases h
      | cons b cs =>
        first
        | (rw [step_else] at h ⊢; exact lift_of_core hc (lift_core h).2)
        | (rw [step_endif] at h ⊢; exact lift_of_core hc (lift_core h).2)

end MsVerif.Bridge
