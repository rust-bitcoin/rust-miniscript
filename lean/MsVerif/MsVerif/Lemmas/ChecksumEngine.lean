/-
Engine-level lemmas for C10: CHAR_MAP is injective, well-formedness of the class accumulator,
the effect of one character, the difference of two steps.
-/
import MsVerif.Lemmas.ChecksumLinear
import MsVerif.Lemmas.ChecksumRank

namespace MsVerif.Checksum

/-- 95 = 127 − 32 characters, the size of CHAR_MAP; of a value `p < 95` the proofs use `p / 32 ≤ 2` -/
theorem charMap_lt : ∀ i, i < 95 → ∃ p, CHAR_MAP[i]? = some p ∧ p < 95 := by decide +kernel

theorem charMap_inj : ∀ i, i < 95 → ∀ j, j < 95 → CHAR_MAP[i]? = CHAR_MAP[j]? → i = j := by
  have hd : distinctBits CHAR_MAP.toList 0 = true := by decide +kernel
  intro i hi j _ h
  rw [← Array.getElem?_toList, ← Array.getElem?_toList] at h
  exact (List.getElem?_inj (show i < CHAR_MAP.toList.length from hi) (distinctBits_sound hd).1).mp h

theorem validChar_iff (c : Char) : validChar c = true ↔ 32 ≤ c.toNat ∧ c.toNat < 127 := by
  simp [validChar]

theorem charMap?_valid (b : Nat) (h : 32 ≤ b ∧ b < 127) : ∃ p, charMap? b = some p ∧ p < 95 := by
  unfold charMap?
  have : ¬ b < 32 := by omega
  simp only [this, if_false]
  exact charMap_lt (b - 32) (by omega)

theorem charMap?_inj (a b : Nat) (ha : 32 ≤ a ∧ a < 127) (hb : 32 ≤ b ∧ b < 127)
    (h : charMap? a = charMap? b) : a = b := by
  unfold charMap? at h
  have h1 : ¬ a < 32 := by omega
  have h2 : ¬ b < 32 := by omega
  simp only [h1, h2, if_false] at h
  have := charMap_inj (a - 32) (by omega) (b - 32) (by omega) h
  omega

/-- well-formed engine state: fewer than three pending class digits, `cls` is their base-3 value -/
def WF (en : Engine) : Prop := en.clscount < 3 ∧ en.cls < 3 ^ en.clscount

theorem WF_new : WF Engine.new := by unfold WF Engine.new; decide

/-- the panic-free effect of one character whose CHAR_MAP value is `pos` -/
def next (en : Engine) (pos : Nat) : Engine :=
  let r := inputFe en.residue (pos % 32)
  let cls := en.cls * 3 + pos / 32
  if en.clscount + 1 = 3 then ⟨inputFe r cls, 0, 0⟩ else ⟨r, cls, en.clscount + 1⟩

theorem next_noemit {a : Engine} {p : Nat} (h : ¬ a.clscount + 1 = 3) :
    next a p = ⟨inputFe a.residue (p % 32), a.cls * 3 + p / 32, a.clscount + 1⟩ := by
  unfold next; simp [h]

theorem next_emit {a : Engine} {p : Nat} (h : a.clscount + 1 = 3) :
    next a p = ⟨inputFe (inputFe a.residue (p % 32)) (a.cls * 3 + p / 32), 0, 0⟩ := by
  unfold next; simp [h]

/-! A character with CHAR_MAP value `p` has the class digit `p / 32 ≤ 2`; the digits of a group are
folded into `k * 3 + a`, below `3 ^ n` after `n` digits and so, for `n ≤ 3`, a 5-bit symbol. -/

theorem div32_le {p : Nat} (h : p < 95) : p / 32 ≤ 2 := by omega

theorem acc_lt {k a n : Nat} (hk : k < 3 ^ n) (ha : a ≤ 2) : k * 3 + a < 3 ^ (n + 1) := by
  rw [Nat.pow_succ]; omega

theorem acc_lt32 {k n : Nat} (hk : k < 3 ^ n) (hn : n ≤ 3) : k < 32 :=
  Nat.lt_of_lt_of_le hk (Nat.le_trans (Nat.pow_le_pow_right (by decide) hn) (by decide))

theorem cls_bound {en : Engine} (h : WF en) {pos : Nat} (hp : pos < 95) :
    en.cls * 3 + pos / 32 < 3 ^ (en.clscount + 1) :=
  acc_lt h.2 (div32_le hp)

theorem WF_cls_lt {en : Engine} (w : WF en) : en.cls < 32 :=
  acc_lt32 w.2 (Nat.le_of_lt w.1)

theorem inputByte_eq {en : Engine} (h : WF en) {b pos : Nat} (hb : charMap? b = some pos)
    (hp : pos < 95) : en.inputByte b = some (next en pos) := by
  unfold Engine.inputByte
  simp only [hb]
  by_cases h3 : en.clscount + 1 = 3
  · have : en.cls * 3 + pos / 32 < 32 := acc_lt32 (cls_bound h hp) (Nat.le_of_eq h3)
    simp [next_emit h3, h3, inputFeChecked, this]
  · simp [next_noemit h3, h3]

theorem WF_next {en : Engine} (h : WF en) {pos : Nat} (hp : pos < 95) : WF (next en pos) := by
  by_cases h3 : en.clscount + 1 = 3
  · rw [next_emit h3]; exact ⟨(by decide : 0 < 3), (by decide : 0 < 3 ^ 0)⟩
  · rw [next_noemit h3]
    exact ⟨by have := h.1; show en.clscount + 1 < 3; omega, cls_bound h hp⟩

theorem xor_inputFe2 (ra rb : W) (e f : Nat) (he : e < 32) (hf : f < 32) :
    inputFe ra e ^^^ inputFe rb f = L (ra ^^^ rb) ^^^ BitVec.ofNat 40 (e ^^^ f) := by
  rw [inputFe_eq ra e he, inputFe_eq rb f hf, L_xor, BitVec.ofNat_xor]
  ac_rfl

end MsVerif.Checksum
