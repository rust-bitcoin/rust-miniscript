/-
`Liftable for Concrete`: every concrete node is a k-of-n (`IsNode`), so one case serves `and`, `or`,
`thresh`: the lifted abstract policy is a normal form with the truth table of the concrete one; `lift`
is `check_timelocks`, then `lift_unchecked`, which fails only on an `and` / `or` without children.
-/
import MsVerif.Lemmas.PolicyNorm

namespace MsVerif.Pol
open Sem Conc

theorem collectLift_ok {rs : List LiftRes} {k : List Policy → LiftRes} {s : Policy}
    (h : collectLift rs k = .ok s) : ∃ ps, rs = ps.map LiftRes.ok ∧ k ps = .ok s := by
  induction rs generalizing k with
  | nil => exact ⟨[], rfl, h⟩
  | cons r rs ih =>
    cases r with
    | ok p =>
      obtain ⟨ps, hps, hk⟩ := ih (k := fun ps => k (p :: ps)) h
      exact ⟨p :: ps, by simp [hps], hk⟩
    | err | errThreshold => simp [collectLift] at h

theorem collectLift_all_ok (ps : List Policy) (k : List Policy → LiftRes) :
    collectLift (ps.map LiftRes.ok) k = k ps := by
  induction ps generalizing k with
  | nil => rfl
  | cons p ps ih => simp only [List.map_cons, collectLift]; exact ih _

theorem lifted_children (v : Atom → Bool) :
    ∀ (subs : List CPolicy) (ps : List Policy),
      (∀ c ∈ subs, ∀ s, liftUnchecked c = .ok s → holdsA v s = holdsC v c) →
      subs.map liftUnchecked = ps.map LiftRes.ok →
      ps.countP (holdsA v) = subs.countP (holdsC v)
  | [], [], _, _ => rfl
  | [], _ :: _, _, h => by simp at h
  | _ :: _, [], _, h => by simp at h
  | c :: cs, p :: ps, hc, h => by
    simp only [List.map_cons, List.cons.injEq] at h
    rw [List.countP_cons, List.countP_cons, hc c (by simp) p h.1,
      lifted_children v cs ps (fun c' hc' => hc c' (by simp [hc'])) h.2]

theorem liftUnchecked_node_ok {c : CPolicy} {k : Nat} {subs : List CPolicy} (hn : IsNode c k subs)
    {s : Policy} (h : liftUnchecked c = .ok s) :
    ∃ ps, subs.map liftUnchecked = ps.map LiftRes.ok ∧ s = normalized (.thresh k ps) := by
  cases hn <;> rw [liftUnchecked, liftUncheckedList_eq] at h <;>
    obtain ⟨ps, hps, hk⟩ := collectLift_ok h
  · have hl : ps.length = subs.length := by simpa using (congrArg List.length hps).symm
    split at hk
    · cases hk; exact ⟨ps, hps, by rw [hl]⟩
    · simp at hk
  · split at hk
    · cases hk; exact ⟨ps, hps, rfl⟩
    · simp at hk
  · cases hk; exact ⟨ps, hps, rfl⟩

theorem liftUnchecked_spec : ∀ c s, liftUnchecked c = .ok s →
    NF s = true ∧ ∀ v, holdsA v s = holdsC v c := by
  intro c
  induction c using CPolicy.inductNode with
  | unsat | trivial | atom _ => intro s h; cases h; exact ⟨rfl, fun _ => rfl⟩
  | node c k subs hn ih =>
    intro s h
    obtain ⟨ps, hps, rfl⟩ := liftUnchecked_node_ok hn h
    refine ⟨normalized_NF _, fun v => ?_⟩
    rw [normalized_holdsA, holdsA_thresh, holdsC_node hn,
      lifted_children v subs ps (fun c hc s hs => (ih c hc s hs).2 v) hps]

theorem lift_ok_iff (c : CPolicy) (s : Policy) :
    lift c = .ok s ↔ checkTimelocks c = true ∧ liftUnchecked c = .ok s := by
  unfold lift
  cases checkTimelocks c <;> simp

theorem exists_ok_list : ∀ (subs : List CPolicy), (∀ c ∈ subs, ∃ s, liftUnchecked c = .ok s) →
    ∃ ps : List Policy, subs.map liftUnchecked = ps.map LiftRes.ok ∧ ps.length = subs.length
  | [], _ => ⟨[], rfl, rfl⟩
  | c :: cs, h => by
    obtain ⟨s, hs⟩ := h c (by simp)
    obtain ⟨ps, hps, hl⟩ := exists_ok_list cs (fun c' hc' => h c' (by simp [hc']))
    exact ⟨s :: ps, by simp [hs, hps], by simp [hl]⟩

theorem liftUnchecked_total : ∀ c, andOrNonEmpty c = true → ∃ s, liftUnchecked c = .ok s := by
  intro c
  induction c using CPolicy.induct' with
  | unsat | trivial | atom _ => intro _; exact ⟨_, rfl⟩
  | and subs ih | or subs ih =>
    intro hb
    simp only [andOrNonEmpty, Bool.and_eq_true, decide_eq_true_eq, andOrNonEmpty_go_iff] at hb
    obtain ⟨ps, hps, hl⟩ := exists_ok_list subs (fun c hc => ih c hc (hb.2 c hc))
    rw [liftUnchecked, liftUncheckedList_eq, hps, collectLift_all_ok]
    have : 1 ≤ ps.length := by omega
    simp [this]
  | thresh k subs ih =>
    intro hb
    simp only [andOrNonEmpty, andOrNonEmpty_go_iff] at hb
    obtain ⟨ps, hps, hl⟩ := exists_ok_list subs (fun c hc => ih c hc (hb c hc))
    rw [liftUnchecked, liftUncheckedList_eq, hps, collectLift_all_ok]
    exact ⟨_, rfl⟩

end MsVerif.Pol
