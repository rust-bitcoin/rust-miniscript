/-
C02 T1: the malleable-mode satisfier (`satDissat`, `mall = true`) finds a satisfaction /
dissatisfaction whenever the specification's table has one (`mall_inv`), for scripts whose available locks have
common units (`lockUnit`), under `SigSizesOK` and `73 * itemBound ms < SMALL`.  The induction carries `MallInv`;
`MallAlt` states it of one result, with a lemma per operation of `satDissat`, `thresh` apart (`thresh_mall_inv`).
`mall_invs`: the same about `satDissatG nz`, under `mallP nz`.
-/
import MsVerif.Lemmas.CompleteFixed
import MsVerif.Lemmas.CompleteThresh


namespace MsVerif.Complete
open MsVerif Sat SatTable

/-- node predicate of the malleable-mode theorem: available locks have the units `ua`/`ur`, and
a `j:` node is only allowed when its dissatisfaction is the specification's -/
def mallP (nz : Sat) (a : Assets) (ua ur : Bool) (m : Ms) : Bool :=
  lockUnit a ua ur m && (isNotNonZero m || decide (nz = Sat.push0))

/-- what the induction carries at a node; 73 (an ECDSA signature) bounds `Ph.size` of every item the satisfier
pushes, Schnorr signatures under `SigSizesOK`, keys by `pkLen_le`; so `73 * itemBound ms` bounds the byte size of its results -/
structure MallInv (ua ur : Bool) (av : Avail) (ms : Ms) (r : SatDissat) : Prop where
  lockS : LockOK ua ur r.sat
  lockD : LockOK ua ur r.dissat
  szS : wsz r.sat.stack ≤ 73 * itemBound ms
  szD : wsz r.dissat.stack ≤ 73 * itemBound ms
  sat : satEx av ms = true → isStk r.sat.stack = true
  dsat : dsatEx av ms = true → isStk r.dissat.stack = true

theorem wsz_combine_one {w : Wit} {B : Nat} (p : Ph) (hp : p.size ≤ 73) (h : wsz w ≤ 73 * B) :
    wsz (Wit.combine w (.stack [p])) ≤ 73 * (B + 1) := by
  have := combine_wsz_le w (.stack [p])
  simp only [wsz_stack, sumSize_cons, sumSize_nil] at this
  omega

/-- `MallInv` for ONE alternative: locks in unit, at most `B` items, a stack if the table's row `e`
says so.  `satDissat` builds a node's alternatives from the children's by `concatenateRev`, `minFn`
and one-item pushes; `MallAlt.concat`, `.minMall`, `.push` follow it, so that a case of `mall_inv` is
the body of `satDissat` read once more. -/
structure MallAlt (ua ur : Bool) (B : Nat) (e : Bool) (s : Sat) : Prop where
  lock : LockOK ua ur s
  sz : wsz s.stack ≤ 73 * B
  stk : e = true → isStk s.stack = true

section
variable {ua ur : Bool} {av : Avail} {B B' B1 B2 : Nat} {e e' e1 e2 : Bool} {s o s1 s2 : Sat}

namespace MallInv

theorem S {ms : Ms} {r : SatDissat} (h : MallInv ua ur av ms r) :
    MallAlt ua ur (itemBound ms) (satEx av ms) r.sat := ⟨h.lockS, h.szS, h.sat⟩

theorem D {ms : Ms} {r : SatDissat} (h : MallInv ua ur av ms r) :
    MallAlt ua ur (itemBound ms) (dsatEx av ms) r.dissat := ⟨h.lockD, h.szD, h.dsat⟩

theorem of_alt {ms : Ms} {r : SatDissat} (hS : MallAlt ua ur (itemBound ms) (satEx av ms) r.sat)
    (hD : MallAlt ua ur (itemBound ms) (dsatEx av ms) r.dissat) : MallInv ua ur av ms r :=
  ⟨hS.lock, hD.lock, hS.sz, hD.sz, hS.stk, hD.stk⟩

end MallInv

namespace MallAlt

theorem of (h : MallAlt ua ur B e s) (hB : B ≤ B') (he : e' = true → e = true) :
    MallAlt ua ur B' e' s :=
  ⟨h.lock, Nat.le_trans h.sz (Nat.mul_le_mul_left 73 hB), fun h' => h.stk (he h')⟩

theorem concat (h1 : MallAlt ua ur B1 e1 s) (h2 : MallAlt ua ur B2 e2 o) :
    MallAlt ua ur (B1 + B2) (e1 && e2) (s.concatenateRev o) :=
  ⟨concat_lockOK h1.lock h2.lock,
   Nat.mul_add 73 B1 B2 ▸ Nat.le_trans concat_wsz (Nat.add_le_add h1.sz h2.sz),
   fun h => concat_stk h1.lock h2.lock (h1.stk (Bool.and_eq_true_iff.mp h).1)
     (h2.stk (Bool.and_eq_true_iff.mp h).2)⟩

theorem minMall (h1 : MallAlt ua ur B e1 s1) (h2 : MallAlt ua ur B e2 s2) :
    MallAlt ua ur B (e1 || e2) (minimumMall s1 s2) := by
  rcases minMall_cases s1 s2 with ⟨e, n1⟩ | ⟨e, _, y1⟩ | ⟨y1, y2, ⟨es, ea, er⟩ | ⟨es, ea, er⟩⟩
  · rw [e]
    exact ⟨h2.lock, h2.sz, fun h => ((Bool.or_eq_true_iff.mp h).imp h1.stk h2.stk).resolve_left
      (by rw [n1]; exact Bool.false_ne_true)⟩
  · rw [e]; exact ⟨h1.lock, h1.sz, fun _ => y1⟩
  · exact ⟨lockOK_congr h1.lock ea er, es ▸ h1.sz, fun _ => es ▸ y1⟩
  · exact ⟨lockOK_congr h2.lock ea er, es ▸ h2.sz, fun _ => es ▸ y2⟩

theorem push (p : Ph) (hp : p.size ≤ 73) (h : MallAlt ua ur B e s) :
    MallAlt ua ur (B + 1) e (pushTop p s) :=
  ⟨lockOK_congr h.lock rfl rfl, wsz_combine_one p hp h.sz, fun h' => by simp [pushTop, h.stk h']⟩

theorem imp : MallAlt ua ur B false IMPOSSIBLE :=
  ⟨lockOK_IMPOSSIBLE _ _, Nat.zero_le _, fun h => nomatch h⟩

theorem push0 : MallAlt ua ur (B + 1) e push0 :=
  ⟨lockOK_push0 _ _, Nat.le_trans (by decide : 1 ≤ 73 * 1) (Nat.mul_le_mul_left 73 (Nat.le_add_left _ _)),
    fun _ => rfl⟩

end MallAlt

end

theorem sum_map_mul (l : List Ms) (g : Ms → Nat) (c : Nat) :
    (l.map (fun x => c * g x)).sum = c * (l.map g).sum := by
  induction l with
  | nil => simp
  | cons a t ih => simp [ih, Nat.mul_add]

theorem leaf_mallInv {ua ur : Bool} {av : Avail} {ms : Ms} {a : Assets} {B : Nat} {can : Bool}
    {r : SatDissat} (hf : LeafFacts a B can r) (hs : SigSizesOK a) (hB : B = itemBound ms)
    (hsat : satEx av ms = can) : MallInv ua ur av ms r :=
  ⟨lockOK_none hf.sAbs hf.sRel, lockOK_none hf.dAbs hf.dRel, hB ▸ hf.sSz hs, hB ▸ hf.dSz hs,
    fun h => by rw [hf.sStk, ← hsat, h], fun _ => hf.dStk⟩

section
variable {ua ur : Bool} {av : Avail}

theorem thresh_sum_le (xs : MsList) (f : Ms → SatDissat)
    (h : ∀ x ∈ xs.toList, MallInv ua ur av x (f x)) :
    ((xs.toList.map f).map (fun sd => max (wsz sd.sat.stack) (wsz sd.dissat.stack))).sum
      ≤ 73 * itemBounds xs := by
  rw [List.map_map, itemBounds_eq, ← sum_map_mul]
  apply sum_map_le
  intro x hx
  have := (h x hx).szS
  have := (h x hx).szD
  simp only [Function.comp]
  omega

theorem sum_le_of_pointwise (l : List SatDissat) (g g' : SatDissat → Nat) (h : ∀ sd, g sd ≤ g' sd) :
    (l.map g).sum ≤ (l.map g').sum := sum_map_le l g g' (fun x _ => h x)

theorem thresh_mall_inv (k : Nat) (xs : MsList) (f : Ms → SatDissat)
    (h : ∀ x ∈ xs.toList, MallInv ua ur av x (f x)) (hsm : 73 * itemBounds xs < SMALL) :
    MallInv ua ur av (.thresh k xs)
      ⟨foldConcat ((xs.toList.map f).map (·.dissat)),
       if k = (xs.toList.map f).length then foldConcat ((xs.toList.map f).map (·.sat))
       else threshMall k ((xs.toList.map f).map (·.dissat)) ((xs.toList.map f).map (·.sat))⟩ := by
  have hlock : ∀ sd ∈ xs.toList.map f, LockOK ua ur sd.sat ∧ LockOK ua ur sd.dissat := by
    intro sd hsd
    obtain ⟨x, hx, rfl⟩ := List.mem_map.mp hsd
    exact ⟨(h x hx).lockS, (h x hx).lockD⟩
  have hlockD := lockOK_dissats hlock
  have hlockS := lockOK_sats hlock
  have hsum := thresh_sum_le xs f h
  have hsumD : (((xs.toList.map f).map (·.dissat)).map (fun s => wsz s.stack)).sum
      ≤ 73 * itemBounds xs := by
    refine Nat.le_trans ?_ hsum
    rw [List.map_map]
    exact sum_map_le _ _ _ (fun sd _ => by simp only [Function.comp]; omega)
  have hsumS : (((xs.toList.map f).map (·.sat)).map (fun s => wsz s.stack)).sum
      ≤ 73 * itemBounds xs := by
    refine Nat.le_trans ?_ hsum
    rw [List.map_map]
    exact sum_map_le _ _ _ (fun sd _ => by simp only [Function.comp]; omega)
  refine ⟨?_, foldConcat_lockOK _ hlockD, ?_, ?_, ?_, ?_⟩
  · show LockOK ua ur (if _ then _ else _)
    split
    · exact foldConcat_lockOK _ hlockS
    · exact threshMall_lockOK k _ hlock
  · show wsz (if _ then _ else _ : Sat).stack ≤ 73 * itemBounds xs
    split
    · exact Nat.le_trans (foldConcat_wsz _) hsumS
    · exact Nat.le_trans (threshMall_wsz k _) hsum
  · exact Nat.le_trans (foldConcat_wsz _) hsumD
  · intro hex
    obtain ⟨hdead, hlo, hhi⟩ := satEx_thresh hex
    have hcs := countP_satEx_le (f := f) (fun x hx => (h x hx).sat)
    show isStk (if _ then _ else _ : Sat).stack = true
    split
    next hk => exact foldConcat_sats_isStk hlock (by omega)
    next hk =>
      have hnd : ∀ x ∈ xs.toList, satEx av x = true ∨ dsatEx av x = true := by
        intro x hx
        have := List.countP_eq_zero.mp hdead x hx
        cases hsx : satEx av x <;> cases hdx : dsatEx av x <;> simp [hsx, hdx] at this ⊢
      apply threshMall_isStk k _ hlock
      · intro sd hsd
        obtain ⟨x, hx, rfl⟩ := List.mem_map.mp hsd
        have := (h x hx).szS
        have := (h x hx).szD
        have := itemBound_le_of_mem xs hx
        have : 73 * itemBound x ≤ 73 * itemBounds xs := Nat.mul_le_mul_left _ this
        constructor <;> omega
      · intro sd hsd
        obtain ⟨x, hx, rfl⟩ := List.mem_map.mp hsd
        exact (hnd x hx).imp (h x hx).sat (h x hx).dsat
      · refine Nat.le_trans ?_ hlo
        rw [List.countP_map]
        apply List.countP_mono_left
        intro x hx hnst
        simp only [Function.comp, Bool.not_eq_true'] at hnst
        cases hdx : dsatEx av x with
        | true => rw [(h x hx).dsat hdx] at hnst; cases hnst
        | false => simpa [hdx] using hnd x hx
      · exact Nat.le_trans hhi hcs
  · intro hex
    have hex : allDsatEx av xs = true := hex
    rw [allDsatEx_eq, List.all_eq_true] at hex
    rw [foldConcat_isStk _ hlockD, List.all_map, List.all_map, List.all_eq_true]
    intro x hx
    exact (h x hx).dsat (hex x hx)

end

/-- the size hypothesis passes to the children: `itemBound` of a node is a sum over them -/
theorem small_left {c a b n : Nat} (h : c * (a + b) < n) : c * a < n :=
  Nat.lt_of_le_of_lt (Nat.mul_le_mul_left c (Nat.le_add_right a b)) h

theorem small_right {c a b n : Nat} (h : c * (a + b) < n) : c * b < n :=
  Nat.lt_of_le_of_lt (Nat.mul_le_mul_left c (Nat.le_add_left b a)) h

section
variable (c : SatCfg) (ua ur : Bool)

/- The node facts come from
`allNodes_*`, the bound on the children from `small_left/right` (`itemBound` at the node unfolds to the sum by
definition); `.of` where the node's bound or row is not literally the operation's.  The table rows `dsatEx` unfold
definitionally, only `satEx` (defined by well-founded recursion) needs `simp only`. -/
theorem mall_inv (hm : c.mall = true) (hs : SigSizesOK c.assets) (ms : Ms) :
    allNodes (lockUnit c.assets ua ur) ms = true → 73 * itemBound ms < SMALL →
      MallInv ua ur (availOf c.assets c.ctx) ms (satDissat c ms) := by
  intro hP hsm
  induction ms using Ms.rec (motive_2 := fun xs =>
    allNodesL (lockUnit c.assets ua ur) xs = true → 73 * itemBounds xs < SMALL →
      ∀ x ∈ xs.toList, MallInv ua ur (availOf c.assets c.ctx) x (satDissat c x)) with
  | fls =>
    exact ⟨lockOK_IMPOSSIBLE _ _, lockOK_TRIVIAL _ _, Nat.zero_le _, Nat.zero_le _, by simp [satEx], fun _ => rfl⟩
  | tru =>
    exact ⟨lockOK_TRIVIAL _ _, lockOK_IMPOSSIBLE _ _, Nat.zero_le _, Nat.zero_le _, fun _ => rfl, fun h => nomatch h⟩
  | pkK k =>
    exact ⟨lockOK_none rfl rfl, lockOK_push0 _ _, sigWit_wsz c.ctx c.assets k hs,
      (by decide : wsz Sat.push0.stack ≤ 73 * 1),
      fun h => by simpa [satEx, availOf, sigWit_isStk, satDissat_pkK] using h, fun _ => rfl⟩
  | pkH k =>
    have hpk : pkLen c.env c.ctx k ≤ 73 := Nat.le_trans (pkLen_le c.env c.ctx k) (by decide)
    refine ⟨lockOK_none rfl rfl, lockOK_none rfl rfl,
      wsz_combine_one _ hpk (sigWit_wsz c.ctx c.assets k hs),
      wsz_combine_one (w := .stack [.pushZero]) _ hpk (by decide),
      fun h => ?_, fun _ => rfl⟩
    simpa [satEx, availOf, sigWit_isStk, satDissat_pkH] using h
  | rawPkH h =>
    have hpk := pkLen_le c.env c.ctx
    simp only [satDissat_rawPkH]
    refine ⟨lockOK_none rfl rfl, lockOK_none rfl rfl, ?_, ?_, fun hex => ?_, fun hex => ?_⟩
    · show _ ≤ 73 * 2
      cases c.ctx.sigType with
      | schnorr =>
        cases hr : c.assets.rawPkhSchnorr h with
        | none => exact Nat.zero_le _
        | some p =>
          have := hs.2 h _ hr
          have := hpk p.1
          simp only [wsz, sumSize_cons, sumSize_nil, Ph.size]
          omega
      | ecdsa =>
        cases c.assets.rawPkhEcdsa h with
        | none => exact Nat.zero_le _
        | some pk =>
          have := hpk pk
          simp only [wsz, sumSize_cons, sumSize_nil, Ph.size]
          omega
    · show _ ≤ 73 * 2
      cases c.assets.rawPkhPk h with
      | none => exact Nat.zero_le _
      | some pk =>
        have := hpk pk
        simp only [Wit.combine, wsz, sumSize_append, sumSize_cons, sumSize_nil, Ph.size]
        omega
    · simp only [satEx, availOf] at hex
      cases hst : c.ctx.sigType <;> rw [hst] at hex <;> simp only at hex ⊢
      · cases hr : c.assets.rawPkhEcdsa h with
        | none => simp [hr] at hex
        | some pk => rfl
      · cases hr : c.assets.rawPkhSchnorr h with
        | none => simp [hr] at hex
        | some p => rfl
    · have hex : (c.assets.rawPkhPk h).isSome = true := hex
      cases hr : c.assets.rawPkhPk h with
      | none => simp [hr] at hex
      | some pk => rfl
  | multi k ks =>
    exact leaf_mallInv (multiSD_facts c.ctx c.assets k ks) hs rfl (by simp [satEx, availOf])
  | sortedMulti k ks =>
    exact leaf_mallInv (multiSD_facts c.ctx c.assets k (sortKeys' c.env ks)) hs
      (congrArg (· + k + 1) (sortKeys'_length c.env ks)) (by simp [satEx, availOf, sortKeys'_filter])
  | multiA k ks =>
    exact leaf_mallInv (multiASD_facts c.ctx c.assets k ks) hs rfl (by simp [satEx, availOf])
  | sortedMultiA k ks =>
    exact leaf_mallInv (multiASD_facts c.ctx c.assets k (sortKeys' c.env ks)) hs
      (sortKeys'_length c.env ks) (by simp [satEx, availOf, sortKeys'_filter])
  | after n =>
    have hu : (!c.assets.checkAfter n || absUnit n == ua) = true :=
      allNodes_leaf hP rfl
    simp only [satDissat_after]
    cases hc : c.assets.checkAfter n with
    | true =>
      refine ⟨⟨fun m hm' => ?_, by simp⟩, lockOK_IMPOSSIBLE _ _, Nat.zero_le _, Nat.zero_le _,
        fun _ => rfl, fun h => nomatch h⟩
      cases hm'
      simpa [hc] using hu
    | false =>
      have hsat : satEx (availOf c.assets c.ctx) (.after n) = false := by simp [satEx, availOf, hc]
      cases c.rootHasSig <;>
        exact ⟨lockOK_none rfl rfl, lockOK_IMPOSSIBLE _ _, Nat.zero_le _, Nat.zero_le _,
          by simp [hsat], fun h => nomatch h⟩
  | older n =>
    have hu : (!c.assets.checkOlder (relCanon n) || relIsTime n == ur) = true :=
      allNodes_leaf hP rfl
    simp only [satDissat_older]
    cases hc : c.assets.checkOlder (relCanon n) with
    | true =>
      refine ⟨⟨by simp, fun m hm' => ?_⟩, lockOK_IMPOSSIBLE _ _, Nat.zero_le _, Nat.zero_le _,
        fun _ => rfl, fun h => nomatch h⟩
      cases hm'
      simpa [hc] using hu
    | false =>
      have hsat : satEx (availOf c.assets c.ctx) (.older n) = false := by simp [satEx, availOf, hc]
      cases c.rootHasSig <;>
        exact ⟨lockOK_none rfl rfl, lockOK_IMPOSSIBLE _ _, Nat.zero_le _, Nat.zero_le _,
          by simp [hsat], fun h => nomatch h⟩
  | hash kind h =>
    refine ⟨lockOK_none rfl rfl, lockOK_none rfl rfl, ?_,
      (by decide : wsz (.stack [.hashDissat]) ≤ 73 * 1), fun hex => ?_, fun _ => rfl⟩
    · show wsz (if c.assets.preimage kind h then _ else _) ≤ 73 * 1
      cases c.assets.preimage kind h <;> simp [wsz, Ph.size]
    · simp only [satEx, availOf] at hex
      simp [satDissat_hash, hex, isStk]
  | alt x ih | swap x ih | check x ih | zeroNotEqual x ih =>
    have ih := ih (allNodes_un hP rfl).2 hsm
    exact .of_alt (ih.S.of (Nat.le_refl _) (by simp only [satEx]; exact id)) ih.D
  | dupIf x ih =>
    have ih := ih (allNodes_un hP rfl).2 (small_left hsm)
    exact .of_alt ((ih.S.push .pushOne (by decide)).of (Nat.le_refl _) (by simp only [satEx]; exact id))
      .push0
  | verify x ih =>
    have ih := ih (allNodes_un hP rfl).2 hsm
    exact .of_alt (ih.S.of (Nat.le_refl _) (by simp only [satEx]; exact id)) .imp
  | nonZero x ih =>
    have ih := ih (allNodes_un hP rfl).2 (small_left hsm)
    exact .of_alt (ih.S.of (Nat.le_add_right _ 1) (by simp only [satEx]; exact id)) .push0
  | andB l r ihl ihr =>
    obtain ⟨-, hPl, hPr⟩ := allNodes_bin hP rfl
    have hl := ihl hPl (small_left hsm)
    have hr := ihr hPr (small_right hsm)
    exact .of_alt ((hl.S.concat hr.S).of (Nat.le_refl _) (by simp only [satEx]; exact id))
      (hl.D.concat hr.D)
  | andV l r ihl ihr =>
    obtain ⟨-, hPl, hPr⟩ := allNodes_bin hP rfl
    have hl := ihl hPl (small_left hsm)
    have hr := ihr hPr (small_right hsm)
    exact .of_alt ((hl.S.concat hr.S).of (Nat.le_refl _) (by simp only [satEx]; exact id))
      ((hl.S.concat hr.D).of (Nat.le_refl _) (fun h => nomatch h))
  | andOr x y z ihx ihy ihz =>
    obtain ⟨-, hPx, hPy, hPz⟩ := allNodes_andOr hP
    have hx := ihx hPx (small_left (small_left hsm))
    have hy := ihy hPy (small_right (small_left hsm))
    have hz := ihz hPz (small_right hsm)
    have wz : itemBound x + itemBound z ≤ itemBound x + itemBound y + itemBound z := by omega
    simp only [satDissat, SatCfg.minFn_mall c hm]
    exact .of_alt ((((hx.S.concat hy.S).of (Nat.le_add_right _ (itemBound z)) id).minMall
        ((hx.D.concat hz.S).of wz id)).of (Nat.le_refl _) (by simp only [satEx]; exact id))
      ((hx.D.concat hz.D).of wz id)
  | orB l r ihl ihr =>
    obtain ⟨-, hPl, hPr⟩ := allNodes_bin hP rfl
    have hl := ihl hPl (small_left hsm)
    have hr := ihr hPr (small_right hsm)
    simp only [satDissat, SatCfg.minFn_mall c hm]
    exact .of_alt (((hl.D.concat hr.S).minMall (hl.S.concat hr.D)).of (Nat.le_refl _)
      (by simp only [satEx, Bool.or_comm]; exact id)) (hl.D.concat hr.D)
  | orC l r ihl ihr =>
    obtain ⟨-, hPl, hPr⟩ := allNodes_bin hP rfl
    have hl := ihl hPl (small_left hsm)
    have hr := ihr hPr (small_right hsm)
    simp only [satDissat, SatCfg.minFn_mall c hm]
    exact .of_alt (((hl.S.of (Nat.le_add_right _ (itemBound r)) id).minMall (hl.D.concat hr.S)).of
      (Nat.le_refl _) (by simp only [satEx]; exact id)) .imp
  | orD l r ihl ihr =>
    obtain ⟨-, hPl, hPr⟩ := allNodes_bin hP rfl
    have hl := ihl hPl (small_left hsm)
    have hr := ihr hPr (small_right hsm)
    simp only [satDissat, SatCfg.minFn_mall c hm]
    exact .of_alt (((hl.S.of (Nat.le_add_right _ (itemBound r)) id).minMall (hl.D.concat hr.S)).of
      (Nat.le_refl _) (by simp only [satEx]; exact id)) (hl.D.concat hr.D)
  | orI l r ihl ihr =>
    obtain ⟨-, hPl, hPr⟩ := allNodes_bin hP rfl
    have hl := ihl hPl (small_left (small_left hsm))
    have hr := ihr hPr (small_right (small_left hsm))
    have wl : itemBound l + 1 ≤ itemBound l + itemBound r + 1 := by omega
    have wr : itemBound r + 1 ≤ itemBound l + itemBound r + 1 := by omega
    simp only [satDissat, SatCfg.minFn_mall c hm]
    exact .of_alt ((((hl.S.push .pushOne (by decide)).of wl id).minMall
        ((hr.S.push .pushZero (by decide)).of wr id)).of (Nat.le_refl _) (by simp only [satEx]; exact id))
      (((hl.D.push .pushOne (by decide)).of wl id).minMall ((hr.D.push .pushZero (by decide)).of wr id))
  | thresh k xs ihs =>
    have ih := ihs (allNodes_thresh hP).2 hsm
    have := thresh_mall_inv k xs (satDissat c) ih hsm
    simp only [satDissat_thresh, hm, if_true, satDissats_eq_map]
    exact this
  | nil => rename_i h; cases h
  | cons y ys ihy ihs =>
    rename_i hP hsm x hx
    rw [allNodesL_cons, Bool.and_eq_true] at hP
    rcases List.mem_cons.mp hx with rfl | hx
    · exact ihy hP.1 (small_left hsm)
    · exact ihs hP.2 (small_right hsm) x hx

end

section
variable (nz : Sat) (c : SatCfg) (ua ur : Bool)

/-- `mall_inv` at every member of a list, for the satisfier with the `j:` dissatisfaction as a parameter, which is the model's
satisfier under `mallP nz` (`satDissatG_eq`) -/
theorem mall_invs (hm : c.mall = true) (hs : SigSizesOK c.assets) :
    (xs : MsList) → allNodesL (mallP nz c.assets ua ur) xs = true → 73 * itemBounds xs < SMALL →
      ∀ x ∈ xs.toList, MallInv ua ur (availOf c.assets c.ctx) x (satDissatG nz c x) :=
  fun xs hP hsm x hx => by
    have hPx := allNodesL_mem xs hP x hx
    rw [satDissatG_eq c x (allNodes_mono (fun m h => (Bool.and_eq_true_iff.mp h).2) hPx)]
    exact mall_inv c ua ur hm hs x (allNodes_mono (fun m h => (Bool.and_eq_true_iff.mp h).1) hPx)
      (Nat.lt_of_le_of_lt (Nat.mul_le_mul_left 73 (itemBound_le_of_mem xs hx)) hsm)

end

end MsVerif.Complete
