/-
Normal forms: what `normalized` produces (`NF`), that it produces it, that it is the identity on
it, and that it preserves the truth table.
-/
import MsVerif.Lemmas.PolicyBasic

namespace MsVerif.Pol
open Sem

/-- the child is dissolved into its parent (an n-of-n under an n-of-n, a 1-of-n under a 1-of-n; for
`m = n = 1` nothing is: the Rust's `match` takes that arm first, hence `!o`, `!a`) -/
def flat (a o : Bool) (x : Policy) : Bool := (a && !o && isAndT x) || (!a && o && isOrT x)
def expand (a o : Bool) (x : Policy) : List Policy := if flat a o x then childrenOf x else [x]

theorem normSub_eq (a o : Bool) (x : Policy) :
    normSub a o x = if isConst x then [] else expand a o x := by
  cases x with
  | thresh k ss =>
    cases a <;> cases o <;>
      simp [normSub, isConst, isTrivial, isUnsat, flat, expand, isAndT, isOrT, childrenOf]
  | _ => simp [normSub, isConst, isTrivial, isUnsat, flat, expand, isAndT, isOrT]

def rest (subs : List Policy) : List Policy := subs.filter (fun p => !isConst p)

theorem length_rest (subs : List Policy) :
    subs.length = (rest subs).length + subs.countP isTrivial + subs.countP isUnsat := by
  induction subs with
  | nil => simp [rest]
  | cons p ps ih =>
    cases p <;> simp [rest, isConst, isTrivial, isUnsat, List.countP_cons] at * <;> omega

theorem flatMap_normSub (a o : Bool) (subs : List Policy) :
    subs.flatMap (normSub a o) = (rest subs).flatMap (expand a o) := by
  induction subs with
  | nil => simp [rest]
  | cons p ps ih =>
    simp only [List.flatMap_cons, ih, rest, List.filter_cons, normSub_eq]
    by_cases h : isConst p <;> simp [h]

theorem countP_rest (v : Atom → Bool) (subs : List Policy) :
    subs.countP (holdsA v) = subs.countP isTrivial + (rest subs).countP (holdsA v) := by
  induction subs with
  | nil => simp [rest]
  | cons p ps ih =>
    cases p <;> simp [rest, isConst, isTrivial, isUnsat, List.countP_cons, holdsA] at * <;> omega

theorem normThresh_eq (k : Nat) (subs : List Policy) :
    normThresh k subs =
      normFinish (k - subs.countP isTrivial)
        (k - subs.countP isTrivial == (rest subs).length) (k - subs.countP isTrivial == 1)
        ((rest subs).flatMap (expand (k - subs.countP isTrivial == (rest subs).length)
          (k - subs.countP isTrivial == 1))) := by
  have h := length_rest subs
  have hn : subs.length - subs.countP isUnsat - subs.countP isTrivial = (rest subs).length := by omega
  simp only [normThresh, hn, flatMap_normSub]

def OkChild (a o : Bool) (p : Policy) : Prop :=
  NF p = true ∧ isConst p = false ∧ (a = true → isAndT p = false) ∧ (o = true → isOrT p = false)

theorem NFl_iff (a o : Bool) (l : List Policy) : NFl a o l = true ↔ ∀ p ∈ l, OkChild a o p := by
  induction l with
  | nil => simp [NFl]
  | cons p ps ih =>
    simp only [NFl, Bool.and_eq_true, ih, List.mem_cons, forall_eq_or_imp, OkChild]
    cases a <;> cases o <;> simp [and_assoc]

theorem NF_thresh (k : Nat) (ss : List Policy) :
    NF (.thresh k ss) = true ↔
      2 ≤ ss.length ∧ 1 ≤ k ∧ k ≤ ss.length ∧ ∀ p ∈ ss, OkChild (k == ss.length) (k == 1) p := by
  simp only [NF, Bool.and_eq_true, decide_eq_true_eq, NFl_iff, and_assoc]

theorem mem_flatMap_expand {a o : Bool} {R : List Policy}
    (hR : ∀ x ∈ R, NF x = true ∧ isConst x = false) {y : Policy}
    (hy : y ∈ R.flatMap (expand a o)) :
    NF y = true ∧ isConst y = false ∧ ((a && !o) = true → isAndT y = false)
      ∧ ((!a && o) = true → isOrT y = false) := by
  rcases List.mem_flatMap.mp hy with ⟨x, hx, hyx⟩
  obtain ⟨hnf, hc⟩ := hR x hx
  unfold expand at hyx
  split at hyx
  · -- `x` is dissolved: `y` is one of its children, which `NF x` describes
    cases x with
    | thresh k' ss' =>
      obtain ⟨h1, h2, h3, h4⟩ := ((NF_thresh k' ss').mp hnf).2.2.2 y hyx
      cases a <;> cases o <;> simp_all [flat, isAndT, isOrT]
    | _ => simp [childrenOf] at hyx
  · have : y = x := by simpa using hyx
    subst this
    cases a <;> cases o <;> simp_all [flat]

theorem length_expand {a o : Bool} {x : Policy} (h : NF x = true) : 1 ≤ (expand a o x).length := by
  unfold expand
  split
  · cases x with
    | thresh k' ss' =>
      have := ((NF_thresh k' ss').mp h).1
      simp [childrenOf]; omega
    | _ => simp_all [flat, isAndT, isOrT]
  · simp

theorem length_flatMap_expand {a o : Bool} {R : List Policy} (hR : ∀ x ∈ R, NF x = true) :
    R.length ≤ (R.flatMap (expand a o)).length := by
  induction R with
  | nil => simp
  | cons x xs ih =>
    have h1 := length_expand (a := a) (o := o) (hR x (by simp))
    have h2 := ih (fun y hy => hR y (by simp [hy]))
    simp only [List.flatMap_cons, List.length_append, List.length_cons]
    omega

theorem rest_ok {subs : List Policy} (h : ∀ p ∈ subs, NF p = true) :
    ∀ x ∈ rest subs, NF x = true ∧ isConst x = false := by
  intro x hx
  simp only [rest, List.mem_filter] at hx
  exact ⟨h x hx.1, by simpa using hx.2⟩

theorem normFinish_many (m : Nat) (a o : Bool) (ret : List Policy) (h0 : m ≠ 0)
    (hL : m ≤ ret.length) (h1 : ret.length ≠ 1) :
    normFinish m a o ret =
      if a then .thresh ret.length ret else if o then .thresh 1 ret else .thresh m ret := by
  have : ¬ (m > ret.length) := by omega
  unfold normFinish
  simp only [beq_iff_eq, h0, if_false, this]
  split
  · simp at h1
  · rfl

/-- The outcomes of the tail of `normalized`, for `m` still required out of the non-constant
children `R`: all satisfied already; too few left; a single child; an n-of-n, a 1-of-n (children
of the same shape dissolved) or a proper threshold.  `hR` is what keeps the single-child arm apart: a
dissolved child is a normal form, so it brings at least two children and the list does not shrink. -/
theorem normFinish_cases (m : Nat) (R : List Policy) (hR : ∀ x ∈ R, NF x = true) (r : Policy)
    (hr : r = normFinish m (m == R.length) (m == 1)
      (R.flatMap (expand (m == R.length) (m == 1)))) :
    (m = 0 ∧ r = .trivial) ∨ (R.length < m ∧ r = .unsat) ∨ (m = 1 ∧ ∃ x, R = [x] ∧ r = x)
    ∨ (2 ≤ m ∧ m = R.length ∧ r = .thresh (R.flatMap (expand true false)).length
        (R.flatMap (expand true false)))
    ∨ (m = 1 ∧ 2 ≤ R.length ∧ r = .thresh 1 (R.flatMap (expand false true)))
    ∨ (2 ≤ m ∧ m < R.length ∧ r = .thresh m R) := by
  subst hr
  by_cases hm0 : m = 0
  · exact .inl ⟨hm0, by simp [normFinish, hm0]⟩
  by_cases hmn : m = R.length <;> by_cases hm1 : m = 1
  · obtain ⟨x, rfl⟩ := List.length_eq_one_iff.mp (by omega : R.length = 1)
    subst hm1
    exact .inr (.inr (.inl ⟨rfl, x, rfl, by simp [expand, flat, normFinish]⟩))
  · have hlen := length_flatMap_expand (a := true) (o := false) hR
    rw [beq_iff_eq.mpr hmn, beq_false_of_ne hm1,
      normFinish_many _ _ _ _ hm0 (by omega) (by omega)]
    exact .inr (.inr (.inr (.inl ⟨by omega, hmn, rfl⟩)))
  · have hlen := length_flatMap_expand (a := false) (o := true) hR
    rw [beq_false_of_ne hmn, beq_iff_eq.mpr hm1]
    cases R with
    | nil => exact .inr (.inl ⟨by simp; omega, by simp [normFinish, hm0]⟩)
    | cons y ys =>
      have h2 : 2 ≤ (y :: ys).length := by simp at hmn ⊢; omega
      rw [normFinish_many _ _ _ _ hm0 (by omega) (by omega)]
      exact .inr (.inr (.inr (.inr (.inl ⟨hm1, h2, by simp⟩))))
  · rw [beq_false_of_ne hmn, beq_false_of_ne hm1, flatMap_singleton_of (expand false false) R fun _ _ => rfl]
    by_cases hL : R.length < m
    · exact .inr (.inl ⟨hL, by simp [normFinish, hm0, hL]⟩)
    · rw [normFinish_many _ _ _ _ hm0 (by omega) (by omega)]
      exact .inr (.inr (.inr (.inr (.inr ⟨by omega, by omega, rfl⟩))))

theorem normThresh_NF (k : Nat) (subs : List Policy) (h : ∀ p ∈ subs, NF p = true) :
    NF (normThresh k subs) = true := by
  have hR := rest_ok h
  have hmem := fun a o y => mem_flatMap_expand (a := a) (o := o) hR (y := y)
  rcases normFinish_cases _ _ (fun x hx => (hR x hx).1) _ (normThresh_eq k subs) with
    ⟨_, hr⟩ | ⟨_, hr⟩ | ⟨_, x, hx, hr⟩ | ⟨h2, hmn, hr⟩ | ⟨hm1, h2, hr⟩ | ⟨h2, hlt, hr⟩ <;> rw [hr]
  · rfl
  · rfl
  · exact (hR x (by simp [hx])).1
  · have hlen := length_flatMap_expand (a := true) (o := false) (fun x hx => (hR x hx).1)
    refine (NF_thresh _ _).mpr ⟨by omega, by omega, Nat.le_refl _, fun p hp => ?_⟩
    obtain ⟨h1, hc, h3, _⟩ := hmem _ _ p hp
    exact ⟨h1, hc, fun _ => h3 rfl, fun hc => by have := beq_iff_eq.mp hc; omega⟩
  · have hlen := length_flatMap_expand (a := false) (o := true) (fun x hx => (hR x hx).1)
    refine (NF_thresh _ _).mpr ⟨by omega, Nat.le_refl _, by omega, fun p hp => ?_⟩
    obtain ⟨h1, hc, _, h4⟩ := hmem _ _ p hp
    exact ⟨h1, hc, fun hc => by have := beq_iff_eq.mp hc; omega, fun _ => h4 rfl⟩
  · refine (NF_thresh _ _).mpr ⟨by omega, by omega, by omega, fun p hp => ?_⟩
    exact ⟨(hR p hp).1, (hR p hp).2, fun hc => by have := beq_iff_eq.mp hc; omega,
      fun hc => by have := beq_iff_eq.mp hc; omega⟩

theorem normalized_NF : ∀ p, NF (normalized p) = true := by
  intro p
  induction p using Policy.induct' with
  | unsat | trivial | atom _ => simp [normalized, NF]
  | thresh k subs ih =>
    rw [normalized_thresh]
    apply normThresh_NF
    intro p hp
    obtain ⟨q, hq, rfl⟩ := List.mem_map.mp hp
    exact ih q hq

theorem holds_andT (v : Atom → Bool) {x : Policy} (h : isAndT x = true) :
    holdsA v x = (childrenOf x).all (holdsA v) := by
  cases x with
  | thresh k ss =>
    have : k = ss.length := by simpa [isAndT] using h
    subst this
    rw [holdsA_thresh, cnt_all]; rfl
  | _ => simp [isAndT] at h

theorem holds_orT (v : Atom → Bool) {x : Policy} (h : isOrT x = true) :
    holdsA v x = (childrenOf x).any (holdsA v) := by
  cases x with
  | thresh k ss =>
    have : k = 1 := by simpa [isOrT] using h
    subst this
    rw [holdsA_thresh, cnt_any]; rfl
  | _ => simp [isOrT] at h

theorem all_flatMap_expand (v : Atom → Bool) (R : List Policy) :
    (R.flatMap (expand true false)).all (holdsA v) = R.all (holdsA v) := by
  rw [List.all_flatMap]
  congr 1; funext x
  unfold expand
  by_cases h : isAndT x = true
  · simp [flat, h, holds_andT v h]
  · simp [flat, h]

theorem any_flatMap_expand (v : Atom → Bool) (R : List Policy) :
    (R.flatMap (expand false true)).any (holdsA v) = R.any (holdsA v) := by
  rw [List.any_flatMap]
  congr 1; funext x
  unfold expand
  by_cases h : isOrT x = true
  · simp [flat, h, holds_orT v h]
  · simp [flat, h]

theorem normThresh_holds (v : Atom → Bool) (k : Nat) (subs : List Policy)
    (h : ∀ p ∈ subs, NF p = true) :
    holdsA v (normThresh k subs) = decide (k ≤ subs.countP (holdsA v)) := by
  have hkm : decide (k ≤ subs.countP (holdsA v))
      = decide (k - subs.countP isTrivial ≤ (rest subs).countP (holdsA v)) := by
    rw [countP_rest v subs]
    apply decide_eq_decide.mpr; omega
  have hcle := List.countP_le_length (p := holdsA v) (l := rest subs)
  rw [hkm]
  rcases normFinish_cases _ _ (fun x hx => (rest_ok h x hx).1) _ (normThresh_eq k subs) with
    ⟨hm, hr⟩ | ⟨hm, hr⟩ | ⟨hm, x, hx, hr⟩ | ⟨_, hm, hr⟩ | ⟨hm, _, hr⟩ | ⟨_, _, hr⟩ <;> rw [hr]
  · simp [hm, holdsA]
  · have : ¬ (k - subs.countP isTrivial ≤ (rest subs).countP (holdsA v)) := by omega
    simp [holdsA, this]
  · rw [hm, hx]
    cases hh : holdsA v x <;> simp [hh]
  · rw [holdsA_thresh, cnt_all, all_flatMap_expand, hm, cnt_all]
  · rw [holdsA_thresh, cnt_any, any_flatMap_expand, hm, cnt_any]
  · rw [holdsA_thresh]

theorem normalized_holdsA (v : Atom → Bool) : ∀ p, holdsA v (normalized p) = holdsA v p := by
  intro p
  induction p using Policy.induct' with
  | unsat | trivial | atom _ => simp [normalized]
  | thresh k subs ih =>
    rw [normalized_thresh, normThresh_holds, holdsA_thresh,
      countP_map_congr normalized (holdsA v) (holdsA v) subs ih]
    intro p hp
    obtain ⟨q, _, rfl⟩ := List.mem_map.mp hp
    exact normalized_NF q

theorem normalized_of_NF : ∀ p, NF p = true → normalized p = p := by
  intro p
  induction p using Policy.induct' with
  | unsat | trivial | atom _ => simp [normalized]
  | thresh k subs ih =>
    intro hnf
    obtain ⟨h2, hk1, hkn, hch⟩ := (NF_thresh k subs).mp hnf
    have hmap : subs.map normalized = subs := by
      conv => rhs; rw [← List.map_id subs]
      exact List.map_congr_left fun p hp => ih p hp (hch p hp).1
    have ht : subs.countP isTrivial = 0 := by
      apply List.countP_eq_zero.mpr
      intro p hp
      have := (hch p hp).2.1
      simp [isConst] at this
      simp [this.1]
    have hrest : rest subs = subs :=
      List.filter_eq_self.mpr fun p hp => by simp [(hch p hp).2.1]
    have hr := normThresh_eq k subs
    rw [ht, hrest, Nat.sub_zero] at hr
    rw [normalized_thresh, hmap]
    rcases normFinish_cases k subs (fun x hx => (hch x hx).1) _ hr with
      ⟨hm, _⟩ | ⟨hm, _⟩ | ⟨_, x, hx, _⟩ | ⟨_, hm, hr'⟩ | ⟨hm, _, hr'⟩ | ⟨_, _, hr'⟩
    · omega
    · omega
    · rw [hx] at h2; simp at h2
    · -- no child is itself an n-of-n: nothing is dissolved
      rw [hr', flatMap_singleton_of _ _ fun p hp => by
        simp [expand, flat, (hch p hp).2.2.1 (by simpa using hm)], ← hm]
    · rw [hr', flatMap_singleton_of _ _ fun p hp => by
        simp [expand, flat, (hch p hp).2.2.2 (by simpa using hm)], ← hm]
    · exact hr'

theorem NF_all_false : ∀ p, NF p = true → isTrivial p = false →
    holdsA (fun _ => false) p = false := by
  intro p
  induction p using Policy.induct' with
  | unsat => intro _ _; rfl
  | trivial => intro _ h; simp [isTrivial] at h
  | atom a => intro _ _; rfl
  | thresh k subs ih =>
    intro hnf _
    obtain ⟨_, hk1, _, hch⟩ := (NF_thresh k subs).mp hnf
    rw [holdsA_thresh]
    have : subs.countP (holdsA (fun _ => false)) = 0 := by
      apply List.countP_eq_zero.mpr
      intro x hx
      obtain ⟨h1, hc, _, _⟩ := hch x hx
      simp only [isConst, Bool.or_eq_false_iff] at hc
      simp [ih x hx h1 hc.1]
    rw [this]; simp; omega

theorem NF_all_true : ∀ p, NF p = true → isUnsat p = false →
    holdsA (fun _ => true) p = true := by
  intro p
  induction p using Policy.induct' with
  | unsat => intro _ h; simp [isUnsat] at h
  | trivial | atom _ => intro _ _; rfl
  | thresh k subs ih =>
    intro hnf _
    obtain ⟨_, _, hkn, hch⟩ := (NF_thresh k subs).mp hnf
    rw [holdsA_thresh]
    have : subs.countP (holdsA (fun _ => true)) = subs.length := by
      apply List.countP_eq_length.mpr
      intro x hx
      obtain ⟨h1, hc, _, _⟩ := hch x hx
      simp only [isConst, Bool.or_eq_false_iff] at hc
      exact ih x hx h1 hc.2
    rw [this]; simpa using hkn

end MsVerif.Pol
