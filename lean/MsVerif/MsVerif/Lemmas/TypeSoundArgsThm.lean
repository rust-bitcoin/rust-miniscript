/-
C06, the argument count, by induction on the typing derivation —
`args_hasType` / `args_cons`: a well-typed fragment whose type fixes the number of arguments (`z`: 0, `o`: 1)
consumes exactly that many elements on every stack and leaves what its base type promises.
Stack limits off.
Before it: the side condition `wf`, and what the base says of the input (`W_any`, `K_not_zero`).
-/
import MsVerif.Lemmas.TypeSoundArgsMain
import MsVerif.Lemmas.CoreHasType

namespace MsVerif.TypeSound
open MsVerif MsVerif.Script


mutual
/-- every `thresh` has at least one child and every `multi`/`sortedmulti` at most 20 keys
(`Threshold::new` rejects n = 0; `MAX_PUBKEYS_PER_MULTISIG` = 20) -/
def wf : Ms → Bool
  | .thresh _ xs => decide (1 ≤ xs.length) && wfL xs
  | .multi _ ks | .sortedMulti _ ks => decide (ks.length ≤ 20)
  | .alt x | .swap x | .check x | .dupIf x | .verify x | .nonZero x | .zeroNotEqual x => wf x
  | .andV l r | .andB l r | .orB l r | .orD l r | .orC l r | .orI l r => wf l && wf r
  | .andOr a b c => wf a && wf b && wf c
  | _ => true
def wfL : MsList → Bool
  | .nil => true
  | .cons x xs => wf x && wfL xs
end

/-- a W fragment takes any number of arguments (only `a:` and `s:` produce W) -/
theorem W_any {ms : Ms} {τ : Ty} (h : HasType ms τ) (hb : τ.corr.base = .W) : τ.corr.input = .any := by
  cases h with
  | alt | swap => rfl
  | andV _ _ _ hw | orI _ _ _ hw | andOr _ _ _ _ _ _ _ hw => exact absurd hb hw
  | _ => cases hb

theorem K_not_zero {ms : Ms} {τ : Ty} (h : HasType ms τ) : τ.corr.base = .K → τ.corr.input ≠ .zero := by
  induction h using HasType.rec (motive_2 := fun _ _ _ => True) with
  | pkK | pkH | rawPkH => exact fun _ => nofun
  | andV _ _ _ _ _ ihr => exact fun hK hz => ihr hK (Corr.andInput_eq_zero.1 hz).2
  | orI => exact fun _ => Corr.orIInput_ne_zero _ _
  | andOr _ _ _ _ _ _ _ _ _ ihy _ => exact fun hK hz => ihy hK (Corr.andOrInput_eq_zero.1 hz).2.1
  | nil | cons => trivial
  | _ => exact nofun

theorem nargs_numArgs {i : Input} {n : Nat} (h : nargs i = some n) : Corr.numArgs i = n := (nargs_iff.mp h).1


theorem nargs_le {x : Input} {n : Nat} (h : nargs x = some n) : n ≤ 1 := (nargs_iff.mp h).2

theorem nargs_pos {x : Input} {n : Nat} (h : nargs x = some n) (hz : x ≠ .zero) : n = 1 := by
  obtain ⟨rfl, hl⟩ := nargs_iff.mp h
  have := mt numArgs_eq_zero hz
  omega

theorem arity_hashOpc (k : HashKind) : arity (hashOpc k) = some (1, 1) := by cases k <;> rfl

theorem cons_small {env : Env} (hlim : env.flags.stackLimits = false) (n : Nat) :
    Cons (pshOp env (.small n)) 0 1 := cons_pushElem hlim _

/-- the final `<k> OP_EQUAL` of `thresh` -/
theorem cons_threshTail {env : Env} (hlim : env.flags.stackLimits = false) (k : Nat) :
    Cons (seqOps env [pushInt k, .code .equal]) 1 1 :=
  (cons_seq_cons (cons_pushInt hlim k) (cons_seq_one (cons_code hlim (o := .equal) rfl))).cast rfl rfl

theorem cons_hash {env : Env} (hlim : env.flags.stackLimits = false) (kind : HashKind) (hv : Bytes) :
    Cons (seqOps env [.code .size, pushInt 32, .code .equalverify, .code (hashOpc kind), .push hv,
      .code .equal]) 1 1 := by
  have e6 := cons_seq_one (cons_code (env := env) hlim (o := .equal) rfl)
  have e5 := (cons_seq_cons (op := .push hv) (cons_psh hlim hv) e6).cast (i' := 1) (o' := 1) rfl rfl
  have e4 := (cons_seq_cons (cons_code hlim (arity_hashOpc kind)) e5).cast (i' := 1) (o' := 1) rfl rfl
  have e3 := (cons_seq_cons (cons_code hlim (o := .equalverify) rfl) e4).cast (i' := 3) (o' := 1) rfl rfl
  have e2 := (cons_seq_cons (cons_pushInt hlim 32) e3).cast (i' := 2) (o' := 1) rfl rfl
  exact (cons_seq_cons (cons_code hlim (o := .size) rfl) e2).cast rfl rfl

theorem args_hasType {env : Env} (hlim : env.flags.stackLimits = false) (ke : KeyEnv) (ctx : Ctx) {ms : Ms} {τ : Ty}
    (h : HasType ms τ) : wf ms = true → ∀ (i : Nat), nargs τ.corr.input = some i →
      Cons (frag env ke ctx ms) i (resLen τ.corr.base i) := by
  induction h using HasType.rec (motive_2 := fun _ _ _ => True) with
  | tru =>
    intro hw i hi
    cases hi
    exact cons_congr (frag_tru env ke ctx) (cons_small hlim 1)
  | fls =>
    intro hw i hi
    cases hi
    exact cons_congr (frag_fls env ke ctx) (cons_small hlim 0)
  | @pkK k =>
    intro hw i hi
    cases hi
    -- `pk_k` only pushes; its one argument is the signature it leaves below the key (`resLen .K 1 = 2`)
    exact cons_congr (frag_pkK env ke ctx k) ((cons_weaken 1 (cons_psh hlim (ke.ser k))).cast rfl rfl)
  | pkH | rawPkH | multi | sortedMulti | multiA | sortedMultiA => exact fun _ _ hi => nomatch hi
  | @after n =>
    intro hw i hi
    cases hi
    exact cons_congr (frag_after env ke ctx n)
      ((cons_seq_cons (cons_pushInt hlim n) (cons_seq_one (cons_code hlim (o := .cltv) rfl))).cast rfl rfl)
  | @older n =>
    intro hw i hi
    cases hi
    exact cons_congr (frag_older env ke ctx n)
      ((cons_seq_cons (cons_pushInt hlim n) (cons_seq_one (cons_code hlim (o := .csv) rfl))).cast rfl rfl)
  | @hash kind hh =>
    intro hw i hi
    cases hi
    exact cons_congr (frag_hash env ke ctx kind hh) (cons_hash hlim kind _)
  | alt | swap => exact fun _ _ hi => nomatch hi
  | @check x a hx hab ih =>
    intro hw i hi
    have ih := ih hw i hi
    rw [hab] at ih
    have hi1 : i = 1 := nargs_pos hi (K_not_zero (τ := a) hx hab)
    subst hi1
    exact cons_congr (frag_check env ke ctx x)
      ((cons_bind ih (cons_opc hlim (o := .checksig) rfl)).cast rfl rfl)
  | @dupIf x a _ hab hai ih =>
    intro hw i hi
    cases hi
    have ih := ih hw 0 (by rw [hai]; rfl)
    rw [hab] at ih
    exact cons_congr (frag_dupIf env ke ctx x)
      ((cons_bind (cons_opc hlim (o := .dup) rfl) (cons_ifThen (i := 0) ih)).cast rfl rfl)
  | @verify x a _ hab ih =>
    intro hw i hi
    have ih := ih hw i hi
    rw [hab] at ih
    exact cons_congr (frag_verify env ke ctx x)
      ((cons_bind ih (cons_verifyTail hlim _)).cast (by simp [resLen]) (by simp [resLen]))
  | @nonZero x a _ hab hai ih =>
    intro hw i hi
    have hi1 : i = 1 := by
      change nargs a.corr.input = some i at hi
      rcases hai with h1 | h1 <;> rw [h1] at hi <;> simp [nargs] at hi
      omega
    subst hi1
    have ih := ih hw 1 hi
    rw [hab] at ih
    have t1 := (cons_bind (cons_opc hlim (o := .zeronotequal) rfl) (cons_ifThen (env := env) (nf := false)
      (X := encode ke ctx x) (i := 1) ih)).cast (i' := 2) (o' := 1) rfl rfl
    exact cons_congr (frag_nonZero env ke ctx x)
      ((cons_bind (cons_opc hlim (o := .size) rfl) t1).cast rfl rfl)
  | @zeroNotEqual x a _ hab ih =>
    intro hw i hi
    have ih := ih hw i hi
    rw [hab] at ih
    exact cons_congr (frag_zeroNotEqual env ke ctx x)
      ((cons_bind ih (cons_opc hlim (o := .zeronotequal) rfl)).cast (by simp [resLen]) (by simp [resLen]))
  | @andV l r a b _ hr hab hbb ihl ihr =>
    intro hw i hi
    obtain ⟨ia, ib, hia, hib, hsum⟩ := andInput_nargs hi
    simp only [wf, Bool.and_eq_true] at hw
    have ihl := ihl hw.1 ia hia
    have ihr := ihr hw.2 ib hib
    rw [hab] at ihl
    have hile := nargs_le hi
    refine cons_congr (frag_andV env ke ctx l r) ((cons_bind ihl ihr).cast (by simp [resLen]; omega) ?_)
    cases hb : b.corr.base
    · simp [resLen]
    · have : ib = 1 := nargs_pos hib (K_not_zero (τ := b) hr hb)
      simp [resLen]; omega
    · simp [resLen]
    · exact absurd hb hbb
  | @andB l r a b _ hr _ hbb _ _ =>
    intro _ i hi
    change nargs (Corr.andInput a.corr.input b.corr.input) = some i at hi
    rw [W_any hr hbb, andInput_any] at hi
    cases hi
  | @orB l r a b _ hr _ hbb _ _ _ _ =>
    intro _ i hi
    change nargs (Corr.orBInput a.corr.input b.corr.input) = some i at hi
    rw [W_any hr hbb, orBInput_any] at hi
    cases hi
  | @orD l r a b _ _ hab hbb _ _ ihl ihr =>
    intro hw i hi
    obtain ⟨hia, hbz⟩ := orDInput_nargs hi
    simp only [wf, Bool.and_eq_true] at hw
    have ihl := ihl hw.1 i hia
    have ihr := ihr hw.2 0 (by rw [hbz]; rfl)
    rw [hab] at ihl
    rw [hbb] at ihr
    exact cons_congr (frag_orD env ke ctx l r)
      ((cons_bind ihl (cons_orDTail hlim (X := encode ke ctx r) ihr)).cast (by simp [resLen]) (by simp [resLen]))
  | @orC l r a b _ _ hab hbb _ _ ihl ihr =>
    intro hw i hi
    obtain ⟨hia, hbz⟩ := orDInput_nargs hi
    simp only [wf, Bool.and_eq_true] at hw
    have ihl := ihl hw.1 i hia
    have ihr := ihr hw.2 0 (by rw [hbz]; rfl)
    rw [hab] at ihl
    rw [hbb] at ihr
    exact cons_congr (frag_orC env ke ctx l r)
      ((cons_bind ihl (cons_ifThen (env := env) (nf := true) (X := encode ke ctx r) (i := 0) ihr)).cast
        (by simp [resLen]) (by simp [resLen]))
  | @orI l r a b hl _ hab hbb ihl ihr =>
    intro hw i hi
    obtain ⟨haz, hbz, hi1⟩ := orIInput_nargs hi
    subst hi1
    simp only [wf, Bool.and_eq_true] at hw
    have ihl := ihl hw.1 0 (by rw [haz]; rfl)
    have ihr := ihr hw.2 0 (by rw [hbz]; rfl)
    rw [← hab] at ihr
    have hne : a.corr.base ≠ .K := fun hk => K_not_zero (τ := a) hl hk haz
    refine cons_congr (frag_orI env ke ctx l r) ((cons_ifElse ihl ihr).cast rfl ?_)
    cases hb : a.corr.base
    · simp [resLen]
    · exact absurd hb hne
    · simp [resLen]
    · exact absurd hb hbb
  | @andOr x y z a b c _ hy _ hab _ _ hbc hbb ihx ihy ihz =>
    intro hw i hi
    obtain ⟨ia, ib, hia, hib, hic, hsum⟩ := andOrInput_nargs hi
    simp only [wf, Bool.and_eq_true] at hw
    have iha := ihx hw.1.1 ia hia
    have ihb := ihy hw.1.2 ib hib
    have ihc := ihz hw.2 ib hic
    rw [hab] at iha
    rw [← hbc] at ihc
    have hile := nargs_le hi
    refine cons_congr (frag_andOr env ke ctx x y z)
      ((cons_bind iha (cons_ifElse (env := env) (nf := true) (X := encode ke ctx z) (Y := encode ke ctx y)
        ihc ihb)).cast (by simp [resLen]; omega) ?_)
    cases hb : b.corr.base
    · simp [resLen]
    · have : ib = 1 := nargs_pos hib (K_not_zero (τ := b) hy hb)
      simp [resLen]; omega
    · simp [resLen]
    · exact absurd hb hbb
  | threshNil => exact fun hw => by simp [wf, MsList.length] at hw
  | @thresh k x xs t ts _ hxs hB _ _ hrest ihx _ =>
    intro hw i hi
    -- the two `change` below write out the input that rule `HasType.thresh` computes, for one child and for more
    cases hxs with
    | nil =>
      -- one child: the node takes the child's arguments
      have hxi : nargs t.corr.input = some i := by
        change nargs (match Corr.numArgs t.corr.input + 0 with | 0 => .zero | 1 => .one | _ => .any) = some i at hi
        cases hti : t.corr.input <;> rw [hti] at hi <;> first | exact hi | cases hi
      simp only [wf, wfL, Bool.and_eq_true] at hw
      have ih := ihx hw.2.1 i hxi
      rw [hB] at ih
      refine cons_congr (g := fun c => frag env ke ctx x c >>= seqOps env [pushInt k, .code .equal]) ?_
        ((cons_bind ih (cons_threshTail hlim k)).cast (by simp [resLen]) (by simp [resLen]))
      intro c
      rw [frag_thresh, fragThresh_single]
    | @cons y ys t2 ts' hy _ =>
      -- a second child has base W, so takes "any" number of arguments: the node's input is `any`
      have hany := W_any hy (hrest t2 (List.mem_cons_self ..)).1
      change nargs (match Corr.numArgs t.corr.input +
          (Corr.numArgs t2.corr.input + (ts'.map fun s => Corr.numArgs s.corr.input).sum) with
        | 0 => .zero | 1 => .one | _ => .any) = some i at hi
      rw [hany] at hi
      generalize Corr.numArgs t.corr.input = p at hi
      generalize (ts'.map fun s => Corr.numArgs s.corr.input).sum = q at hi
      have : p + (Corr.numArgs .any + q) = (p + q) + 2 := by simp [Corr.numArgs]; omega
      rw [this] at hi
      cases hi
  | nil | cons => trivial

theorem args_cons {env : Env} (hlim : env.flags.stackLimits = false) (ke : KeyEnv) (ctx : Ctx) :
    (ms : Ms) → wf ms = true → ∀ (τ : Ty) (i : Nat), typeOf ms = some τ → nargs τ.corr.input = some i →
      Cons (frag env ke ctx ms) i (resLen τ.corr.base i) :=
  fun ms hw _ i h hi => args_hasType hlim ke ctx (.of_typeOf ms h) hw i hi

end MsVerif.TypeSound
