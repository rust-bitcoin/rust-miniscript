/-
The opcode step of the script machine, `Script.execOpc`, through its local action.

Every opcode other than CHECKMULTISIG(VERIFY) reads a fixed number `need o` of elements from the top
of the stack and nothing below them.  `act` is `execOpc` restricted to those elements: it returns
what replaces them, the new alt stack, and the element (if any) that is pushed last; `finish` puts
the result back on the untouched rest.  `act` has no opcode counter and reads no limit flag, so what
an opcode does to the counter and under changed limits is decided by `finish` alone; facts that hold
for every stack (framing, where elements come from, how many there are, independence of the oracle)
are facts about `act` on one, two or three elements (`act_spec`; `Holds Q x`: `Q` of the outcome of `x`, if
there is one).  CHECKMULTISIG(VERIFY) is `multisig`, in the
normal form "count the keys, read the operands (`msArgs`), match and judge (`msTail`)", and a successful one
read backwards (`msArgs_ok`, `msTail_inv`, `multisig_inv`).  Last, one equation per opcode on a stack written out,
limits off.
-/
import MsVerif.Lemmas.CoreFrag

namespace MsVerif.Script
open MsVerif

def need : Opc → Nat
  | .dup | .ifdup | .size | .toalt | .drop | .verify | .zeronotequal
  | .sha256 | .hash256 | .ripemd160 | .hash160 | .cltv | .csv => 1
  | .swap | .equal | .equalverify | .numequal | .numequalverify | .add | .booland | .boolor
  | .checksig | .checksigverify => 2
  | .checksigadd => 3
  | _ => 0

def act (env : Env) (o : Opc) (pre alt : List Bytes) : Except Err (List Bytes × List Bytes × Option Bytes) :=
  match o, pre with
  | .dup, [a] => pure ([a], alt, some a)
  | .ifdup, [a] => if castToBool a then pure ([a], alt, some a) else pure ([a], alt, none)
  | .swap, [a, b] => pure ([b, a], alt, none)
  | .size, [a] => pure ([a], alt, some (numEncode a.length))
  | .toalt, [a] => pure ([], a :: alt, none)
  | .fromalt, _ =>
    match alt with
    | a :: ar => pure ([], ar, some a)
    | [] => .error .altStackUnderflow
  | .drop, [_] => pure ([], alt, none)
  | .verify, [a] => if castToBool a then pure ([], alt, none) else .error .verifyFailed
  | .equal, [a, b] => pure ([], alt, some (boolBytes (a == b)))
  | .equalverify, [a, b] => if a == b then pure ([], alt, none) else .error .verifyFailed
  | .numequal, [a, b] => do
    let x ← num4 env a; let y ← num4 env b
    pure ([], alt, some (boolBytes (x == y)))
  | .numequalverify, [a, b] => do
    let x ← num4 env a; let y ← num4 env b
    if x == y then pure ([], alt, none) else .error .verifyFailed
  | .add, [a, b] => do
    let x ← num4 env a; let y ← num4 env b
    pure ([], alt, some (numEncode (y + x)))
  | .booland, [a, b] => do
    let x ← num4 env a; let y ← num4 env b
    pure ([], alt, some (boolBytes (x != 0 && y != 0)))
  | .boolor, [a, b] => do
    let x ← num4 env a; let y ← num4 env b
    pure ([], alt, some (boolBytes (x != 0 || y != 0)))
  | .zeronotequal, [a] => do
    let x ← num4 env a
    pure ([], alt, some (boolBytes (x != 0)))
  | .sha256, [a] => pure ([], alt, some (env.hash .sha256 a))
  | .hash256, [a] => pure ([], alt, some (env.hash .hash256 a))
  | .ripemd160, [a] => pure ([], alt, some (env.hash .ripemd160 a))
  | .hash160, [a] => pure ([], alt, some (env.hash .hash160 a))
  | .checksig, [pk, sig] => do
    let ok ← checkSig env sig pk
    pure ([], alt, some (boolBytes ok))
  | .checksigverify, [pk, sig] => do
    let ok ← checkSig env sig pk
    if ok then pure ([], alt, none) else .error .verifyFailed
  | .checksigadd, [pk, n, sig] =>
    if !env.flags.tapscript then .error (.badOpcode 0xba) else do
    let v ← num4 env n
    let ok ← checkSig env sig pk
    pure ([], alt, some (numEncode (v + (if ok then 1 else 0))))
  | .cltv, [a] =>
    match numDecode env.flags.minimalNum 5 a with
    | none => .error .scriptNum
    | some v =>
      if v < 0 then .error .negativeLocktime
      else if checkLockTime env v.toNat then pure ([a], alt, none) else .error .unsatisfiedLocktime
  | .csv, [a] =>
    match numDecode env.flags.minimalNum 5 a with
    | none => .error .scriptNum
    | some v =>
      if v < 0 then .error .negativeLocktime
      else if (v.toNat / SEQ_DISABLE) % 2 == 1 then pure ([a], alt, none)
      else if checkSequence env v.toNat then pure ([a], alt, none) else .error .unsatisfiedLocktime
  | .if_, _ | .notif, _ | .else_, _ | .endif, _ => .error .unbalancedConditional
  | _, _ => .error .stackUnderflow

def finish (env : Env) (rest : List Bytes) (ops : Nat) (r : List Bytes × List Bytes × Option Bytes) :
    Except Err Core :=
  match r.2.2 with
  | none => .ok ⟨r.1 ++ rest, r.2.1, ops⟩
  | some b => pushElem env ⟨r.1 ++ rest, r.2.1, ops⟩ b

theorem need_le (o : Opc) : need o ≤ 3 := by cases o <;> decide

theorem eq_take3 {l : List Bytes} {n : Nat} (h : l.length = n) (hn : n ≤ 3) : ∃ a b d, l = [a, b, d].take n := by
  subst h
  match l, hn with
  | [], _ => exact ⟨[], [], [], rfl⟩
  | [a], _ => exact ⟨a, [], [], rfl⟩
  | [a, b], _ => exact ⟨a, b, [], rfl⟩
  | [a, b, d], _ => exact ⟨a, b, d, rfl⟩

theorem ite_bind {α β} {p : Prop} [Decidable p] (x y : Except Err α) (k : α → Except Err β) :
    (if p then x else y) >>= k = if p then x >>= k else y >>= k := by
  split <;> rfl

theorem execOpc_local (env : Env) {o : Opc} (ho : o ≠ .checkmultisig ∧ o ≠ .checkmultisigverify)
    {pre : List Bytes} (h : pre.length = need o) (rest alt : List Bytes) (ops : Nat) :
    execOpc env o ⟨pre ++ rest, alt, ops⟩ = act env o pre alt >>= finish env rest ops := by
  obtain ⟨a, b, d, rfl⟩ := eq_take3 h (need_le o)
  cases o
  case checkmultisig => exact absurd rfl ho.1
  case checkmultisigverify => exact absurd rfl ho.2
  case fromalt => cases alt <;> rfl
  -- `>>= finish` has to be moved through the `match` on the decoded number
  case cltv | csv =>
    simp only [execOpc, act, need, List.take, List.cons_append, List.nil_append]
    generalize numDecode _ 5 _ = v
    cases v <;> simp only [ite_bind] <;> rfl
  -- ... or through a bind or an `if`
  case ifdup | verify | equalverify | numequal | numequalverify | add | booland | boolor | zeronotequal | checksig
      | checksigverify | checksigadd =>
    simp only [execOpc, act, need, List.take, List.cons_append, List.nil_append, bind_assoc, pure_bind, ite_bind]
    rfl
  all_goals rfl

theorem execOpc_short (env : Env) {o : Opc} (ho : o ≠ .checkmultisig ∧ o ≠ .checkmultisigverify)
    {st : List Bytes} (h : st.length < need o) (alt : List Bytes) (ops : Nat) :
    execOpc env o ⟨st, alt, ops⟩ = .error .stackUnderflow := by
  cases o
  case dup | ifdup | size | toalt | drop | verify | zeronotequal | sha256 | hash256 | ripemd160 | hash160 | cltv
      | csv =>
    cases List.eq_nil_of_length_eq_zero (Nat.lt_one_iff.mp h); rfl
  case swap | equal | equalverify | numequal | numequalverify | add | booland | boolor | checksig
      | checksigverify =>
    match st, h with
    | [], _ | [_], _ => rfl
  case checksigadd =>
    match st, h with
    | [], _ | [_], _ | [_, _], _ => rfl
  all_goals exact absurd h (Nat.not_lt_zero _)

theorem need_cases (o : Opc) (st : List Bytes) :
    st.length < need o ∨ ∃ pre rest, st = pre ++ rest ∧ pre.length = need o := by
  by_cases hl : st.length < need o
  · exact .inl hl
  · exact .inr ⟨st.take (need o), st.drop (need o), (List.take_append_drop _ _).symm,
      by rw [List.length_take]; omega⟩

theorem execOpc_cms (env : Env) (c : Core) : execOpc env .checkmultisig c = multisig env c false := by
  obtain ⟨st, al, ops⟩ := c
  cases st <;> rfl

theorem execOpc_cmsv (env : Env) (c : Core) : execOpc env .checkmultisigverify c = multisig env c true := by
  obtain ⟨st, al, ops⟩ := c
  cases st <;> rfl

theorem execOpc_cases {o : Opc} (ho : o ≠ .checkmultisig ∧ o ≠ .checkmultisigverify) (c : Core) :
    (∀ env, execOpc env o c = .error .stackUnderflow) ∨
    ∃ pre rest, c.stack = pre ++ rest ∧ pre.length = need o ∧
      ∀ env, execOpc env o c = act env o pre c.alt >>= finish env rest c.ops := by
  obtain ⟨st, al, n⟩ := c
  rcases need_cases o st with hl | ⟨pre, rest, rfl, hlen⟩
  · exact .inl fun env => execOpc_short env ho hl al n
  · exact .inr ⟨pre, rest, rfl, hlen, fun env => execOpc_local env ho hlen rest al n⟩

@[elab_as_elim] theorem Opc.multisig_or {P : Opc → Prop} (o : Opc) (h1 : P .checkmultisig)
    (h2 : P .checkmultisigverify) (h : o ≠ .checkmultisig ∧ o ≠ .checkmultisigverify → P o) : P o := by
  by_cases e1 : o = .checkmultisig
  · exact e1 ▸ h1
  · by_cases e2 : o = .checkmultisigverify
    · exact e2 ▸ h2
    · exact h ⟨e1, e2⟩

/-- if `x` succeeds, its value satisfies `Q` (nothing is said of an error) -/
def Holds {α} (Q : α → Prop) (x : Except Err α) : Prop := ∀ a, x = .ok a → Q a

section holds
variable {α β : Type} {Q : α → Prop}

theorem Holds.error {e : Err} : Holds Q (.error e) := fun _ h => nomatch h

theorem Holds.pure {a : α} (h : Q a) : Holds Q (pure a : Except Err α) := fun _ e => by cases e; exact h

theorem Holds.bind {x : Except Err β} {f : β → Except Err α} (h : ∀ b, Holds Q (f b)) : Holds Q (x >>= f) := by
  cases x with
  | error e => exact .error
  | ok b => exact h b

theorem Holds.ite {p : Prop} [Decidable p] {x y : Except Err α} (hx : Holds Q x) (hy : Holds Q y) :
    Holds Q (if p then x else y) := by
  split <;> assumption

theorem Holds.seq {P : β → Prop} {x : Except Err β} {f : β → Except Err α} (hx : Holds P x)
    (h : ∀ b, P b → Holds Q (f b)) : Holds Q (x >>= f) := by
  cases x with
  | error e => exact .error
  | ok b => exact h b (hx b rfl)

end holds

/-- the values an opcode makes itself (numbers, booleans, hash outputs): the only elements of an outcome that were on
neither stack before (`ActOk.pushed`), so what holds of the old elements and of these holds of every outcome -/
inductive Made (env : Env) : Bytes → Prop
  | num (n : Int) : Made env (numEncode n)
  | bool (b : Bool) : Made env (boolBytes b)
  | hash (op : HashOp) (a : Bytes) : Made env (env.hash op a)

/-- the only opcodes after which stack and alt stack together hold more than before (the `+ o.grows.toNat` of `ActOk`) -/
def Opc.grows : Opc → Bool
  | .dup | .ifdup | .size => true
  | _ => false

/-- what `act env o pre alt` may return as `r = (out, alt', pushed)` -/
structure ActOk (env : Env) (o : Opc) (pre alt : List Bytes) (r : List Bytes × List Bytes × Option Bytes) : Prop where
  old_out : ∀ e ∈ r.1, e ∈ pre
  old_alt : ∀ e ∈ r.2.1, e ∈ alt ∨ e ∈ pre
  pushed : ∀ b, r.2.2 = some b → b ∈ pre ∨ b ∈ alt ∨ Made env b
  /-- without the pushed element the two stacks hold no more than what was read and the old alt stack … -/
  count : r.1.length + r.2.1.length ≤ pre.length + alt.length
  /-- … and one less when an element is pushed, unless the opcode is one of the three that grow the stacks -/
  count_push : r.2.2.isSome → r.1.length + r.2.1.length + 1 ≤ pre.length + alt.length + o.grows.toNat

section kinds
variable {env : Env} {o : Opc} {pre alt : List Bytes} {b : Bytes}

theorem ActOk.use_none (hp : 0 < pre.length) : ActOk env o pre alt ([], alt, none) :=
  ⟨nofun, fun _ he => .inl he, nofun, by show 0 + alt.length ≤ _; omega, nofun⟩

theorem ActOk.use_some (hp : 0 < pre.length) (hm : Made env b) : ActOk env o pre alt ([], alt, some b) :=
  ⟨nofun, fun _ he => .inl he, fun _ h => Option.some.inj h ▸ .inr (.inr hm), by show 0 + alt.length ≤ _; omega,
    fun _ => by show 0 + alt.length + 1 ≤ _; omega⟩

theorem ActOk.keep_none : ActOk env o pre alt (pre, alt, none) :=
  ⟨fun _ he => he, fun _ he => .inl he, nofun, Nat.le_refl _, nofun⟩

theorem ActOk.keep_some (hg : o.grows = true) (hb : b ∈ pre ∨ Made env b) : ActOk env o pre alt (pre, alt, some b) :=
  ⟨fun _ he => he, fun _ he => .inl he, fun _ h => Option.some.inj h ▸ hb.elim .inl fun h => .inr (.inr h),
    Nat.le_refl _, fun _ => by rw [hg]; exact Nat.le_refl _⟩

end kinds

/-- The one walk over the opcodes for what their successful outcomes have in common.  It follows the text of `act` on
the goal (an error, a bind, an `if`, a `match`) and names at each `pure` which kind of result it is: the operands are
consumed (`use_*`) or left (`keep_*`), nothing or one element is pushed; SWAP, TOALTSTACK and FROMALTSTACK by hand.
Reducible transparency keeps a rule that does not fit from unfolding `num4 … >>= …` to find that out. -/
theorem act_spec (env : Env) {o : Opc} {pre : List Bytes} (hlen : pre.length = need o) (alt : List Bytes) :
    Holds (ActOk env o pre alt) (act env o pre alt) := by
  obtain ⟨a, b, d, rfl⟩ := eq_take3 hlen (need_le o)
  cases o <;> simp only [need, List.take, act]
  case swap => exact .pure ⟨by simp, fun _ he => .inl he, nofun, Nat.le_refl _, nofun⟩
  case toalt =>
    exact .pure ⟨nofun, fun e he => by rw [List.mem_cons] at he; simp only [List.mem_singleton]; exact he.symm, nofun,
      by simp; omega, nofun⟩
  case fromalt =>
    cases alt with
    | nil => exact .error
    | cons x ar =>
      exact .pure ⟨nofun, fun e he => .inl (List.mem_cons_of_mem _ he), by simp, by simp, by simp [Opc.grows]⟩
  all_goals repeat' first
    | with_reducible exact .error
    | with_reducible refine Holds.bind fun _ => ?_
    | with_reducible refine Holds.ite ?_ ?_
    | (with_reducible refine .pure ?_
       first
        | exact .use_none (Nat.succ_pos _)
        | exact .use_some (Nat.succ_pos _) (by constructor)
        | exact .keep_none
        | exact .keep_some rfl (.inl (List.mem_singleton_self _))
        | exact .keep_some rfl (.inr (.num _)))
    | split

theorem holds_execOpc {env : Env} {o : Opc} (ho : o ≠ .checkmultisig ∧ o ≠ .checkmultisigverify) {Q : Core → Prop}
    (c : Core)
    (h : ∀ pre rest r, c.stack = pre ++ rest → ActOk env o pre c.alt r → Holds Q (finish env rest c.ops r)) :
    Holds Q (execOpc env o c) := by
  rcases execOpc_cases ho c with hs | ⟨pre, rest, hst, hlen, hl⟩
  · rw [hs]; exact .error
  · rw [hl]
    exact (act_spec env hlen c.alt).seq fun r hr => h pre rest r hst hr

/-- what CHECKMULTISIG reads below the key count `nI` (already known to be `n = nI.toNat`): `n` keys,
the signature count, that many signatures, the dummy, and the rest of the stack -/
def msArgs (env : Env) (nI : Int) (r : List Bytes) :
    Except Err (List Bytes × List Bytes × Bytes × List Bytes) :=
  if r.length < nI.toNat + 1 then .error .stackUnderflow else
  match r.drop nI.toNat with
  | mB :: r1 =>
    match numDecode env.flags.minimalNum 4 mB with
    | none => .error .scriptNum
    | some mI =>
      if mI < 0 ∨ mI > nI then .error .sigCount else
      if r1.length < mI.toNat + 1 then .error .stackUnderflow else
      match r1.drop mI.toNat with
      | dummy :: r2 => .ok (r.take nI.toNat, r1.take mI.toNat, dummy, r2)
      | [] => .error .stackUnderflow
  | [] => .error .stackUnderflow

/-- the matching loop and the flag checks on `a = (keys, signatures, dummy, rest)` as `msArgs` returns them, then the
verdict: pushed, or (VERIFY form) checked -/
def msTail (env : Env) (verify : Bool) (alt : List Bytes) (ops : Nat)
    (a : List Bytes × List Bytes × Bytes × List Bytes) : Except Err Core :=
  match multisigLoop env a.2.1 a.1 with
  | .error e => .error e
  | .ok ok =>
    if !ok && env.flags.nullFail && a.2.1.any (fun x => !x.isEmpty) then .error .nullFail
    else if env.flags.nullDummy && !a.2.2.1.isEmpty then .error .nullDummy
    else if verify then
      (if ok then .ok ⟨a.2.2.2, alt, ops⟩ else .error .verifyFailed)
    else pushElem env ⟨a.2.2.2, alt, ops⟩ (boolBytes ok)

theorem multisig_eq (env : Env) (st alt : List Bytes) (ops : Nat) (v : Bool) :
    multisig env ⟨st, alt, ops⟩ v =
      if env.flags.tapscript then .error .disabledOpcode else
      match st with
      | nB :: r =>
        match numDecode env.flags.minimalNum 4 nB with
        | none => .error .scriptNum
        | some nI =>
          if nI < 0 ∨ nI > 20 then .error .pubkeyCount else
          countOp env ⟨nB :: r, alt, ops⟩ nI.toNat >>= fun s =>
            msArgs env nI r >>= msTail env v s.alt s.ops
      | [] => .error .stackUnderflow := by
  -- follow the nesting of `multisig` guard by guard: with `msArgs` unfolded both sides are the same term in every branch
  unfold multisig msArgs
  dsimp only
  by_cases ht : env.flags.tapscript = true
  · simp only [ht, if_true]
  simp only [ht, Bool.false_eq_true, if_false]
  cases st with
  | nil => rfl
  | cons nB r =>
  dsimp only
  cases numDecode env.flags.minimalNum 4 nB with
  | none => rfl
  | some nI =>
  dsimp only
  by_cases hr : nI < 0 ∨ nI > 20
  · simp only [hr, if_true]
  simp only [hr, if_false]
  cases countOp env ⟨nB :: r, alt, ops⟩ nI.toNat with
  | error e => rfl
  | ok s =>
  dsimp only [bind, Except.bind]
  by_cases hl : r.length < nI.toNat + 1
  · simp only [hl, if_true]
  simp only [hl, if_false]
  cases r.drop nI.toNat with
  | nil => rfl
  | cons mB r1 =>
  dsimp only
  cases numDecode env.flags.minimalNum 4 mB with
  | none => rfl
  | some mI =>
  dsimp only
  by_cases hm : mI < 0 ∨ mI > nI
  · simp only [hm, if_true]
  simp only [hm, if_false]
  by_cases hl2 : r1.length < mI.toNat + 1
  · simp only [hl2, if_true]
  simp only [hl2, if_false]
  cases r1.drop mI.toNat with
  | nil => rfl
  | cons dummy r2 => rfl

/-- what `msArgs` found when it succeeds: below the `nI.toNat` keys the signature count `mB`, which decodes to `mI`
between 0 and `nI`, then `mI.toNat` signatures, the dummy and the rest -/
theorem msArgs_ok {env : Env} {nI : Int} {r keys sigs : List Bytes} {dummy : Bytes} {rest : List Bytes}
    (h : msArgs env nI r = .ok (keys, sigs, dummy, rest)) :
    ∃ mB mI, numDecode env.flags.minimalNum 4 mB = some mI ∧ 0 ≤ mI ∧ mI ≤ nI ∧
      keys.length = nI.toNat ∧ sigs.length = mI.toNat ∧ r = keys ++ mB :: (sigs ++ dummy :: rest) := by
  unfold msArgs at h
  split at h
  · cases h
  rename_i hl
  split at h
  · rename_i mB r1 hd
    split at h
    · cases h
    rename_i mI hmd
    split at h
    · cases h
    rename_i hm
    split at h
    · cases h
    rename_i hl2
    split at h
    · rename_i d r2 hd2
      cases h
      refine ⟨mB, mI, hmd, by omega, by omega, by rw [List.length_take]; omega, by rw [List.length_take]; omega, ?_⟩
      rw [← hd2, List.take_append_drop, ← hd, List.take_append_drop]
    · cases h
  · cases h

theorem msTail_inv {env : Env} {v : Bool} {alt : List Bytes} {ops : Nat}
    {a : List Bytes × List Bytes × Bytes × List Bytes} {c' : Core} (h : msTail env v alt ops a = .ok c') :
    ∃ ok, multisigLoop env a.2.1 a.1 = .ok ok ∧ (v = true → ok = true) ∧
      c' = ⟨if v then a.2.2.2 else boolBytes ok :: a.2.2.2, alt, ops⟩ := by
  unfold msTail at h
  split at h
  · cases h
  rename_i ok hloop
  refine ⟨ok, hloop, ?_⟩
  cases v <;> simp only [Bool.false_eq_true, ↓reduceIte] at h ⊢ <;> repeat' split at h
  all_goals first
    | (cases h; done)
    | (cases h; exact ⟨fun _ => by assumption, rfl⟩)
    | exact ⟨nofun, pushElem_inv h⟩

/-- a successful CHECKMULTISIG(VERIFY): below the key count lie that many keys, the signature count, that many
signatures and the dummy; the counter has grown by the key count (at most 20), the verdict of the matching loop is
pushed (resp. checked) on the rest -/
theorem multisig_inv {env : Env} {st alt : List Bytes} {ops : Nat} {v : Bool} {c' : Core}
    (h : multisig env ⟨st, alt, ops⟩ v = .ok c') :
    ∃ nB nI keys mB mI sigs dummy rest ok, st = nB :: (keys ++ mB :: (sigs ++ dummy :: rest)) ∧
      numDecode env.flags.minimalNum 4 nB = some nI ∧ 0 ≤ nI ∧ nI ≤ 20 ∧ keys.length = nI.toNat ∧
      numDecode env.flags.minimalNum 4 mB = some mI ∧ 0 ≤ mI ∧ mI ≤ nI ∧ sigs.length = mI.toNat ∧
      multisigLoop env sigs keys = .ok ok ∧ (v = true → ok = true) ∧
      c' = ⟨if v then rest else boolBytes ok :: rest, alt, ops + nI.toNat⟩ := by
  rw [multisig_eq] at h
  split at h
  · cases h
  split at h
  · rename_i nB r
    split at h
    · cases h
    rename_i nI hnd
    split at h
    · cases h
    rename_i hrange
    cases hcnt : countOp env ⟨nB :: r, alt, ops⟩ nI.toNat with
    | error e => rw [hcnt] at h; cases h
    | ok c1 =>
    rw [hcnt, countOp_inv hcnt] at h
    cases ha : msArgs env nI r with
    | error e => rw [ha] at h; cases h
    | ok a =>
    obtain ⟨keys, sigs, dummy, rest⟩ := a
    rw [ha] at h
    obtain ⟨mB, mI, hmd, hm0, hmn, hkl, hsl, rfl⟩ := msArgs_ok ha
    refine ⟨nB, nI, keys, mB, mI, sigs, dummy, rest, ?_⟩
    obtain ⟨ok, hloop, hv, rfl⟩ := msTail_inv (show msTail env v alt (ops + nI.toNat) (keys, sigs, dummy, rest) = .ok c' from h)
    exact ⟨ok, rfl, hnd, by omega, by omega, hkl, hmd, hm0, hmn, hsl, hloop, hv, rfl⟩
  · cases h
end MsVerif.Script

namespace MsVerif
open Script InterpSound

variable {env : Env}

section steps
variable (h : NoLimits env) (a b : Bytes) (r alt : List Bytes) (ops : Nat)
include h

theorem dup_nl : opc env .dup ⟨a :: r, alt, ops⟩ = .ok ⟨a :: a :: r, alt, ops + 1⟩ :=
  (opc_eq h.op _ _).trans (pushElem_ok h.st _ _)

theorem ifdup_nl : opc env .ifdup ⟨a :: r, alt, ops⟩
    = .ok ⟨if castToBool a then a :: a :: r else a :: r, alt, ops + 1⟩ := by
  rw [opc_eq h.op]
  show (if castToBool a then pushElem env _ a else _) = _
  split
  · exact pushElem_ok h.st _ _
  · rfl

theorem swap_nl : opc env .swap ⟨a :: b :: r, alt, ops⟩ = .ok ⟨b :: a :: r, alt, ops + 1⟩ := opc_eq h.op _ _

theorem size_nl : opc env .size ⟨a :: r, alt, ops⟩ = .ok ⟨numEncode (a.length : Int) :: a :: r, alt, ops + 1⟩ :=
  (opc_eq h.op _ _).trans (pushElem_ok h.st _ _)

theorem toalt_nl : opc env .toalt ⟨a :: r, alt, ops⟩ = .ok ⟨r, a :: alt, ops + 1⟩ := opc_eq h.op _ _

theorem fromalt_nl : opc env .fromalt ⟨r, a :: alt, ops⟩ = .ok ⟨a :: r, alt, ops + 1⟩ :=
  (opc_eq h.op _ _).trans (pushElem_ok h.st _ _)

theorem equal_nl : opc env .equal ⟨a :: b :: r, alt, ops⟩ = .ok ⟨boolBytes (a == b) :: r, alt, ops + 1⟩ :=
  (opc_eq h.op _ _).trans (pushElem_ok h.st _ _)

theorem equalverify_nl : opc env .equalverify ⟨a :: a :: r, alt, ops⟩ = .ok ⟨r, alt, ops + 1⟩ :=
  (opc_eq h.op _ _).trans (if_pos (beq_self_eq_true a))

theorem verify_nl (e : castToBool a = true) : opc env .verify ⟨a :: r, alt, ops⟩ = .ok ⟨r, alt, ops + 1⟩ :=
  (opc_eq h.op _ _).trans (if_pos e)

theorem zne_nl {x : Int} (hx : num4 env a = .ok x) :
    opc env .zeronotequal ⟨a :: r, alt, ops⟩ = .ok ⟨boolBytes (x != 0) :: r, alt, ops + 1⟩ := by
  rw [opc_eq h.op]
  show (num4 env a >>= fun x => pushElem env _ _) = _
  rw [hx]
  exact pushElem_ok h.st _ _

/-- `ADD`, `BOOLAND`, `BOOLOR`, `NUMEQUAL`: the top of the stack is the SECOND operand -/
theorem binop_nl {o : Opc} {f : Int → Int → Bytes}
    (ho : ∀ alt ops, execOpc env o ⟨a :: b :: r, alt, ops⟩ =
      (do let x ← num4 env a; let y ← num4 env b; pushElem env ⟨r, alt, ops⟩ (f x y)))
    {x y : Int} (hx : num4 env a = .ok x) (hy : num4 env b = .ok y) :
    opc env o ⟨a :: b :: r, alt, ops⟩ = .ok ⟨f x y :: r, alt, ops + 1⟩ := by
  rw [opc_eq h.op, ho, hx, hy]
  exact pushElem_ok h.st _ _

theorem add_nl {x y : Int} (hx : num4 env a = .ok x) (hy : num4 env b = .ok y) :
    opc env .add ⟨a :: b :: r, alt, ops⟩ = .ok ⟨numEncode (y + x) :: r, alt, ops + 1⟩ :=
  binop_nl h a b r alt ops (f := fun x y => numEncode (y + x)) (fun _ _ => rfl) hx hy

theorem booland_nl {x y : Int} (hx : num4 env a = .ok x) (hy : num4 env b = .ok y) :
    opc env .booland ⟨a :: b :: r, alt, ops⟩ = .ok ⟨boolBytes (x != 0 && y != 0) :: r, alt, ops + 1⟩ :=
  binop_nl h a b r alt ops (f := fun x y => boolBytes (x != 0 && y != 0)) (fun _ _ => rfl) hx hy

theorem boolor_nl {x y : Int} (hx : num4 env a = .ok x) (hy : num4 env b = .ok y) :
    opc env .boolor ⟨a :: b :: r, alt, ops⟩ = .ok ⟨boolBytes (x != 0 || y != 0) :: r, alt, ops + 1⟩ :=
  binop_nl h a b r alt ops (f := fun x y => boolBytes (x != 0 || y != 0)) (fun _ _ => rfl) hx hy

theorem numequal_nl {x y : Int} (hx : num4 env a = .ok x) (hy : num4 env b = .ok y) :
    opc env .numequal ⟨a :: b :: r, alt, ops⟩ = .ok ⟨boolBytes (x == y) :: r, alt, ops + 1⟩ :=
  binop_nl h a b r alt ops (f := fun x y => boolBytes (x == y)) (fun _ _ => rfl) hx hy

theorem checksig_nl {ok : Bool} (hc : checkSig env b a = .ok ok) :
    opc env .checksig ⟨a :: b :: r, alt, ops⟩ = .ok ⟨boolBytes ok :: r, alt, ops + 1⟩ := by
  rw [opc_eq h.op]
  show (checkSig env b a >>= fun ok => pushElem env _ _) = _
  rw [hc]
  exact pushElem_ok h.st _ _

end steps

end MsVerif
