/-
Soundness of the interpreter's evaluation (`Model/Interp.interp`) against the structured Script
semantics (`Spec/Frag.frag`): a simulation, fragment by fragment, typed by the library's own
type rules.  The statement per base type is `Post`; the induction carries `RPost`, the same with
the run stated by `SatSpec.Runs`, and every fragment's case is the execution lemma of `SatExec` /
`SatExecN` for that fragment applied to the children's runs.
-/
import MsVerif.Lemmas.InterpBasic
import MsVerif.Lemmas.InterpTyping
import MsVerif.Lemmas.InterpSmall
import MsVerif.Lemmas.TypeSoundArgsThm
import MsVerif.Lemmas.SatNum
import MsVerif.Lemmas.SatExecN

namespace MsVerif.InterpSound
open MsVerif Script Interp
open MsVerif.SatSpec (Runs numOk_of_lt)

/-- result of a `K` fragment: key and signature on the stack make CHECKSIG produce exactly the
interpreter's result -/
structure KRes (env : Env) (r : Elem) (pk sg : Bytes) : Prop where
  bool : r = .sat ∨ r = .dissat
  sat : r = .sat → checkSig env sg pk = .ok true
  dis : r = .dissat → checkSig env sg pk = .ok false

/-- what soundness means for a fragment of base type `b` (unit flag `u`) evaluated by the
interpreter on the abstraction of `c` with outcome `a'` -/
def Post (env : Env) (ke : KeyEnv) (ctx : Ctx) (ms : Ms) (b : Base) (u : Bool) (c : List Bytes)
    (a' : AStack) : Prop :=
  match b with
  | .B => ∃ r c0, a' = r :: absS c0 ∧ ∀ rest alt ops, ∃ v ops',
      frag env ke ctx ms ⟨c ++ rest, alt, ops⟩ = .ok ⟨v :: (c0 ++ rest), alt, ops'⟩ ∧ Res env u r v
  | .V => ∃ c0, a' = absS c0 ∧ ∀ rest alt ops, ∃ ops',
      frag env ke ctx ms ⟨c ++ rest, alt, ops⟩ = .ok ⟨c0 ++ rest, alt, ops'⟩
  | .K => ∃ r c0, a' = r :: absS c0 ∧ ∀ rest alt ops, ∃ pk sg ops',
      frag env ke ctx ms ⟨c ++ rest, alt, ops⟩ = .ok ⟨pk :: sg :: (c0 ++ rest), alt, ops'⟩ ∧ KRes env r pk sg
  | .W => ∃ r c0, a' = r :: absS c0 ∧ ∀ t rest alt ops, ∃ v ops',
      (frag env ke ctx ms ⟨t :: (c ++ rest), alt, ops⟩ = .ok ⟨t :: v :: (c0 ++ rest), alt, ops'⟩
        ∨ frag env ke ctx ms ⟨t :: (c ++ rest), alt, ops⟩ = .ok ⟨v :: t :: (c0 ++ rest), alt, ops'⟩)
      ∧ Res env u r v

mutual
/-- the fragments covered by the proof, with their side conditions: keys of the script are
well-formed for the context, lock values round-trip through the script-number codec -/
def Sup (env : Env) (ke : KeyEnv) : Ms → Prop
  | .tru | .fls => True
  | .pkK k => pubkeyOk env (ke.ser k) = true
  | .pkH _ | .rawPkH _ => True
  | .after n | .older n => LockOk env n
  | .hash _ _ => True
  | .alt x | .check x | .verify x | .zeroNotEqual x | .nonZero x => Sup env ke x
  | .andV l r | .andB l r | .orB l r | .orC l r | .orD l r | .orI l r => Sup env ke l ∧ Sup env ke r
  | .andOr a b c => Sup env ke a ∧ Sup env ke b ∧ Sup env ke c
  | .swap x | .dupIf x => Sup env ke x ∧ TypeSound.wf x = true
  | .thresh k xs => 1 ≤ k ∧ k < 2 ^ 31 ∧ xs.length < 2 ^ 31 ∧ SupList env ke xs
  | .multiA k ks =>
    env.flags.tapscript = true ∧ k < 2 ^ 31 ∧ ks.length < 2 ^ 31 ∧ ks ≠ []
      ∧ ∀ key ∈ ks, pubkeyOk env (ke.ser key) = true
  | .multi k ks =>
    env.flags.tapscript = false ∧ 1 ≤ k ∧ k ≤ ks.length ∧ ks.length ≤ 20
      ∧ ∀ key ∈ ks, pubkeyOk env (ke.ser key) = true
  | .sortedMulti _ _
  | .sortedMultiA _ _ => False
def SupList (env : Env) (ke : KeyEnv) : MsList → Prop
  | .nil => True
  | .cons x xs => Sup env ke x ∧ SupList env ke xs
end

variable {env : Env} {ke : KeyEnv} {ie : IEnv} {ctx : Ctx}

theorem pureOk {α : Type} (a : α) : (pure a : Except Err α) = .ok a := rfl
@[simp] theorem bindErr {α β : Type} (e : Err) (f : α → Except Err β) :
    ((Except.error e : Except Err α) >>= f) = .error e := rfl

theorem seqOps_nil (env : Env) (c : Core) : seqOps env [] c = .ok c := rfl

/-- every `Push` element of the abstract stack is shorter than 2^31 bytes (BIP141 / policy limit
witness elements to 520 bytes for v0 and tapscript, consensus to the 4 MB block weight) -/
def SmallA (a : AStack) : Prop := ∀ b, Elem.push b ∈ a → b.length < 2 ^ 31

theorem SmallA.tail {e : Elem} {a : AStack} (hs : SmallA (e :: a)) : SmallA a :=
  fun b hb => hs b (List.mem_cons_of_mem _ hb)

theorem SmallA.head {e : Bytes} {c : List Bytes} (hs : SmallA (absS (e :: c))) : e.length < 2 ^ 31 := by
  cases he : Elem.ofBytes e with
  | sat => rw [ofBytes_sat he]; decide
  | dissat => rw [ofBytes_dissat he]; decide
  | push b =>
    obtain ⟨e1, _, _⟩ := ofBytes_push he
    subst e1
    exact hs e (by simp [absS_cons, he])

theorem SmallA.interp {ms : Ms} {st a' : AStack} {cs : List Constraint} (hs : SmallA st)
    (h : interp ke ie ms st = .ok (a', cs)) : SmallA a' :=
  fun b hb => hs b (interp_sub ms st a' cs h b hb)

theorem evalSig_sound (ag : Agree env ie) {pk : Bytes} (hk : pubkeyOk env pk = true)
    {mk : Bytes → Constraint} {c : List Bytes} {a' : AStack} {cs : List Constraint}
    (h : evalSig ie pk mk (absS c) = .ok (a', cs)) :
    ∃ r sg c0, c = sg :: c0 ∧ a' = r :: absS c0 ∧ KRes env r pk sg := by
  rcases evalSig_ok h with ⟨_, hst, rfl, _⟩ | ⟨_, _, hst, hv, rfl, _⟩
  · obtain ⟨c0, rfl, rfl⟩ := absS_eq_dissat hst.symm
    exact ⟨.dissat, [], c0, rfl, rfl, .inr rfl, nofun, fun _ => checkSig_empty hk⟩
  · obtain ⟨c0, rfl, rfl, hne⟩ := absS_eq_push hst
    exact ⟨.sat, _, c0, rfl, rfl, .inl rfl, fun _ => checkSig_ok hk hne (ag.sig _ _ hv), nofun⟩

theorem Res.ofLock {n : Nat} (lk : LockOk env n) : Res env false .sat (lockVal n) :=
  ⟨Or.inl rfl, fun x => by simp at x, fun _ => ⟨lk.truthy, fun x => by simp at x, Int.ofNat n, lk.dec4,
    by have := lk.pos; simp; omega⟩⟩

/-- `Post` with the run stated by `SatSpec.Runs`: the values left on the stack are chosen before the
rest of the stack, the alt stack and the opcode counter, so that the execution lemmas of
`SatExec` / `SatExecN` apply to it; `RPost.post` gives `Post` back -/
def RPost (env : Env) (ke : KeyEnv) (ctx : Ctx) (ms : Ms) (b : Base) (u : Bool) (c : List Bytes)
    (a' : AStack) : Prop :=
  match b with
  | .B => ∃ r c0 v, a' = r :: absS c0 ∧ Res env u r v ∧
      ∀ rest, Runs (frag env ke ctx ms) (c ++ rest) (v :: (c0 ++ rest))
  | .V => ∃ c0, a' = absS c0 ∧ ∀ rest, Runs (frag env ke ctx ms) (c ++ rest) (c0 ++ rest)
  | .K => ∃ r c0 pk sg, a' = r :: absS c0 ∧ KRes env r pk sg ∧
      ∀ rest, Runs (frag env ke ctx ms) (c ++ rest) (pk :: sg :: (c0 ++ rest))
  | .W => ∃ r c0 v, a' = r :: absS c0 ∧ Res env u r v ∧ ∀ t rest,
      Runs (frag env ke ctx ms) (t :: (c ++ rest)) (t :: v :: (c0 ++ rest))
        ∨ Runs (frag env ke ctx ms) (t :: (c ++ rest)) (v :: t :: (c0 ++ rest))

/-- a unit `B` result known to be `.sat` is the run that leaves `[1]`, one known to be `.dissat` the run that leaves `[]` -/
theorem RPost.unit_run {ms : Ms} {c : List Bytes} {r : Elem} {a : AStack} (P : RPost env ke ctx ms .B true c (r :: a)) :
    ∃ c1, a = absS c1 ∧ ∀ rest, Runs (frag env ke ctx ms) (c ++ rest) (boolBytes (r == .sat) :: (c1 ++ rest)) := by
  obtain ⟨_, c1, v, ha, hr, F⟩ := P
  cases ha
  rcases hr.minimal with ⟨rfl, rfl⟩ | ⟨rfl, rfl⟩ <;> exact ⟨c1, rfl, F⟩

theorem RPost.post {ms : Ms} {b : Base} {u : Bool} {c : List Bytes} {a' : AStack}
    (P : RPost env ke ctx ms b u c a') : Post env ke ctx ms b u c a' := by
  cases b with
  | B =>
    obtain ⟨r, c0, v, ha, hr, F⟩ := P
    exact ⟨r, c0, ha, fun rest alt ops => let ⟨o, e⟩ := (F rest).eq alt ops; ⟨v, o, e, hr⟩⟩
  | V =>
    obtain ⟨c0, ha, F⟩ := P
    exact ⟨c0, ha, fun rest alt ops => (F rest).eq alt ops⟩
  | K =>
    obtain ⟨r, c0, pk, sg, ha, hr, F⟩ := P
    exact ⟨r, c0, ha, fun rest alt ops => let ⟨o, e⟩ := (F rest).eq alt ops; ⟨pk, sg, o, e, hr⟩⟩
  | W =>
    obtain ⟨r, c0, v, ha, hr, F⟩ := P
    refine ⟨r, c0, ha, fun t rest alt ops => ?_⟩
    rcases F t rest with G | G <;> obtain ⟨o, e⟩ := G.eq alt ops
    · exact ⟨v, o, .inl e, hr⟩
    · exact ⟨v, o, .inr e, hr⟩

theorem RPost.mono {ms : Ms} {b : Base} {u u' : Bool} {c : List Bytes} {a' : AStack}
    (huu : u = true → u' = true) (P : RPost env ke ctx ms b u' c a') : RPost env ke ctx ms b u c a' := by
  cases b with
  | B => obtain ⟨r, c0, v, ha, hr, F⟩ := P; exact ⟨r, c0, v, ha, hr.mono huu, F⟩
  | V => exact P
  | K => exact P
  | W => obtain ⟨r, c0, v, ha, hr, F⟩ := P; exact ⟨r, c0, v, ha, hr.mono huu, F⟩

theorem RPost.of_runs {ms1 ms2 : Ms} {b : Base} {u : Bool} {c1 c2 : List Bytes} {a' : AStack} (hb : b ≠ .W)
    (H : ∀ rest s', Runs (frag env ke ctx ms1) (c1 ++ rest) s' → Runs (frag env ke ctx ms2) (c2 ++ rest) s')
    (P : RPost env ke ctx ms1 b u c1 a') : RPost env ke ctx ms2 b u c2 a' := by
  cases b with
  | B => obtain ⟨r, c0, v, ha, hr, F⟩ := P; exact ⟨r, c0, v, ha, hr, fun rest => H _ _ (F rest)⟩
  | V => obtain ⟨c0, ha, F⟩ := P; exact ⟨c0, ha, fun rest => H _ _ (F rest)⟩
  | K => obtain ⟨r, c0, pk, sg, ha, hr, F⟩ := P; exact ⟨r, c0, pk, sg, ha, hr, fun rest => H _ _ (F rest)⟩
  | W => exact absurd rfl hb

theorem RPost.top_bool {ms : Ms} {u : Bool} {c : List Bytes} {e : Elem} {a : AStack}
    (P : RPost env ke ctx ms .B u c (e :: a)) : e = .sat ∨ e = .dissat := by
  obtain ⟨_, _, _, ha, hr, _⟩ := P
  cases ha
  exact hr.bool

theorem sound_pkh (ag : Agree env ie) {ms : Ms} {hv : Bytes}
    (hR : ∀ pk s, env.hash .hash160 pk = hv → Runs (frag env ke ctx ms) (pk :: s) (pk :: s))
    {c : List Bytes} {a' : AStack} {cs : List Constraint}
    (hi : evaluatePkh ie hv (absS c) = .ok (a', cs)) : RPost env ke ctx ms .K false c a' := by
  obtain ⟨pk, st', hst, hh, hkp, hs⟩ := evaluatePkh_ok hi
  obtain ⟨c1, rfl, rfl, _⟩ := absS_eq_push hst
  obtain ⟨r, sg, c0, rfl, ha, hres⟩ := evalSig_sound ag (ag.key pk hkp) hs
  exact ⟨r, c0, pk, sg, ha, hres, fun rest => hR pk _ (by rw [← ag.h160, hh])⟩

theorem hkOp_eq (k : HashKind) : SatSpec.hashOpOf k = hkOp k := by cases k <;> rfl

theorem sound_hash (h : NoLimits env) (ag : Agree env ie) {k : HashKind} {n : Nat}
    {c : List Bytes} {a' : AStack} {cs : List Constraint}
    (hi : evaluateHash ie k (ke.hashVal k n) (absS c) = .ok (a', cs)) :
    RPost env ke ctx (.hash k n) .B true c a' := by
  obtain ⟨pre, st', hst, hlen, hcase⟩ := evaluateHash_ok hi
  obtain ⟨c1, rfl, rfl, _⟩ := absS_eq_push hst
  rw [ag.hash, ← hkOp_eq] at hcase
  have hf := fun rest => SatSpec.frag_hash (ke := ke) (ctx := ctx) h k n pre (c1 ++ rest) hlen
  rcases hcase with ⟨heq, rfl, _⟩ | ⟨hne, rfl, _⟩
  · exact ⟨.sat, c1, [1], rfl, Res.ofBool env true true, fun rest => by
      simpa [heq, boolBytes] using hf rest⟩
  · exact ⟨.dissat, c1, [], rfl, Res.ofBool env true false, fun rest => by
      simpa [beq_eq_false_iff_ne.mpr (Ne.symm hne), boolBytes] using hf rest⟩

theorem sound_alt (h : NoLimits env) {x : Ms} {u : Bool} {c : List Bytes} {a' : AStack}
    (P : RPost env ke ctx x .B u c a') : RPost env ke ctx (.alt x) .W u c a' := by
  obtain ⟨r, c0, v, ha, hr, F⟩ := P
  exact ⟨r, c0, v, ha, hr, fun t rest => .inl (SatSpec.frag_alt h (F rest))⟩

theorem sound_check (h : NoLimits env) {x : Ms} {u : Bool} {c : List Bytes} {a' : AStack}
    (P : RPost env ke ctx x .K u c a') : RPost env ke ctx (.check x) .B true c a' := by
  obtain ⟨r, c0, pk, sg, ha, hk, F⟩ := P
  rcases hk.bool with rfl | rfl
  · exact ⟨_, c0, _, ha, Res.ofBool env true true, fun rest => SatSpec.frag_check h (F rest) (hk.sat rfl)⟩
  · exact ⟨_, c0, _, ha, Res.ofBool env true false, fun rest => SatSpec.frag_check h (F rest) (hk.dis rfl)⟩

theorem sound_verify (h : NoLimits env) {x : Ms} {u : Bool} {c : List Bytes} {a : AStack}
    (P : RPost env ke ctx x .B u c (.sat :: a)) : RPost env ke ctx (.verify x) .V false c a := by
  obtain ⟨_, c0, v, ha, hr, F⟩ := P
  cases ha
  exact ⟨c0, rfl, fun rest => SatSpec.frag_verify h (F rest) (hr.sat rfl).1⟩

theorem sound_zeroNotEqual (h : NoLimits env) {x : Ms} {u : Bool} {c : List Bytes} {e : Elem} {a : AStack}
    (P : RPost env ke ctx x .B u c (e :: a)) : RPost env ke ctx (.zeroNotEqual x) .B true c (e :: a) := by
  obtain ⟨_, c0, v, ha, hr, F⟩ := P
  cases ha
  obtain ⟨z, hz, hzr⟩ := hr.numB
  exact ⟨e, c0, _, rfl, hzr ▸ Res.ofElem hr.bool, fun rest => SatSpec.frag_zeroNotEqual h (F rest) hz⟩

theorem frag_in_place {x : Ms} {i o : Nat} (hl : NoLimits env)
    (hc : TypeSound.Cons (frag env ke ctx x) i o) {pre c1 out0 : List Bytes} (hpre : pre.length = i)
    (F : Runs (frag env ke ctx x) (pre ++ c1) out0) :
    ∃ out, out.length = o ∧ out0 = out ++ c1 ∧ ∀ s, Runs (frag env ke ctx x) (pre ++ s) (out ++ s) := by
  have fx := TypeSound.framed_frag hl.st ke ctx x
  -- the run on `pre` alone, framed by `c1`, is the given run; framed by `s`, the one wanted
  have key : ∀ alt ops, ∃ c', frag env ke ctx x ⟨pre, alt, ops⟩ = .ok c' ∧ c'.alt = alt
      ∧ c'.stack.length = o ∧ out0 = c'.stack ++ c1 := by
    intro alt ops
    obtain ⟨hn, hok⟩ := hc pre [] alt ops hpre
    rw [List.append_nil] at hn hok
    obtain ⟨o', hf⟩ := F.eq alt ops
    obtain ⟨c', hx, e⟩ := fx.of_app (c := ⟨pre, alt, ops⟩) hn hf
    obtain ⟨out, ho, hs⟩ := hok c' hx
    rw [List.append_nil] at hs
    cases c'
    cases e
    exact ⟨_, hx, rfl, hs ▸ ho, rfl⟩
  obtain ⟨c0, _, _, ho, hout⟩ := key [] 0
  refine ⟨c0.stack, ho, hout, fun s alt ops => ?_⟩
  obtain ⟨c', hx, ha, _, hout'⟩ := key alt ops
  exact ⟨_, fx.ok s hx, by rw [List.append_cancel_right (hout.symm.trans hout')]; rfl, ha⟩

theorem sound_swap (h : NoLimits env) {x : Ms} {u : Bool} {c : List Bytes} {a' : AStack}
    (hc : TypeSound.Cons (frag env ke ctx x) 1 1)
    (P : RPost env ke ctx x .B u c a') : RPost env ke ctx (.swap x) .W u c a' := by
  obtain ⟨r, c0, v, ha, hr, F⟩ := P
  cases c with
  | nil =>
    -- an `o` fragment cannot succeed on the empty stack
    exfalso
    obtain ⟨o, hf⟩ := (F []).eq [] 0
    obtain ⟨out, ho, hs⟩ := (hc [[]] [] [] 0 rfl).2 _ ((TypeSound.framed_frag h.st ke ctx x).ok [[]] hf)
    have : (v :: (c0 ++ []) ++ [[]]).length = (out ++ []).length := congrArg List.length hs
    simp at this; omega
  | cons e c1 =>
    obtain ⟨out, ho, hout, G⟩ := frag_in_place (pre := [e]) h hc rfl (by simpa using F [])
    obtain ⟨w, rfl⟩ := TypeSound.len1 ho
    obtain ⟨rfl, rfl⟩ : v = w ∧ c0 = c1 := by simpa using hout
    exact ⟨r, c0, v, ha, hr, fun t rest => .inr (SatSpec.frag_swap h (G (t :: (c0 ++ rest))))⟩

theorem sound_dupIf_dis (h : NoLimits env) (x : Ms) (c1 : List Bytes) :
    RPost env ke ctx (.dupIf x) .B false ([] :: c1) (.dissat :: absS c1) :=
  ⟨.dissat, c1, [], rfl, Res.ofBool env false false, fun _ => SatSpec.frag_dupIf_false h x _⟩

theorem sound_dupIf_sat (h : NoLimits env) {x : Ms} {u : Bool} {c1 : List Bytes} {a : AStack}
    (hc : TypeSound.Cons (frag env ke ctx x) 0 0) (Px : RPost env ke ctx x .V u c1 a) :
    RPost env ke ctx (.dupIf x) .B false ([1] :: c1) (.sat :: a) := by
  obtain ⟨c0, rfl, F⟩ := Px
  obtain ⟨out, ho, hout, G⟩ := frag_in_place (pre := []) h hc rfl (by simpa using F [])
  cases List.eq_nil_of_length_eq_zero ho
  obtain rfl : c0 = c1 := by simpa using hout
  exact ⟨.sat, c0, [1], rfl, (Res.ofBool env true true).mono (fun x => by simp at x),
    fun rest => SatSpec.frag_dupIf_true h (G ([1] :: (c0 ++ rest)))⟩

theorem sound_andV {l r : Ms} {b : Base} {ul u : Bool} {c : List Bytes} {a1 a' : AStack}
    (hb : b ≠ .W) (Pl : RPost env ke ctx l .V ul c a1)
    (Pr : ∀ c1, a1 = absS c1 → RPost env ke ctx r b u c1 a') : RPost env ke ctx (.andV l r) b u c a' := by
  obtain ⟨c1, ha, F⟩ := Pl
  exact (Pr c1 ha).of_runs hb (fun rest _ => SatSpec.frag_andV (F rest))

theorem sound_andB (h : NoLimits env) {l r : Ms} {ul ur : Bool} {c : List Bytes} {x y : Elem} {st1 st2 : AStack}
    (Pl : RPost env ke ctx l .B ul c (x :: st1))
    (Pr : ∀ c1, st1 = absS c1 → RPost env ke ctx r .W ur c1 (y :: st2)) :
    RPost env ke ctx (.andB l r) .B true c ((if y == .sat && x == .sat then .sat else .dissat) :: st2) := by
  obtain ⟨_, c1, vl, ha, hr1, Fl⟩ := Pl
  cases ha
  obtain ⟨_, c2, vr, ha, hr2, Fr⟩ := Pr c1 rfl
  cases ha
  obtain ⟨zl, hzl, el⟩ := hr1.numB
  obtain ⟨zr, hzr, er⟩ := hr2.numB
  refine ⟨_, c2, _, rfl, Res.ofBool env true _, fun rest => ?_⟩
  rw [← el, ← er]
  -- `a:` leaves the first result on top, `s:` the second; BOOLAND is symmetric
  rcases Fr vl rest with G | G
  · rw [Bool.and_comm]; exact SatSpec.frag_andB h (Fl rest) G hzl hzr
  · exact SatSpec.frag_andB h (Fl rest) G hzr hzl

theorem sound_orB (h : NoLimits env) {l r : Ms} {ul ur : Bool} {c : List Bytes} {x y : Elem} {st1 st2 : AStack}
    (Pl : RPost env ke ctx l .B ul c (x :: st1))
    (Pr : ∀ c1, st1 = absS c1 → RPost env ke ctx r .W ur c1 (y :: st2)) :
    RPost env ke ctx (.orB l r) .B true c ((if y == .dissat && x == .dissat then .dissat else .sat) :: st2) := by
  obtain ⟨_, c1, vl, ha, hr1, Fl⟩ := Pl
  cases ha
  obtain ⟨_, c2, vr, ha, hr2, Fr⟩ := Pr c1 rfl
  cases ha
  obtain ⟨zl, hzl, el⟩ := hr1.numB
  obtain ⟨zr, hzr, er⟩ := hr2.numB
  have hres := Res.ofBool env true (y == .sat || x == .sat)
  refine ⟨_, c2, boolBytes (y == .sat || x == .sat), rfl, ?_, fun rest => ?_⟩
  · rcases hr1.bool with rfl | rfl <;> rcases hr2.bool with rfl | rfl <;> exact hres
  · rw [← el, ← er]
    rcases Fr vl rest with G | G
    · rw [Bool.or_comm]; exact SatSpec.frag_orB h (Fl rest) G hzl hzr
    · exact SatSpec.frag_orB h (Fl rest) G hzr hzl

theorem sound_orD_sat (h : NoLimits env) {l r : Ms} {u : Bool} {c : List Bytes} {a : AStack}
    (Pl : RPost env ke ctx l .B true c (.sat :: a)) : RPost env ke ctx (.orD l r) .B u c (.sat :: a) := by
  obtain ⟨c1, rfl, F⟩ := Pl.unit_run
  exact ⟨.sat, c1, [1], rfl, (Res.ofBool env true true).mono (fun _ => rfl), fun rest => SatSpec.frag_orD_left h (F rest)⟩

theorem sound_orD_dis (h : NoLimits env) {l r : Ms} {u : Bool} {c : List Bytes} {st1 a : AStack}
    (Pl : RPost env ke ctx l .B true c (.dissat :: st1))
    (Pr : ∀ c1, st1 = absS c1 → RPost env ke ctx r .B u c1 a) : RPost env ke ctx (.orD l r) .B u c a := by
  obtain ⟨c1, rfl, F⟩ := Pl.unit_run
  exact (Pr c1 rfl).of_runs (by simp) (fun rest _ => SatSpec.frag_orD_right h (F rest))

theorem sound_orC_sat (h : NoLimits env) {l r : Ms} {u : Bool} {c : List Bytes} {a : AStack}
    (Pl : RPost env ke ctx l .B true c (.sat :: a)) : RPost env ke ctx (.orC l r) .V u c a := by
  obtain ⟨c1, rfl, F⟩ := Pl.unit_run
  exact ⟨c1, rfl, fun rest => SatSpec.frag_orC_left h (F rest)⟩

theorem sound_orC_dis (h : NoLimits env) {l r : Ms} {u : Bool} {c : List Bytes} {st1 a : AStack}
    (Pl : RPost env ke ctx l .B true c (.dissat :: st1))
    (Pr : ∀ c1, st1 = absS c1 → RPost env ke ctx r .V u c1 a) : RPost env ke ctx (.orC l r) .V u c a := by
  obtain ⟨c1, rfl, F⟩ := Pl.unit_run
  exact (Pr c1 rfl).of_runs (by simp) (fun rest _ => SatSpec.frag_orC_right h (F rest))

theorem sound_andOr_sat (h : NoLimits env) {x y z : Ms} {b : Base} {u : Bool} {c : List Bytes} {st1 a : AStack}
    (hb : b ≠ .W) (Px : RPost env ke ctx x .B true c (.sat :: st1))
    (Py : ∀ c1, st1 = absS c1 → RPost env ke ctx y b u c1 a) : RPost env ke ctx (.andOr x y z) b u c a := by
  obtain ⟨c1, rfl, F⟩ := Px.unit_run
  exact (Py c1 rfl).of_runs hb (fun rest _ => SatSpec.frag_andOr_true h (F rest))

theorem sound_andOr_dis (h : NoLimits env) {x y z : Ms} {b : Base} {u : Bool} {c : List Bytes} {st1 a : AStack}
    (hb : b ≠ .W) (Px : RPost env ke ctx x .B true c (.dissat :: st1))
    (Pz : ∀ c1, st1 = absS c1 → RPost env ke ctx z b u c1 a) : RPost env ke ctx (.andOr x y z) b u c a := by
  obtain ⟨c1, rfl, F⟩ := Px.unit_run
  exact (Pz c1 rfl).of_runs hb (fun rest _ => SatSpec.frag_andOr_false h (F rest))

theorem sound_nonZero_dis (h : NoLimits env) (x : Ms) (c1 : List Bytes) :
    RPost env ke ctx (.nonZero x) .B true ([] :: c1) (.dissat :: absS c1) :=
  ⟨.dissat, c1, [], rfl, Res.ofBool env true false, fun _ => SatSpec.frag_nonZero_dis h x _⟩

theorem sound_nonZero (h : NoLimits env) {x : Ms} {u : Bool} {e : Bytes} {c1 : List Bytes} {a : AStack}
    (he : e ≠ []) (hlen : e.length < 2 ^ 31) (Px : RPost env ke ctx x .B u (e :: c1) a) :
    RPost env ke ctx (.nonZero x) .B u (e :: c1) a :=
  Px.of_runs (by simp) (fun _ _ => SatSpec.frag_nonZero_sat h he (numOk_of_lt _ hlen))

theorem sound_orI_left (h : NoLimits env) {l r : Ms} {b : Base} {u : Bool} {c1 : List Bytes} {a : AStack}
    (hb : b ≠ .W) (Pl : RPost env ke ctx l b u c1 a) : RPost env ke ctx (.orI l r) b u ([1] :: c1) a :=
  Pl.of_runs hb (fun _ _ => SatSpec.frag_orI_left h)

theorem sound_orI_right (h : NoLimits env) {l r : Ms} {b : Base} {u : Bool} {c1 : List Bytes} {a : AStack}
    (hb : b ≠ .W) (Pr : RPost env ke ctx r b u c1 a) : RPost env ke ctx (.orI l r) b u ([] :: c1) a :=
  Pr.of_runs hb (fun _ _ => SatSpec.frag_orI_right h)

def bitOf (r : Elem) : Nat := if r = .sat then 1 else 0

theorem bitOf_le (r : Elem) : bitOf r ≤ 1 := by unfold bitOf; split <;> omega

theorem Res.enc {r : Elem} {v : Bytes} (hr : Res env true r v) : v = numEncode ((bitOf r : Nat) : Int) := by
  rcases hr.minimal with ⟨e1, e2⟩ | ⟨e1, e2⟩ <;> subst e1 <;> subst e2 <;> decide

theorem numEncode_beq {k m : Nat} (hk : k < 2 ^ 31) (hm : m < 2 ^ 31) :
    (numEncode (k : Int) == numEncode (m : Int)) = decide (m = k) := by
  by_cases hmk : m = k
  · subst hmk; simp
  · have : numEncode (k : Int) ≠ numEncode (m : Int) := fun hh => hmk (numEncode_inj hk hm hh).symm
    simp [hmk, this]

theorem sound_thresh (h : NoLimits env) {k : Nat} {x : Ms} {xs : MsList} {c c1 cL : List Bytes} {r1 rL : Elem}
    {n : Nat} (hk1 : 1 ≤ k) (hk : k < 2 ^ 31) (hlen : xs.length + 1 < 2 ^ 31) (hcnt : n ≤ xs.length)
    (hrL : rL = .sat ∨ rL = .dissat) {v1 : Bytes} (hres1 : Res env true r1 v1)
    (F1 : ∀ rest, Runs (frag env ke ctx x) (c ++ rest) (v1 :: (c1 ++ rest)))
    (G : bitOf r1 + xs.length < 2 ^ 31 → ∀ rest, Runs (fragThresh env ke ctx false xs)
      (numEncode ((bitOf r1 : Nat) : Int) :: (c1 ++ rest)) (numEncode ((n + bitOf rL : Nat) : Int) :: (cL ++ rest))) :
    RPost env ke ctx (.thresh k (.cons x xs)) .B true c
      ((if n == (if rL = .sat then k - 1 else k) then .sat else .dissat) :: absS cL) := by
  have hb1 := bitOf_le r1
  have hbL := bitOf_le rL
  have e : (n == (if rL = .sat then k - 1 else k)) = decide (n + bitOf rL = k) := by
    rw [Bool.eq_iff_iff]
    rcases hrL with rfl | rfl <;> simp [bitOf] <;> omega
  rw [e, ← numEncode_beq hk (show n + bitOf rL < 2 ^ 31 by omega)]
  cases hres1.enc
  refine ⟨_, cL, _, rfl, Res.ofBool env true _, fun rest => ?_⟩
  exact SatSpec.frag_thresh h (SatSpec.fragThresh_cons_first (F1 rest) (G (by omega) rest))

/-! ### multi: CHECKMULTISIG's key walk

The interpreter tries each signature against the keys from the last to the first and skips a key
when ITS oracle rejects; Script's `multisigLoop` does the same with `env.sigOk`, which may accept
more (the agreement is one-directional).  What the interpreter matched is an in-order matching of
the signatures to keys (`multiLoop_pairs`), and Script's walk accepts every such matching
(`Script.multisigLoop_pairs`). -/

theorem multiLoop_pairs (ag : Agree env ie) {k : Nat} {keysRev : List Bytes} {nSat : Nat} {c : List Bytes}
    {a' : AStack} {cs : List Constraint} (hle : nSat ≤ k)
    (hi : Interp.multiLoop ie k keysRev nSat (absS c) = .ok (a', cs)) :
    ∃ (ps : List (Bytes × Bytes)) (c0 : List Bytes), c = ps.map (·.2) ++ [] :: c0 ∧ ps.length = k - nSat
      ∧ a' = .sat :: absS c0 ∧ (ps.map (·.1)).Sublist keysRev ∧ ∀ p ∈ ps, p.2 ≠ [] ∧ env.sigOk p.1 p.2 = true := by
  refine multiLoop_induct
    (P := fun keys n st a _ => ∀ c, st = absS c → n ≤ k →
      ∃ (ps : List (Bytes × Bytes)) (c0 : List Bytes), c = ps.map (·.2) ++ [] :: c0 ∧ ps.length = k - n
        ∧ a = .sat :: absS c0 ∧ (ps.map (·.1)).Sublist keys ∧ ∀ p ∈ ps, p.2 ≠ [] ∧ env.sigOk p.1 p.2 = true)
    ?_ ?_ ?_ _ _ _ _ _ hi c rfl hle
  · intro keys st c hc _
    obtain ⟨c0, rfl, rfl⟩ := absS_eq_dissat hc
    exact ⟨[], c0, rfl, by simp, rfl, List.nil_sublist _, nofun⟩
  · intro pk rest n sg st a cs hne hv _ ih c hc hle
    obtain ⟨c1, rfl, rfl, hne'⟩ := absS_eq_push hc.symm
    obtain ⟨ps, c0, rfl, hl, ha, hsub, hval⟩ := ih c1 rfl (by omega)
    refine ⟨(pk, sg) :: ps, c0, rfl, by simp [hl]; omega, ha, hsub.cons_cons pk, ?_⟩
    intro p hp
    rcases List.mem_cons.mp hp with rfl | hp
    · exact ⟨hne', ag.sig pk sg hv⟩
    · exact hval p hp
  · intro pk rest n sg st a cs _ _ _ ih c hc hle
    obtain ⟨ps, c0, hc', hl, ha, hsub, hval⟩ := ih c hc hle
    exact ⟨ps, c0, hc', hl, ha, hsub.cons pk, hval⟩

theorem absS_all_dissat : ∀ (j : Nat) (c : List Bytes), j ≤ c.length →
    ((absS c).take j).all (· == Elem.dissat) = true → ∃ c0, c = List.replicate j [] ++ c0
  | 0, c, _, _ => ⟨c, by simp⟩
  | j + 1, [], hl, _ => by simp at hl
  | j + 1, e :: c, hl, h => by
    simp only [absS_cons, List.take_succ_cons, List.all_cons, Bool.and_eq_true, beq_iff_eq] at h
    have he := ofBytes_dissat h.1
    subst he
    obtain ⟨c0, hc0⟩ := absS_all_dissat j c (by simpa using hl) h.2
    exact ⟨c0, by rw [hc0, List.replicate_succ]; simp⟩

theorem sound_multi (h : NoLimits env) (ag : Agree env ie) {k : Nat} {ks : List Key}
    (hs : Sup env ke (.multi k ks)) {c : List Bytes} {a' : AStack} {cs : List Constraint}
    (hi : evalMulti ie k (ks.map ke.ser) (absS c) = .ok (a', cs)) :
    RPost env ke ctx (.multi k ks) .B true c a' := by
  obtain ⟨htap, hk1, hkn, hn, hkeys⟩ := hs
  have hkeys' : ∀ key ∈ (ks.map ke.ser).reverse, pubkeyOk env key = true := by
    intro key hkey
    simp only [List.mem_reverse, List.mem_map] at hkey
    obtain ⟨q, hq, rfl⟩ := hkey
    exact hkeys q hq
  obtain ⟨hlen, ⟨_, _, hall, rfl, _⟩ | ⟨_, hm⟩⟩ := evalMulti_ok hi
  -- only empty elements: Script's walk fails on them, and NULLFAIL is respected
  · obtain ⟨j, rfl⟩ : ∃ j, k = j + 1 := ⟨k - 1, by omega⟩
    obtain ⟨c0, rfl⟩ := absS_all_dissat (j + 1 + 1) c (by simpa [absS] using hlen) hall
    refine ⟨.dissat, c0, [], by simp [absS], Res.ofBool env true false, fun rest => ?_⟩
    rw [List.replicate_succ' (n := j + 1), List.append_assoc, List.append_assoc]
    exact SatSpec.frag_multi h htap _ ks hn hkn (List.replicate (j + 1) []) (by simp) (c0 ++ rest)
      (Script.multisigLoop_empty j _ hkeys') (Or.inr (by simp))
  · obtain ⟨ps, c0, rfl, hl, ha, hsub, hval⟩ := multiLoop_pairs ag (Nat.zero_le k) hm
    refine ⟨.sat, c0, [1], ha, Res.ofBool env true true, fun rest => ?_⟩
    rw [List.append_assoc]
    exact SatSpec.frag_multi h htap k ks hn hkn _ (by simp [hl]) (c0 ++ rest)
      (Script.multisigLoop_pairs _ hkeys' ps hsub hval) (Or.inl rfl)

theorem multiALoop_pairs (ag : Agree env ie) {k : Nat} (ks : List Key) (nSat : Nat) (c : List Bytes) (a' : AStack)
    (cs : List Constraint) (hkeys : ∀ key ∈ ks, pubkeyOk env (ke.ser key) = true)
    (hi : Interp.multiALoop ie k (ks.map ke.ser) nSat (absS c) = .ok (a', cs)) :
    ∃ (ps : List (Key × Bytes × Bool)) (c0 : List Bytes), ks = ps.map (·.1) ∧ c = ps.map (·.2.1) ++ c0
      ∧ (∀ p ∈ ps, checkSig env p.2.1 (ke.ser p.1) = .ok p.2.2)
      ∧ a' = (if nSat + (ps.filter (·.2.2)).length = k then Elem.sat else .dissat) :: absS c0 := by
  refine multiALoop_induct
    (P := fun keys n st a _ => ∀ (ks : List Key) c, keys = ks.map ke.ser → st = absS c →
      (∀ key ∈ ks, pubkeyOk env (ke.ser key) = true) →
      ∃ (ps : List (Key × Bytes × Bool)) (c0 : List Bytes), ks = ps.map (·.1) ∧ c = ps.map (·.2.1) ++ c0
        ∧ (∀ p ∈ ps, checkSig env p.2.1 (ke.ser p.1) = .ok p.2.2)
        ∧ a = (if n + (ps.filter (·.2.2)).length = k then Elem.sat else .dissat) :: absS c0)
    ?_ ?_ ?_ _ _ _ _ _ hi ks c rfl rfl hkeys
  · intro n st ks c hks hc _
    cases ks with
    | cons _ _ => cases hks
    | nil => subst hc; exact ⟨[], c, rfl, rfl, nofun, by by_cases hn : n = k <;> simp [hn]⟩
  · intro pk rest n sg st a cs hv _ ih ks c hks hc hkeys
    cases ks with
    | nil => cases hks
    | cons key ks =>
      cases hks
      obtain ⟨c1, rfl, rfl, hne⟩ := absS_eq_push hc.symm
      obtain ⟨ps, c0, rfl, rfl, hps, ha⟩ := ih ks c1 rfl rfl (fun q hq => hkeys q (by simp [hq]))
      refine ⟨(key, sg, true) :: ps, c0, rfl, rfl, ?_, ?_⟩
      · intro p hp
        rcases List.mem_cons.mp hp with rfl | hp
        · exact checkSig_ok (hkeys key (by simp)) hne (ag.sig _ _ hv)
        · exact hps p hp
      · rw [ha, List.filter_cons_of_pos rfl, List.length_cons, Nat.add_right_comm, Nat.add_assoc]
  · intro pk rest n st a cs _ ih ks c hks hc hkeys
    cases ks with
    | nil => cases hks
    | cons key ks =>
      cases hks
      obtain ⟨c1, rfl, rfl⟩ := absS_eq_dissat hc
      obtain ⟨ps, c0, rfl, rfl, hps, ha⟩ := ih ks c1 rfl rfl (fun q hq => hkeys q (by simp [hq]))
      refine ⟨(key, [], false) :: ps, c0, rfl, rfl, ?_, by rw [ha]; rfl⟩
      intro p hp
      rcases List.mem_cons.mp hp with rfl | hp
      · exact checkSig_empty (hkeys key (by simp))
      · exact hps p hp

theorem sound_multiA (h : NoLimits env) (ag : Agree env ie) {k : Nat} {ks : List Key}
    (hs : Sup env ke (.multiA k ks)) {c : List Bytes} {a' : AStack} {cs : List Constraint}
    (hi : Interp.multiALoop ie k (ks.map ke.ser) 0 (absS c) = .ok (a', cs)) :
    RPost env ke ctx (.multiA k ks) .B true c a' := by
  obtain ⟨htap, hk, hlen, hne, hkeys⟩ := hs
  obtain ⟨ps, c0, rfl, rfl, hps, ha⟩ := multiALoop_pairs ag ks 0 c a' cs hkeys hi
  have hlen' : ps.length < 2 ^ 31 := by simpa using hlen
  have e : ((k : Int) == (((ps.filter (·.2.2)).length : Nat) : Int)) = decide (0 + (ps.filter (·.2.2)).length = k) := by
    rw [Bool.eq_iff_iff]
    simp only [beq_iff_eq, decide_eq_true_eq]
    omega
  refine ⟨_, c0, _, by simpa using ha, Res.ofBool env true (decide (0 + (ps.filter (·.2.2)).length = k)),
    fun rest => ?_⟩
  rw [List.append_assoc, ← e]
  exact SatSpec.frag_multiA h htap k ps (by simpa using hne) hps (fun j hj => numOk_of_lt j (by omega))
    (numOk_of_lt k hk) (c0 ++ rest)

/-! ### the simulation

The invariant on an accepted evaluation `ms : st ⇓ a`: for every type of `ms` and every concrete
stack `c` that `st` abstracts, Script's run of the fragment on `c` is described by `RPost`.  It is
closed under the rules of the interpreter (`soundRules`), hence holds of every accepted
evaluation. -/

def SoundAt (env : Env) (ke : KeyEnv) (ctx : Ctx) (ms : Ms) (b : Base) (u : Bool) (st a : AStack) : Prop :=
  Sup env ke ms → ∀ c, st = absS c → SmallA st → RPost env ke ctx ms b u c a

/-- children 2…n of `thresh`, the previous child's result `rPrev` still on the stack: the count
grows by at most one per child, and Script's running sum follows it -/
def SoundRestAt (env : Env) (ke : KeyEnv) (ctx : Ctx) (xs : MsList) (nS : Nat) (st st' : AStack)
    (nS' : Nat) : Prop :=
  SupList env ke xs →
    ∀ cPrev rPrev, st = rPrev :: absS cPrev → (rPrev = .sat ∨ rPrev = .dissat) → SmallA (absS cPrev) →
      nS' ≤ nS + xs.length ∧ ∃ rL cL, st' = rL :: absS cL ∧ (rL = .sat ∨ rL = .dissat) ∧
        (nS + bitOf rPrev + xs.length < 2 ^ 31 → ∀ rest, Runs (fragThresh env ke ctx false xs)
          (numEncode ((nS + bitOf rPrev : Nat) : Int) :: (cPrev ++ rest))
          (numEncode ((nS' + bitOf rL : Nat) : Int) :: (cL ++ rest)))

theorem soundRules (h : NoLimits env) (ag : Agree env ie) :
    TRules ke ie (fun ms b u st a _ => SoundAt env ke ctx ms b u st a)
      (fun xs n st a n' _ => SoundRestAt env ke ctx xs n st a n') where
  tru st := fun _ c hc _ => ⟨.sat, c, [1], hc ▸ rfl, Res.ofBool env true true, fun _ => SatSpec.frag_tru h _⟩
  fls st := fun _ c hc _ => ⟨.dissat, c, [], hc ▸ rfl, Res.ofBool env true false, fun _ => SatSpec.frag_fls h _⟩
  pkK k u st a cs hi := fun hk c hc _ => by
    subst hc
    obtain ⟨r, sg, c0, rfl, ha, hres⟩ := evalSig_sound ag hk hi
    exact ⟨r, c0, ke.ser k, sg, ha, hres, fun _ => SatSpec.frag_pkK h k _⟩
  pkH k u st a cs hi := fun _ c hc _ => by subst hc; exact sound_pkh ag (SatSpec.frag_pkH h k) hi
  rawPkH k u st a cs hi := fun _ c hc _ => by subst hc; exact sound_pkh ag (SatSpec.frag_rawPkH h k) hi
  after n st a cs hi := fun lk c hc _ => by
    obtain ⟨rfl, _, h0, h1, h2⟩ := evaluateAfter_ok hi
    subst hc
    exact ⟨.sat, c, lockVal n, rfl, Res.ofLock lk, fun _ =>
      lockVal_eq n ▸ SatSpec.frag_after h (numOk_of_lt n lk.small) (after_ok ag h0 h1 h2) _⟩
  older n st a cs hi := fun lk c hc _ => by
    obtain ⟨rfl, _, h0, h1, h2⟩ := evaluateOlder_ok hi
    subst hc
    exact ⟨.sat, c, lockVal n, rfl, Res.ofLock lk, fun _ =>
      lockVal_eq n ▸ SatSpec.frag_older h (numOk_of_lt n lk.small) (older_ok ag h0 h1 h2) _⟩
  hash kind n st a cs hi := fun _ c hc _ => by subst hc; exact sound_hash h ag hi
  alt x tx st a cs _ _ _ ih := fun hs c hc hA => sound_alt h (ih hs c hc hA)
  swap x tx st a cs htx hb hin _ ih := fun hs c hc hA => by
    have hcons := TypeSound.args_hasType (env := env) h.st ke ctx htx hs.2 1
      (by rcases hin with e | e <;> rw [e] <;> rfl)
    rw [hb] at hcons
    exact sound_swap h hcons (ih hs.1 c hc hA)
  check x tx st a cs _ _ _ ih := fun hs c hc hA => sound_check h (ih hs c hc hA)
  dupIf_dis x st := fun _ c hc _ => by
    obtain ⟨c1, rfl, rfl⟩ := absS_eq_dissat hc
    exact sound_dupIf_dis h x c1
  dupIf_sat x tx st a cs htx hb hin _ ih := fun hs c hc hA => by
    obtain ⟨c1, rfl, rfl⟩ := absS_eq_sat hc
    have hcons := TypeSound.args_hasType (env := env) h.st ke ctx htx hs.2 0 (by rw [hin]; rfl)
    rw [hb] at hcons
    exact sound_dupIf_sat h hcons (ih hs.1 c1 rfl hA.tail)
  verify x tx st a cs _ _ _ ih := fun hs c hc hA => sound_verify h (ih hs c hc hA)
  zne_dis x tx st a cs _ _ _ ih := fun hs c hc hA => sound_zeroNotEqual h (ih hs c hc hA)
  zne_sat x tx st e a cs _ _ hne _ ih := fun hs c hc hA => by
    have P := ih hs c hc hA
    rcases P.top_bool with rfl | rfl
    · exact sound_zeroNotEqual h P
    · exact absurd rfl hne
  nonZero_dis x u st := fun _ c hc _ => by
    obtain ⟨c1, rfl, rfl⟩ := absS_eq_dissat hc
    exact (sound_nonZero_dis h x c1).mono (fun _ => rfl)
  nonZero x tx e st a cs _ _ hne _ ih := fun hs c hc hA => by
    have P := ih hs c hc hA
    obtain ⟨v, c1, rfl, he, rfl⟩ := absS_eq_cons hc.symm
    exact sound_nonZero h (fun hv => hne (by rw [← he, hv]; rfl))
      (SmallA.head (show SmallA (absS (v :: c1)) by rw [absS_cons, he]; exact hA)) P
  andV l r tl tr st a1 cs1 a cs2 _ _ _ hnw hl ihl _ ihr := fun hs c hc hA =>
    sound_andV hnw (ihl hs.1 c hc hA) (fun c1 h1 => ihr hs.2 c1 h1 (hA.interp hl))
  andB l r tl tr st x st1 cs1 y st2 cs2 _ _ _ _ _ hl ihl _ ihr := fun hs c hc hA =>
    sound_andB h (ihl hs.1 c hc hA) (fun c1 h1 => ihr hs.2 c1 h1 (hA.interp hl).tail)
  orB l r tl tr st x st1 cs1 y st2 cs2 _ _ _ _ _ hl ihl _ ihr := fun hs c hc hA =>
    sound_orB h (ihl hs.1 c hc hA) (fun c1 h1 => ihr hs.2 c1 h1 (hA.interp hl).tail)
  andOr_sat x y z tx ty tz st st1 cs1 a cs2 _ _ _ _ _ hnw hx ihx _ ihy := fun hs c hc hA =>
    sound_andOr_sat h hnw (ihx hs.1 c hc hA) (fun c1 h1 =>
      (ihy hs.2.1 c1 h1 (hA.interp hx).tail).mono (fun q => (Bool.and_eq_true_iff.mp q).1))
  andOr_dis x y z tx ty tz st st1 cs1 a cs2 _ _ _ _ _ hnw hx ihx _ ihz := fun hs c hc hA =>
    sound_andOr_dis h hnw (ihx hs.1 c hc hA) (fun c1 h1 =>
      (ihz hs.2.2 c1 h1 (hA.interp hx).tail).mono (fun q => (Bool.and_eq_true_iff.mp q).2))
  orC_sat l r tl u st a cs _ _ _ _ ih := fun hs c hc hA => sound_orC_sat h (ih hs.1 c hc hA)
  orC_dis l r tl tr u st st1 cs1 a cs2 _ _ _ _ _ hl ihl _ ihr := fun hs c hc hA =>
    sound_orC_dis h (ihl hs.1 c hc hA) (fun c1 h1 => ihr hs.2 c1 h1 (hA.interp hl).tail)
  orD_sat l r tl u st a cs _ _ _ _ ih := fun hs c hc hA => sound_orD_sat h (ih hs.1 c hc hA)
  orD_dis l r tl tr st st1 cs1 a cs2 _ _ _ _ _ hl ihl _ ihr := fun hs c hc hA =>
    sound_orD_dis h (ihl hs.1 c hc hA) (fun c1 h1 => ihr hs.2 c1 h1 (hA.interp hl).tail)
  orI_left l r tl u st a cs _ hnw _ ih := fun hs c hc hA => by
    obtain ⟨c1, rfl, rfl⟩ := absS_eq_sat hc
    exact sound_orI_left h hnw
      ((ih hs.1 c1 rfl hA.tail).mono (fun q => (Bool.and_eq_true_iff.mp q).1))
  orI_right l r tr u st a cs _ hnw _ ih := fun hs c hc hA => by
    obtain ⟨c1, rfl, rfl⟩ := absS_eq_dissat hc
    exact sound_orI_right h hnw
      ((ih hs.2 c1 rfl hA.tail).mono (fun q => (Bool.and_eq_true_iff.mp q).2))
  thresh k x xs tx st st1 cs1 y st2 n cs2 _ _ hx ihx _ ihr := fun hs c hc hA => by
    obtain ⟨hk1, hk, hlen, hsl⟩ := hs
    obtain ⟨r1, c1, v1, rfl, hres1, F1⟩ := ihx hsl.1 c hc hA
    obtain ⟨hcnt, rL, cL, hst2, hrLb, G⟩ := ihr hsl.2 c1 r1 rfl hres1.bool (hA.interp hx).tail
    cases hst2
    exact sound_thresh h hk1 hk (by simpa [MsList.length] using hlen) (by simpa using hcnt) hrLb hres1 F1
      (Nat.zero_add (bitOf r1) ▸ G)
  multi k ks st a cs hi := fun hs c hc _ => by subst hc; exact sound_multi h ag hs hi
  sortedMulti k ks st a cs _ := fun hs => hs.elim
  multiA k ks st a cs hi := fun hs c hc _ => by subst hc; exact sound_multiA h ag hs hi
  sortedMultiA k ks st a cs _ := fun hs => hs.elim
  rest_nil n st := fun _ cPrev rPrev hst hrp _ =>
    ⟨by simp [MsList.length], rPrev, cPrev, hst, hrp, fun _ _ => SatSpec.fragThresh_nil false _⟩
  rest_cons x xs tx nS y st st1 cs1 a n' cs2 _ _ hx ihx _ ihr := fun hsl cPrev rPrev hst hrp hA => by
    cases hst
    obtain ⟨r1, c1, v, rfl, hres1, F1⟩ := ihx hsl.1 cPrev rfl hA
    have e : (if y == .sat then nS + 1 else nS) = nS + bitOf y := by rcases hrp with rfl | rfl <;> rfl
    rw [e] at ihr
    obtain ⟨hcnt, rL, cL, hst', hrLb, G⟩ := ihr hsl.2 c1 r1 rfl hres1.bool (hA.interp hx).tail
    have hb1 := bitOf_le r1
    have hbP := bitOf_le y
    refine ⟨by simp only [MsList.length]; omega, rL, cL, hst', hrLb, fun hbound rest => ?_⟩
    simp only [MsList.length] at hbound
    cases hres1.enc
    have hP := num4_numEncode (show nS + bitOf y < 2 ^ 31 by omega) env
    have h1 := num4_numEncode (show bitOf r1 < 2 ^ 31 by omega) env
    have G' := G (by omega) rest
    -- `a:` leaves the sum on top of the child's result, `s:` below it; ADD is symmetric
    rcases F1 _ rest with hf1 | hf1
    · refine SatSpec.fragThresh_cons_add h hf1 hP h1 ?_
      rwa [show ((bitOf r1 : Nat) : Int) + ((nS + bitOf y : Nat) : Int) = ((nS + bitOf y + bitOf r1 : Nat) : Int) by omega]
    · refine SatSpec.fragThresh_cons_add h hf1 h1 hP ?_
      rwa [show ((nS + bitOf y : Nat) : Int) + ((bitOf r1 : Nat) : Int) = ((nS + bitOf y + bitOf r1 : Nat) : Int) by omega]

theorem sound (h : NoLimits env) (ag : Agree env ie) :
    (ms : Ms) → (ty : Ty) → typeOf ms = some ty → Sup env ke ms →
    ∀ (c : List Bytes) (a' : AStack) (cs : List Constraint), SmallA (absS c) →
      interp ke ie ms (absS c) = .ok (a', cs) →
      Post env ke ctx ms ty.corr.base ty.corr.unit c a' :=
  fun ms ty hty hs c _ _ hA hi => ((soundRules h ag).interp ms ty hty _ _ _ hi hs c rfl hA).post

/-- children 2…n of `thresh`: each runs as a `W` fragment on the accumulated sum and is added -/
theorem soundRest (h : NoLimits env) (ag : Agree env ie) :
    (xs : MsList) → (ts : List Ty) → typesOf xs = some ts →
    ∀ (i acc n : Nat), i ≠ 0 → Corr.threshLoop i acc (ts.map (·.corr)) = some n → SupList env ke xs →
    ∀ (cPrev : List Bytes) (rPrev : Elem) (nS : Nat) (st' : AStack) (nS' : Nat) (cs : List Constraint),
      (rPrev = .sat ∨ rPrev = .dissat) → SmallA (absS cPrev) →
      interpRest ke ie xs nS (rPrev :: absS cPrev) = .ok (st', nS', cs) →
      ∃ rL cL, st' = rL :: absS cL ∧ (rL = .sat ∨ rL = .dissat) ∧
        ∀ rest alt ops, nS + bitOf rPrev + xs.length < 2 ^ 31 →
          ∃ ops', fragThresh env ke ctx false xs
              ⟨numEncode ((nS + bitOf rPrev : Nat) : Int) :: (cPrev ++ rest), alt, ops⟩
            = .ok ⟨numEncode ((nS' + bitOf rL : Nat) : Int) :: (cL ++ rest), alt, ops'⟩ :=
  fun xs ts hts i acc n hi0 hloop hsl cPrev rPrev _ _ _ _ hrp hA hi =>
    let ⟨_, rL, cL, e, hb, G⟩ :=
      (soundRules h ag).interpRest xs ts hts i acc n hi0 hloop _ _ _ _ _ hi hsl cPrev rPrev rfl hrp hA
    ⟨rL, cL, e, hb, fun rest alt ops hlt => (G hlt rest).eq alt ops⟩

end MsVerif.InterpSound
