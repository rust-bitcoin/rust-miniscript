/-
Lawful three-way comparisons (`LawfulCmp`: `Equal` only on identical arguments, antisymmetric, transitive): `natCmp`, the
lexicographic order of lists, orders that compare a rank first, and the assumption on the atom orders.  Shared by the
order of miniscripts (`CmpOrd`, C19) and the orders of policies (`PolicyOrd`, `PolicySort`, C18, C19).  The namespace is
`MsVerif.CmpOrd`, shared with the module `CmpOrd`.
-/
import MsVerif.Model.Cmp

namespace MsVerif.CmpOrd
open MsVerif

structure LawfulCmp {α : Type} (c : α → α → Ordering) : Prop where
  eq_iff : ∀ a b, c a b = .eq ↔ a = b
  swap : ∀ a b, c b a = (c a b).swap
  trans_lt : ∀ a b d, c a b = .lt → c b d = .lt → c a d = .lt

-- `natCmp a b` and `compare a b` on `Nat` unfold to the same `if a < b … else if a = b …`:
-- the library's lemmas apply as they are
theorem natCmp_lt (a b : Nat) : natCmp a b = .lt ↔ a < b := Nat.compare_eq_lt

theorem natCmp_eq (a b : Nat) : natCmp a b = .eq ↔ a = b := Nat.compare_eq_eq

theorem natCmp_gt (a b : Nat) : natCmp a b = .gt ↔ b < a := Nat.compare_eq_gt

theorem natCmp_lawful : LawfulCmp natCmp where
  eq_iff := natCmp_eq
  swap a b := (Nat.compare_swap a b).symm
  trans_lt a b d := by
    simp only [natCmp_lt]
    omega

def lexCmp {α : Type} (c : α → α → Ordering) : List α → List α → Ordering
  | [], [] => .eq
  | [], _ :: _ => .lt
  | _ :: _, [] => .gt
  | a :: as, b :: bs =>
    match c a b with
    | .lt => .lt
    | .gt => .gt
    | .eq => lexCmp c as bs

theorem lexCmp_lawful {α : Type} {c : α → α → Ordering} (h : LawfulCmp c) : LawfulCmp (lexCmp c) where
  eq_iff a := by
    induction a with
    | nil => intro b; cases b <;> simp [lexCmp]
    | cons x xs ih =>
      intro b
      cases b with
      | nil => simp [lexCmp]
      | cons y ys =>
        rw [lexCmp, List.cons.injEq, ← h.eq_iff, ← ih]
        cases c x y <;> simp
  swap a := by
    induction a with
    | nil => intro b; cases b <;> rfl
    | cons x xs ih =>
      intro b
      cases b with
      | nil => rfl
      | cons y ys =>
        rw [lexCmp, lexCmp, h.swap x y, ih]
        cases c x y <;> rfl
  trans_lt a := by
    induction a with
    | nil => intro b d h1 h2; cases b <;> cases d <;> simp [lexCmp] at h1 h2 ⊢
    | cons x xs ih =>
      intro b d h1 h2
      cases b with
      | nil => simp [lexCmp] at h1
      | cons y ys =>
        cases d with
        | nil => simp [lexCmp] at h2
        | cons z zs =>
          rw [lexCmp] at h1 h2 ⊢
          cases hxy : c x y <;> rw [hxy] at h1 <;> cases hyz : c y z <;> rw [hyz] at h2 <;>
            try contradiction
          · rw [h.trans_lt x y z hxy hyz]
          · rw [← (h.eq_iff y z).1 hyz, hxy]
          · rw [(h.eq_iff x y).1 hxy, hyz]
          · rw [(h.eq_iff x y).1 hxy, hyz]; exact ih ys zs h1 h2

/-! `c` orders elements of different rank `r` by the rank (`hne`).  Then each law holds at given
arguments as soon as it holds there under the assumption that the ranks agree.  (Pointwise, so
that a recursive comparison can appeal to its own laws on subterms.) -/

theorem eq_iff_of_rank {α : Type} {c : α → α → Ordering} (r : α → Nat)
    (hne : ∀ a b, r a ≠ r b → c a b = natCmp (r a) (r b)) (a b : α)
    (heq : r a = r b → (c a b = .eq ↔ a = b)) : c a b = .eq ↔ a = b := by
  by_cases h : r a = r b
  · exact heq h
  · rw [hne a b h, natCmp_eq]
    exact ⟨fun e => absurd e h, fun e => absurd (congrArg r e) h⟩

theorem swap_of_rank {α : Type} {c : α → α → Ordering} (r : α → Nat)
    (hne : ∀ a b, r a ≠ r b → c a b = natCmp (r a) (r b)) (a b : α)
    (hswap : r a = r b → c b a = (c a b).swap) : c b a = (c a b).swap := by
  by_cases h : r a = r b
  · exact hswap h
  · rw [hne a b h, hne b a (Ne.symm h)]
    exact natCmp_lawful.swap _ _

theorem trans_of_rank {α : Type} {c : α → α → Ordering} (r : α → Nat)
    (hne : ∀ a b, r a ≠ r b → c a b = natCmp (r a) (r b)) (a b d : α)
    (htrans : r a = r b → r b = r d → c a d = .lt) (h1 : c a b = .lt) (h2 : c b d = .lt) :
    c a d = .lt := by
  have le : ∀ a b, c a b = .lt → r a ≤ r b := fun a b h => by
    by_cases e : r a = r b
    · omega
    · rw [hne a b e, natCmp_lt] at h; omega
  have := le a b h1
  have := le b d h2
  by_cases e : r a = r d
  · exact htrans (by omega) (by omega)
  · rw [hne a d e, natCmp_lt]; omega

theorem LawfulCmp.of_rank {α : Type} {c : α → α → Ordering} (r : α → Nat)
    (hne : ∀ a b, r a ≠ r b → c a b = natCmp (r a) (r b))
    (heq : ∀ a b, r a = r b → (c a b = .eq ↔ a = b))
    (hswap : ∀ a b, r a = r b → c b a = (c a b).swap)
    (htrans : ∀ a b d, r a = r b → r b = r d → c a b = .lt → c b d = .lt → c a d = .lt) :
    LawfulCmp c where
  eq_iff a b := eq_iff_of_rank r hne a b (heq a b)
  swap a b := swap_of_rank r hne a b (hswap a b)
  trans_lt a b d h1 h2 := trans_of_rank r hne a b d (fun e1 e2 => htrans a b d e1 e2 h1 h2) h1 h2

/-- the atom orders are lawful total orders (an assumption about `Pk: Ord`, `hash160::Hash: Ord`, …) -/
structure LawfulAtoms (o : AtomOrd) : Prop where
  key : LawfulCmp o.key
  rawPkh : LawfulCmp o.rawPkh
  hash : ∀ kind, LawfulCmp (o.hash kind)

end MsVerif.CmpOrd
