/-
`pushVerify` (Rust's `push_verify`: a fused `*VERIFY` opcode is the plain opcode followed by an
uncounted VERIFY (`verifyTail env true`), provided the boolean pushed in between has room: `StkOk`), and the simulation
relation `Sim ops f` with its combinators: append, straight-line code, `IF X ENDIF`,
`IF X ELSE Y ENDIF`, `pushVerify`.
-/
import MsVerif.Lemmas.BridgeStk

namespace MsVerif.Bridge
open MsVerif MsVerif.Script

/-- rust-bitcoin's `opcode_to_verify` -/
def Fuse (o ov : Opc) : Prop :=
  (o = .equal ∧ ov = .equalverify) ∨ (o = .numequal ∧ ov = .numequalverify) ∨
  (o = .checksig ∧ ov = .checksigverify) ∨ (o = .checkmultisig ∧ ov = .checkmultisigverify)

theorem Fuse.plain {o ov : Opc} (h : Fuse o ov) : Opc.plain o = true ∧ Opc.plain ov = true := by
  rcases h with ⟨rfl, rfl⟩ | ⟨rfl, rfl⟩ | ⟨rfl, rfl⟩ | ⟨rfl, rfl⟩ <;> exact ⟨rfl, rfl⟩

theorem pushVerify_cases (s : List Op) :
    (∃ pre o ov, Fuse o ov ∧ s = pre ++ [.code o] ∧ pushVerify s = pre ++ [.code ov] ∧ endsFusable s = true)
    ∨ (pushVerify s = s ++ [.code .verify] ∧ endsFusable s = false) := by
  fun_cases pushVerify s
  case case5 =>
    refine .inr ⟨rfl, ?_⟩
    unfold endsFusable
    split <;> first | rfl | contradiction
  all_goals
    rename_i h
    refine .inl ⟨s.dropLast, _, _, ?_, List.eq_dropLast_append_of_getLast? s _ h, rfl, by simp only [endsFusable, h]⟩
    simp [Fuse]

theorem pushElem_bool (env : Env) (stk alt : List Bytes) (n : Nat) (b : Bool)
    (h : env.flags.stackLimits = true → stk.length + 1 + alt.length ≤ 1000) :
    pushElem env ⟨stk, alt, n⟩ (boolBytes b) = .ok ⟨boolBytes b :: stk, alt, n⟩ := by
  unfold pushElem
  dsimp only
  have hb := boolBytes_length b
  rw [if_neg, if_neg]
  · simp only [Bool.and_eq_true, decide_eq_true_eq, List.length_cons, not_and, Nat.not_lt]
    intro hl; have := h hl; omega
  · simp only [Bool.and_eq_true, decide_eq_true_eq, not_and, Nat.not_lt]
    intro _; omega

theorem pushBool_vfy (env : Env) (stk alt : List Bytes) (n : Nat) (b : Bool)
    (h : env.flags.stackLimits = true → stk.length + 1 + alt.length ≤ 1000) :
    (pushElem env ⟨stk, alt, n⟩ (boolBytes b) >>= verifyTail env true)
      = if b then .ok ⟨stk, alt, n⟩ else .error .verifyFailed := by
  rw [pushElem_bool env stk alt n b h]
  simp only [bind_ok, verifyTail_fused, castToBool_boolBytes]

/-- an `if … then .error …` layer common to both sides is peeled without looking below it (`split` on terms of
the depth of `multisig` is dearer by more than an order of magnitude) -/
theorem guard_bind {p : Prop} [Decidable p] {e : Err} {x y : Except Err Core} {f : Core → Except Err Core}
    (h : x = (y >>= f)) : (if p then .error e else x) = ((if p then .error e else y) >>= f) := by
  split
  · rfl
  · exact h

theorem fuse_multisig (env : Env) (c : Core) (h : StkOk env c) :
    multisig env c true = (multisig env c false >>= verifyTail env true) := by
  obtain ⟨st, alt, ops⟩ := c
  rw [multisig_eq, multisig_eq]
  refine guard_bind ?_
  cases st with
  | nil => rfl
  | cons nB r =>
  dsimp only
  cases numDecode env.flags.minimalNum 4 nB with
  | none => rfl
  | some nI =>
  refine guard_bind ?_
  cases hc : countOp env ⟨nB :: r, alt, ops⟩ nI.toNat with
  | error e => rfl
  | ok s =>
  cases ha : msArgs env nI r with
  | error e => rfl
  | ok a =>
  obtain ⟨keys, sigs, dummy, rest⟩ := a
  obtain ⟨_, _, _, _, _, _, _, rfl⟩ := msArgs_ok ha
  -- the verdict alone differs: checked, or pushed into the room the arguments left and then checked
  show msTail env true s.alt s.ops (keys, sigs, dummy, rest) = (msTail env false s.alt s.ops (keys, sigs, dummy, rest) >>= verifyTail env true)
  unfold msTail
  cases multisigLoop env sigs keys with
  | error e => rfl
  | ok ok =>
  refine guard_bind (guard_bind (pushBool_vfy env rest s.alt s.ops ok fun hl => ?_).symm)
  have := h hl
  rw [(countOp_stack hc).2]
  simp only [List.length_cons, List.length_append] at this ⊢
  omega

theorem fuse_execOpc (env : Env) (o ov : Opc) (hf : Fuse o ov) (c : Core) (h : StkOk env c) :
    execOpc env ov c = (execOpc env o c >>= verifyTail env true) := by
  rcases hf with ⟨rfl, rfl⟩ | ⟨rfl, rfl⟩ | ⟨rfl, rfl⟩ | ⟨rfl, rfl⟩
  case inr.inr.inr =>
    rw [execOpc_cmsv, execOpc_cms]
    exact fuse_multisig env c h
  -- EQUAL, NUMEQUAL, CHECKSIG: two arguments go, then the boolean is pushed into the room they left
  all_goals
    obtain ⟨stk, alt, n⟩ := c
    rcases stk with _ | ⟨a, _ | ⟨b, r⟩⟩
    · rfl
    · rfl
    · have hroom : env.flags.stackLimits = true → r.length + 1 + alt.length ≤ 1000 := fun hl => by
        have := h hl
        simp only [List.length_cons] at this
        omega
      simp only [execOpc, bind_assoc, pushBool_vfy env r alt n _ hroom]

theorem fuse_opc (env : Env) (o ov : Opc) (hf : Fuse o ov) (c : Core) (h : StkOk env c) :
    opc env ov c = (opc env o c >>= verifyTail env true) := by
  unfold opc
  cases hc : countOp env c 1 with
  | error e => rfl
  | ok c1 => exact fuse_execOpc env o ov hf c1 (good_countOp env c 1 h c1 hc)

def vfyS (env : Env) (s : State) : Except Err State :=
  if s.executing then lift s.conds (verifyTail env true s.core) else .ok s

/-- a fused opcode is the plain one followed by an uncounted VERIFY, in any state: so the script in front of
it need not be understood -/
theorem step_fuse (env : Env) {o ov : Opc} (hf : Fuse o ov) (s : State) (h : StkOk env s.core) :
    step env s (.code ov) = (step env s (.code o) >>= vfyS env) := by
  obtain ⟨c, cs⟩ := s
  cases hcs : cs.all id with
  | true =>
    rw [step_plain env (.code o) hf.plain.1 c cs hcs, step_plain env (.code ov) hf.plain.2 c cs hcs]
    show lift cs (opc env ov c) = (lift cs (opc env o c) >>= vfyS env)
    rw [fuse_opc env o ov hf c h]
    cases opc env o c with
    | error e => rfl
    | ok c1 => simp only [bind_ok, lift_ok, vfyS, State.executing, hcs, if_true]
  | false =>
    rw [step_dead env _ c cs hcs, step_dead env _ c cs hcs, deadConds_plain (.code o) hf.plain.1,
      deadConds_plain (.code ov) hf.plain.2]
    show lift cs (countOp env c 1) = (lift cs (countOp env c 1) >>= vfyS env)
    cases countOp env c 1 with
    | error e => rfl
    | ok c1 => simp only [bind_ok, lift_ok, vfyS, State.executing, hcs, Bool.false_eq_true, if_false]

theorem run_fuse (env : Env) {o ov : Opc} (hf : Fuse o ov) (pre : List Op) (s : State)
    (h : StkOk env s.core) :
    run env (pre ++ [.code ov]) s = (run env (pre ++ [.code o]) s >>= vfyS env) := by
  rw [run_append, run_append]
  cases hp : run env pre s with
  | error e => rfl
  | ok s1 =>
    simp only [bind_ok, run_single]
    exact step_fuse env hf s1 (run_stkOk env pre s s1 h hp)

theorem lift_vfyS {env : Env} {cs : List Bool} (hcs : cs.all id = true) (x : Except Err Core) :
    (lift cs x >>= vfyS env) = lift cs (x >>= verifyTail env true) := by
  cases x with
  | error e => rfl
  | ok c => simp only [bind_ok, lift_ok, vfyS, State.executing, hcs, if_true]

/-- `ops` is a balanced block and, if the closed form of a dead region is exact for it (`SkipHyp`), then on
every executing state within the stack limit the flat interpreter on `ops` does what `f env` does on the core
state and leaves the condition stack alone.  Balance and the side condition pass to the parts of a script
by themselves, so the induction over fragments mentions neither. -/
structure Sim (ops : List Op) (f : Env → Core → Except Err Core) : Prop where
  isBalanced : balanced ops = true
  runs : ∀ env, SkipHyp env ops → ∀ c cs, cs.all id = true → StkOk env c →
    run env ops ⟨c, cs⟩ = lift cs (f env c)

theorem stk_of_run {env : Env} {ops : List Op} {c c' : Core} {cs cs' : List Bool}
    {x : Except Err Core} (hr : run env ops ⟨c, cs⟩ = lift cs' x) (hx : x = .ok c')
    (h : StkOk env c) : StkOk env c' := by
  subst hx
  exact run_stkOk env ops ⟨c, cs⟩ ⟨c', cs'⟩ h hr

/-- one piece after another; the condition stack may change in between -/
theorem run_seq {env : Env} {xs ys : List Op} {c : Core} {cs cs' cs'' : List Bool} {x : Except Err Core}
    {g : Core → Except Err Core} (h1 : run env xs ⟨c, cs⟩ = lift cs' x)
    (h2 : ∀ c', x = .ok c' → run env ys ⟨c', cs'⟩ = lift cs'' (g c')) :
    run env (xs ++ ys) ⟨c, cs⟩ = lift cs'' (x >>= g) := by
  rw [run_append, h1]
  cases x with
  | error e => rfl
  | ok c' => exact h2 c' rfl

theorem Sim.nil : Sim [] (fun _ c => .ok c) :=
  ⟨rfl, fun _ _ _ _ _ _ => rfl⟩

theorem Sim.op1 (op : Op) (h : Op.plain op = true) : Sim [op] (fun env => pshOp env op) :=
  ⟨balanced_plain_cons op [] h rfl, fun env _ c cs hcs _ => by
    rw [run_single, step_plain env op h c cs hcs]⟩

theorem Sim.append {xs ys : List Op} {f g : Env → Core → Except Err Core}
    (hx : Sim xs f) (hy : Sim ys g) : Sim (xs ++ ys) (fun env c => f env c >>= g env) :=
  ⟨balanced_append xs ys hx.isBalanced hy.isBalanced, fun env hk c cs hcs hstk =>
    have hr := hx.runs env hk.left c cs hcs hstk
    run_seq hr fun c1 hf => hy.runs env hk.right c1 cs hcs (stk_of_run hr hf hstk)⟩

theorem Sim.straight (ops : List Op) (h : straight ops = true) :
    Sim ops (fun env => seqOps env ops) := by
  induction ops with
  | nil => exact Sim.nil
  | cons op ops ih =>
    simp only [Bridge.straight, List.all_cons, Bool.and_eq_true] at h
    exact Sim.append (Sim.op1 op h.1) (ih h.2)

theorem Sim.cons_opc {ys : List Op} {g : Env → Core → Except Err Core} (o : Opc)
    (h : Opc.plain o = true) (hy : Sim ys g) :
    Sim (.code o :: ys) (fun env c => opc env o c >>= g env) :=
  Sim.append (Sim.op1 (.code o) h) hy

theorem Sim.snoc_opc {xs : List Op} {f : Env → Core → Except Err Core} (o : Opc)
    (h : Opc.plain o = true) (hx : Sim xs f) :
    Sim (xs ++ [.code o]) (fun env c => f env c >>= opc env o) :=
  Sim.append hx (Sim.op1 (.code o) h)

/-- the body of a conditional, in either mode -/
theorem run_branch {env : Env} {X : List Op} {f : Env → Core → Except Err Core} (hX : Sim X f)
    (hk : SkipHyp env X) (v : Bool) (c : Core) (cs : List Bool)
    (hcs : cs.all id = true) (hstk : StkOk env c) (hcnt : CntOk env c) :
    run env X ⟨c, v :: cs⟩ = lift (v :: cs) (if v = true then f env c else skipCount env X c) := by
  cases v with
  | true => exact hX.runs env hk c (true :: cs) (by simp [hcs]) hstk
  | false =>
    rw [run_skip env X hX.isBalanced c cs, skipRun_eq_skipCount env X c hk hcnt]
    rfl

theorem Sim.ifThen (nf : Bool) {X : List Op} {f : Env → Core → Except Err Core} (hX : Sim X f) :
    Sim (.code (condOpc nf) :: (X ++ [.code .endif])) (fun env => MsVerif.ifThen env nf X (f env)) := by
  refine ⟨balanced_ifThen nf X hX.isBalanced, fun env hk c cs hcs hstk => ?_⟩
  show _ = lift cs (MsVerif.ifThen env nf X (f env) c)
  rw [run_cons, step_cond env nf c cs hcs, ifThen_eq]
  cases hc : cnd env nf c with
  | error e => rfl
  | ok p =>
    obtain ⟨v, c1⟩ := p
    obtain ⟨hs1, hk1⟩ := cnd_ok env nf v c c1 hstk hc
    exact run_seq (run_branch hX hk.tail.left v c1 cs hcs hs1 hk1) fun c2 _ => by
      rw [run_single, step_endif]

theorem Sim.ifElse (nf : Bool) {X Y : List Op} {f g : Env → Core → Except Err Core}
    (hX : Sim X f) (hY : Sim Y g) :
    Sim (.code (condOpc nf) :: (X ++ .code .else_ :: (Y ++ [.code .endif])))
      (fun env => MsVerif.ifElse env nf X Y (f env) (g env)) := by
  refine ⟨balanced_ifElse nf X Y hX.isBalanced hY.isBalanced, fun env hk c cs hcs hstk => ?_⟩
  show _ = lift cs (MsVerif.ifElse env nf X Y (f env) (g env) c)
  rw [run_cons, step_cond env nf c cs hcs, ifElse_eq]
  cases hc : cnd env nf c with
  | error e => rfl
  | ok p =>
    obtain ⟨v, c1⟩ := p
    obtain ⟨hs1, hk1⟩ := cnd_ok env nf v c c1 hstk hc
    have hrX := run_branch hX hk.tail.left v c1 cs hcs hs1 hk1
    refine run_seq hrX fun c2 hf => ?_
    have hELSE : run env [.code .else_] ⟨c2, v :: cs⟩ = lift ((!v) :: cs) (countOp env c2 1) := by
      rw [run_single, step_else]
    refine run_seq (xs := [.code .else_]) hELSE fun c3 h3 => ?_
    have hs3 := good_countOp env c2 1 (stk_of_run hrX hf hs1) c3 h3
    have hrY : run env Y ⟨c3, (!v) :: cs⟩ = lift ((!v) :: cs) (if v = true then skipCount env Y c3 else g env c3) := by
      rw [run_branch hY hk.tail.right.tail.left (!v) c3 cs hcs hs3 (countOp_cntOk env c2 c3 1 h3)]
      cases v <;> rfl
    exact run_seq hrY fun c4 _ => by rw [run_single, step_endif]

theorem balanced_pushVerify (E : List Op) (h : balanced E = true) : balanced (pushVerify E) = true := by
  rcases pushVerify_cases E with ⟨pre, o, ov, hf, hEq, hpv, _⟩ | ⟨hpv, _⟩
  · rw [balanced_iff] at *
    rw [hpv, bal_append_plain 0 pre (.code ov) hf.plain.2]
    rw [hEq, bal_append_plain 0 pre (.code o) hf.plain.1] at h
    exact h
  · rw [hpv]
    exact balanced_append E _ h rfl

theorem bigPush_pushVerify (E : List Op) : bigPush (pushVerify E) = bigPush E := by
  rcases pushVerify_cases E with ⟨pre, o, ov, _, hEq, hpv, _⟩ | ⟨hpv, _⟩
  · rw [hpv, hEq, bigPush_append, bigPush_append]; rfl
  · rw [hpv, bigPush_append]; simp [bigPush]

theorem Sim.pushVerify {E : List Op} {f : Env → Core → Except Err Core} (hE : Sim E f) :
    Sim (pushVerify E) (fun env c => f env c >>= verifyTail env (endsFusable E)) := by
  rcases pushVerify_cases E with ⟨pre, o, ov, hf, hEq, hpv, hfus⟩ | ⟨hpv, hfus⟩
  · refine ⟨balanced_pushVerify E hE.isBalanced, fun env hk c cs hcs hstk => ?_⟩
    show _ = lift cs (f env c >>= verifyTail env (endsFusable E))
    rw [hpv, run_fuse env hf pre _ hstk, ← hEq,
      hE.runs env (hk.mono fun h => by rwa [bigPush_pushVerify] at h) c cs hcs hstk, lift_vfyS hcs, hfus]
  · rw [hpv]
    have hv : ∀ env, verifyTail env (endsFusable E) = opc env .verify := fun env => by rw [hfus]; rfl
    simp only [hv]
    exact Sim.snoc_opc .verify rfl hE

end MsVerif.Bridge
