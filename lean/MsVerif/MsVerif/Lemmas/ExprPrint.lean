/-
The pre-check accepts everything the printer emits: running pass 1 over `print t` adds
`size t - 1` to the node count, raises the maximal depth to `stack height + depth t` and leaves
the paren stack unchanged (`preLoop_tree`, for trees that are `Tree.WF`: names of valid characters without brackets, brackets iff children;
`wfB` decides it), hence `parsePreCheck_print`; printed text passes the checksum scan (`Clean`, `print_clean`); the towers `nest n` of Thm/C11's examples.
-/
import MsVerif.Lemmas.ExprPre
import MsVerif.Lemmas.ChecksumString

namespace MsVerif.Expr
open MsVerif.Checksum

/-- the characters with a meaning in the expression grammar -/
def special (c : Char) : Prop := c = '(' ∨ c = ')' ∨ c = '{' ∨ c = '}' ∨ c = ',' ∨ c = '#'

/-- a character that may occur in a node name; `NameOk` below says it of every character, written out -/
def CharOk (ch : Char) : Prop := validChar ch = true ∧ ¬ special ch

def NameOk (name : List Char) : Prop := ∀ c ∈ name, validChar c = true ∧ ¬ special c

mutual
/-- well-formed: clean names, and a node has brackets iff it has children -/
def Tree.WF : Tree → Prop
  | .node name p cs => NameOk name ∧ (p = .none ↔ cs = []) ∧ Tree.WFList cs
def Tree.WFList : List Tree → Prop
  | [] => True
  | t :: ts => t.WF ∧ Tree.WFList ts
end

def charOkB (ch : Char) : Bool :=
  validChar ch && !(ch == '(' || ch == ')' || ch == '{' || ch == '}' || ch == ',' || ch == '#')

theorem charOkB_ok (ch : Char) (h : charOkB ch = true) : CharOk ch := by
  unfold charOkB at h
  simp only [Bool.and_eq_true, Bool.not_eq_true', Bool.or_eq_false_iff, beq_eq_false_iff_ne] at h
  refine ⟨h.1, ?_⟩
  unfold special
  intro hs
  rcases hs with e | e | e | e | e | e <;> simp_all

theorem nameOk_of_all (l : List Char) (h : l.all charOkB = true) : NameOk l := by
  intro ch hc
  exact charOkB_ok ch (List.all_eq_true.mp h ch hc)

theorem NameOk.nil : NameOk [] := nofun

theorem NameOk.snoc {pre : List Char} (hp : NameOk pre) (x : Char) (hx : CharOk x) :
    NameOk (pre ++ [x]) := by
  intro ch hc
  simp only [List.mem_append, List.mem_singleton] at hc
  rcases hc with h | h
  · exact hp ch h
  · subst h; exact hx

mutual
/-- `Tree.WF` as a computation, for concrete trees -/
def Tree.wfB : Tree → Bool
  | .node name p cs => name.all charOkB && ((p == .none) == cs.isEmpty) && Tree.wfListB cs
def Tree.wfListB : List Tree → Bool
  | [] => true
  | t :: ts => t.wfB && Tree.wfListB ts
end

mutual
theorem Tree.wf_of_wfB : ∀ t : Tree, t.wfB = true → t.WF
  | .node name p cs, h => by
    simp only [Tree.wfB, Bool.and_eq_true] at h
    refine ⟨nameOk_of_all name h.1.1, ?_, Tree.wfList_of_wfListB cs h.2⟩
    cases cs <;> simp_all
theorem Tree.wfList_of_wfListB : ∀ cs : List Tree, Tree.wfListB cs = true → Tree.WFList cs
  | [], _ => trivial
  | t :: ts, h => by
    simp only [Tree.wfListB, Bool.and_eq_true] at h
    exact ⟨t.wf_of_wfB h.1, Tree.wfList_of_wfListB ts h.2⟩
end

theorem not_special {c : Char} (h : ¬ special c) : ¬ isOpen c ∧ ¬ isClose c ∧ c ≠ ',' := by
  unfold special at h; unfold isOpen isClose
  exact ⟨fun e => h (by rcases e with e | e <;> simp [e]), fun e => h (by rcases e with e | e <;> simp [e]),
    fun e => h (by simp [e])⟩

theorem preLoop_name {len : Nat} (name : List Char) (hn : NameOk name) (pos : Nat)
    (rest : List Char) (st : PreSt) :
    preLoop len pos (name ++ rest) st = preLoop len (pos + name.length) rest st := by
  induction name generalizing pos with
  | nil => simp
  | cons c cs ih =>
    have hc := (hn c List.mem_cons_self).2
    obtain ⟨h1, h2, h3⟩ := not_special hc
    rw [List.cons_append, preLoop_cons_ok (PStep.other h1 h2 h3).ok, ih (fun d hd => hn d (List.mem_cons_of_mem _ hd))]
    simp only [List.length_cons]; congr 1; omega

/-- state after a complete subtree -/
def adv (st : PreSt) (size depth : Nat) : PreSt :=
  { nNodes := st.nNodes + (size - 1)
    maxDepth := max st.maxDepth (st.stack.length + depth)
    stack := st.stack }

def openCh : Parens → Char | .curly => '{' | _ => '('
def closeCh : Parens → Char | .curly => '}' | _ => ')'

theorem print_node (name : List Char) (p : Parens) (cs : List Tree) (hp : p ≠ .none) :
    (Tree.node name p cs).print = name ++ openCh p :: (Tree.printList cs ++ [closeCh p]) := by
  cases p with
  | none => exact absurd rfl hp
  | round => simp [Tree.print, openCh, closeCh]
  | curly => simp [Tree.print, openCh, closeCh]

theorem printList_cons_cons (t t2 : Tree) (ts : List Tree) :
    Tree.printList (t :: t2 :: ts) = t.print ++ ',' :: Tree.printList (t2 :: ts) := by
  simp [Tree.printList]

theorem Tree.sizeList_pos (cs : List Tree) (h : cs ≠ []) : 0 < Tree.sizeList cs := by
  cases cs with
  | nil => exact absurd rfl h
  | cons t ts => cases t; simp [Tree.sizeList, Tree.size]; omega

theorem Tree.depthList_pos (cs : List Tree) (h : cs ≠ []) : 0 < Tree.depthList cs := by
  cases cs with
  | nil => exact absurd rfl h
  | cons t ts => simp only [Tree.depthList, Nat.max_def]; split <;> omega

theorem Tree.size_pos (t : Tree) : 0 < t.size := by cases t; simp [Tree.size]; omega

/-- what must follow a bracketed subtree for the pre-check to continue -/
def Follow (stack : List (Char × Nat)) (rest : List Char) : Prop :=
  if stack = [] then rest = [] else ∃ c, rest.head? = some c ∧ isSep c

theorem preStep_closer {len pos : Nat} {p : Parens} (hp : p ≠ .none) {opos : Nat}
    {stack : List (Char × Nat)} {n m : Nat} {rest : List Char}
    (hlen : len = pos + 1 + rest.length) (hf : Follow stack rest) :
    preStep len ⟨n, m, (openCh p, opos) :: stack⟩ pos (closeCh p) rest = .ok ⟨n + 1, m, stack⟩ := by
  have hcl : isClose (closeCh p) := by cases p <;> simp [closeCh, isClose]
  have hmm : ¬ ((openCh p = '(' ∧ closeCh p = '}') ∨ (openCh p = '{' ∧ closeCh p = ')')) := by
    cases p <;> simp [openCh, closeCh]
  unfold Follow at hf
  refine (PStep.cls (st := ⟨n, m, (openCh p, opos) :: stack⟩) hcl rfl hmm ?_ ?_).ok
  · intro hne
    rw [if_neg hne] at hf
    obtain ⟨c, hc, hsep⟩ := hf
    have : rest.length ≠ 0 := fun e => by rw [List.eq_nil_of_length_eq_zero e] at hc; cases hc
    exact ⟨by omega, c, hc, hsep⟩
  · intro he
    rw [if_pos he] at hf
    subst hf
    simp only [List.length_nil] at hlen
    omega

theorem isOpen_openCh (p : Parens) : isOpen (openCh p) := by cases p <;> simp [openCh, isOpen]

/- The bookkeeping of `adv` over a child list, on plain numbers (`omega` is slow in the context of
the induction below): `m` is the maximal depth so far, `s` the stack height, `n` the node count. -/
theorem depth_acc (m s a b : Nat) (hs : s ≠ 0) :
    max (max m (s + a)) (s - 1 + b) = max m (s - 1 + max (a + 1) b) := by
  obtain ⟨k, rfl⟩ : ∃ k, s = k + 1 := ⟨s - 1, by omega⟩
  rw [Nat.max_assoc, Nat.add_sub_cancel, Nat.add_assoc, Nat.add_comm 1 a, Nat.add_max_add_left]

theorem depth_node (m s d : Nat) (hd : 0 < d) : max (max m (s + 1)) (s + d) = max m (s + d) := by
  rw [Nat.max_assoc, Nat.add_max_add_left, Nat.max_eq_right hd]

theorem depth_single (m s a : Nat) (hs : s ≠ 0) : max m (s + a) = max m (s - 1 + max (a + 1) 0) := by
  obtain ⟨k, rfl⟩ : ∃ k, s = k + 1 := ⟨s - 1, by omega⟩
  rw [Nat.max_zero, Nat.add_sub_cancel, Nat.add_assoc, Nat.add_comm 1 a]

theorem size_acc (n a b : Nat) (ha : 0 < a) (hb : 0 < b) :
    n + (a - 1) + 1 + (b - 1) = n + (a + b - 1) := by omega

theorem isSep_comma : isSep ',' := Or.inl rfl
theorem isSep_close (p : Parens) : isSep (closeCh p) := by cases p <;> simp [isSep, closeCh]

mutual
theorem preLoop_tree (t : Tree) (hw : t.WF) (len pos : Nat) (rest : List Char) (st : PreSt)
    (hlen : len = pos + (t.print ++ rest).length) (hd : st.stack.length ≤ st.maxDepth)
    (hf : Follow st.stack rest) :
    preLoop len pos (t.print ++ rest) st
      = preLoop len (pos + t.print.length) rest (adv st t.size t.depth) := by
  match t, hw with
  | .node name p cs, hw =>
    unfold Tree.WF at hw
    obtain ⟨hn, hpc, hcs⟩ := hw
    by_cases hp : p = .none
    · have hc := hpc.mp hp
      subst hp; subst hc
      simp only [Tree.print]
      rw [preLoop_name name hn]
      congr 1
      have : max st.maxDepth st.stack.length = st.maxDepth := by omega
      simp [adv, Tree.size, Tree.sizeList, Tree.depth, Tree.depthList, this]
    · have hne : cs ≠ [] := fun e => hp (hpc.mpr e)
      rw [print_node name p cs hp] at hlen ⊢
      have e1 : name ++ openCh p :: (Tree.printList cs ++ [closeCh p]) ++ rest
          = name ++ (openCh p :: (Tree.printList cs ++ closeCh p :: rest)) := by simp
      rw [e1] at hlen ⊢
      rw [preLoop_name name hn, preLoop_cons_ok (PStep.opn (isOpen_openCh p)).ok]
      have hlen1 : len = pos + name.length + 1 + (Tree.printList cs ++ closeCh p :: rest).length := by
        simp only [List.length_append, List.length_cons] at hlen ⊢; omega
      rw [preLoop_list cs hne hcs len (pos + name.length + 1) (closeCh p :: rest)
        { st with stack := (openCh p, pos + name.length) :: st.stack
                  maxDepth := max st.maxDepth (st.stack.length + 1) }
        hlen1 (by simp) (by simp only [List.length_cons]; omega)
        ⟨closeCh p, rfl, isSep_close p⟩]
      have hlen2 : len = pos + name.length + 1 + (Tree.printList cs).length + 1 + rest.length := by
        simp only [List.length_append, List.length_cons] at hlen ⊢; omega
      rw [preLoop_cons_ok (preStep_closer hp hlen2 hf)]
      have hsz := Tree.sizeList_pos cs hne
      have hdp := Tree.depthList_pos cs hne
      congr 1
      · simp only [List.length_append, List.length_cons, List.length_nil]; omega
      · simp only [adv, Tree.size, Tree.depth, List.length_cons]
        congr 1
        · omega
        · simp only [Nat.add_sub_cancel]; exact depth_node _ _ _ hdp
theorem preLoop_list (cs : List Tree) (hne : cs ≠ []) (hw : Tree.WFList cs) (len pos : Nat)
    (rest : List Char) (st : PreSt) (hlen : len = pos + (Tree.printList cs ++ rest).length)
    (hst : st.stack ≠ []) (hd : st.stack.length ≤ st.maxDepth)
    (hf : ∃ c, rest.head? = some c ∧ isSep c) :
    preLoop len pos (Tree.printList cs ++ rest) st
      = preLoop len (pos + (Tree.printList cs).length) rest
          { nNodes := st.nNodes + (Tree.sizeList cs - 1)
            maxDepth := max st.maxDepth (st.stack.length - 1 + Tree.depthList cs)
            stack := st.stack } := by
  match cs, hne, hw with
  | [t], _, hw =>
    unfold Tree.WFList at hw
    simp only [Tree.printList]
    have hfol : Follow st.stack rest := by unfold Follow; simp only [hst, if_false]; exact hf
    rw [preLoop_tree t hw.1 len pos rest st hlen hd hfol]
    have : st.stack.length ≠ 0 := fun e => hst (List.eq_nil_of_length_eq_zero e)
    congr 1
    simp only [adv, Tree.sizeList, Tree.depthList, Nat.add_zero]
    congr 1
    exact depth_single _ _ _ this
  | t :: t2 :: ts, _, hw =>
    unfold Tree.WFList at hw
    obtain ⟨hw1, hw2⟩ := hw
    rw [printList_cons_cons] at hlen ⊢
    have e1 : t.print ++ ',' :: Tree.printList (t2 :: ts) ++ rest
        = t.print ++ (',' :: (Tree.printList (t2 :: ts) ++ rest)) := by simp
    rw [e1] at hlen ⊢
    have hfol : Follow st.stack (',' :: (Tree.printList (t2 :: ts) ++ rest)) := by
      unfold Follow; simp only [hst, if_false]; exact ⟨',', rfl, isSep_comma⟩
    rw [preLoop_tree t hw1 len pos _ st hlen hd hfol]
    have hst' : (adv st t.size t.depth).stack ≠ [] := hst
    rw [preLoop_cons_ok (PStep.comma hst').ok]
    have hlen1 : len = pos + t.print.length + 1 + (Tree.printList (t2 :: ts) ++ rest).length := by
      simp only [List.length_append, List.length_cons] at hlen ⊢; omega
    have hd' : (adv st t.size t.depth).stack.length ≤ (adv st t.size t.depth).maxDepth := by
      simp only [adv]; omega
    rw [preLoop_list (t2 :: ts) (by simp) hw2 len _ rest
      { adv st t.size t.depth with nNodes := (adv st t.size t.depth).nNodes + 1 } hlen1 hst' hd' hf]
    have h1 := Tree.size_pos t
    have h2 := Tree.sizeList_pos (t2 :: ts) (by simp)
    have : st.stack.length ≠ 0 := fun e => hst (List.eq_nil_of_length_eq_zero e)
    congr 1
    · simp only [List.length_append, List.length_cons]; omega
    · simp only [adv]
      congr 1
      · rw [Tree.sizeList]
        exact size_acc _ _ _ h1 h2
      · rw [Tree.depthList]
        exact depth_acc _ _ _ _ this
end

def Clean (l : List Char) : Prop := ∀ c ∈ l, validChar c = true ∧ c ≠ '#'

theorem Clean.append {a b : List Char} (ha : Clean a) (hb : Clean b) : Clean (a ++ b) := by
  intro c hc; rcases List.mem_append.mp hc with h | h
  · exact ha c h
  · exact hb c h

theorem Clean.cons {c : Char} {l : List Char} (hc : validChar c = true ∧ c ≠ '#') (hl : Clean l) :
    Clean (c :: l) := by
  intro d hd; rcases List.mem_cons.mp hd with h | h
  · rw [h]; exact hc
  · exact hl d h

theorem Clean.name {name : List Char} (h : NameOk name) : Clean name := by
  intro c hc
  obtain ⟨h1, h2⟩ := h c hc
  exact ⟨h1, fun e => h2 (by unfold special; simp [e])⟩

theorem clean_open (p : Parens) : validChar (openCh p) = true ∧ openCh p ≠ '#' := by
  cases p <;> decide
theorem clean_close (p : Parens) : validChar (closeCh p) = true ∧ closeCh p ≠ '#' := by
  cases p <;> decide

mutual
theorem print_clean (t : Tree) (hw : t.WF) : Clean t.print := by
  match t, hw with
  | .node name p cs, hw =>
    unfold Tree.WF at hw
    obtain ⟨hn, hpc, hcs⟩ := hw
    by_cases hp : p = .none
    · subst hp; simp only [Tree.print]; exact Clean.name hn
    · rw [print_node name p cs hp]
      exact (Clean.name hn).append (Clean.cons (clean_open p)
        ((printList_clean cs hcs).append (Clean.cons (clean_close p) (fun _ h => by cases h))))
theorem printList_clean (cs : List Tree) (hw : Tree.WFList cs) : Clean (Tree.printList cs) := by
  match cs, hw with
  | [], _ => intro c hc; simp [Tree.printList] at hc
  | [t], hw => unfold Tree.WFList at hw; simp only [Tree.printList]; exact print_clean t hw.1
  | t :: t2 :: ts, hw =>
    unfold Tree.WFList at hw
    rw [printList_cons_cons]
    exact (print_clean t hw.1).append (Clean.cons (by decide) (printList_clean (t2 :: ts) hw.2))
end

theorem verify_clean {l : List Char} (h : Clean l) : verifyChecksumL l = .ok l :=
  verify_nohash (fun c hc => (h c hc).1) (fun hc => (h _ hc).2 rfl)

theorem preLoop_print (t : Tree) (hw : t.WF) :
    preLoop t.print.length 0 t.print ⟨1, 0, []⟩ = .ok ⟨t.size, t.depth, []⟩ := by
  have h := preLoop_tree t hw t.print.length 0 [] ⟨1, 0, []⟩ (by simp) (Nat.le_refl _)
    (by simp [Follow])
  rw [List.append_nil] at h
  rw [h]
  have hs := Tree.size_pos t
  simp only [preLoop, adv, pure, Except.pure, List.length_nil, Nat.zero_add]
  rw [show max 0 t.depth = t.depth by omega, show 1 + (t.size - 1) = t.size by omega]

theorem parsePreCheck_print (t : Tree) (hw : t.WF) (hd : t.depth ≤ MAX_RECURSION_DEPTH + 1) :
    parsePreCheck t.print = .ok (t.print, t.depth, t.size) := by
  unfold parsePreCheck
  rw [verify_clean (print_clean t hw)]
  simp only [preLoop_print t hw]
  rw [if_neg (by omega)]
  rfl

/-- `n` pairs of round brackets around the empty name: the deepest nesting for its length -/
def nest : Nat → Tree
  | 0 => .node [] .none []
  | n + 1 => .node [] .round [nest n]

theorem nest_print (n : Nat) : (nest n).print = List.replicate n '(' ++ List.replicate n ')' := by
  induction n with
  | zero => rfl
  | succ n ih =>
    rw [nest, Tree.print, Tree.printList, ih, List.replicate_succ, List.replicate_succ']
    simp

theorem nest_wf : ∀ n, (nest n).WF
  | 0 => by
    rw [nest, Tree.WF]
    exact ⟨fun _ h => (nomatch h), ⟨fun _ => rfl, fun _ => rfl⟩, trivial⟩
  | n + 1 => by
    rw [nest, Tree.WF, Tree.WFList, Tree.WFList]
    exact ⟨fun _ h => (nomatch h), by simp, nest_wf n, trivial⟩

theorem nest_depth (n : Nat) : (nest n).depth = n := by
  induction n with
  | zero => rfl
  | succ n ih => rw [nest, Tree.depth, Tree.depthList, Tree.depthList, ih, Nat.max_zero]

theorem nest_size (n : Nat) : (nest n).size = n + 1 := by
  induction n with
  | zero => rfl
  | succ n ih => rw [nest, Tree.size, Tree.sizeList, Tree.sizeList, ih]; omega

end MsVerif.Expr
