/-
Lemmas about pass 2 of the expression parser (the builder of `from_str_inner`): the joint
invariant with pass 1 under which no panic site is reachable.
-/
import MsVerif.Lemmas.ExprPre

namespace MsVerif.Expr

def curN (st : BSt) : Nat := if st.current.isSome then 1 else 0

theorem growCap_lt {cap len : Nat} (h : len < cap) : growCap cap len = cap := by
  simp [growCap, h]

/-- every stacked parent exists, and its `last_child_idx` points below `bound` -/
def StackOk (nodes : Array Node) (stack : List Nat) (bound : Nat) : Prop :=
  ∀ p ∈ stack, ∃ nd, nodes[p]? = some nd ∧ ∀ l, nd.lastChildIdx = some l → l < bound

theorem StackOk.lt {nodes : Array Node} {stack : List Nat} {b : Nat} (h : StackOk nodes stack b)
    {p : Nat} (hp : p ∈ stack) : p < nodes.size := by
  obtain ⟨nd, hnd, _⟩ := h p hp
  exact (Array.getElem?_eq_some_iff.mp hnd).1

theorem StackOk.mono {nodes : Array Node} {stack : List Nat} {b b' : Nat}
    (h : StackOk nodes stack b) (hb : b ≤ b') : StackOk nodes stack b' := by
  intro p hp
  obtain ⟨nd, hnd, hl⟩ := h p hp
  exact ⟨nd, hnd, fun l e => Nat.lt_of_lt_of_le (hl l e) hb⟩

theorem StackOk.push {nodes : Array Node} {stack : List Nat} {b : Nat}
    (h : StackOk nodes stack b) (n : Node) : StackOk (nodes.push n) stack b := by
  intro p hp
  obtain ⟨nd, hnd, hl⟩ := h p hp
  have : p < nodes.size := h.lt hp
  refine ⟨nd, ?_, hl⟩
  rw [Array.getElem?_push]
  have : p ≠ nodes.size := by omega
  simp [this, hnd]

theorem StackOk.tail {nodes : Array Node} {stack : List Nat} {b : Nat}
    (h : StackOk nodes stack b) : StackOk nodes stack.tail b :=
  fun p hp => h p (List.mem_of_mem_tail hp)

/-! ## depth of a node in the flat table (number of `parent_idx` links up to the root) -/

inductive HasDepth (nodes : Array Node) : Nat → Nat → Prop
  | root {i : Nat} {nd : Node} : nodes[i]? = some nd → nd.parentIdx = none → HasDepth nodes i 0
  | child {i p d : Nat} {nd : Node} : nodes[i]? = some nd → nd.parentIdx = some p →
      HasDepth nodes p d → HasDepth nodes i (d + 1)

/-- `b` keeps every node of `a` at its index with the same parent link -/
def Ext (a b : Array Node) : Prop :=
  ∀ (i : Nat) (nd : Node), a[i]? = some nd → ∃ nd' : Node, b[i]? = some nd' ∧ nd'.parentIdx = nd.parentIdx

theorem Ext.refl (a : Array Node) : Ext a a := fun _ nd h => ⟨nd, h, rfl⟩

theorem Ext.push (a : Array Node) (n : Node) : Ext a (a.push n) := by
  intro i nd h
  have hi : i < a.size := (Array.getElem?_eq_some_iff.mp h).1
  refine ⟨nd, ?_, rfl⟩
  rw [Array.getElem?_push]
  have : i ≠ a.size := by omega
  simp [this, h]

theorem Ext.modify (a : Array Node) (j : Nat) (f : Node → Node)
    (hf : ∀ n, (f n).parentIdx = n.parentIdx) : Ext a (a.modify j f) := by
  intro i nd h
  rw [Array.getElem?_modify]
  by_cases e : j = i
  · simp only [e, if_true, h, Option.map]; exact ⟨_, rfl, hf nd⟩
  · simp only [e, if_false]; exact ⟨nd, h, rfl⟩

theorem HasDepth.ext {a b : Array Node} (h : Ext a b) {i d : Nat} (hd : HasDepth a i d) :
    HasDepth b i d := by
  induction hd with
  | root hn hp =>
    obtain ⟨nd', h', e'⟩ := h _ _ hn
    exact .root h' (e'.trans hp)
  | child hn hp _ ih =>
    obtain ⟨nd', h', e'⟩ := h _ _ hn
    exact .child h' (e'.trans hp) ih

/-- the parent stack is a chain of ancestors: its top has depth `length - 1`, … -/
def Chain (nodes : Array Node) : List Nat → Prop
  | [] => True
  | p :: rest => HasDepth nodes p rest.length ∧ Chain nodes rest

theorem Chain.ext {a b : Array Node} (h : Ext a b) : ∀ {stack : List Nat}, Chain a stack → Chain b stack
  | [], _ => trivial
  | _ :: _, ⟨h1, h2⟩ => ⟨h1.ext h, Chain.ext h h2⟩

theorem Chain.tail {a : Array Node} {stack : List Nat} (h : Chain a stack) : Chain a stack.tail := by
  cases stack with
  | nil => trivial
  | cons p rest => exact h.2

theorem pushed_depth {nodes : Array Node} {stack : List Nat} (hc : Chain nodes stack) (n : Node)
    (hp : n.parentIdx = stack.head?) : HasDepth (nodes.push n) nodes.size stack.length := by
  have hget : (nodes.push n)[nodes.size]? = some n := by simp
  cases stack with
  | nil => exact .root hget hp
  | cons p rest => exact .child hget hp (hc.1.ext (Ext.push _ _))

structure DepthInv (D : Nat) (bst : BSt) : Prop where
  chain : Chain bst.nodes bst.stack
  curpar : ∀ c, bst.current = some c → c.parentIdx = bst.stack.head?
  alld : ∀ i, i < bst.nodes.size → ∃ d, d ≤ D ∧ HasDepth bst.nodes i d
  sdepth : bst.stack.length ≤ D

theorem alld_ext {D : Nat} {a b : Array Node} (h : Ext a b) (hs : b.size = a.size)
    (ha : ∀ i, i < a.size → ∃ d, d ≤ D ∧ HasDepth a i d) :
    ∀ i, i < b.size → ∃ d, d ≤ D ∧ HasDepth b i d := by
  intro i hi
  obtain ⟨d, hd, hh⟩ := ha i (by omega)
  exact ⟨d, hd, hh.ext h⟩

theorem alld_push {D : Nat} {nodes : Array Node} {stack : List Nat} (n : Node)
    (hc : Chain nodes stack) (hp : n.parentIdx = stack.head?) (hs : stack.length ≤ D)
    (ha : ∀ i, i < nodes.size → ∃ d, d ≤ D ∧ HasDepth nodes i d) :
    ∀ i, i < (nodes.push n).size → ∃ d, d ≤ D ∧ HasDepth (nodes.push n) i d := by
  intro i hi
  rw [Array.size_push] at hi
  by_cases e : i = nodes.size
  · subst e; exact ⟨_, hs, pushed_depth hc n hp⟩
  · obtain ⟨d, hd, hh⟩ := ha i (by omega)
    exact ⟨d, hd, hh.ext (Ext.push _ _)⟩

theorem flushCurrent_ok {s : Array Char} {pos : Nat} {st : BSt}
    (hpos : pos ≤ s.size) (hname : ∀ c, st.current = some c → c.namePos ≤ pos)
    (hcap : curN st = 1 → st.nodes.size < st.nodesCap) :
    ∃ st1, flushCurrent s pos st = .ok st1 ∧ st1.nodes.size = st.nodes.size + curN st ∧
      st1.nodesCap = st.nodesCap ∧ st1.stack = st.stack ∧ st1.stackCap = st.stackCap ∧
      (∀ b, StackOk st.nodes st.stack b → StackOk st1.nodes st.stack b) ∧
      (∀ D, DepthInv D st → Chain st1.nodes st.stack ∧
        ∀ i, i < st1.nodes.size → ∃ d, d ≤ D ∧ HasDepth st1.nodes i d) := by
  unfold flushCurrent
  cases hc : st.current with
  | none =>
    refine ⟨st, rfl, ?_, rfl, rfl, rfl, fun _ h => h, fun D h => ⟨h.chain, h.alld⟩⟩
    simp [curN, hc]
  | some cur =>
    have h1 := hname cur hc
    have hs : slice s cur.namePos pos = some (s.extract cur.namePos pos).toList := by
      simp [slice, h1, hpos]
    simp only [hs]
    have hcn : curN st = 1 := by simp [curN, hc]
    refine ⟨_, rfl, ?_, ?_, rfl, rfl, ?_, ?_⟩
    · simp [BSt.pushNode, hcn]
    · simp [BSt.pushNode, growCap_lt (hcap hcn)]
    · intro b h; exact h.push _
    · intro D h
      have hp : ({ cur with name := (s.extract cur.namePos pos).toList } : Node).parentIdx
          = st.stack.head? := h.curpar cur hc
      exact ⟨h.chain.ext (Ext.push _ _), alld_push _ h.chain hp h.sdepth h.alld⟩

theorem newNode_ok {nodes : Array Node} {stack : List Nat} {pos b : Nat}
    (h : StackOk nodes stack b) :
    ∃ nodes' nn, newNode nodes stack pos = .ok (nodes', nn) ∧ nodes'.size = nodes.size ∧
      nn.namePos = pos ∧ nn.lastChildIdx = none ∧
      StackOk nodes' stack (max b (nodes.size + 1)) ∧ Ext nodes nodes' ∧
      nn.parentIdx = stack.head? := by
  unfold newNode
  cases hh : stack.head? with
  | none =>
    refine ⟨nodes, _, rfl, rfl, rfl, rfl, h.mono (Nat.le_max_left _ _), Ext.refl _, ?_⟩
    simp [Node.null]
  | some idx =>
    have hmem : idx ∈ stack := List.mem_of_head? hh
    have hlt : idx < nodes.size := h.lt hmem
    simp only [hlt, if_true]
    refine ⟨_, _, rfl, Array.size_modify, rfl, rfl, ?_, Ext.modify _ _ _ (fun _ => rfl), by simp⟩
    intro p hp
    obtain ⟨nd, hnd, hl⟩ := h p hp
    rw [Array.getElem?_modify]
    by_cases e : idx = p
    · simp only [e, if_true, hnd, Option.map]
      refine ⟨_, rfl, ?_⟩
      intro l hl'
      simp only [Option.some.injEq] at hl'
      omega
    · simp only [e, if_false]
      exact ⟨nd, hnd, fun l e' => Nat.lt_of_lt_of_le (hl l e') (Nat.le_max_left _ _)⟩

/-- the joint invariant of the two passes at the same string position -/
structure Rel (N D : Nat) (pst : PreSt) (bst : BSt) (pos : Nat) (rest : List Char) : Prop where
  depth : bst.stack.length = pst.stack.length
  count : bst.nodes.size + curN bst = pst.nNodes + pst.stack.length
  name : ∀ c, bst.current = some c → c.namePos ≤ pos
  fresh : ∀ c, bst.current = some c → c.lastChildIdx = none
  look : bst.current = none → ∀ ch, rest.head? = some ch → isSep ch
  stack : StackOk bst.nodes bst.stack (bst.nodes.size + curN bst)
  dmax : pst.stack.length ≤ pst.maxDepth
  ncap : bst.nodesCap = N
  scap : bst.stackCap = D
  dle : pst.maxDepth ≤ D
  dinv : DepthInv D bst

/-- what `(` and `,` have in common: a new pending node, created over a table and a parent stack that are in
order, re-establishes the invariant -/
theorem rel_newNode {N D pos nc sc : Nat} {pst' : PreSt} {nodes0 : Array Node} {stk : List Nat}
    (tail : List Char) (hso : StackOk nodes0 stk nodes0.size) (hdepth : stk.length = pst'.stack.length)
    (hcount : nodes0.size + 1 = pst'.nNodes + pst'.stack.length)
    (dmax : pst'.stack.length ≤ pst'.maxDepth) (dle : pst'.maxDepth ≤ D) (hch : Chain nodes0 stk)
    (hall : ∀ i, i < nodes0.size → ∃ d, d ≤ D ∧ HasDepth nodes0 i d) (hnc : nc = N) (hsc : sc = D) :
    ∃ nodes' nn, newNode nodes0 stk (pos + 1) = .ok (nodes', nn) ∧
      Rel N D pst' ⟨nodes', nc, stk, sc, some nn⟩ (pos + 1) tail := by
  obtain ⟨nodes', nn, hnn, hsz', hnp, hfresh, hso', hext, hpar⟩ := newNode_ok (pos := pos + 1) hso
  refine ⟨nodes', nn, hnn, ?_⟩
  exact { depth := hdepth
          count := by show nodes'.size + 1 = _; rw [hsz']; exact hcount
          name := fun c e => by cases e; rw [hnp]; exact Nat.le_refl _
          fresh := fun c e => by cases e; exact hfresh
          look := fun e => nomatch e
          stack := by
            show StackOk nodes' stk (nodes'.size + 1)
            rw [hsz']; exact hso'.mono (by simp)
          dmax := dmax, ncap := hnc, scap := hsc, dle := dle
          dinv := { chain := hch.ext hext
                    curpar := fun c e => by cases e; exact hpar
                    alld := alld_ext hext hsz' hall
                    sdepth := by show stk.length ≤ D; omega } }

theorem buildStep_open {N D len : Nat} {s : Array Char} {pst pst' : PreSt} {bst : BSt} {pos : Nat}
    {ch : Char} {tail : List Char} (hs : s.size = len) (hlen : len = pos + (ch :: tail).length)
    (r : Rel N D pst bst pos (ch :: tail)) (hN : pst'.phi ≤ N) (hD : pst'.maxDepth ≤ D) (ho : isOpen ch)
    (hp' : pst' = { pst with stack := (ch, pos) :: pst.stack
                             maxDepth := max pst.maxDepth (pst.stack.length + 1) }) :
    ∃ bst', buildStep s bst pos ch = .ok bst' ∧ Rel N D pst' bst' (pos + 1) tail := by
  have hpos : pos ≤ s.size := by rw [hs, hlen]; simp
  have hmono := (hp' ▸ PStep.opn ho : PStep len pos tail pst ch pst').mono r.dmax
  cases hc : bst.current with
  | none =>
    have := r.look hc ch rfl
    exact absurd ho (isSep_not_open this)
  | some cur =>
    have hcn : curN bst = 1 := by simp [curN, hc]
    have h1 := r.name cur hc
    have hsl : slice s cur.namePos pos = some (s.extract cur.namePos pos).toList := by
      simp [slice, h1, hpos]
    have hcount := r.count
    have hphi : pst'.phi = pst.nNodes + pst.stack.length + 1 := by
      rw [hp']; simp [PreSt.phi]; omega
    have hsz : bst.nodes.size + 1 < N := by rw [hcn] at hcount; omega
    have hdep : bst.stack.length < D := by
      have : pst'.stack.length = pst.stack.length + 1 := by rw [hp']; simp
      have := hmono.2.2
      have := r.depth
      omega
    obtain ⟨cur', hcur'⟩ : ∃ c : Node, c = { cur with
        name := (s.extract cur.namePos pos).toList,
        parens := (if ch = '(' then Parens.round else Parens.curly) } := ⟨_, rfl⟩
    have hfr : cur'.lastChildIdx = none := by rw [hcur']; exact r.fresh cur hc
    have hso : StackOk (bst.nodes.push cur') (bst.nodes.size :: bst.stack) (bst.nodes.size + 1) := by
      intro p hp
      rcases List.mem_cons.mp hp with e | hm
      · subst e
        refine ⟨cur', by simp, ?_⟩
        intro l hl; rw [hfr] at hl; cases hl
      · have := (r.stack.push cur') p hm
        rw [hcn] at this
        exact this
    have hcp : cur'.parentIdx = bst.stack.head? := by rw [hcur']; exact r.dinv.curpar cur hc
    have hch : Chain (bst.nodes.push cur') (bst.nodes.size :: bst.stack) :=
      ⟨pushed_depth r.dinv.chain cur' hcp, r.dinv.chain.ext (Ext.push _ _)⟩
    obtain ⟨nodes', nn, hnn, rel⟩ := rel_newNode (N := N) (D := D) (pos := pos) (pst' := pst') tail
      (by rw [Array.size_push]; exact hso) (by rw [hp']; simp [r.depth])
      (by rw [hp']; simp only [Array.size_push, List.length_cons]; rw [hcn] at hcount; omega)
      hmono.2.2 hD hch (alld_push cur' r.dinv.chain hcp r.dinv.sdepth r.dinv.alld) r.ncap r.scap
    refine ⟨_, ?_, rel⟩
    unfold buildStep
    unfold isOpen at ho
    simp only [ho, if_true, hc, hsl, ← hcur', BSt.pushNode, hnn,
      growCap_lt (show bst.nodes.size < bst.nodesCap by rw [r.ncap]; omega),
      growCap_lt (show bst.stack.length < bst.stackCap by rw [r.scap]; exact hdep)]
    rfl

theorem StackOk.linkSib {nodes : Array Node} {stack : List Nat} {b : Nat}
    (h : StackOk nodes stack b) (i v : Nat) :
    StackOk (nodes.modify i (fun p => { p with rightSiblingIdx := some v })) stack b := by
  intro p hp
  obtain ⟨nd, hnd, hl⟩ := h p hp
  rw [Array.getElem?_modify]
  by_cases e : i = p
  · simp only [e, if_true, hnd, Option.map]
    exact ⟨_, rfl, hl⟩
  · simp only [e, if_false]; exact ⟨nd, hnd, hl⟩

theorem buildStep_comma {N D len : Nat} {s : Array Char} {pst pst' : PreSt} {bst : BSt} {pos : Nat}
    {tail : List Char} (hs : s.size = len) (hlen : len = pos + (',' :: tail).length)
    (r : Rel N D pst bst pos (',' :: tail)) (hN : pst'.phi ≤ N) (hne : pst.stack ≠ [])
    (hp' : pst' = { pst with nNodes := pst.nNodes + 1 }) :
    ∃ bst', buildStep s bst pos ',' = .ok bst' ∧ Rel N D pst' bst' (pos + 1) tail := by
  have hpos : pos ≤ s.size := by rw [hs, hlen]; simp
  have hcount := r.count
  have hphi : pst'.phi = pst.nNodes + pst.stack.length + 1 := by
    rw [hp']; simp [PreSt.phi]; omega
  obtain ⟨st1, hf, hsz1, hcap1, hst1, hscap1, hso1, hdep1⟩ := flushCurrent_ok (s := s) (st := bst) hpos r.name
    (by intro h1; rw [r.ncap]; omega)
  have hso : StackOk st1.nodes st1.stack st1.nodes.size := by
    rw [hst1, hsz1]; exact hso1 _ r.stack
  have hlen' : bst.stack.length ≠ 0 := by
    rw [r.depth]; intro e; exact hne (List.eq_nil_of_length_eq_zero e)
  obtain ⟨top, rest, hstk⟩ : ∃ t r, st1.stack = t :: r := by
    rw [hst1]; cases hb : bst.stack with
    | nil => rw [hb] at hlen'; exact absurd rfl hlen'
    | cons t r => exact ⟨t, r, rfl⟩
  obtain ⟨nd, hnd, hl⟩ := hso top (by rw [hstk]; exact List.mem_cons_self)
  have hls : lastSibOf st1.nodes st1.stack = .ok nd.lastChildIdx := by
    simp [lastSibOf, hstk, hnd, pure, Except.pure]
  obtain ⟨nodes1, hlk, hsz2, hso2, hext1⟩ : ∃ nodes1, linkSibling st1.nodes nd.lastChildIdx = .ok nodes1 ∧
      nodes1.size = st1.nodes.size ∧ StackOk nodes1 st1.stack st1.nodes.size ∧
      Ext st1.nodes nodes1 := by
    unfold linkSibling
    cases hlc : nd.lastChildIdx with
    | none => exact ⟨st1.nodes, rfl, rfl, hso, Ext.refl _⟩
    | some i =>
      have := hl i hlc
      simp only [this, if_true]
      exact ⟨_, rfl, Array.size_modify, hso.linkSib _ _, Ext.modify _ _ _ (fun _ => rfl)⟩
  obtain ⟨hch, hall⟩ := hdep1 D r.dinv
  obtain ⟨nodes', nn, hnn, rel⟩ := rel_newNode (N := N) (D := D) (pos := pos) (pst' := pst') tail
    (hsz2 ▸ hso2) (by rw [hst1, hp']; exact r.depth)
    (by rw [hp', hsz2, hsz1]; simp only; omega)
    (by rw [hp']; exact r.dmax) (by rw [hp']; exact r.dle)
    (by rw [hst1]; exact hch.ext hext1) (alld_ext hext1 hsz2 hall)
    (hcap1.trans r.ncap) (hscap1.trans r.scap)
  refine ⟨_, ?_, rel⟩
  unfold buildStep
  have h1 : ¬ (',' = '(' ∨ ',' = '{') := by decide
  simp only [h1, if_false, if_true, hf, hls, hlk, hnn]
  rfl

theorem buildStep_close {N D len : Nat} {s : Array Char} {pst pst' : PreSt} {bst : BSt} {pos : Nat}
    {ch : Char} {tail : List Char} (hs : s.size = len) (hlen : len = pos + (ch :: tail).length)
    (r : Rel N D pst bst pos (ch :: tail)) (hN : pst'.phi ≤ N) (hcl : isClose ch)
    {o : Char × Nat} {rest : List (Char × Nat)} (hstk : pst.stack = o :: rest)
    (hp' : pst' = { pst with stack := rest, nNodes := pst.nNodes + 1 })
    (hlook : rest ≠ [] → ∃ nb, tail.head? = some nb ∧ isSep nb) (hlast : rest = [] → ¬ pos < len - 1) :
    ∃ bst', buildStep s bst pos ch = .ok bst' ∧ Rel N D pst' bst' (pos + 1) tail := by
  have hpos : pos ≤ s.size := by rw [hs, hlen]; simp
  have hcount := r.count
  have hphi : pst'.phi = pst.nNodes + pst.stack.length := by
    rw [hp']; simp only [PreSt.phi]; rw [hstk]; simp only [List.length_cons]; omega
  obtain ⟨st1, hf, hsz1, hcap1, hst1, hscap1, hso1, hdep1⟩ := flushCurrent_ok (s := s) (st := bst) hpos r.name
    (by intro h1; rw [r.ncap]; omega)
  refine ⟨{ st1 with current := none, stack := st1.stack.tail }, ?_, ?_⟩
  · unfold buildStep
    have h1 : ¬ (ch = '(' ∨ ch = '{') := fun h => open_not_close h hcl
    have h2 : ch ≠ ',' := by
      unfold isClose at hcl; rcases hcl with h | h <;> rw [h] <;> decide
    unfold isClose at hcl
    simp only [h1, h2, hcl, if_false, if_true, hf]
    rfl
  · have hd := r.depth
    rw [hstk] at hd hcount
    simp only [List.length_cons] at hd hcount
    constructor
    · show st1.stack.tail.length = pst'.stack.length
      rw [hst1, hp']; simp only [List.length_tail]; omega
    · show st1.nodes.size + 0 = _
      rw [hp', hsz1]; simp only; omega
    · intro c e; cases e
    · intro c e; cases e
    · intro _ c hc
      by_cases hr : rest = []
      · -- last paren: this was the last character
        have := hlast hr
        simp only [List.length_cons] at hlen
        have : tail.length = 0 := by omega
        have : tail = [] := List.eq_nil_of_length_eq_zero this
        rw [this] at hc; cases hc
      · obtain ⟨nb, hnb, hsep⟩ := hlook hr
        rw [hnb] at hc; cases hc; exact hsep
    · show StackOk st1.nodes st1.stack.tail (st1.nodes.size + 0)
      rw [hst1, hsz1]; exact (hso1 _ r.stack).tail
    · have := r.dmax; rw [hstk] at this; rw [hp']; simp only [List.length_cons] at this ⊢; omega
    · show st1.nodesCap = N; rw [hcap1]; exact r.ncap
    · show st1.stackCap = D; rw [hscap1]; exact r.scap
    · rw [hp']; exact r.dle
    · obtain ⟨hch, hall⟩ := hdep1 D r.dinv
      exact { chain := by show Chain st1.nodes st1.stack.tail; rw [hst1]; exact hch.tail
              curpar := fun c e => by cases e
              alld := hall
              sdepth := by
                show st1.stack.tail.length ≤ D
                rw [hst1, List.length_tail]; have := r.dinv.sdepth; omega }

theorem buildStep_other {N D : Nat} {s : Array Char} {pst pst' : PreSt} {bst : BSt} {pos : Nat}
    {ch : Char} {tail : List Char}
    (r : Rel N D pst bst pos (ch :: tail)) (h1 : ¬ isOpen ch) (h2 : ¬ isClose ch) (h3 : ch ≠ ',')
    (hp' : pst' = pst) :
    ∃ bst', buildStep s bst pos ch = .ok bst' ∧ Rel N D pst' bst' (pos + 1) tail := by
  refine ⟨bst, ?_, ?_⟩
  · unfold buildStep
    unfold isOpen at h1; unfold isClose at h2
    simp only [h1, h2, h3, if_false]; rfl
  · subst hp'
    have hcur : bst.current ≠ none := by
      intro e
      have := r.look e ch rfl
      unfold isSep at this; unfold isClose at h2
      rcases this with h | h | h
      · exact h3 h
      · exact h2 (Or.inl h)
      · exact h2 (Or.inr h)
    exact { depth := r.depth, count := r.count,
            name := fun c e => Nat.le_succ_of_le (r.name c e), fresh := r.fresh,
            look := fun e => absurd e hcur, stack := r.stack, dmax := r.dmax,
            ncap := r.ncap, scap := r.scap, dle := r.dle, dinv := r.dinv }

theorem buildStep_ok {N D len : Nat} {s : Array Char} {pst pst' : PreSt} {bst : BSt} {pos : Nat}
    {ch : Char} {tail : List Char} (hs : s.size = len) (hlen : len = pos + (ch :: tail).length)
    (r : Rel N D pst bst pos (ch :: tail)) (hp : PStep len pos tail pst ch pst')
    (hN : pst'.phi ≤ N) (hD : pst'.maxDepth ≤ D) :
    ∃ bst', buildStep s bst pos ch = .ok bst' ∧ Rel N D pst' bst' (pos + 1) tail := by
  cases hp with
  | opn ho => exact buildStep_open hs hlen r hN hD ho rfl
  | cls hcl hstk _ hlook hlast => exact buildStep_close hs hlen r hN hcl hstk rfl (fun h => (hlook h).2) hlast
  | comma hne => exact buildStep_comma hs hlen r hN hne rfl
  | other h1 h2 h3 => exact buildStep_other r h1 h2 h3 rfl

theorem buildLoop_ok {N D len : Nat} {s : Array Char} (hs : s.size = len) :
    ∀ (rest : List Char) (pos : Nat) (pst pstF : PreSt) (bst : BSt),
      len = pos + rest.length → Rel N D pst bst pos rest →
      preLoop len pos rest pst = .ok pstF → pstF.phi ≤ N → pstF.maxDepth ≤ D →
      ∃ bstF, buildLoop s pos rest bst = .ok bstF ∧ Rel N D pstF bstF len [] := by
  intro rest
  induction rest with
  | nil =>
    intro pos pst pstF bst hlen r hp _ _
    simp only [preLoop, pure, Except.pure] at hp
    cases hp
    simp only [List.length_nil, Nat.add_zero] at hlen
    subst hlen
    exact ⟨bst, rfl, r⟩
  | cons ch tail ih =>
    intro pos pst pstF bst hlen r hp hN hD
    obtain ⟨pst', hst, hp⟩ := preLoop_cons hp
    have hfut := preLoop_mono hp (hst.mono r.dmax).2.2
    obtain ⟨bst', hb, r'⟩ := buildStep_ok hs hlen r hst (Nat.le_trans hfut.1 hN) (Nat.le_trans hfut.2.1 hD)
    have hlen' : len = pos + 1 + tail.length := by simp only [List.length_cons] at hlen; omega
    obtain ⟨bstF, hbF, rF⟩ := ih (pos + 1) pst' pstF bst' hlen' r' hp hN hD
    refine ⟨bstF, ?_, rF⟩
    unfold buildLoop
    rw [hb]; exact hbF

theorem build_of_preCheck (body : List Char) (D N : Nat) (pst : PreSt)
    (hp : preLoop body.length 0 body ⟨1, 0, []⟩ = .ok pst) (hst : pst.stack = [])
    (hD : pst.maxDepth = D) (hN : pst.nNodes = N) :
    ∃ nodes, build body D N = .ok nodes ∧ nodes.size = N ∧
      ∀ i, i < nodes.size → ∃ d, d ≤ D ∧ HasDepth nodes i d := by
  have hs : body.toArray.size = body.length := List.size_toArray
  have r0 : Rel N D ⟨1, 0, []⟩
      { nodes := #[], nodesCap := N, stack := [], stackCap := D, current := some (Node.null 0) }
      0 body :=
    { depth := rfl, count := rfl
      name := fun c e => by simp only [Option.some.injEq] at e; rw [← e]; exact Nat.le_refl _
      fresh := fun c e => by simp only [Option.some.injEq] at e; rw [← e]; rfl
      look := fun e => by cases e
      stack := fun p hp => by cases hp
      dmax := Nat.le_refl _, ncap := rfl, scap := rfl
      dle := Nat.zero_le _
      dinv := { chain := trivial
                curpar := fun c e => by simp only [Option.some.injEq] at e; rw [← e]; rfl
                alld := fun i hi => by simp at hi
                sdepth := Nat.zero_le _ } }
  have hphi : pst.phi ≤ N := by simp [PreSt.phi, hst, hN]
  obtain ⟨bstF, hb, rF⟩ := buildLoop_ok hs body 0 ⟨1, 0, []⟩ pst _ (by simp) r0 hp hphi
    (by rw [hD]; exact Nat.le_refl _)
  have hcount := rF.count
  rw [hst, hN] at hcount
  simp only [List.length_nil, Nat.add_zero] at hcount
  obtain ⟨st1, hf, hsz1, hcap1, _, hscap1, _, hdep1⟩ :=
    flushCurrent_ok (s := body.toArray) (pos := body.toArray.size) (st := bstF) (Nat.le_refl _)
      (by intro c e; rw [hs]; exact rF.name c e)
      (by intro h1; rw [rF.ncap]; omega)
  refine ⟨st1.nodes, ?_, by omega, (hdep1 D rF.dinv).2⟩
  unfold build
  simp only [hb, hf]
  have e1 : st1.stackCap = D := by rw [hscap1]; exact rF.scap
  have e2 : st1.nodesCap = N := by rw [hcap1]; exact rF.ncap
  have e3 : st1.nodes.size = st1.nodesCap := by rw [e2]; omega
  simp [e1, e2, e3, pure, Except.pure]

end MsVerif.Expr
