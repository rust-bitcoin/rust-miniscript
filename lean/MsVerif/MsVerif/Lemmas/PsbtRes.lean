/-
Lemmas for C14 about `Psbt.Res` (a Rust result that may also be a panic): when a `bind` chain
is `ok`, and when it cannot be a panic.
-/
import MsVerif.Model.Psbt

namespace MsVerif.Psbt.Res
variable {ε ε' α β : Type}

theorem bind_eq_ok {r : Res ε α} {f : α → Res ε β} {b : β} :
    r.bind f = .ok b ↔ ∃ a, r = .ok a ∧ f a = .ok b := by
  cases r <;> simp [bind]

theorem mapErr_eq_ok {r : Res ε α} {g : ε → ε'} {a : α} : r.mapErr g = .ok a ↔ r = .ok a := by
  cases r <;> simp [mapErr]

theorem bind_ne_panic {r : Res ε α} {f : α → Res ε β} (hr : r ≠ .panic)
    (hf : ∀ a, r = .ok a → f a ≠ .panic) : r.bind f ≠ .panic := by
  cases r with
  | ok a => exact hf a rfl
  | err e => nofun
  | panic => exact absurd rfl hr

theorem mapErr_ne_panic {r : Res ε α} {g : ε → ε'} (hr : r ≠ .panic) : r.mapErr g ≠ .panic := by
  cases r with
  | ok a => nofun
  | err e => nofun
  | panic => exact absurd rfl hr

theorem ite_ne_panic {c : Prop} [Decidable c] {a b : Res ε α} (ha : a ≠ .panic) (hb : b ≠ .panic) :
    (if c then a else b) ≠ .panic := by
  split
  · exact ha
  · exact hb

end MsVerif.Psbt.Res
