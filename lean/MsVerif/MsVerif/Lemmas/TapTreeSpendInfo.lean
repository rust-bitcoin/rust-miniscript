/-
Lemmas for C15 about spend_info.rs.  `nodes_from_tap_tree` run on the depth list of a tree
produces the pre-order node vector `encWith (root t) t`, in which every non-root node carries its
sibling's hash and the root carries the Merkle root (induction on the tree; the invariant talks
about the state *before the final climb* of a subtree's last leaf).  `TrSpendInfoIter` run over
that vector yields, for every leaf in pre-order, exactly the specification's sibling path (first
the bit stack is replaced by a list, `iterCollect_sim`, then induction on the tree).
-/
import MsVerif.Lemmas.TapTreeBits


namespace MsVerif.Tap
open MsVerif.Spec MsVerif.Spec.Tree

variable {α ν : Type}

/-- leaf data stored at the root node of a subtree -/
def rootData : Tree α → Option α
  | .leaf s => some s
  | .node _ _ => none

/-- the nodes strictly below the root, pre-order, each with its sibling's hash -/
def encTail (H : HashAlg α ν) : Tree α → List (SNode α ν)
  | .leaf _ => []
  | .node l r =>
    (⟨root H r, rootData l⟩ :: encTail H l) ++ (⟨root H l, rootData r⟩ :: encTail H r)

/-- the node vector of a subtree whose root node carries `h` -/
def encWith (H : HashAlg α ν) (h : ν) (t : Tree α) : List (SNode α ν) :=
  ⟨h, rootData t⟩ :: encTail H t

theorem encWith_node (H : HashAlg α ν) (h : ν) (l r : Tree α) :
    encWith H h (.node l r) = ⟨h, none⟩ :: (encWith H (root H r) l ++ encWith H (root H l) r) := rfl

/-- hash of the leftmost leaf: the dummy value stored in freshly pushed parents -/
def firstLeafHash (H : HashAlg α ν) : Tree α → ν
  | .leaf s => H.leafHash s
  | .node l _ => firstLeafHash H l

/-- the parent-stack entries created by `j` iterations of step 1, top first -/
def parents : Nat → Nat → List (Bool × Nat)
  | 0, _ => []
  | j + 1, base => (false, base + j) :: parents j base

@[simp] theorem parents_length (j base : Nat) : (parents j base).length = j := by
  induction j with
  | zero => rfl
  | succ j ih => simp [parents, ih]

theorem parents_succ' (j base : Nat) :
    parents (j + 1) base = parents j (base + 1) ++ [(false, base)] := by
  induction j with
  | zero => simp [parents]
  | succ j ih =>
    rw [parents, ih]
    simp [parents, Nat.add_assoc, Nat.add_comm 1 j]

theorem pushParents_eq (cur : ν) (n : Nat) : ∀ (nodes : List (SNode α ν)) (stack : List (Bool × Nat)),
    pushParents cur n nodes stack =
      (nodes ++ List.replicate n ⟨cur, none⟩, parents n nodes.length ++ stack) := by
  induction n with
  | zero => intro nodes stack; simp [pushParents, parents]
  | succ n ih =>
    intro nodes stack
    rw [pushParents, ih, parents_succ']
    simp [List.replicate_succ, List.append_assoc]

theorem setSib_append (A B : List (SNode α ν)) (x : SNode α ν) (h : ν) (n : Nat) (hn : n = A.length) :
    setSib (A ++ x :: B) n h = some (A ++ { x with siblingHash := h } :: B) := by
  subst hn
  simp [setSib]

/-- one completed iteration of step 3 on a node vector of the shape
`A ++ parent :: lchild :: B ++ rchild :: C` -/
theorem climb_true (H : HashAlg α ν) (cur : ν) (A B C : List (SNode α ν)) (x y z : SNode α ν)
    (st : List (Bool × Nat)) :
    climb H cur (A.length + 2 + B.length) (A ++ x :: y :: (B ++ z :: C)) ((true, A.length) :: st) =
      climb H (H.branch y.siblingHash cur) A.length
        (A ++ { x with siblingHash := H.branch y.siblingHash cur } ::
              { y with siblingHash := cur } :: (B ++ { z with siblingHash := y.siblingHash } :: C))
        st := by
  have h1 : (A ++ x :: y :: (B ++ z :: C))[A.length + 1]? = some y := by
    rw [List.getElem?_append_right (by omega)]
    simp
  -- the three writes hit `x`, `y`, `z`: regroup the vector so that each stands right after a prefix
  have s2 : ∀ x' : SNode α ν, setSib (A ++ x' :: y :: (B ++ z :: C)) (A.length + 1) cur =
      some (A ++ x' :: { y with siblingHash := cur } :: (B ++ z :: C)) := fun x' => by
    have := setSib_append (A ++ [x']) (B ++ z :: C) y cur (A.length + 1) (by simp)
    simpa using this
  have s3 : ∀ x' y' : SNode α ν, setSib (A ++ x' :: y' :: (B ++ z :: C)) (A.length + 2 + B.length)
        y.siblingHash =
      some (A ++ x' :: y' :: (B ++ { z with siblingHash := y.siblingHash } :: C)) := fun x' y' => by
    have := setSib_append (A ++ x' :: y' :: B) C z y.siblingHash (A.length + 2 + B.length)
      (by simp; omega)
    simpa using this
  rw [climb, h1]
  simp only [setSib_append A _ x _ _ rfl, s2, s3]

/-- Folding the loop body over the leaves of a subtree `t` whose root is at
depth `stack.length + j` (the `j` missing ancestors are pushed lazily by step 1) reaches the
state in which the subtree's nodes are complete, its root carries its own hash, and step 3 is
about to continue above the subtree's root. -/
theorem fold_subtree (H : HashAlg α ν) (t : Tree α) :
    ∀ (j : Nat) (nodes : List (SNode α ν)) (stack : List (Bool × Nat)),
      (depthsFrom (stack.length + j) t).foldlM (leafStep H) (nodes, stack) =
        climb H (root H t) (nodes.length + j)
          (nodes ++ List.replicate j ⟨firstLeafHash H t, none⟩ ++ encWith H (root H t) t)
          (parents j nodes.length ++ stack) := by
  induction t with
  | leaf s =>
    intro j nodes stack
    simp only [depthsFrom, List.foldlM_cons, List.foldlM_nil, leafStep, pushParents_eq,
      Nat.add_sub_cancel_left, List.length_append, parents_length, Nat.add_comm j stack.length,
      bne_self_eq_false, Bool.false_eq_true, if_false, List.length_replicate, List.length_cons,
      List.length_nil, Nat.add_sub_cancel, root, firstLeafHash, encWith, rootData, encTail]
    exact bind_pure _
  | node l r ihl ihr =>
    intro j nodes stack
    simp only [depthsFrom, List.foldlM_append]
    -- left subtree: its leftmost leaf pushes the `j` ancestors and this node
    have hl := ihl (j + 1) nodes stack
    rw [Nat.add_assoc, hl]
    simp only [parents, List.cons_append, climb]
    -- right subtree: entered with an exact stack
    have hr := ihr 0
      (nodes ++ List.replicate (j + 1) ⟨firstLeafHash H l, none⟩ ++ encWith H (root H l) l)
      ((true, nodes.length + j) :: (parents j nodes.length ++ stack))
    simp only [List.length_cons, List.length_append, parents_length, Nat.add_zero,
      List.replicate_zero, List.append_nil, parents, List.nil_append] at hr
    have e : j + stack.length + 1 = stack.length + (j + 1) := by omega
    rw [e] at hr
    simp only [bind, Option.bind]
    rw [hr]
    -- the climb step that completes this node
    have shape : nodes ++ List.replicate (j + 1) ⟨firstLeafHash H l, none⟩ ++ encWith H (root H l) l
          ++ encWith H (root H r) r =
        (nodes ++ List.replicate j ⟨firstLeafHash H l, none⟩) ++
          (⟨firstLeafHash H l, none⟩ : SNode α ν) :: ⟨root H l, rootData l⟩ ::
            (encTail H l ++ ⟨root H r, rootData r⟩ :: encTail H r) := by
      simp [List.replicate_succ', encWith, List.append_assoc]
    have hidx : nodes.length + List.length (List.replicate (j + 1)
          (⟨firstLeafHash H l, none⟩ : SNode α ν)) + (encWith H (root H l) l).length =
        (nodes ++ List.replicate j (⟨firstLeafHash H l, none⟩ : SNode α ν)).length + 2
          + (encTail H l).length := by
      simp [encWith]; omega
    have hp : nodes.length + j =
        (nodes ++ List.replicate j (⟨firstLeafHash H l, none⟩ : SNode α ν)).length := by simp
    rw [shape, hidx, hp, climb_true]
    simp [root, firstLeafHash, encWith, encTail, rootData, List.append_assoc]

/-- the iterator with `done_left_stack : List Bool` and `index > 0` as a flag -/
def iterL : List (SNode α ν) → Bool → List ν → List Bool → Option (List (Item α ν))
  | [], _, _, _ => some []
  | nd :: rest, nonRoot, ms, dl =>
    let ms := if nonRoot then nd.siblingHash :: ms else ms
    match nd.leafData with
    | some lf =>
      if ms.length > MAXN then none else
      (iterL rest true (unwindMs dl ms.tail) (unwindL dl)).map (fun items => ⟨lf, ms⟩ :: items)
    | none =>
      if dl.length < 128 then iterL rest true ms (false :: dl) else none

theorem iterCollect_sim : ∀ (rest : List (SNode α ν)) (index : Nat) (ms : List ν)
    (dl : BitStack128) (l : List Bool), RS dl l →
    iterCollect rest index ms dl = iterL rest (decide (index > 0)) ms l := by
  intro rest
  induction rest with
  | nil => intro index ms dl l _; rfl
  | cons nd rest ih =>
    intro index ms dl l h
    have hidx : decide (index + 1 > 0) = true := by simp
    rw [iterCollect, iterL]
    cases hld : nd.leafData with
    | some lf =>
      simp only [vecOrder, List.reverse_reverse, decide_eq_true_eq]
      generalize (if index > 0 then nd.siblingHash :: ms else ms) = msv
      obtain ⟨dl', hu, h'⟩ := iterUnwind_sim l (dl.height + 1) msv.tail dl h
        (by have := h.height_eq; omega)
      rw [hu]
      simp only [ih _ _ _ _ h', hidx]
    | none =>
      simp only [decide_eq_true_eq]
      by_cases c : l.length < 128
      · obtain ⟨dl', hp, h'⟩ := h.push_some c false
        simp only [hp, c, if_true]
        rw [ih _ _ _ _ h', hidx]
      · simp [h.push_none c false, c]

/-- the items of a subtree whose root-to-top path is `path` -/
def itemsOf (H : HashAlg α ν) (t : Tree α) (path : List ν) : List (Item α ν) :=
  (siblingPaths H t).map (fun p => ⟨p.1, p.2 ++ path⟩)

theorem itemsOf_node (H : HashAlg α ν) (l r : Tree α) (path : List ν) :
    itemsOf H (.node l r) path =
      itemsOf H l (root H r :: path) ++ itemsOf H r (root H l :: path) := by
  simp [itemsOf, siblingPaths, List.map_append, List.map_map, Function.comp_def,
    List.append_assoc]

/-- a non-root subtree block is consumed, its leaves come out
with their sibling paths extended by the path above, and one subtree is completed in the
stacks. -/
theorem iterL_subtree (H : HashAlg α ν) (t : Tree α) :
    ∀ (h : ν) (rest : List (SNode α ν)) (ms : List ν) (dl : List Bool),
      dl.length + height t ≤ 128 → ms.length + 1 + height t ≤ 128 →
      iterL (encWith H h t ++ rest) true ms dl =
        (iterL rest true (unwindMs dl ms) (unwindL dl)).map (fun items =>
          itemsOf H t (h :: ms) ++ items) := by
  induction t with
  | leaf s =>
    intro h rest ms dl _ hm
    have : ¬ (ms.length + 1 > MAXN) := by simp [MAXN, height] at hm ⊢; omega
    simp only [encWith, encTail, rootData, List.cons_append, List.nil_append, iterL, if_true,
      List.length_cons, this, if_false, List.tail_cons, itemsOf, siblingPaths, List.map_cons,
      List.map_nil, List.nil_append]
  | node l r ihl ihr =>
    intro h rest ms dl hd hm
    simp only [height] at hd hm
    have c : dl.length < 128 := by omega
    rw [encWith_node]
    simp only [List.cons_append, iterL, if_true, c, List.append_assoc]
    rw [ihl (root H r) _ (h :: ms) (false :: dl) (by simp; omega) (by simp; omega)]
    simp only [unwindMs, unwindL]
    rw [ihr (root H l) _ (h :: ms) (true :: dl) (by simp; omega) (by simp; omega)]
    simp only [unwindMs, unwindL, List.tail_cons, Option.map_map, itemsOf_node]
    congr 1
    funext items
    simp [List.append_assoc]

theorem iterL_tree (H : HashAlg α ν) (t : Tree α) (ht : height t ≤ 128) :
    iterL (encWith H (root H t) t) false [] [] = some (itemsOf H t []) := by
  cases t with
  | leaf s => simp [encWith, encTail, rootData, iterL, itemsOf, siblingPaths, MAXN]
  | node l r =>
    simp only [height] at ht
    rw [encWith_node]
    have c : (0 : Nat) < 128 := by omega
    simp only [iterL, List.length_nil, Bool.false_eq_true, if_false, c, if_true]
    rw [iterL_subtree H l (root H r) _ [] [false] (by simp; omega) (by simp; omega)]
    simp only [unwindMs, unwindL]
    have e : encWith H (root H l) r = encWith H (root H l) r ++ [] := by simp
    rw [e, iterL_subtree H r (root H l) [] [] [true] (by simp; omega) (by simp; omega)]
    simp [iterL, itemsOf_node]

end MsVerif.Tap
