/-
Per-fragment soundness of the satisfier model: if the children are
`Sound` then so is the node — here for the leaves, `a:`, `s:`, `d:`, `j:`, `and_b`, `or_b`; the `multi` family is in `SatCasesN`,
`thresh` in `SatThresh`, and the fragments whose row is a plain composition are cases written out in `SatSound`.  `Sound c ms sd`: whenever the satisfaction (dissatisfaction) in
the pair `sd` is an available stack whose reported locks are met, running `ms` on it leaves
what correctness type `c` promises (`SatRuns` / `DisRuns`).  `To` states the same for one (dis)satisfaction
and has one lemma per way `satDissat` builds a result, so that a fragment whose row is a plain composition
needs no lemma of its own.
-/
import MsVerif.Lemmas.SatExecN
import MsVerif.Lemmas.SatModel
import MsVerif.Lemmas.CoreTypes

namespace MsVerif.SatSpec
open MsVerif Script
open MsVerif.InterpSound (NoLimits)

variable {env : Env} {ke : KeyEnv} {ctx : Ctx} {σ : Ph → Bytes} {a : Assets}

structure Sound (env : Env) (ke : KeyEnv) (ctx : Ctx) (σ : Ph → Bytes) (c : Corr) (ms : Ms)
    (sd : SatDissat) : Prop where
  sat : ∀ w, Good env sd.sat w → SatRuns env ke ctx σ c ms w
  dis : ∀ w, Good env sd.dissat w → DisRuns env ke ctx σ c ms w

section unfold
variable {c : Corr} {ms : Ms} {w : List Ph}

theorem satRuns_nonW (hb : c.base ≠ .W) : SatRuns env ke ctx σ c ms w ↔
    ∀ rest, ∃ out, Runs (frag env ke ctx ms) (stk σ w ++ rest) out ∧ SatPost env c rest out := by
  unfold SatRuns
  cases h : c.base <;> simp_all

theorem disRuns_nonW (hb : c.base ≠ .W) : DisRuns env ke ctx σ c ms w ↔
    ∀ rest, ∃ out, Runs (frag env ke ctx ms) (stk σ w ++ rest) out ∧ DisPost env c rest out := by
  unfold DisRuns
  cases h : c.base <;> simp_all

theorem satRuns_B (hb : c.base = .B) : SatRuns env ke ctx σ c ms w ↔
    ∀ rest, ∃ v, Runs (frag env ke ctx ms) (stk σ w ++ rest) (v :: rest) ∧ TrueVal env v ∧
      (c.unit = true → v = [1]) := by
  rw [satRuns_nonW (by simp [hb])]
  simp only [SatPost, hb]
  constructor
  · intro h rest
    obtain ⟨out, hr, v, rfl, hv⟩ := h rest
    exact ⟨v, hr, hv⟩
  · intro h rest
    obtain ⟨v, hr, hv⟩ := h rest
    exact ⟨_, hr, v, rfl, hv⟩

theorem satRuns_V (hb : c.base = .V) : SatRuns env ke ctx σ c ms w ↔
    ∀ rest, Runs (frag env ke ctx ms) (stk σ w ++ rest) rest := by
  rw [satRuns_nonW (by simp [hb])]
  simp [SatPost, hb]

theorem satRuns_K (hb : c.base = .K) : SatRuns env ke ctx σ c ms w ↔
    ∀ rest, ∃ pk sig, Runs (frag env ke ctx ms) (stk σ w ++ rest) (pk :: sig :: rest) ∧
      checkSig env sig pk = .ok true := by
  rw [satRuns_nonW (by simp [hb])]
  simp only [SatPost, hb]
  constructor
  · intro h rest
    obtain ⟨out, hr, pk, sig, rfl, hv⟩ := h rest
    exact ⟨pk, sig, hr, hv⟩
  · intro h rest
    obtain ⟨pk, sig, hr, hv⟩ := h rest
    exact ⟨_, hr, pk, sig, rfl, hv⟩

theorem satRuns_W (hb : c.base = .W) : SatRuns env ke ctx σ c ms w ↔
    ∀ t rest, ∃ v, TrueVal env v ∧ (c.unit = true → v = [1]) ∧
      (Runs (frag env ke ctx ms) (t :: (stk σ w ++ rest)) (t :: v :: rest) ∨
       Runs (frag env ke ctx ms) (t :: (stk σ w ++ rest)) (v :: t :: rest)) := by
  unfold SatRuns
  simp [hb]

theorem disRuns_B (hb : c.base = .B) : DisRuns env ke ctx σ c ms w ↔
    ∀ rest, Runs (frag env ke ctx ms) (stk σ w ++ rest) ([] :: rest) := by
  rw [disRuns_nonW (by simp [hb])]
  simp [DisPost, hb]

theorem disRuns_V (hb : c.base = .V) : DisRuns env ke ctx σ c ms w ↔ False := by
  rw [disRuns_nonW (by simp [hb])]
  simp [DisPost, hb]

theorem disRuns_K (hb : c.base = .K) : DisRuns env ke ctx σ c ms w ↔
    ∀ rest, ∃ pk, Runs (frag env ke ctx ms) (stk σ w ++ rest) (pk :: [] :: rest) ∧
      pubkeyOk env pk = true := by
  rw [disRuns_nonW (by simp [hb])]
  simp only [DisPost, hb]
  constructor
  · intro h rest
    obtain ⟨out, hr, pk, rfl, hv⟩ := h rest
    exact ⟨pk, hr, hv⟩
  · intro h rest
    obtain ⟨pk, hr, hv⟩ := h rest
    exact ⟨_, hr, pk, rfl, hv⟩

theorem disRuns_W (hb : c.base = .W) : DisRuns env ke ctx σ c ms w ↔
    ∀ t rest,
      (Runs (frag env ke ctx ms) (t :: (stk σ w ++ rest)) (t :: [] :: rest) ∨
       Runs (frag env ke ctx ms) (t :: (stk σ w ++ rest)) ([] :: t :: rest)) := by
  unfold DisRuns
  simp [hb]

end unfold

theorem SatPost.mono {c c' : Corr} {rest out : List Bytes} (hb : c'.base = c.base)
    (hu : c'.unit = true → c.unit = true) (h : SatPost env c rest out) : SatPost env c' rest out := by
  unfold SatPost at *
  rw [hb]
  cases hcb : c.base <;> simp only [hcb] at h ⊢
  · obtain ⟨v, e, t, u⟩ := h; exact ⟨v, e, t, fun h' => u (hu h')⟩
  · exact h
  · exact h
  · obtain ⟨v, e, t, u⟩ := h; exact ⟨v, e, t, fun h' => u (hu h')⟩

theorem DisPost.mono {c c' : Corr} {rest out : List Bytes} (hb : c'.base = c.base)
    (h : DisPost env c rest out) : DisPost env c' rest out := by
  unfold DisPost at *
  rw [hb]
  exact h

theorem trueVal_one : TrueVal env [1] :=
  ⟨by decide, 1, num4_one env, by decide⟩

theorem stk_append (w1 w2 : List Ph) : stk σ (w1 ++ w2) = stk σ w2 ++ stk σ w1 := by
  simp [stk]

theorem stk_nil : stk σ [] = [] := rfl
theorem stk_single (p : Ph) : stk σ [p] = [σ p] := rfl

theorem good_lit {l : List Ph} {hs : Bool} {ab rl : Option Nat} {w : List Ph}
    (h : Good env ⟨.stack l, hs, ab, rl⟩ w) : w = l :=
  (Wit.stack.inj h.1).symm

theorem good_stack {ws : Wit} {hs : Bool} {ab rl : Option Nat} {w : List Ph}
    (h : Good env ⟨ws, hs, ab, rl⟩ w) : ws = .stack w := h.1

/-- every good witness of the (dis)satisfaction `s`, on top of any `rest`, makes `f` run to a stack `out`
with `Q rest out`; one lemma per way `satDissat` builds a result (`concatenateRev`, `minFn`, the selector
push, IMPOSSIBLE), so that the case of a fragment reads like its row of `satDissat` -/
def To (env : Env) (σ : Ph → Bytes) (f : Core → Except Err Core) (s : Sat)
    (Q : List Bytes → List Bytes → Prop) : Prop :=
  ∀ w, Good env s w → ∀ rest, ∃ out, Runs f (stk σ w ++ rest) out ∧ Q rest out

section posts
variable {c : Corr} {rest out : List Bytes}

namespace SatPost
theorem V (hb : c.base = .V) : SatPost env c rest out ↔ out = rest := by
  simp only [SatPost, hb]
theorem B (hb : c.base = .B) :
    SatPost env c rest out ↔ ∃ v, out = v :: rest ∧ TrueVal env v ∧ (c.unit = true → v = [1]) := by
  simp only [SatPost, hb]
theorem K (hb : c.base = .K) :
    SatPost env c rest out ↔ ∃ pk sig, out = pk :: sig :: rest ∧ checkSig env sig pk = .ok true := by
  simp only [SatPost, hb]
theorem one (hb : c.base = .B) : SatPost env c rest ([1] :: rest) :=
  (B hb).2 ⟨[1], rfl, trueVal_one, fun _ => rfl⟩
end SatPost

namespace DisPost
theorem B (hb : c.base = .B) : DisPost env c rest out ↔ out = [] :: rest := by
  simp only [DisPost, hb]
theorem K (hb : c.base = .K) :
    DisPost env c rest out ↔ ∃ pk, out = pk :: [] :: rest ∧ pubkeyOk env pk = true := by
  simp only [DisPost, hb]
theorem nil (hb : c.base = .B) : DisPost env c rest ([] :: rest) := (B hb).2 rfl
end DisPost

end posts

theorem ne_W_of_eq {b b' : Base} (h : b = b') (h' : b' ≠ .W := by decide) : b ≠ .W := h ▸ h'

namespace To
variable {f g h : Core → Except Err Core} {a b : Sat} {Q Q' Q₁ : List Bytes → List Bytes → Prop}
  {c c' : Corr}

theorem impossible : To env σ f Sat.IMPOSSIBLE Q := fun _ hw => (good_impossible hw).elim

theorem mono (ha : To env σ f a Q) (hq : ∀ rest out, Q rest out → Q' rest out) : To env σ f a Q' :=
  fun w hw rest => let ⟨out, hr, hp⟩ := ha w hw rest; ⟨out, hr, hq _ _ hp⟩

theorem monoSat (ha : To env σ f a (SatPost env c)) (hb : c'.base = c.base)
    (hu : c'.unit = true → c.unit = true) : To env σ f a (SatPost env c') :=
  ha.mono fun _ _ hp => hp.mono hb hu

theorem monoDis (ha : To env σ f a (DisPost env c)) (hb : c'.base = c.base) :
    To env σ f a (DisPost env c') :=
  ha.mono fun _ _ hp => hp.mono hb

theorem min {cfg : SatCfg} (ha : To env σ f a Q) (hb : To env σ f b Q) : To env σ f (cfg.minFn a b) Q :=
  fun w hw => (minFn_good hw).elim (ha w) (hb w)

/-- the node only adds opcodes after `f` -/
theorem via (ha : To env σ f a Q₁)
    (hk : ∀ {s rest mid}, Q₁ rest mid → Runs f s mid → ∃ out, Runs h s out ∧ Q rest out) : To env σ h a Q :=
  fun w hw rest => let ⟨_, hr, hq⟩ := ha w hw rest; hk hq hr

theorem push {p : Ph} (ha : To env σ f a Q) (hk : ∀ {s out}, Runs f s out → Runs h (σ p :: s) out) :
    To env σ h { a with stack := Wit.combine a.stack (.stack [p]) } Q := by
  intro w hw rest
  obtain ⟨w0, hw0, rfl⟩ := withPush_good hw
  obtain ⟨out, hr, hQ⟩ := ha w0 hw0 rest
  exact ⟨out, by simpa [stk] using hk hr, hQ⟩

/-- `a.concatenateRev b`: `a`'s witness is on top; `f` runs on it to `mid` (`Q₁` says how `mid` sits on `b`'s
witness), then the second stage, in any form (a W child takes the element on top of its witness) -/
theorem concatG (ha : To env σ f a Q₁)
    (hb : ∀ w, Good env b w → ∀ rest mid, Q₁ (stk σ w ++ rest) mid →
      ∃ out, (∀ s, Runs f s mid → Runs h s out) ∧ Q rest out) :
    To env σ h (a.concatenateRev b) Q := by
  intro w hw rest
  obtain ⟨wa, wb, ha', hb', rfl⟩ := concat_good hw
  obtain ⟨mid, hr, hq⟩ := ha wa ha' (stk σ wb ++ rest)
  obtain ⟨out, hk, hQ⟩ := hb wb hb' rest mid hq
  exact ⟨out, by rw [stk_append, List.append_assoc]; exact hk _ hr, hQ⟩

/-- the second stage is `g` on `b`'s witness; `hk` is the node's execution lemma -/
theorem concat (ha : To env σ f a Q₁) (hb : To env σ g b Q)
    (hk : ∀ {s top mid out}, Q₁ top mid → Runs f s mid → Runs g top out → Runs h s out) :
    To env σ h (a.concatenateRev b) Q :=
  ha.concatG fun w hw rest _ hq => let ⟨out, hr, hQ⟩ := hb w hw rest; ⟨out, fun _ hf => hk hq hf hr, hQ⟩

/-! What the first stage leaves for the second: a satisfied `V` nothing, a dissatisfied `B` the empty
vector, a satisfied `Bu` exactly `[1]`. -/

theorem concatV (hV : c.base = .V) (ha : To env σ f a (SatPost env c)) (hb : To env σ g b Q)
    (hk : ∀ {s top out}, Runs f s top → Runs g top out → Runs h s out) :
    To env σ h (a.concatenateRev b) Q :=
  ha.concat hb fun e hf hg => hk ((SatPost.V hV).1 e ▸ hf) hg

theorem concatF (hB : c.base = .B) (ha : To env σ f a (DisPost env c)) (hb : To env σ g b Q)
    (hk : ∀ {s top out}, Runs f s ([] :: top) → Runs g top out → Runs h s out) :
    To env σ h (a.concatenateRev b) Q :=
  ha.concat hb fun e hf hg => hk ((DisPost.B hB).1 e ▸ hf) hg

theorem concatT (hB : c.base = .B) (hu : c.unit = true) (ha : To env σ f a (SatPost env c))
    (hb : To env σ g b Q) (hk : ∀ {s top out}, Runs f s ([1] :: top) → Runs g top out → Runs h s out) :
    To env σ h (a.concatenateRev b) Q :=
  ha.concat hb fun e hf hg => by
    obtain ⟨v, rfl, _, hv⟩ := (SatPost.B hB).1 e
    cases hv hu
    exact hk hf hg

theorem viaT (hB : c.base = .B) (hu : c.unit = true) (ha : To env σ f a (SatPost env c))
    (hk : ∀ {s rest}, Runs f s ([1] :: rest) → ∃ out, Runs h s out ∧ Q rest out) : To env σ h a Q :=
  ha.via fun e hf => by
    obtain ⟨v, rfl, _, hv⟩ := (SatPost.B hB).1 e
    cases hv hu
    exact hk hf

end To

namespace Sound
variable {c : Corr} {ms : Ms} {sd : SatDissat}

theorem satTo (S : Sound env ke ctx σ c ms sd) (hb : c.base ≠ .W) :
    To env σ (frag env ke ctx ms) sd.sat (SatPost env c) := fun w hw => (satRuns_nonW hb).mp (S.sat w hw)

theorem disTo (S : Sound env ke ctx σ c ms sd) (hb : c.base ≠ .W) :
    To env σ (frag env ke ctx ms) sd.dissat (DisPost env c) := fun w hw => (disRuns_nonW hb).mp (S.dis w hw)

theorem of_to (hb : c.base ≠ .W) (hs : To env σ (frag env ke ctx ms) sd.sat (SatPost env c))
    (hd : To env σ (frag env ke ctx ms) sd.dissat (DisPost env c)) : Sound env ke ctx σ c ms sd :=
  ⟨fun w hw => (satRuns_nonW hb).mpr (hs w hw), fun w hw => (disRuns_nonW hb).mpr (hd w hw)⟩

end Sound

theorem fls_case (h : EnvOk env ctx) :
    Sound env ke ctx σ Corr.FALSE .fls ⟨Sat.TRIVIAL, Sat.IMPOSSIBLE⟩ where
  sat := fun w hw => (good_impossible hw).elim
  dis := fun w hw => by
    have : w = [] := good_lit hw
    subst this
    rw [disRuns_B (by rfl)]
    intro rest
    exact frag_fls h.nl rest

theorem tru_case (h : EnvOk env ctx) :
    Sound env ke ctx σ Corr.TRUE .tru ⟨Sat.IMPOSSIBLE, Sat.TRIVIAL⟩ where
  dis := fun w hw => (good_impossible hw).elim
  sat := fun w hw => by
    have : w = [] := good_lit hw
    subst this
    rw [satRuns_B (by rfl)]
    intro rest
    exact ⟨[1], frag_tru h.nl rest, trueVal_one, fun _ => rfl⟩

theorem sigWit_stack (hag : Agrees env ke a σ) {k : Key} {w : List Ph}
    (hw : sigWit ctx a k = .stack w) :
    ∃ p, w = [p] ∧ σ p ≠ [] ∧ env.sigOk (ke.ser k) (σ p) = true := by
  rcases sigWit_cases ctx a k with h | ⟨sz, _, hs, h⟩ | ⟨_, he, h⟩ <;> rw [h] at hw
  · cases hw
  · exact ⟨_, (Wit.stack.inj hw).symm, hag.schnorr k sz hs⟩
  · exact ⟨_, (Wit.stack.inj hw).symm, hag.ecdsa k he⟩

theorem pkK_case (h : EnvOk env ctx) (hag : Agrees env ke a σ) (k : Key) :
    Sound env ke ctx σ Corr.pkK (.pkK k) ⟨Sat.push0, ⟨sigWit ctx a k, true, none, none⟩⟩ where
  sat := fun w hw => by
    obtain ⟨p, rfl, hne, hok⟩ := sigWit_stack hag (good_stack hw)
    rw [satRuns_K (by rfl)]
    intro rest
    exact ⟨ke.ser k, σ p, frag_pkK h.nl k _, checkSig_ok (hag.keyShape k) hne hok⟩
  dis := fun w hw => by
    have : w = [.pushZero] := good_lit hw
    subst this
    rw [disRuns_K (by rfl)]
    intro rest
    refine ⟨ke.ser k, ?_, hag.keyShape k⟩
    have := frag_pkK (ke := ke) (ctx := ctx) h.nl k (stk σ [.pushZero] ++ rest)
    simpa [stk, hag.pushZero] using this

theorem pkH_case (h : EnvOk env ctx) (hag : Agrees env ke a σ) (k : Key) (sz : Nat) :
    Sound env ke ctx σ Corr.pkH (.pkH k)
      ⟨⟨Wit.combine (.stack [.pushZero]) (.stack [.pubkey k sz]), false, none, none⟩,
       ⟨Wit.combine (sigWit ctx a k) (.stack [.pubkey k sz]), true, none, none⟩⟩ where
  sat := fun w hw => by
    obtain ⟨w1, w2, e1, e2, rfl⟩ := Wit.combine_stack (good_stack hw)
    obtain ⟨p, rfl, hne, hok⟩ := sigWit_stack hag e1
    simp only [Wit.stack.injEq] at e2; subst e2
    rw [satRuns_K (by rfl)]
    intro rest
    refine ⟨ke.ser k, σ p, ?_, checkSig_ok (hag.keyShape k) hne hok⟩
    have := frag_pkH (ke := ke) (ctx := ctx) h.nl k (ke.ser k) (σ p :: rest) (hag.pkh k)
    simpa [stk, hag.pubkey] using this
  dis := fun w hw => by
    have : w = [.pushZero, .pubkey k sz] := good_lit hw
    subst this
    rw [disRuns_K (by rfl)]
    intro rest
    refine ⟨ke.ser k, ?_, hag.keyShape k⟩
    have := frag_pkH (ke := ke) (ctx := ctx) h.nl k (ke.ser k) ([] :: rest) (hag.pkh k)
    simpa [stk, hag.pubkey, hag.pushZero] using this

variable {cfg : SatCfg}

theorem rawPkH_case (h : EnvOk env cfg.ctx) (hag : Agrees env cfg.env cfg.assets σ) (x : Nat) :
    Sound env cfg.env cfg.ctx σ Corr.pkH (.rawPkH x) (satDissat cfg (.rawPkH x)) where
  sat := fun w hw => by
    rw [satRuns_K (by rfl)]
    intro rest
    rcases satDissat_rawPkH_sat hw.1 with ⟨pk, sz, _, hsch, rfl⟩ | ⟨pk, _, hec, rfl⟩
    · have hk := hag.rawPk x (pkLen cfg.env cfg.ctx pk) (.inr (.inr (by simp [hsch])))
      have hsg := hag.rawSchnorr x pk sz (pkLen cfg.env cfg.ctx pk) hsch
      refine ⟨_, _, ?_, checkSig_ok hk.2 hsg.1 hsg.2⟩
      have := frag_rawPkH (ke := cfg.env) (ctx := cfg.ctx) h.nl x _ (σ (.schnorrSigPkh x sz) :: rest) hk.1
      simpa [stk] using this
    · have hk := hag.rawPk x (pkLen cfg.env cfg.ctx pk) (.inr (.inl (by simp [hec])))
      have hsg := hag.rawEcdsa x pk (pkLen cfg.env cfg.ctx pk) hec
      refine ⟨_, _, ?_, checkSig_ok hk.2 hsg.1 hsg.2⟩
      have := frag_rawPkH (ke := cfg.env) (ctx := cfg.ctx) h.nl x _ (σ (.ecdsaSigPkh x) :: rest) hk.1
      simpa [stk] using this
  dis := fun w hw => by
    rw [disRuns_K (by rfl)]
    intro rest
    obtain ⟨pk, hpk, rfl⟩ := satDissat_rawPkH_dis hw.1
    have hk := hag.rawPk x (pkLen cfg.env cfg.ctx pk) (.inl (by simp [hpk]))
    refine ⟨_, ?_, hk.2⟩
    have := frag_rawPkH (ke := cfg.env) (ctx := cfg.ctx) h.nl x _ ([] :: rest) hk.1
    simpa [stk, hag.pushZero] using this

theorem trueVal_num {n : Nat} (hn : NumOk n) (h1 : 1 ≤ n) : TrueVal env (numEncode (n : Int)) :=
  ⟨hn.2 (by omega), n, hn.num4 env, by omega⟩

theorem after_case (h : EnvOk env cfg.ctx) (n : Nat) (hwf : WF cfg.ctx (.after n)) :
    Sound env cfg.env cfg.ctx σ Corr.time (.after n) (satDissat cfg (.after n)) where
  dis := fun w hw => by simp only [satDissat_after] at hw; exact (good_impossible hw).elim
  sat := fun w hw => by
    obtain ⟨rfl, e⟩ := satDissat_after_stack hw.1
    simp only [WF] at hwf
    rw [satRuns_B (by rfl)]
    intro rest
    have hl := hw.2.1 n (by rw [e])
    exact ⟨_, frag_after h.nl (numOk_of_lt n hwf.2) hl rest, trueVal_num (numOk_of_lt n hwf.2) hwf.1,
      by simp [Corr.time]⟩

theorem older_case (h : EnvOk env cfg.ctx) (n : Nat) (hwf : WF cfg.ctx (.older n)) :
    Sound env cfg.env cfg.ctx σ Corr.time (.older n) (satDissat cfg (.older n)) where
  dis := fun w hw => by simp only [satDissat_older] at hw; exact (good_impossible hw).elim
  sat := fun w hw => by
    obtain ⟨rfl, e⟩ := satDissat_older_stack hw.1
    simp only [WF] at hwf
    rw [satRuns_B (by rfl)]
    intro rest
    have hl := hw.2.2 n (by rw [e])
    exact ⟨_, frag_older h.nl (numOk_of_lt n hwf.2) hl rest, trueVal_num (numOk_of_lt n hwf.2) hwf.1,
      by simp [Corr.time]⟩

theorem hash_case (h : EnvOk env cfg.ctx) (hag : Agrees env cfg.env cfg.assets σ)
    (kind : HashKind) (x : Nat) :
    Sound env cfg.env cfg.ctx σ Corr.hash (.hash kind x) (satDissat cfg (.hash kind x)) where
  sat := fun w hw => by
    simp only [satDissat_hash] at hw
    have hs := good_stack hw
    rw [satRuns_B (by rfl)]
    intro rest
    split at hs
    · rename_i hp
      simp only [Wit.stack.injEq] at hs; subst hs
      obtain ⟨hlen, hh⟩ := hag.preimage kind x hp
      refine ⟨[1], ?_, trueVal_one, fun _ => rfl⟩
      have := frag_hash (ke := cfg.env) (ctx := cfg.ctx) h.nl kind x _ rest hlen
      simpa [stk, hh, boolBytes] using this
    · simp at hs
  dis := fun w hw => by
    simp only [satDissat_hash] at hw
    have hs := good_stack hw
    simp only [Wit.stack.injEq] at hs; subst hs
    rw [disRuns_B (by rfl)]
    intro rest
    have hne : ¬ cfg.env.hashVal kind x = env.hash (hashOpOf kind) (List.replicate 32 0) :=
      fun e => hag.zeroNoPreimage kind x e.symm
    have := frag_hash (ke := cfg.env) (ctx := cfg.ctx) h.nl kind x (List.replicate 32 0) rest (by simp)
    rw [beq_false_of_ne hne] at this
    simpa [stk, hag.hashDissat, boolBytes] using this

section wrappers
variable {x : Ms} {cx c : Corr}

theorem alt_case (h : EnvOk env cfg.ctx) (hb : cx.base = .B ∧ c.base = .W ∧ c.unit = cx.unit)
    (ih : Sound env cfg.env cfg.ctx σ cx x (satDissat cfg x)) :
    Sound env cfg.env cfg.ctx σ c (.alt x) (satDissat cfg (.alt x)) := by
  obtain ⟨hxB, hcW, hcu⟩ := hb
  constructor
  · intro w hw
    refine (satRuns_W hcW).mpr fun t rest => ?_
    obtain ⟨_, hr, e⟩ := ih.satTo (ne_W_of_eq hxB) w hw rest
    obtain ⟨v, rfl, hv, hu⟩ := (SatPost.B hxB).1 e
    exact ⟨v, hv, fun h' => hu (hcu ▸ h'), .inl (frag_alt h.nl hr)⟩
  · intro w hw
    refine (disRuns_W hcW).mpr fun t rest => ?_
    obtain ⟨_, hr, e⟩ := ih.disTo (ne_W_of_eq hxB) w hw rest
    cases (DisPost.B hxB).1 e
    exact .inl (frag_alt h.nl hr)

theorem swap_case (h : EnvOk env cfg.ctx)
    (hb : cx.base = .B ∧ c.base = .W ∧ c.unit = cx.unit ∧ (cx.input = .one ∨ cx.input = .oneNonZero))
    (ih : Sound env cfg.env cfg.ctx σ cx x (satDissat cfg x))
    (sh : Shape σ cx (satDissat cfg x)) :
    Sound env cfg.env cfg.ctx σ c (.swap x) (satDissat cfg (.swap x)) := by
  obtain ⟨hxB, hcW, hcu, hin⟩ := hb
  constructor
  · intro w hw
    obtain ⟨p, rfl⟩ := List.length_eq_one_iff.mp (sh.one hin w (.inl hw.1))
    refine (satRuns_W hcW).mpr fun t rest => ?_
    obtain ⟨_, hr, e⟩ := ih.satTo (ne_W_of_eq hxB) _ hw (t :: rest)
    obtain ⟨v, rfl, hv, hu⟩ := (SatPost.B hxB).1 e
    exact ⟨v, hv, fun h' => hu (hcu ▸ h'), .inr (frag_swap h.nl (by simpa [stk] using hr))⟩
  · intro w hw
    obtain ⟨p, rfl⟩ := List.length_eq_one_iff.mp (sh.one hin w (.inr hw.1))
    refine (disRuns_W hcW).mpr fun t rest => ?_
    obtain ⟨_, hr, e⟩ := ih.disTo (ne_W_of_eq hxB) _ hw (t :: rest)
    cases (DisPost.B hxB).1 e
    exact .inr (frag_swap h.nl (by simpa [stk] using hr))

theorem boolBytes_true : boolBytes true = [1] := rfl
theorem boolBytes_false : boolBytes false = [] := rfl

theorem dupIf_case (h : EnvOk env cfg.ctx) (hag : Agrees env cfg.env cfg.assets σ)
    (hb : cx.base = .V ∧ cx.input = .zero ∧ c.base = .B)
    (ih : Sound env cfg.env cfg.ctx σ cx x (satDissat cfg x))
    (sh : Shape σ cx (satDissat cfg x)) :
    Sound env cfg.env cfg.ctx σ c (.dupIf x) (satDissat cfg (.dupIf x)) := by
  obtain ⟨hxV, hz, hcB⟩ := hb
  refine .of_to (ne_W_of_eq hcB) (fun w hw rest => ?_) (fun w hw rest => ?_)
  · -- the argument of `d:` is `Vz`: its witness is empty, so the selector sits directly on `rest`
    obtain ⟨w0, hw0, rfl⟩ := withPush_good hw
    cases sh.zero hz w0 (.inl hw0.1)
    obtain ⟨_, hr, e⟩ := ih.satTo (ne_W_of_eq hxV) _ hw0 ([1] :: rest)
    cases (SatPost.V hxV).1 e
    exact ⟨_, by simpa [stk, hag.pushOne] using frag_dupIf_true h.nl (by simpa [stk] using hr), .one hcB⟩
  · cases (good_lit hw : w = [.pushZero])
    exact ⟨_, by simpa [stk, hag.pushZero] using
      frag_dupIf_false (ke := cfg.env) (ctx := cfg.ctx) h.nl x rest, .nil hcB⟩

theorem nonZero_case (h : EnvOk env cfg.ctx) (hag : Agrees env cfg.env cfg.assets σ)
    (hb : cx.base = .B ∧ c.base = .B ∧ c.unit = cx.unit ∧
      (cx.input = .oneNonZero ∨ cx.input = .anyNonZero))
    (ih : Sound env cfg.env cfg.ctx σ cx x (satDissat cfg x))
    (sh : Shape σ cx (satDissat cfg x)) :
    Sound env cfg.env cfg.ctx σ c (.nonZero x) (satDissat cfg (.nonZero x)) := by
  obtain ⟨hxB, hcB, hcu, hin⟩ := hb
  refine .of_to (ne_W_of_eq hcB) (fun w hw rest => ?_) (fun w hw rest => ?_)
  · -- the top element of an `n` satisfaction is non-empty, so SIZE 0NOTEQUAL takes the IF
    obtain ⟨w', p, rfl, hp⟩ := sh.nonzero hin w hw.1
    obtain ⟨out, hr, e⟩ := ih.satTo (ne_W_of_eq hxB) _ hw rest
    have hr' : Runs (frag env cfg.env cfg.ctx x) (σ p :: (stk σ w' ++ rest)) out := by
      simpa [stk] using hr
    exact ⟨_, by simpa [stk] using frag_nonZero_sat h.nl hp (numOk_of_lt _ (hag.sizeOk p)) hr',
      e.mono (hcB.trans hxB.symm) fun h' => hcu ▸ h'⟩
  · cases (good_lit hw : w = [.pushZero])
    exact ⟨_, by simpa [stk, hag.pushZero] using
      frag_nonZero_dis (ke := cfg.env) (ctx := cfg.ctx) h.nl x rest, .nil hcB⟩

end wrappers

section binary
variable {l r z : Ms} {cl cr cz c : Corr}

theorem trueVal_num4 {v : Bytes} (hv : TrueVal env v) : ∃ n, num4 env v = .ok n ∧ (n != 0) = true := by
  obtain ⟨_, n, hn, hn0⟩ := hv
  exact ⟨n, hn, by simpa using hn0⟩

/-- BOOLAND does not care in which order the W child left its value and the one it found -/
theorem andB_glue (h : NoLimits env) {t v : Bytes} {nt nv : Int} {s top rest : List Bytes}
    (hl : Runs (frag env ke ctx l) s (t :: top))
    (hr : Runs (frag env ke ctx r) (t :: top) (t :: v :: rest) ∨
      Runs (frag env ke ctx r) (t :: top) (v :: t :: rest))
    (ht : num4 env t = .ok nt) (hv : num4 env v = .ok nv) :
    Runs (frag env ke ctx (.andB l r)) s (boolBytes (nt != 0 && nv != 0) :: rest) := by
  rcases hr with hr | hr
  · exact frag_andB h hl hr ht hv
  · have := frag_andB h hl hr hv ht
    rwa [Bool.and_comm] at this

theorem orB_glue (h : NoLimits env) {t v : Bytes} {nt nv : Int} {s top rest : List Bytes}
    (hl : Runs (frag env ke ctx l) s (t :: top))
    (hr : Runs (frag env ke ctx r) (t :: top) (t :: v :: rest) ∨
      Runs (frag env ke ctx r) (t :: top) (v :: t :: rest))
    (ht : num4 env t = .ok nt) (hv : num4 env v = .ok nv) :
    Runs (frag env ke ctx (.orB l r)) s (boolBytes (nt != 0 || nv != 0) :: rest) := by
  rcases hr with hr | hr
  · exact frag_orB h hl hr ht hv
  · have := frag_orB h hl hr hv ht
    rwa [Bool.or_comm] at this

theorem andB_case (h : EnvOk env cfg.ctx) (hb : cl.base = .B ∧ cr.base = .W ∧ c.base = .B)
    (ihl : Sound env cfg.env cfg.ctx σ cl l (satDissat cfg l))
    (ihr : Sound env cfg.env cfg.ctx σ cr r (satDissat cfg r)) :
    Sound env cfg.env cfg.ctx σ c (.andB l r) (satDissat cfg (.andB l r)) := by
  obtain ⟨hlB, hrW, hcB⟩ := hb
  refine .of_to (ne_W_of_eq hcB)
    ((ihl.satTo (ne_W_of_eq hlB)).concatG fun w hw rest mid e => ?_)
    ((ihl.disTo (ne_W_of_eq hlB)).concatG fun w hw rest mid e => ?_)
  · obtain ⟨t, rfl, ht, _⟩ := (SatPost.B hlB).1 e
    obtain ⟨v, hv, _, hr⟩ := (satRuns_W hrW).mp (ihr.sat w hw) t rest
    obtain ⟨nt, hnt, hnt0⟩ := trueVal_num4 ht
    obtain ⟨nv, hnv, hnv0⟩ := trueVal_num4 hv
    exact ⟨[1] :: rest, fun s hf => by simpa [hnt0, hnv0, boolBytes] using andB_glue h.nl hf hr hnt hnv,
      .one hcB⟩
  · cases (DisPost.B hlB).1 e
    exact ⟨[] :: rest, fun s hf => by
      simpa [boolBytes] using andB_glue h.nl hf ((disRuns_W hrW).mp (ihr.dis w hw) [] rest) (num4_nil env) (num4_nil env),
      .nil hcB⟩

theorem orB_case (h : EnvOk env cfg.ctx) (hb : cl.base = .B ∧ cr.base = .W ∧ c.base = .B)
    (ihl : Sound env cfg.env cfg.ctx σ cl l (satDissat cfg l))
    (ihr : Sound env cfg.env cfg.ctx σ cr r (satDissat cfg r)) :
    Sound env cfg.env cfg.ctx σ c (.orB l r) (satDissat cfg (.orB l r)) := by
  obtain ⟨hlB, hrW, hcB⟩ := hb
  have Lt := ihl.satTo (ne_W_of_eq hlB)
  have Lf := ihl.disTo (ne_W_of_eq hlB)
  refine .of_to (ne_W_of_eq hcB)
    (.min (Lf.concatG fun w hw rest mid e => ?_) (Lt.concatG fun w hw rest mid e => ?_))
    (Lf.concatG fun w hw rest mid e => ?_)
  · cases (DisPost.B hlB).1 e
    obtain ⟨v, hv, _, hr⟩ := (satRuns_W hrW).mp (ihr.sat w hw) [] rest
    obtain ⟨nv, hnv, hnv0⟩ := trueVal_num4 hv
    exact ⟨[1] :: rest, fun s hf => by
      simpa [hnv0, boolBytes] using orB_glue h.nl hf hr (num4_nil env) hnv, .one hcB⟩
  · obtain ⟨t, rfl, ht, _⟩ := (SatPost.B hlB).1 e
    obtain ⟨nt, hnt, hnt0⟩ := trueVal_num4 ht
    exact ⟨[1] :: rest, fun s hf => by
      simpa [hnt0, boolBytes] using orB_glue h.nl hf ((disRuns_W hrW).mp (ihr.dis w hw) t rest) hnt (num4_nil env),
      .one hcB⟩
  · cases (DisPost.B hlB).1 e
    exact ⟨[] :: rest, fun s hf => by
      simpa [boolBytes] using orB_glue h.nl hf ((disRuns_W hrW).mp (ihr.dis w hw) [] rest) (num4_nil env) (num4_nil env),
      .nil hcB⟩

end binary

end MsVerif.SatSpec
