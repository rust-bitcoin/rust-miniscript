/-
C06: conditionals consume exactly what their branches consume (`cons_ifThen`, `cons_ifElse`, the
tails of `or_d` and `v:`), the number of arguments a type fixes (`nargs`) and what a fragment of each base leaves in their place (`resLen`).  Stack limits off.
-/
import MsVerif.Lemmas.TypeSoundArgs
import MsVerif.Lemmas.CoreTypes

namespace MsVerif.TypeSound
open MsVerif MsVerif.Script

theorem res_pre {x : Except Err Core} {g : Core → Except Err Core} {s rest : List Bytes} {o : Nat}
    (hx : Res x s 0) (hg : ∀ a1 o1, Res (g ⟨s, a1, o1⟩) rest o) : Res (x >>= g) rest o :=
  res_bind hx fun ⟨s1, a1, o1⟩ out ho hs => by
    cases List.eq_nil_of_length_eq_zero ho
    cases (show s1 = s from hs)
    exact hg a1 o1

theorem cnd_res (env : Env) (nf : Bool) (a : Bytes) (r alt : List Bytes) (ops : Nat) :
    NoUF (cnd env nf ⟨a :: r, alt, ops⟩) ∧
      ∀ v c', cnd env nf ⟨a :: r, alt, ops⟩ = .ok (v, c') → v = condFlag nf a ∧ c'.stack = r := by
  refine ⟨?_, ?_⟩
  · unfold cnd
    cases h : countOp env ⟨a :: r, alt, ops⟩ 1 with
    | error e => rw [countOp_err h]; exact NoUF_error nofun nofun
    | ok c1 =>
      have h1 := (countOp_stack h).1
      obtain ⟨s1, a1, o1⟩ := c1
      simp only at h1
      subst h1
      simp only [condPop]
      split
      · exact NoUF_error nofun nofun
      · exact NoUF_ok _
  · intro v c' h
    obtain ⟨a', hs, _, hv⟩ := cnd_inv h
    simp only [List.cons.injEq] at hs
    obtain ⟨rfl, rfl⟩ := hs
    exact ⟨hv, rfl⟩

theorem ifThen_res {env : Env} {nf : Bool} {X : List Op} {f : Core → Except Err Core}
    {a : Bytes} {r alt : List Bytes} {ops : Nat} {rest : List Bytes} {o : Nat}
    (hskip : condFlag nf a = false → ∃ out, out.length = o ∧ r = out ++ rest)
    (htake : condFlag nf a = true → ∀ alt' ops', Res (f ⟨r, alt', ops'⟩) rest o) :
    Res (ifThen env nf X f ⟨a :: r, alt, ops⟩) rest o := by
  rw [ifThen_eq]
  obtain ⟨hn, hv⟩ := cnd_res env nf a r alt ops
  cases hc : cnd env nf ⟨a :: r, alt, ops⟩ with
  | error e => rw [hc] at hn; exact ⟨NoUF_error_cast hn, fun c' h => by cases h⟩
  | ok p =>
    obtain ⟨v, c2⟩ := p
    obtain ⟨hvf, hs2⟩ := hv v c2 hc
    obtain ⟨s2, a2, o2⟩ := c2
    simp only at hs2
    subst hs2
    show Res ((if v = true then f ⟨s2, a2, o2⟩ else skipCount env X ⟨s2, a2, o2⟩) >>= fun c => countOp env c 1) rest o
    cases v with
    | true =>
      refine res_bind (htake hvf.symm a2 o2) ?_
      intro c1 out ho hs
      exact res_countOp hs ho
    | false =>
      obtain ⟨out, ho, hr⟩ := hskip hvf.symm
      refine res_bind (res_skipCount (out := out) hr ho) ?_
      intro c1 out' ho' hs
      exact res_countOp hs ho'

theorem ifElse_res {env : Env} {nf : Bool} {X Y : List Op} {f g : Core → Except Err Core}
    {a : Bytes} {r alt : List Bytes} {ops : Nat} {rest : List Bytes} {o : Nat}
    (h1 : condFlag nf a = true → ∀ alt' ops', Res (f ⟨r, alt', ops'⟩) rest o)
    (h2 : condFlag nf a = false → ∀ alt' ops', Res (g ⟨r, alt', ops'⟩) rest o) :
    Res (ifElse env nf X Y f g ⟨a :: r, alt, ops⟩) rest o := by
  rw [ifElse_eq]
  obtain ⟨hn, hv⟩ := cnd_res env nf a r alt ops
  cases hc : cnd env nf ⟨a :: r, alt, ops⟩ with
  | error e => rw [hc] at hn; exact ⟨NoUF_error_cast hn, fun c' h => by cases h⟩
  | ok p =>
    obtain ⟨v, c2⟩ := p
    obtain ⟨hvf, hs2⟩ := hv v c2 hc
    obtain ⟨s2, a2, o2⟩ := c2
    simp only at hs2
    subst hs2
    cases v with
    | true =>
      show Res (f ⟨s2, a2, o2⟩ >>= fun c => countOp env c 1 >>= fun c => skipCount env Y c >>= fun c => countOp env c 1) rest o
      refine res_bind (h1 hvf.symm a2 o2) ?_
      intro c1 out ho hs
      refine res_bind (res_countOp hs ho) ?_
      intro c3 out3 ho3 hs3
      refine res_bind (res_skipCount hs3 ho3) ?_
      intro c4 out4 ho4 hs4
      exact res_countOp hs4 ho4
    | false =>
      show Res (skipCount env X ⟨s2, a2, o2⟩ >>= fun c => countOp env c 1 >>= fun c => g c >>= fun c => countOp env c 1) rest o
      refine res_pre (res_skipCount (out := []) rfl rfl) fun a1 o1 => ?_
      refine res_pre (res_countOp (out := []) rfl rfl) fun a3 o3 => ?_
      exact res_bind (h2 hvf.symm a3 o3) fun c4 out4 ho4 hs4 => res_countOp hs4 ho4

theorem cons_ifThen {env : Env} {nf : Bool} {X : List Op} {f : Core → Except Err Core} {i : Nat}
    (hf : Cons f i i) : Cons (ifThen env nf X f) (1 + i) i := by
  intro pre rest alt ops hl
  match pre, hl with
  | [], hl => simp only [List.length_nil] at hl; omega
  | a :: pre', hl =>
    have hl' : pre'.length = i := by simp only [List.length_cons] at hl; omega
    show Res (ifThen env nf X f ⟨a :: (pre' ++ rest), alt, ops⟩) rest i
    exact ifThen_res (fun _ => ⟨pre', hl', rfl⟩) (fun _ alt' ops' => hf pre' rest alt' ops' hl')

theorem cons_ifElse {env : Env} {nf : Bool} {X Y : List Op} {f g : Core → Except Err Core} {i o : Nat}
    (hf : Cons f i o) (hg : Cons g i o) : Cons (ifElse env nf X Y f g) (1 + i) o := by
  intro pre rest alt ops hl
  match pre, hl with
  | [], hl => simp only [List.length_nil] at hl; omega
  | a :: pre', hl =>
    have hl' : pre'.length = i := by simp only [List.length_cons] at hl; omega
    show Res (ifElse env nf X Y f g ⟨a :: (pre' ++ rest), alt, ops⟩) rest o
    exact ifElse_res (fun _ alt' ops' => hf pre' rest alt' ops' hl')
      (fun _ alt' ops' => hg pre' rest alt' ops' hl')

theorem noUF_ifdup {env : Env} (hlim : env.flags.stackLimits = false) (v : Bytes) (r alt : List Bytes) (ops : Nat) :
    NoUF (opc env .ifdup ⟨v :: r, alt, ops⟩) := by
  unfold opc
  cases h : countOp env ⟨v :: r, alt, ops⟩ 1 with
  | error e => rw [countOp_err h]; exact NoUF_error nofun nofun
  | ok c1 =>
    have h1 := (countOp_stack h).1
    obtain ⟨s1, a1, o1⟩ := c1
    simp only at h1
    subst h1
    simp only [execOpc, Script.pushElem_ok hlim]
    split <;> exact NoUF_ok _

/-- the tail `IFDUP NOTIF X ENDIF` of `or_d`: `X` the script of the right child, `f` its run -/
theorem cons_orDTail {env : Env} (hlim : env.flags.stackLimits = false) {X : List Op}
    {f : Core → Except Err Core} (hf : Cons f 0 1) :
    Cons (fun c => opc env .ifdup c >>= ifThen env true X f) 1 1 := by
  intro pre rest alt ops hl
  obtain ⟨v, rfl⟩ := len1 hl
  show Res (opc env .ifdup ⟨v :: rest, alt, ops⟩ >>= ifThen env true X f) rest 1
  have key : ∀ c1 : Core, c1.stack = (if castToBool v then v :: v :: rest else v :: rest) →
      Res (ifThen env true X f c1) rest 1 := by
    intro c1 hs
    obtain ⟨s1, a1, o1⟩ := c1
    simp only at hs
    subst hs
    by_cases hv : castToBool v = true
    · simp only [hv, if_true]
      exact ifThen_res (fun _ => ⟨[v], rfl, rfl⟩) (fun hf' => by simp [condFlag, hv] at hf')
    · simp only [hv]
      exact ifThen_res (fun hf' => by simp [condFlag, hv] at hf') (fun _ alt' ops' => hf [] rest alt' ops' rfl)
  refine ⟨NoUF_bind_intro (noUF_ifdup hlim v rest alt ops) ?_, ?_⟩
  · intro c1 h1
    obtain ⟨a, r, hs, _, hs'⟩ := ifdup_ok h1
    simp only [List.cons.injEq] at hs
    obtain ⟨rfl, rfl⟩ := hs
    exact (key c1 hs').1
  · intro c' h
    obtain ⟨c1, h1, h2⟩ := bind_ok h
    obtain ⟨a, r, hs, _, hs'⟩ := ifdup_ok h1
    simp only [List.cons.injEq] at hs
    obtain ⟨rfl, rfl⟩ := hs
    exact (key c1 hs').2 c' h2

theorem cons_verifyTail {env : Env} (hlim : env.flags.stackLimits = false) (fused : Bool) :
    Cons (verifyTail env fused) 1 0 := by
  cases fused
  · exact cons_opc hlim (o := .verify) rfl
  · intro pre rest alt ops hl
    obtain ⟨a, rfl⟩ := len1 hl
    show Res (verifyTail env true ⟨a :: rest, alt, ops⟩) rest 0
    rw [verifyTail_fused]
    split
    · exact ⟨NoUF_ok _, fun c' hc => by cases hc; exact ⟨[], rfl, rfl⟩⟩
    · exact ⟨NoUF_error nofun nofun, fun c' hc => by cases hc⟩

def nargs : Input → Option Nat
  | .zero => some 0
  | .one | .oneNonZero => some 1
  | _ => none

/-- what a fragment of this base leaves in place of its `i` arguments: B one value, V nothing,
K the key on top of the signature it did not consume -/
def resLen (b : Base) (i : Nat) : Nat :=
  match b with
  | .B => 1 | .V => 0 | .K => 1 + i | .W => 0  -- never read: no W fragment has a fixed `nargs`

/-- `nargs` is `Corr.numArgs` where that is at most one: the additivity tables of `CoreTypes` are stated for `numArgs` -/
theorem nargs_iff {i : Input} {n : Nat} : nargs i = some n ↔ Corr.numArgs i = n ∧ n ≤ 1 := by
  cases i <;> simp [nargs, Corr.numArgs] <;> omega

theorem numArgs_eq_zero {x : Input} (h : Corr.numArgs x = 0) : x = .zero := by
  cases x <;> first | rfl | cases h

theorem andInput_nargs {a b : Input} {i : Nat} (h : nargs (Corr.andInput a b) = some i) :
    ∃ ia ib, nargs a = some ia ∧ nargs b = some ib ∧ ia + ib = i := by
  obtain ⟨rfl, hl⟩ := nargs_iff.mp h
  have := Corr.numArgs_andInput a b hl
  exact ⟨_, _, nargs_iff.mpr ⟨rfl, by omega⟩, nargs_iff.mpr ⟨rfl, by omega⟩, this⟩

theorem orDInput_nargs {a b : Input} {i : Nat} (h : nargs (Corr.orDInput a b) = some i) :
    nargs a = some i ∧ b = .zero := by
  obtain ⟨rfl, hl⟩ := nargs_iff.mp h
  have h1 := Corr.numArgs_orDInput_left a b hl
  have h2 := Corr.numArgs_orDInput a b hl
  exact ⟨nargs_iff.mpr ⟨h1, hl⟩, numArgs_eq_zero (by omega)⟩

theorem orIInput_nargs {a b : Input} {i : Nat} (h : nargs (Corr.orIInput a b) = some i) :
    a = .zero ∧ b = .zero ∧ i = 1 := by
  obtain ⟨rfl, hl⟩ := nargs_iff.mp h
  obtain ⟨h1, h2⟩ := Corr.numArgs_orIInput a b hl
  exact ⟨numArgs_eq_zero (by omega), numArgs_eq_zero (by omega), by omega⟩

theorem andOrInput_nargs {a b c : Input} {i : Nat} (h : nargs (Corr.andOrInput a b c) = some i) :
    ∃ ia ib, nargs a = some ia ∧ nargs b = some ib ∧ nargs c = some ib ∧ ia + ib = i := by
  obtain ⟨rfl, hl⟩ := nargs_iff.mp h
  obtain ⟨h1, h2⟩ := Corr.numArgs_andOrInput a b c hl
  exact ⟨_, _, nargs_iff.mpr ⟨rfl, by omega⟩, nargs_iff.mpr ⟨rfl, by omega⟩, nargs_iff.mpr ⟨by omega, by omega⟩, h1⟩

theorem andInput_any (a : Input) : nargs (Corr.andInput a .any) = none := by
  cases a <;> rfl
theorem orBInput_any (a : Input) : nargs (Corr.orBInput a .any) = none := by
  cases a <;> rfl

end MsVerif.TypeSound
