/-
For C12: what the type letters `d` and `s` of a well-typed fragment mean in the specification's
table of canonical (dis)satisfactions (Spec/SatTable.lean). `d` gives a canonical dissatisfaction
(so every `thresh` of a typed script has dissatisfiable children: `threshKidsOK_of_typed`, which discharges
the hypothesis `threshKidsOK` of ValidateSat's `satData_isSome_eq_satEx`); `s` holds exactly when no
canonical satisfaction exists without a signature, the independent meaning of
`allow_sigless_branch`.
-/
import MsVerif.Lemmas.ValidateSat
import MsVerif.Lemmas.TypesEnum
import MsVerif.Lemmas.CoreSatTable

namespace MsVerif
open Spec SatTable

theorem kids_of_hasTypes {xs : MsList} {ts : List Ty} (h : HasTypes xs ts) : everyNodeL kidsPred xs = true := by
  induction h using HasTypes.rec (motive_1 := fun ms _ _ => everyNode kidsPred ms = true) with
  | alt _ _ ih | swap _ _ _ ih | check _ _ ih | zeroNotEqual _ _ ih | dupIf _ _ _ ih | nonZero _ _ _ ih
  | verify _ _ ih => exact ih
  | andV _ _ _ _ ihl ihr | andB _ _ _ _ ihl ihr | orB _ _ _ _ _ _ ihl ihr | orD _ _ _ _ _ _ ihl ihr
  | orC _ _ _ _ _ _ ihl ihr | orI _ _ _ _ ihl ihr => exact Bool.and_eq_true_iff.2 ⟨ihl, ihr⟩
  | andOr _ _ _ _ _ _ _ _ ihx ihy ihz => simp [everyNode, kidsPred, ihx, ihy, ihz]
  | threshNil => simp [everyNode, everyNodeL, kidsPred, allDsatEx]
  | thresh hx hxs _ _ hd hrest ihx ihxs =>
    have hk : allDsatEx allAvail (.cons _ _) = true :=
      dsats_of_hasTypes allAvail (fun _ => rfl) (.cons hx hxs) fun t ht =>
        (List.mem_cons.1 ht).elim (· ▸ hd) fun ht => (hrest t ht).2.2
    simp [everyNode, everyNodeL, kidsPred, hk, ihx, ihxs]
  | nil => simp [everyNodeL]
  | cons _ _ ihx ihxs => simp [everyNodeL, ihx, ihxs]
  | _ => simp [everyNode, kidsPred]

theorem threshKidsOK_of_typed (ms : Ms) (ty : Ty) (h : typeOf ms = some ty) : threshKidsOK ms = true := by
  simpa [everyNodeL, threshKidsOK] using kids_of_hasTypes (.cons (.of_typeOf ms h) .nil)

theorem kids_of_types : (xs : MsList) → ∀ tys, typesOf xs = some tys →
    everyNodeL kidsPred xs = true :=
  fun xs _ h => kids_of_hasTypes (.of_typesOf xs h)

theorem noSig_rawKey : ∀ h, noSigAvail.rawKey h = true := fun _ => rfl

theorem filter_noSig (ks : List Key) : ks.filter noSigAvail.sig = [] := by
  simp [noSigAvail]

theorem countP_not_add (l : List Bool) : l.countP id + l.countP (!·) = l.length := by
  simpa [Bool.not_eq_true] using (List.length_eq_countP_add_countP id (l := l)).symm

theorem signed_count (ms : List Mall) :
    (ms.filter (·.signed)).length = (ms.map (·.signed)).countP id := by
  rw [← List.countP_eq_length_filter, List.countP_map]; rfl

theorem thresh_signed {k : Nat} {xs : MsList} {tys : List Ty} (hk2 : k ≤ xs.length)
    (hkids : allDsatEx noSigAvail xs = true)
    (hs : tys.map (fun t => t.mall.signed) = xs.toList.map (fun m => !satEx noSigAvail m))
    (hlen : tys.length = xs.length) :
    (Mall.threshold k (tys.map (·.mall))).signed = !satEx noSigAvail (.thresh k xs) := by
  rw [satEx_thresh_of_allDsat _ _ _ hkids, (counts_of_allDsat noSigAvail xs hkids).2.2, Mall.threshold_signed,
    signed_count]
  have hsum := countP_not_add (xs.toList.map (satEx noSigAvail))
  have e1 : ((tys.map (·.mall)).map (·.signed)).countP id
      = (xs.toList.map (satEx noSigAvail)).countP (!·) := by
    rw [List.map_map]
    show (tys.map (fun t => t.mall.signed)).countP id = _
    rw [hs, List.countP_map, List.countP_map]; rfl
  have hl2 : (xs.toList.map (satEx noSigAvail)).length = tys.length := by
    simp [MsList.length_toList, hlen]
  have hk2' : k ≤ tys.length := by rw [hlen]; exact hk2
  simp only [e1, List.length_map]
  rw [Bool.eq_iff_iff]
  simp only [List.countP_map, List.length_map, Function.id_comp, decide_eq_true_eq,
    Bool.not_eq_true', decide_eq_false_iff_not, Bool.true_and, beq_self_eq_true,
    Nat.zero_le, decide_true] at hsum hl2 ⊢
  omega

theorem signed_of_hasTypes {xs : MsList} {tys : List Ty} (h : HasTypes xs tys) :
    everyNodeL rangeOk xs = true →
    tys.map (fun t => t.mall.signed) = xs.toList.map (fun m => !satEx noSigAvail m)
      ∧ tys.length = xs.length := by
  induction h using HasTypes.rec (motive_1 := fun ms ty _ => ruleRange ms = true →
    ty.mall.signed = !satEx noSigAvail ms) with
  | tru | fls | pkK | pkH | rawPkH | after | older | hash => simp only [satEx]; rfl
  | @multi k ks | @sortedMulti k ks | @multiA k ks | @sortedMultiA k ks =>
    rename_i hr
    simp only [ruleRange, everyNode, rangeOk, Bool.and_eq_true, decide_eq_true_eq] at hr
    simp only [satEx, filter_noSig, List.length_nil]
    rw [decide_eq_false (by omega : ¬ 0 ≥ k)]; rfl
  | alt _ _ ih | swap _ _ _ ih | check _ _ ih | zeroNotEqual _ _ ih | dupIf _ _ _ ih | verify _ _ ih
  | nonZero _ _ _ ih => rename_i hr; simp only [satEx]; exact ih hr
  | andV _ _ _ _ ihl ihr | andB _ _ _ _ ihl ihr | orI _ _ _ _ ihl ihr =>
    rename_i hr
    simp only [satEx, Mall.andV, Mall.andB, Mall.orI]
    rw [ihl (and_left hr), ihr (and_right hr)]
    cases satEx noSigAvail _ <;> cases satEx noSigAvail _ <;> rfl
  | orB hl hrr _ _ hda hdb ihl ihr =>
    rename_i hr
    simp only [satEx, Mall.orB]
    rw [ihl (and_left hr), ihr (and_right hr), dsat_of_hasType noSigAvail noSig_rawKey hl hda,
      dsat_of_hasType noSigAvail noSig_rawKey hrr hdb]
    cases satEx noSigAvail _ <;> cases satEx noSigAvail _ <;> rfl
  | orD hl _ _ _ hda _ ihl ihr | orC hl _ _ _ hda _ ihl ihr =>
    rename_i hr
    simp only [satEx, Mall.orD, Mall.orC]
    rw [ihl (and_left hr), ihr (and_right hr), dsat_of_hasType noSigAvail noSig_rawKey hl hda]
    cases satEx noSigAvail _ <;> cases satEx noSigAvail _ <;> rfl
  | andOr hx _ _ _ hda _ _ _ ihx ihy ihz =>
    rename_i hr
    simp only [ruleRange, everyNode, Bool.and_eq_true] at hr
    simp only [satEx, Mall.andOr]
    rw [ihx hr.1.1.2, ihy hr.1.2, ihz hr.2, dsat_of_hasType noSigAvail noSig_rawKey hx hda]
    cases satEx noSigAvail _ <;> cases satEx noSigAvail _ <;> cases satEx noSigAvail _ <;> rfl
  | threshNil =>
    rename_i hr
    simp only [ruleRange, everyNode, Bool.and_eq_true, rangeOk, MsList.length, decide_eq_true_eq] at hr
    have := of_decide_eq_true hr.1.2
    omega
  | thresh hx hxs _ _ hd hrest ihx ihxs =>
    rename_i hr
    simp only [ruleRange, everyNode, everyNodeL, Bool.and_eq_true, rangeOk, decide_eq_true_eq] at hr
    obtain ⟨⟨_, hk2⟩, hrx, hrxs⟩ := hr
    obtain ⟨hs, hlen⟩ := ihxs hrxs
    refine thresh_signed hk2
      (dsats_of_hasTypes noSigAvail noSig_rawKey (.cons hx hxs) fun t ht =>
        (List.mem_cons.1 ht).elim (· ▸ hd) fun ht => (hrest t ht).2.2) ?_ ?_
    · simp only [List.map_cons, MsList.toList, ihx (by simpa [ruleRange] using hrx), hs]
    · simp [MsList.length, hlen]
  | nil => exact fun _ => ⟨rfl, rfl⟩
  | cons _ _ ihx ihxs =>
    intro hr
    simp only [everyNodeL, Bool.and_eq_true] at hr
    obtain ⟨i1, i2⟩ := ihxs hr.2
    exact ⟨by simp only [List.map_cons, MsList.toList, ihx (by simpa [ruleRange] using hr.1), i1],
      by simp [MsList.length, i2]⟩

theorem signed_eq_noSigSat : (ms : Ms) → ruleRange ms = true → ∀ ty, typeOf ms = some ty →
    ty.mall.signed = !satEx noSigAvail ms := by
  intro ms hr ty h
  have := (signed_of_hasTypes (.cons (.of_typeOf ms h) .nil) (by simpa [everyNodeL, ruleRange] using hr)).1
  simpa [MsList.toList] using this

theorem signed_list_eq : (xs : MsList) → everyNodeL rangeOk xs = true → ∀ tys,
    typesOf xs = some tys →
    tys.map (fun t => t.mall.signed) = xs.toList.map (fun m => !satEx noSigAvail m)
      ∧ tys.length = xs.length :=
  fun xs hr _ h => signed_of_hasTypes (.of_typesOf xs h) hr

end MsVerif
