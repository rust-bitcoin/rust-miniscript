/-
C09: what the literal fold of `ExtData::threshold` computes.

The Rust code sorts the children by `sat - dissat` of one field (children lacking one of the two
figures first), walks the vector from the back and takes the SATISFACTION figure of the first
`k` children (`i < k`) and the dissatisfaction figure of the rest.  `fold_bounds_choice`: for any
choice of exactly `min k n` children to satisfy (the others dissatisfied), the sum of the chosen
figures is at most that result (differences may be negative: the `k`-th difference is used as a price).
-/
import MsVerif.Lemmas.BoundsBasic
import MsVerif.Lemmas.CoreExt

namespace MsVerif.C09
open MsVerif ExtData

/-- a child's pair of figures together with the satisfier's choice (`true` = satisfied) -/
abbrev ZE := ExtData.SD × Bool

variable (proj : SatData → Nat)

def satV (x : SD) : Nat := proj (x.1.getD default)
def disV (x : SD) : Nat := proj (x.2.getD default)
/-- the figure of the alternative the satisfier chose -/
def val (z : ZE) : Nat := if z.2 then satV proj z.1 else disV proj z.1
def Valid (z : ZE) : Prop := if z.2 then z.1.1.isSome = true else z.1.2.isSome = true

/-- only the number of satisfaction figures still to take matters -/
theorem threshFold_shift (cmb : Nat → Nat → Nat) : ∀ (l : List SD) (k i acc : Nat),
    threshFold k proj cmb i acc l = threshFold (k - i) proj cmb 0 acc l := by
  intro l
  induction l with
  | nil => intro k i acc; rfl
  | cons x rest ih =>
    intro k i acc
    obtain ⟨sat, dissat⟩ := x
    have e : k - i - 1 = k - (i + 1) := by omega
    simp only [threshFold, ih k (i + 1), ih (k - i) (0 + 1), e, Nat.sub_pos_iff_lt]

theorem threshFold_some : ∀ (l : List SD) (k acc total : Nat),
    threshFold k proj (fun a b => a + b) 0 acc l = some total →
    (∀ x ∈ l.take k, x.1.isSome = true) ∧ (∀ x ∈ l.drop k, x.2.isSome = true) ∧
    total = acc + ((l.take k).map (satV proj)).sum + ((l.drop k).map (disV proj)).sum := by
  intro l
  induction l with
  | nil => intro k acc total h; simp [threshFold] at h; simp [h]
  | cons x rest ih =>
    intro k acc total h
    obtain ⟨sat, dissat⟩ := x
    cases k with
    | zero =>
      simp only [threshFold, Nat.lt_irrefl, if_false] at h
      cases dissat with
      | none => simp at h
      | some d =>
        simp only at h
        rw [threshFold_shift] at h
        obtain ⟨_, h2, h3⟩ := ih _ _ _ h
        simp only [Nat.zero_sub, List.take_zero, List.drop_zero, List.map_nil, List.sum_nil, Nat.add_zero] at h2 h3 ⊢
        refine ⟨fun _ h => absurd h List.not_mem_nil, ?_, ?_⟩
        · rintro y (_ | ⟨_, hy⟩)
          · rfl
          · exact h2 y hy
        · simp only [List.map_cons, List.sum_cons, disV, Option.getD_some]; omega
    | succ k =>
      simp only [threshFold, Nat.zero_lt_succ, if_true] at h
      cases sat with
      | none => simp at h
      | some s =>
        simp only at h
        rw [threshFold_shift] at h
        obtain ⟨h1, h2, h3⟩ := ih _ _ _ h
        simp only [Nat.zero_add, Nat.add_sub_cancel] at h1 h2 h3
        refine ⟨?_, h2, ?_⟩
        · rintro y (_ | ⟨_, hy⟩)
          · rfl
          · exact h1 y hy
        · simp only [List.take_succ_cons, List.drop_succ_cons, List.map_cons, List.sum_cons, satV, Option.getD_some]; omega
theorem exists_min {α : Type} (g : α → Int) : ∀ l : List α, l ≠ [] → ∃ x ∈ l, ∀ y ∈ l, g x ≤ g y := by
  intro l
  induction l with
  | nil => intro h; exact absurd rfl h
  | cons a as ih =>
    intro _
    by_cases has : as = []
    · subst has; exact ⟨a, List.mem_cons_self .., fun y hy => by simp at hy; subst hy; exact Int.le_refl _⟩
    · obtain ⟨m, hm, hmin⟩ := ih has
      by_cases h : g a ≤ g m
      · refine ⟨a, List.mem_cons_self .., ?_⟩
        intro y hy
        rcases List.mem_cons.1 hy with rfl | hy
        · exact Int.le_refl _
        · exact Int.le_trans h (hmin y hy)
      · refine ⟨m, List.mem_cons_of_mem _ hm, ?_⟩
        intro y hy
        rcases List.mem_cons.1 hy with rfl | hy
        · omega
        · exact hmin y hy

theorem sortKey_full {x : SD} (h1 : x.1.isSome = true) (h2 : x.2.isSome = true) :
    sortKey proj x = some (Int.ofNat (satV proj x) - Int.ofNat (disV proj x)) := by
  obtain ⟨a, b⟩ := x
  cases a <;> cases b <;> simp_all [sortKey, satV, disV]

/-- a child's dissatisfaction figure plus what its satisfaction costs beyond the price `t` -/
def priced (t : Int) (p : SD) : Nat :=
  disV proj p + (if p.1.isSome then ((satV proj p : Int) - disV proj p - t).toNat else 0)

theorem val_le_priced (t : Int) (z : ZE) (hv : Valid z) :
    (val proj z : Int) ≤ priced proj t z.1 + (if z.2 then t else 0) := by
  obtain ⟨p, b⟩ := z
  cases b
  · simp only [val, priced, Bool.false_eq_true, if_false]; split <;> omega
  · have : p.1.isSome = true := by simpa [Valid] using hv
    simp only [val, priced, this, if_true]; omega

theorem sum_val_le_priced (t : Int) : ∀ l : List ZE, (∀ z ∈ l, Valid z) →
    ((l.map (val proj)).sum : Int)
      ≤ (((l.map Prod.fst).map (priced proj t)).sum : Nat) + t * (l.countP (fun z => z.2) : Nat) := by
  intro l
  induction l with
  | nil => intro _; simp
  | cons z zs ih =>
    intro h
    have ih' := ih fun y hy => h y (List.mem_cons_of_mem _ hy)
    have hz := val_le_priced proj t z (h z (List.mem_cons_self ..))
    simp only [List.map_cons, List.sum_cons, List.countP_cons, Int.natCast_add]
    cases hb : z.2 <;> simp only [hb, if_true, Bool.false_eq_true, if_false] at hz ⊢
    · simp only [Int.natCast_zero, Int.add_zero]; omega
    · simp only [Int.natCast_one, Int.mul_add, Int.mul_one]; omega

theorem priced_above (t : Int) : ∀ l : List SD,
    (∀ p ∈ l, p.1.isSome = true ∧ t ≤ (satV proj p : Int) - disV proj p) →
    (((l.map (priced proj t)).sum : Nat) : Int) + t * (l.length : Nat) = ((l.map (satV proj)).sum : Nat) := by
  intro l
  induction l with
  | nil => intro _; simp
  | cons p ps ih =>
    intro h
    have ih' := ih fun q hq => h q (List.mem_cons_of_mem _ hq)
    obtain ⟨h1, h2⟩ := h p (List.mem_cons_self ..)
    simp only [List.map_cons, List.sum_cons, List.length_cons, Int.natCast_add, Int.natCast_one, Int.mul_add,
      Int.mul_one, priced, h1, if_true]
    omega

theorem priced_below (t : Int) : ∀ l : List SD,
    (∀ p ∈ l, p.1.isSome = true → (satV proj p : Int) - disV proj p ≤ t) →
    (l.map (priced proj t)).sum = (l.map (disV proj)).sum := by
  intro l
  induction l with
  | nil => intro _; rfl
  | cons p ps ih =>
    intro h
    have := h p (List.mem_cons_self ..)
    simp only [List.map_cons, List.sum_cons, ih fun q hq => h q (List.mem_cons_of_mem _ hq), priced]
    by_cases hp : p.1.isSome = true
    · have := this hp; rw [if_pos hp]; omega
    · rw [if_neg hp]; rfl

theorem exists_price (hd tl : List SD) (hs : ∀ x ∈ hd, x.1.isSome = true)
    (hdis : ∀ x ∈ hd ++ tl, x.2.isSome = true)
    (hord : ∀ x ∈ hd, ∀ y ∈ tl, keyLe (sortKey proj y) (sortKey proj x) = true) :
    ∃ t : Int, (∀ p ∈ hd, p.1.isSome = true ∧ t ≤ (satV proj p : Int) - disV proj p)
      ∧ ∀ p ∈ tl, p.1.isSome = true → (satV proj p : Int) - disV proj p ≤ t := by
  by_cases hh : hd = []
  · subst hh
    by_cases ht : tl = []
    · subst ht; exact ⟨0, nofun, nofun⟩
    · obtain ⟨m, _, hm⟩ := exists_min (fun p : SD => (disV proj p : Int) - satV proj p) tl ht
      exact ⟨(satV proj m : Int) - disV proj m, nofun, fun p hp _ => by have := hm p hp; omega⟩
  · obtain ⟨m, hm, hmin⟩ := exists_min (fun p : SD => (satV proj p : Int) - disV proj p) hd hh
    refine ⟨(satV proj m : Int) - disV proj m, fun p hp => ⟨hs p hp, hmin p hp⟩, fun y hy hy1 => ?_⟩
    have hk := hord m hm y hy
    rw [sortKey_full proj hy1 (hdis y (List.mem_append_right _ hy)),
      sortKey_full proj (hs m hm) (hdis m (List.mem_append_left _ hm))] at hk
    simpa [keyLe] using hk

/-- **The fold bounds every choice.**  `r`: the children's figure pairs in ANY order in which the
differences `sat - dissat` of the field descend (pairs without a satisfaction figure last).  (Price the `k`-th difference `t`: a
choice costs at most `Σ priced + t·(number satisfied)`, which does not depend on the order, and on `r` that
is the fold.) -/
theorem fold_bounds_choice (k : Nat) (z : List ZE) (r : List SD) (total : Nat)
    (hperm : r.Perm (z.map Prod.fst))
    (hdesc : r.Pairwise fun a b => keyLe (sortKey proj b) (sortKey proj a) = true)
    (hfold : threshFold k proj (fun a b => a + b) 0 0 r = some total)
    (hvalid : ∀ x ∈ z, Valid x) (hcount : z.countP (fun x => x.2) = min k z.length)
    (hdis : ∀ x ∈ z, x.1.2.isSome = true) :
    (z.map (val proj)).sum ≤ total := by
  obtain ⟨f1, _, f3⟩ := threshFold_some proj r k 0 total hfold
  have hsplit : r.take k ++ r.drop k = r := List.take_append_drop _ _
  obtain ⟨t, ht1, ht2⟩ := exists_price proj (r.take k) (r.drop k) f1
    (by rw [hsplit]; intro x hx
        obtain ⟨y, hy, rfl⟩ := List.mem_map.1 (hperm.mem_iff.1 hx)
        exact hdis y hy)
    (by rw [← hsplit] at hdesc; exact (List.pairwise_append.1 hdesc).2.2)
  have hA := sum_val_le_priced proj t z hvalid
  have hB : ((z.map Prod.fst).map (priced proj t)).sum
      = ((r.take k).map (priced proj t)).sum + ((r.drop k).map (priced proj t)).sum := by
    rw [← List.sum_append, ← List.map_append, hsplit]
    exact ((hperm.map _).sum_nat).symm
  have hC := priced_above proj t (r.take k) ht1
  have hD := priced_below proj t (r.drop k) ht2
  have hl : (r.take k).length = min k z.length := by
    rw [List.length_take, hperm.length_eq, List.length_map]
  rw [hB, hD, hcount] at hA
  rw [hl] at hC
  omega

end MsVerif.C09
