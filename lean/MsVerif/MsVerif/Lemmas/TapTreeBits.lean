/-
Helper lemmas for C15: the two `u128` bitmaps (`BitStack128` in spend_info.rs, and
`complete_heights` + `complete_128` in `TapTreeBuilder`) refine plain lists of booleans as long
as the height stays ≤ 128.  Both lists are "is the current subtree a right child?" per open
ancestor, and both are advanced by the same `unwindL` when a subtree is completed.
-/
import MsVerif.Model.TapTree


namespace MsVerif.Tap
open MsVerif.Spec

theorem oneShl_getLsbD (h i : Nat) (hh : h < 128) :
    (1#128 <<< h).getLsbD i = decide (i = h) := by
  simp only [BitVec.getLsbD_shiftLeft, BitVec.getLsbD_one]
  by_cases e : i = h
  · subst e; simp [hh]
  · simp only [e, decide_false]
    by_cases c : i < h
    · simp [c]
    · have : i - h ≠ 0 := by omega
      simp [this]

theorem bit_test_eq (x : BitVec 128) (h : Nat) (hh : h < 128) :
    ((x &&& (1#128 <<< h)) == 0#128) = !x.getLsbD h := by
  cases hx : x.getLsbD h
  · have : x &&& (1#128 <<< h) = 0#128 := by
      apply BitVec.eq_of_getLsbD_eq
      intro i hi
      simp only [BitVec.getLsbD_and, oneShl_getLsbD h i hh, BitVec.getLsbD_zero]
      by_cases e : i = h
      · subst e; simp [hx]
      · simp [e]
    simp [this]
  · have : x &&& (1#128 <<< h) ≠ 0#128 := by
      intro heq
      have := congrArg (fun v => v.getLsbD h) heq
      simp [oneShl_getLsbD h h hh, hx] at this
    simp [this]

theorem bit_test_ne (x : BitVec 128) (h : Nat) (hh : h < 128) :
    ((x &&& (1#128 <<< h)) != 0#128) = x.getLsbD h := by
  simp [bne, bit_test_eq x h hh]

theorem getLsbD_setBit (x : BitVec 128) (h i : Nat) (hh : h < 128) :
    (x ||| (1#128 <<< h)).getLsbD i = (x.getLsbD i || decide (i = h)) := by
  simp [BitVec.getLsbD_or, oneShl_getLsbD h i hh]

theorem getLsbD_clearBit (x : BitVec 128) (h i : Nat) (hh : h < 128) :
    (x &&& ~~~(1#128 <<< h)).getLsbD i = (x.getLsbD i && !decide (i = h)) := by
  simp only [BitVec.getLsbD_and, BitVec.getLsbD_not, oneShl_getLsbD h i hh]
  by_cases c : i < 128
  · simp [c]
  · have : x.getLsbD i = false := BitVec.getLsbD_of_ge x i (by omega)
    simp [this]

/-- a subtree has been completed: if it was a left child we are now in the right sibling;
if it was a right child the parent is completed too -/
def unwindL : List Bool → List Bool
  | [] => []
  | false :: l => true :: l
  | true :: l => unwindL l

theorem unwindL_length_le (l : List Bool) : (unwindL l).length ≤ l.length := by
  induction l with
  | nil => simp [unwindL]
  | cons x l ih => cases x <;> simp [unwindL]; omega

/-- the pops of the merkle stack that accompany `unwindL` in the iterator -/
def unwindMs {ν : Type} : List Bool → List ν → List ν
  | [], ms => ms
  | false :: _, ms => ms
  | true :: l, ms => unwindMs l ms.tail

/-- `f k` is the `k`-th entry of the stack counted from the bottom, shifted by `off` -/
def Rep (f : Nat → Bool) (off : Nat) : List Bool → Prop
  | [] => True
  | x :: l => f (l.length + off) = x ∧ Rep f off l

theorem Rep.congr {f g : Nat → Bool} {off : Nat} : ∀ {l : List Bool},
    (∀ i, off ≤ i → i < l.length + off → f i = g i) → Rep f off l → Rep g off l := by
  intro l
  induction l with
  | nil => intro _ _; trivial
  | cons x l ih =>
    intro h hr
    refine ⟨?_, ih (fun i h1 h2 => h i h1 (by simp; omega)) hr.2⟩
    rw [← h _ (by omega) (by simp)]
    exact hr.1

/-- refinement relation for `BitStack128` (T3 `bitstack128_refines_list`) -/
def RS (s : BitStack128) (l : List Bool) : Prop :=
  s.height = l.length ∧ l.length ≤ 128 ∧ Rep s.inner.getLsbD 0 l

theorem RS_default : RS BitStack128.default [] := ⟨rfl, by simp, trivial⟩

theorem RS.height_eq {s : BitStack128} {l : List Bool} (h : RS s l) : s.height = l.length := h.1

theorem RS.length_le {s : BitStack128} {l : List Bool} (h : RS s l) : l.length ≤ 128 := h.2.1

theorem RS.push_some {s : BitStack128} {l : List Bool} (h : RS s l) (hl : l.length < 128)
    (b : Bool) : ∃ s', s.push b = some s' ∧ RS s' (b :: l) := by
  obtain ⟨hh, _, hr⟩ := h
  have hlt : s.height < 128 := by omega
  have hge : ¬ s.height ≥ 128 := by omega
  refine ⟨_, by simp only [BitStack128.push, hge, if_false]; rfl, ?_, ?_, ?_, ?_⟩
  · simp [hh]
  · simp; omega
  · simp only [Nat.add_zero, ← hh]
    cases b
    · simp [getLsbD_clearBit _ _ _ hlt]
    · simp [getLsbD_setBit _ _ _ hlt]
  · refine Rep.congr ?_ hr
    intro i _ hi
    have : i ≠ s.height := by omega
    cases b
    · simp [getLsbD_clearBit _ _ _ hlt, this]
    · simp [getLsbD_setBit _ _ _ hlt, this]

theorem RS.push_none {s : BitStack128} {l : List Bool} (h : RS s l) (hl : ¬ l.length < 128)
    (b : Bool) : s.push b = none := by
  have : s.height ≥ 128 := by have := h.height_eq; omega
  simp [BitStack128.push, this]

theorem RS.pop_cons {s : BitStack128} {x : Bool} {l : List Bool} (h : RS s (x :: l)) :
    ∃ s', s.pop = some (x, s') ∧ RS s' l := by
  obtain ⟨hh, hle, hx, hr⟩ := h
  simp only [List.length_cons] at hh hle
  have hpos : s.height > 0 := by omega
  have hlt : s.height - 1 < 128 := by omega
  refine ⟨⟨s.inner, s.height - 1⟩, ?_, ?_, ?_, hr⟩
  · simp only [BitStack128.pop, hpos, if_true, bit_test_ne _ _ hlt]
    have : s.height - 1 = l.length + 0 := by omega
    rw [this, hx]
  · simp; omega
  · omega

theorem RS.pop_nil {s : BitStack128} (h : RS s []) : s.pop = none := by
  have : ¬ s.height > 0 := by have := h.height_eq; simp at this; omega
  simp [BitStack128.pop, this]

/-- the iterator's inner loop on the bit stack is `unwindL` / `unwindMs` on the list -/
theorem iterUnwind_sim {ν : Type} : ∀ (l : List Bool) (fuel : Nat) (ms : List ν) (dl : BitStack128),
    RS dl l → l.length < fuel →
    ∃ dl', iterUnwind fuel ms dl = some (unwindMs l ms, dl') ∧ RS dl' (unwindL l) := by
  intro l
  induction l with
  | nil =>
    intro fuel ms dl h hf
    cases fuel with
    | zero => simp at hf
    | succ fuel => exact ⟨dl, by simp [iterUnwind, h.pop_nil, unwindMs], h⟩
  | cons x l ih =>
    intro fuel ms dl h hf
    cases fuel with
    | zero => simp at hf
    | succ fuel =>
      obtain ⟨dl1, hp, h1⟩ := h.pop_cons
      cases x with
      | false =>
        have hl : l.length < 128 := by have := h.length_le; simp at this; omega
        obtain ⟨dl2, hp2, h2⟩ := h1.push_some hl true
        exact ⟨dl2, by simp [iterUnwind, hp, hp2, unwindMs], h2⟩
      | true =>
        obtain ⟨dl2, he, h2⟩ := ih fuel ms.tail dl1 h1 (by simp at hf; omega)
        exact ⟨dl2, by simp [iterUnwind, hp, he, unwindMs], h2⟩

end MsVerif.Tap
