/-
C06: the FRAME property of the fragment semantics (stack limits off; the opcode-count limit may be on).

`Framed f`: whenever `f` on a core `c` does not fail by running out of stack, `f` on the same
core with extra elements `s` BELOW the stack does exactly the same and leaves `s` untouched
(errors included).  Every primitive step is framed, hence `frag ms` for every `ms` — no typing
needed.
-/
import MsVerif.Lemmas.TypeSoundOps

namespace MsVerif.TypeSound
open MsVerif MsVerif.Script

def app (c : Core) (s : List Bytes) : Core := { c with stack := c.stack ++ s }

def lift (s : List Bytes) (r : Except Err Core) : Except Err Core := r.map (app · s)

def liftP (s : List Bytes) (r : Except Err (Bool × Core)) : Except Err (Bool × Core) :=
  r.map fun p => (p.1, app p.2 s)

/-- `r` is not one of the two errors that mean "the stack was too short" (`condPop` on an empty stack reports
`unbalancedConditional`) -/
def NoUF {α} (r : Except Err α) : Prop :=
  r ≠ .error .stackUnderflow ∧ r ≠ .error .unbalancedConditional

def Framed (f : Core → Except Err Core) : Prop :=
  ∀ c s, NoUF (f c) → f (app c s) = lift s (f c)

def FramedP (f : Core → Except Err (Bool × Core)) : Prop :=
  ∀ c s, NoUF (f c) → f (app c s) = liftP s (f c)

@[simp] theorem lift_ok (s : List Bytes) (c : Core) : lift s (.ok c) = .ok (app c s) := rfl
@[simp] theorem lift_error (s : List Bytes) (e : Err) : lift s (.error e) = .error e := rfl
@[simp] theorem liftP_ok (s : List Bytes) (p : Bool × Core) : liftP s (.ok p) = .ok (p.1, app p.2 s) := rfl
@[simp] theorem liftP_error (s : List Bytes) (e : Err) : liftP s (.error e) = .error e := rfl
@[simp] theorem app_stack (c : Core) (s : List Bytes) : (app c s).stack = c.stack ++ s := rfl
@[simp] theorem app_alt (c : Core) (s : List Bytes) : (app c s).alt = c.alt := rfl
@[simp] theorem app_ops (c : Core) (s : List Bytes) : (app c s).ops = c.ops := rfl
@[simp] theorem app_nil (c : Core) : app c [] = c := by simp [app]

theorem NoUF_ok {α} (a : α) : NoUF (Except.ok a : Except Err α) := ⟨by simp, by simp⟩

theorem NoUF_error {α} {e : Err} (h1 : e ≠ .stackUnderflow) (h2 : e ≠ .unbalancedConditional) :
    NoUF (Except.error e : Except Err α) :=
  ⟨fun h => h1 (by cases h; rfl), fun h => h2 (by cases h; rfl)⟩

theorem NoUF_error_cast {α β} {e : Err} (h : NoUF (Except.error e : Except Err α)) :
    NoUF (Except.error e : Except Err β) :=
  ⟨fun h' => h.1 (by cases h'; rfl), fun h' => h.2 (by cases h'; rfl)⟩

theorem NoUF_lift {s : List Bytes} {r : Except Err Core} (h : NoUF r) : NoUF (lift s r) := by
  cases r with
  | ok c => exact NoUF_ok _
  | error e => exact h

theorem NoUF_bind {α β} {x : Except Err α} {f : α → Except Err β} (h : NoUF (x >>= f)) :
    NoUF x ∧ ∀ a, x = .ok a → NoUF (f a) := by
  cases x with
  | error e =>
    refine ⟨NoUF_error_cast h, ?_⟩
    intro a ha; cases ha
  | ok a =>
    refine ⟨NoUF_ok a, ?_⟩
    intro a' ha; cases ha; exact h

theorem NoUF_bind_intro {α β} {x : Except Err α} {f : α → Except Err β}
    (h1 : NoUF x) (h2 : ∀ a, x = .ok a → NoUF (f a)) : NoUF (x >>= f) := by
  cases x with
  | error e => exact NoUF_error_cast h1
  | ok a => exact h2 a rfl

theorem Framed.ok {f : Core → Except Err Core} (hf : Framed f) {c c' : Core} (s : List Bytes) (h : f c = .ok c') :
    f (app c s) = .ok (app c' s) := by
  rw [hf c s (h ▸ NoUF_ok c'), h]; rfl

theorem Framed.of_app {f : Core → Except Err Core} (hf : Framed f) {c c'' : Core} {s : List Bytes} (hn : NoUF (f c))
    (h : f (app c s) = .ok c'') : ∃ c', f c = .ok c' ∧ c'' = app c' s := by
  rw [hf c s hn] at h
  cases hc : f c with
  | error e => rw [hc] at h; cases h
  | ok c' => rw [hc] at h; cases h; exact ⟨c', rfl, rfl⟩

theorem framed_bind {f g : Core → Except Err Core} (hf : Framed f) (hg : Framed g) :
    Framed (fun c => f c >>= g) := by
  intro c s hn
  obtain ⟨h1, h2⟩ := NoUF_bind hn
  show (f (app c s) >>= g) = lift s (f c >>= g)
  rw [hf c s h1]
  cases hfc : f c with
  | error e => rfl
  | ok c1 =>
    exact hg c1 s (h2 c1 hfc)

theorem framedP_bind {f : Core → Except Err (Bool × Core)} {g : Bool → Core → Except Err Core}
    (hf : FramedP f) (hg : ∀ v, Framed (g v)) :
    Framed (fun c => f c >>= fun p => g p.1 p.2) := by
  intro c s hn
  obtain ⟨h1, h2⟩ := NoUF_bind hn
  show (f (app c s) >>= fun p => g p.1 p.2) = lift s (f c >>= fun p => g p.1 p.2)
  rw [hf c s h1]
  cases hfc : f c with
  | error e => rfl
  | ok p =>
    exact hg p.1 p.2 s (h2 p hfc)

theorem framed_ite {p : Prop} [Decidable p] {f g : Core → Except Err Core} (hf : Framed f) (hg : Framed g) :
    Framed (fun c => if p then f c else g c) := by
  intro c s hn
  by_cases hp : p
  · simp only [hp, if_true] at hn ⊢; exact hf c s hn
  · simp only [hp, if_false] at hn ⊢; exact hg c s hn

theorem framed_congr {f g : Core → Except Err Core} (h : ∀ c, f c = g c) (hg : Framed g) : Framed f := by
  intro c s hn
  rw [h] at hn ⊢
  rw [h]
  exact hg c s hn

theorem countOp_app (env : Env) (c : Core) (n : Nat) (s : List Bytes) :
    countOp env (app c s) n = lift s (countOp env c n) := by
  obtain ⟨st, al, ops⟩ := c
  show countOp env ⟨st ++ s, al, ops⟩ n = lift s (countOp env ⟨st, al, ops⟩ n)
  unfold countOp
  dsimp only
  split <;> rfl

theorem framed_countOp (env : Env) (n : Nat) : Framed (fun c => countOp env c n) :=
  fun c s _ => countOp_app env c n s

theorem pushElem_app {env : Env} (hlim : env.flags.stackLimits = false) (c : Core) (b : Bytes) (s : List Bytes) :
    pushElem env (app c s) b = lift s (pushElem env c b) := by
  rw [Script.pushElem_ok hlim, Script.pushElem_ok hlim]
  rfl

theorem psh_app {env : Env} (hlim : env.flags.stackLimits = false) (c : Core) (b : Bytes) (s : List Bytes) :
    psh env b (app c s) = lift s (psh env b c) := by
  rw [psh_ok hlim, psh_ok hlim]
  rfl

theorem skipCount_app (env : Env) (sc : List Op) (c : Core) (s : List Bytes) :
    skipCount env sc (app c s) = lift s (skipCount env sc c) := by
  unfold skipCount
  split
  · rfl
  · exact countOp_app env c _ s

theorem framed_skipCount (env : Env) (sc : List Op) : Framed (skipCount env sc) :=
  fun c s _ => skipCount_app env sc c s

theorem framedP_condPop (env : Env) (nf : Bool) : FramedP (condPop env nf) := by
  intro c s hn
  obtain ⟨st, al, ops⟩ := c
  cases st with
  | nil => exact absurd rfl hn.2
  | cons a r =>
    simp only [condPop, app, List.cons_append]
    split <;> rfl

theorem framedP_cnd (env : Env) (nf : Bool) : FramedP (cnd env nf) := by
  intro c s hn
  unfold cnd at hn ⊢
  rw [countOp_app]
  cases hc : countOp env c 1 with
  | error e => rfl
  | ok c1 =>
    simp only [hc] at hn
    simpa using framedP_condPop env nf c1 s hn

theorem finish_app {env : Env} (hlim : env.flags.stackLimits = false) (rest s : List Bytes) (ops : Nat)
    (r : List Bytes × List Bytes × Option Bytes) :
    finish env (rest ++ s) ops r = lift s (finish env rest ops r) := by
  obtain ⟨out, al, _ | b⟩ := r
  · show Except.ok (Core.mk (out ++ (rest ++ s)) al ops) = _
    rw [← List.append_assoc]; rfl
  · show pushElem env ⟨out ++ (rest ++ s), al, ops⟩ b = _
    rw [← List.append_assoc]
    exact pushElem_app hlim ⟨out ++ rest, al, ops⟩ b s

theorem framed_execOpc_simple {env : Env} (hlim : env.flags.stackLimits = false) (o : Opc)
    (ho : o ≠ .checkmultisig ∧ o ≠ .checkmultisigverify) : Framed (execOpc env o) := by
  intro ⟨st, al, ops⟩ s hn
  rcases need_cases o st with hl | ⟨pre, rest, rfl, hlen⟩
  · exact absurd (execOpc_short env ho hl al ops) hn.1
  · show execOpc env o ⟨pre ++ rest ++ s, al, ops⟩ = _
    rw [List.append_assoc, execOpc_local env ho hlen, execOpc_local env ho hlen]
    cases act env o pre al with
    | error e => rfl
    | ok r => exact finish_app hlim rest s ops r

theorem drop_eq_cons_append {α : Type} {l : List α} {n : Nat} {x : α} {t : List α} (h : l.drop n = x :: t)
    (s : List α) : (l ++ s).drop n = x :: (t ++ s) ∧ (l ++ s).take n = l.take n := by
  have hle : n ≤ l.length := by
    apply Nat.le_of_not_lt
    intro hlt
    rw [List.drop_eq_nil_of_le (Nat.le_of_lt hlt)] at h
    cases h
  rw [List.drop_append_of_le_length hle, List.take_append_of_le_length hle, h]
  exact ⟨rfl, rfl⟩

theorem msArgs_app {env : Env} {nI : Int} {r : List Bytes} (s : List Bytes)
    (hn : msArgs env nI r ≠ .error .stackUnderflow) :
    msArgs env nI (r ++ s) = (msArgs env nI r).map fun a => (a.1, a.2.1, a.2.2.1, a.2.2.2 ++ s) := by
  unfold msArgs at hn ⊢
  by_cases hl : r.length < nI.toNat + 1
  · simp only [hl, if_true] at hn; exact absurd rfl hn
  have hl' : ¬ (r ++ s).length < nI.toNat + 1 := by rw [List.length_append]; omega
  simp only [hl, hl', if_false] at hn ⊢
  cases hd : r.drop nI.toNat with
  | nil => simp only [hd] at hn; exact absurd rfl hn
  | cons mB r1 =>
  obtain ⟨e1, e2⟩ := drop_eq_cons_append hd s
  simp only [hd, e1, e2] at hn ⊢
  cases hmd : numDecode env.flags.minimalNum 4 mB with
  | none => rfl
  | some mI =>
  simp only [hmd] at hn ⊢
  by_cases hm : mI < 0 ∨ mI > nI
  · simp only [hm, if_true]; rfl
  by_cases hl2 : r1.length < mI.toNat + 1
  · simp only [hm, hl2, if_true, if_false] at hn; exact absurd rfl hn
  have hl2' : ¬ (r1 ++ s).length < mI.toNat + 1 := by rw [List.length_append]; omega
  simp only [hm, hl2, hl2', if_false] at hn ⊢
  cases hd2 : r1.drop mI.toNat with
  | nil => simp only [hd2] at hn; exact absurd rfl hn
  | cons dummy r2 =>
  obtain ⟨e3, e4⟩ := drop_eq_cons_append hd2 s
  simp only [e3, e4]
  rfl

theorem msTail_app {env : Env} (hlim : env.flags.stackLimits = false) (v : Bool) (alt : List Bytes) (ops : Nat)
    (a : List Bytes × List Bytes × Bytes × List Bytes) (s : List Bytes) :
    msTail env v alt ops (a.1, a.2.1, a.2.2.1, a.2.2.2 ++ s) = lift s (msTail env v alt ops a) := by
  unfold msTail
  dsimp only
  cases multisigLoop env a.2.1 a.1 with
  | error e => rfl
  | ok ok =>
    dsimp only
    by_cases h1 : (!ok && env.flags.nullFail && a.2.1.any fun x => !x.isEmpty) = true
    · simp only [h1, if_true]; rfl
    by_cases h2 : (env.flags.nullDummy && !a.2.2.1.isEmpty) = true
    · simp only [h1, h2, if_true]; rfl
    simp only [h1, h2]
    cases v
    · exact pushElem_app hlim ⟨a.2.2.2, alt, ops⟩ _ s
    · cases ok <;> rfl

theorem framed_multisig {env : Env} (hlim : env.flags.stackLimits = false) (v : Bool) :
    Framed (fun c => multisig env c v) := by
  intro ⟨st, al, ops⟩ s hn
  show multisig env ⟨st ++ s, al, ops⟩ v = lift s (multisig env ⟨st, al, ops⟩ v)
  change NoUF (multisig env ⟨st, al, ops⟩ v) at hn
  rw [multisig_eq] at hn ⊢
  rw [multisig_eq]
  by_cases ht : env.flags.tapscript = true
  · simp only [ht, if_true]; rfl
  simp only [ht, Bool.false_eq_true, if_false] at hn ⊢
  cases st with
  | nil => exact absurd rfl hn.1
  | cons nB r =>
  dsimp only [List.cons_append] at hn ⊢
  cases hnd : numDecode env.flags.minimalNum 4 nB with
  | none => rfl
  | some nI =>
  simp only [hnd] at hn ⊢
  by_cases hr : nI < 0 ∨ nI > 20
  · simp only [hr, if_true]; rfl
  simp only [hr, if_false] at hn ⊢
  rw [show (⟨nB :: (r ++ s), al, ops⟩ : Core) = app ⟨nB :: r, al, ops⟩ s from rfl, countOp_app]
  cases hc : countOp env ⟨nB :: r, al, ops⟩ nI.toNat with
  | error e => rfl
  | ok c1 =>
  rw [hc] at hn
  have hu : msArgs env nI r ≠ .error .stackUnderflow := by
    intro hu
    apply hn.1
    show (msArgs env nI r >>= msTail env v c1.alt c1.ops) = _
    rw [hu]; rfl
  show (msArgs env nI (r ++ s) >>= msTail env v c1.alt c1.ops) = lift s (msArgs env nI r >>= msTail env v c1.alt c1.ops)
  rw [msArgs_app s hu]
  cases msArgs env nI r with
  | error e => rfl
  | ok a => exact msTail_app hlim v c1.alt c1.ops a s

theorem framed_execOpc {env : Env} (hlim : env.flags.stackLimits = false) (o : Opc) : Framed (execOpc env o) := by
  induction o using Opc.multisig_or with
  | h1 => exact framed_congr (execOpc_cms env) (framed_multisig hlim false)
  | h2 => exact framed_congr (execOpc_cmsv env) (framed_multisig hlim true)
  | h ho => exact framed_execOpc_simple hlim o ho

theorem framed_opc {env : Env} (hlim : env.flags.stackLimits = false) (o : Opc) : Framed (opc env o) := by
  refine framed_congr (g := fun c => countOp env c 1 >>= execOpc env o) ?_
    (framed_bind (framed_countOp env 1) (framed_execOpc hlim o))
  intro c
  unfold opc
  cases countOp env c 1 <;> rfl

theorem framed_pshOp {env : Env} (hlim : env.flags.stackLimits = false) (op : Op) : Framed (pshOp env op) := by
  cases op with
  | small n => exact fun c s _ => pushElem_app hlim c _ s
  | push bs => exact fun c s _ => psh_app hlim c bs s
  | code o => exact framed_opc hlim o
  | bad b => exact fun c s _ => rfl

theorem framed_seqOps {env : Env} (hlim : env.flags.stackLimits = false) :
    (ops : List Op) → Framed (seqOps env ops)
  | [] => fun c s _ => rfl
  | op :: ops => by
    refine framed_congr (g := fun c => pshOp env op c >>= seqOps env ops) ?_
      (framed_bind (framed_pshOp hlim op) (framed_seqOps hlim ops))
    exact seqOps_cons env op ops

theorem framed_ifThen {env : Env} (nf : Bool) (X : List Op) {f : Core → Except Err Core} (hf : Framed f) :
    Framed (ifThen env nf X f) := by
  refine framed_congr (ifThen_eq env nf X f) (framedP_bind (g := thenTail env X f) (framedP_cnd env nf) ?_)
  intro v
  cases v
  · exact framed_bind (framed_skipCount env X) (framed_countOp env 1)
  · exact framed_bind hf (framed_countOp env 1)

theorem framed_ifElse {env : Env} (nf : Bool) (X Y : List Op) {f g : Core → Except Err Core}
    (hf : Framed f) (hg : Framed g) : Framed (ifElse env nf X Y f g) := by
  refine framed_congr (ifElse_eq env nf X Y f g) (framedP_bind (g := elseTail env X Y f g) (framedP_cnd env nf) ?_)
  intro v
  cases v
  · exact framed_bind (framed_skipCount env X)
      (framed_bind (framed_countOp env 1) (framed_bind hg (framed_countOp env 1)))
  · exact framed_bind hf
      (framed_bind (framed_countOp env 1) (framed_bind (framed_skipCount env Y) (framed_countOp env 1)))

theorem framed_verifyTail {env : Env} (hlim : env.flags.stackLimits = false) (fused : Bool) :
    Framed (verifyTail env fused) := by
  cases fused
  · exact framed_opc hlim .verify
  · intro c s hn
    obtain ⟨st, al, ops⟩ := c
    cases st with
    | nil => exact absurd rfl hn.1
    | cons a r =>
      show verifyTail env true ⟨a :: (r ++ s), al, ops⟩ = _
      rw [verifyTail_fused, verifyTail_fused]
      split <;> rfl

mutual
theorem framed_frag {env : Env} (hlim : env.flags.stackLimits = false) (ke : KeyEnv) (ctx : Ctx) :
    (ms : Ms) → Framed (frag env ke ctx ms)
  | .pkK k => framed_congr (fun _ => rfl) (fun c s _ => psh_app hlim c (ke.ser k) s)
  | .pkH _ | .rawPkH _ | .after _ | .older _ | .hash _ _ | .multi _ _ | .sortedMulti _ _ | .multiA _ _
  | .sortedMultiA _ _ => framed_congr (fun _ => rfl) (framed_seqOps hlim _)
  | .tru | .fls => framed_congr (fun _ => rfl) (framed_pshOp hlim _)
  | .alt x => framed_congr (frag_alt env ke ctx x)
      (framed_bind (framed_opc hlim _) (framed_bind (framed_frag hlim ke ctx x) (framed_opc hlim _)))
  | .swap x => framed_congr (frag_swap env ke ctx x)
      (framed_bind (framed_opc hlim _) (framed_frag hlim ke ctx x))
  | .check x => framed_congr (frag_check env ke ctx x)
      (framed_bind (framed_frag hlim ke ctx x) (framed_opc hlim _))
  | .dupIf x => framed_congr (frag_dupIf env ke ctx x)
      (framed_bind (framed_opc hlim _) (framed_ifThen _ _ (framed_frag hlim ke ctx x)))
  | .verify x => framed_congr (frag_verify env ke ctx x)
      (framed_bind (framed_frag hlim ke ctx x) (framed_verifyTail hlim _))
  | .nonZero x => framed_congr (frag_nonZero env ke ctx x)
      (framed_bind (framed_opc hlim _) (framed_bind (framed_opc hlim _)
        (framed_ifThen _ _ (framed_frag hlim ke ctx x))))
  | .zeroNotEqual x => framed_congr (frag_zeroNotEqual env ke ctx x)
      (framed_bind (framed_frag hlim ke ctx x) (framed_opc hlim _))
  | .andV l r => framed_congr (frag_andV env ke ctx l r)
      (framed_bind (framed_frag hlim ke ctx l) (framed_frag hlim ke ctx r))
  | .andB l r => framed_congr (frag_andB env ke ctx l r)
      (framed_bind (framed_frag hlim ke ctx l) (framed_bind (framed_frag hlim ke ctx r) (framed_opc hlim _)))
  | .orB l r => framed_congr (frag_orB env ke ctx l r)
      (framed_bind (framed_frag hlim ke ctx l) (framed_bind (framed_frag hlim ke ctx r) (framed_opc hlim _)))
  | .andOr a b z => framed_congr (frag_andOr env ke ctx a b z)
      (framed_bind (framed_frag hlim ke ctx a)
        (framed_ifElse _ _ _ (framed_frag hlim ke ctx z) (framed_frag hlim ke ctx b)))
  | .orD l r => framed_congr (frag_orD env ke ctx l r)
      (framed_bind (framed_frag hlim ke ctx l) (framed_bind (framed_opc hlim _)
        (framed_ifThen _ _ (framed_frag hlim ke ctx r))))
  | .orC l r => framed_congr (frag_orC env ke ctx l r)
      (framed_bind (framed_frag hlim ke ctx l) (framed_ifThen _ _ (framed_frag hlim ke ctx r)))
  | .orI l r => framed_congr (frag_orI env ke ctx l r)
      (framed_ifElse _ _ _ (framed_frag hlim ke ctx l) (framed_frag hlim ke ctx r))
  | .thresh k xs => framed_congr (frag_thresh env ke ctx k xs)
      (framed_bind (framed_fragThresh hlim ke ctx true xs) (framed_seqOps hlim _))
theorem framed_fragThresh {env : Env} (hlim : env.flags.stackLimits = false) (ke : KeyEnv) (ctx : Ctx)
    (first : Bool) : (xs : MsList) → Framed (fragThresh env ke ctx first xs)
  | .nil => fun c s _ => by rw [fragThresh_nil, fragThresh_nil]; rfl
  | .cons x xs => framed_congr (fragThresh_cons env ke ctx first x xs)
      (framed_bind (framed_frag hlim ke ctx x)
        (framed_bind (by
            cases first
            · exact framed_opc hlim .add
            · exact fun c s _ => rfl)
          (framed_fragThresh hlim ke ctx false xs)))
end

end MsVerif.TypeSound
