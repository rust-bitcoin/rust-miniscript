/-
C06: exact stack consumption (stack limits off).

`Cons f i o`: on ANY stack with at least `i` elements `f` does not run out of stack, and when it
succeeds it has replaced the top `i` elements by `o` elements and left everything below
untouched.  Opcodes with a fixed `(i, o)` are listed in `arity` (`act_fixed`, walking `act` with `Sure`: no underflow, and a postcondition on success);
sequencing adds them up (`cons_bind`); `Res` is `Cons` at one stack, the form `TypeSoundArgsMain` needs for conditionals.
-/
import MsVerif.Lemmas.TypeSoundFrame

namespace MsVerif.TypeSound
open MsVerif MsVerif.Script

/-- outcome `r` of a run whose stack was `… ++ rest`: no underflow, and on success `o` elements
on top of the untouched `rest` -/
def Res (r : Except Err Core) (rest : List Bytes) (o : Nat) : Prop :=
  NoUF r ∧ ∀ c', r = .ok c' → ∃ out, out.length = o ∧ c'.stack = out ++ rest

def Cons (f : Core → Except Err Core) (i o : Nat) : Prop :=
  ∀ (pre rest : List Bytes) (alt : List Bytes) (ops : Nat), pre.length = i →
    Res (f ⟨pre ++ rest, alt, ops⟩) rest o

def arity : Opc → Option (Nat × Nat)
  | .dup => some (1, 2) | .size => some (1, 2) | .swap => some (2, 2) | .drop => some (1, 0)
  | .verify => some (1, 0) | .zeronotequal => some (1, 1)
  | .equal => some (2, 1) | .equalverify => some (2, 0) | .numequal => some (2, 1) | .numequalverify => some (2, 0)
  | .add => some (2, 1) | .booland => some (2, 1) | .boolor => some (2, 1)
  | .sha256 => some (1, 1) | .hash256 => some (1, 1) | .ripemd160 => some (1, 1) | .hash160 => some (1, 1)
  | .checksig => some (2, 1) | .checksigverify => some (2, 0)
  | .cltv => some (1, 1) | .csv => some (1, 1)
  | _ => none

theorem num4_noUF (env : Env) (a : Bytes) : NoUF (num4 env a) := by
  unfold num4
  split
  · exact NoUF_ok _
  · exact NoUF_error nofun nofun

theorem checkSig_noUF (env : Env) (sg pk : Bytes) : NoUF (checkSig env sg pk) := by
  unfold checkSig
  repeat' split
  all_goals first | exact NoUF_ok _ | exact NoUF_error nofun nofun

def Sure {α} (Q : α → Prop) (x : Except Err α) : Prop := NoUF x ∧ Holds Q x

section sure
variable {α β : Type} {Q : α → Prop}

theorem Sure.error {e : Err} (h1 : e ≠ .stackUnderflow) (h2 : e ≠ .unbalancedConditional) : Sure Q (.error e) :=
  ⟨NoUF_error h1 h2, .error⟩

theorem Sure.pure {a : α} (h : Q a) : Sure Q (pure a : Except Err α) := ⟨NoUF_ok a, .pure h⟩

theorem Sure.bind {x : Except Err β} {f : β → Except Err α} (hx : NoUF x) (h : ∀ b, Sure Q (f b)) : Sure Q (x >>= f) :=
  ⟨NoUF_bind_intro hx fun b _ => (h b).1, .bind fun b => (h b).2⟩

theorem Sure.ite {p : Prop} [Decidable p] {x y : Except Err α} (hx : Sure Q x) (hy : Sure Q y) :
    Sure Q (if p then x else y) := by
  split <;> assumption

end sure

/-- an opcode of fixed arity `(i, n)` reads `i` elements, never finds them too few and
returns `n` elements (walked like `Script.act_spec`) -/
theorem act_fixed (env : Env) {o : Opc} {i n : Nat} (h : arity o = some (i, n)) {pre : List Bytes} (hlen : pre.length = i)
    (alt : List Bytes) :
    (o ≠ .checkmultisig ∧ o ≠ .checkmultisigverify) ∧ need o = i ∧
    Sure (fun r => r.2.2.toList.length + r.1.length = n) (act env o pre alt) := by
  cases o <;> simp only [arity, Option.some.injEq, Prod.mk.injEq, reduceCtorEq] at h <;> obtain ⟨rfl, rfl⟩ := h
  all_goals
    refine ⟨⟨nofun, nofun⟩, rfl, ?_⟩
    obtain ⟨a, b, d, rfl⟩ := eq_take3 hlen (by decide)
    simp only [List.take, act]
    repeat' first
      | ((with_reducible refine Sure.error ?_ ?_) <;> exact nofun)
      | with_reducible exact .pure rfl
      | with_reducible refine Sure.bind (num4_noUF _ _) fun _ => ?_
      | with_reducible refine Sure.bind (checkSig_noUF _ _ _) fun _ => ?_
      | with_reducible refine Sure.ite ?_ ?_
      | split

theorem cons_execOpc {env : Env} (hlim : env.flags.stackLimits = false) {o : Opc} {i n : Nat}
    (h : arity o = some (i, n)) : Cons (execOpc env o) i n := by
  intro pre rest alt ops hlen
  obtain ⟨ho, hn, herr, hok⟩ := act_fixed env h hlen alt
  rw [execOpc_local env ho (hlen.trans hn.symm)]
  have hfin : ∀ r : List Bytes × List Bytes × Option Bytes,
      finish env rest ops r = .ok ⟨r.2.2.toList ++ r.1 ++ rest, r.2.1, ops⟩ := by
    rintro ⟨out, al', _ | b⟩
    · rfl
    · exact Script.pushElem_ok hlim _ b
  refine ⟨NoUF_bind_intro herr fun r _ => hfin r ▸ NoUF_ok _, fun c' hc => ?_⟩
  obtain ⟨r, hr, hf⟩ := bind_ok hc
  rw [hfin] at hf
  cases hf
  exact ⟨r.2.2.toList ++ r.1, by rw [List.length_append]; exact hok r hr, rfl⟩

theorem res_bind {x : Except Err Core} {g : Core → Except Err Core} {rest rest' : List Bytes} {o o' : Nat}
    (hx : Res x rest o)
    (hg : ∀ c1 out, out.length = o → c1.stack = out ++ rest → Res (g c1) rest' o') :
    Res (x >>= g) rest' o' := by
  refine ⟨NoUF_bind_intro hx.1 ?_, ?_⟩
  · intro c1 h1
    obtain ⟨out, ho, hs⟩ := hx.2 c1 h1
    exact (hg c1 out ho hs).1
  · intro c' h
    obtain ⟨c1, h1, h2⟩ := bind_ok h
    obtain ⟨out, ho, hs⟩ := hx.2 c1 h1
    exact (hg c1 out ho hs).2 c' h2

theorem Cons.cast {f : Core → Except Err Core} {i o i' o' : Nat} (h : Cons f i o) (hi : i = i') (ho : o = o') :
    Cons f i' o' := by subst hi; subst ho; exact h

theorem cons_congr {f g : Core → Except Err Core} {i o : Nat} (h : ∀ c, f c = g c) (hg : Cons g i o) :
    Cons f i o := by
  intro pre rest alt ops hl
  rw [h]; exact hg pre rest alt ops hl

theorem Cons.at {f : Core → Except Err Core} {i o : Nat} (h : Cons f i o) (c : Core) (pre rest : List Bytes)
    (hs : c.stack = pre ++ rest) (hl : pre.length = i) : Res (f c) rest o := by
  obtain ⟨st, al, ops⟩ := c
  simp only at hs
  subst hs
  exact h pre rest al ops hl

theorem cons_bind {f g : Core → Except Err Core} {i o i' o' : Nat} (hf : Cons f i o) (hg : Cons g i' o') :
    Cons (fun c => f c >>= g) (i + (i' - o)) (o' + (o - i')) := by
  -- `g` eats first from the `o` elements `f` produced and takes the shortfall `i' - o` from below; what `f` produced
  -- beyond `g`'s need, `o - i'`, stays under `g`'s output
  intro pre rest alt ops hlen
  have h1 : (pre.take i).length = i := by rw [List.length_take]; omega
  have h2 : (pre.drop i).length = i' - o := by rw [List.length_drop]; omega
  have hst : pre.take i ++ (pre.drop i ++ rest) = pre ++ rest := by
    rw [← List.append_assoc, List.take_append_drop]
  have hx := hf (pre.take i) (pre.drop i ++ rest) alt ops h1
  rw [hst] at hx
  refine res_bind hx ?_
  intro c1 out ho hs
  have hl : ((out ++ pre.drop i).take i').length = i' := by
    rw [List.length_take, List.length_append]; omega
  have hs' : c1.stack = (out ++ pre.drop i).take i' ++ ((out ++ pre.drop i).drop i' ++ rest) := by
    rw [← List.append_assoc, List.take_append_drop, hs, List.append_assoc]
  obtain ⟨hn, hok⟩ := hg.at c1 _ _ hs' hl
  refine ⟨hn, ?_⟩
  intro c' hc
  obtain ⟨out', ho', hs''⟩ := hok c' hc
  refine ⟨out' ++ (out ++ pre.drop i).drop i', ?_, ?_⟩
  · rw [List.length_append, List.length_drop, List.length_append]; omega
  · rw [hs'', List.append_assoc]

theorem cons_weaken {f : Core → Except Err Core} {i o : Nat} (k : Nat) (hf : Cons f i o) :
    Cons f (i + k) (o + k) := by
  intro pre rest alt ops hlen
  have h1 : (pre.take i).length = i := by rw [List.length_take]; omega
  have hst : pre.take i ++ (pre.drop i ++ rest) = pre ++ rest := by
    rw [← List.append_assoc, List.take_append_drop]
  have hx := hf (pre.take i) (pre.drop i ++ rest) alt ops h1
  rw [hst] at hx
  refine ⟨hx.1, ?_⟩
  intro c' hc
  obtain ⟨out, ho, hs⟩ := hx.2 c' hc
  refine ⟨out ++ pre.drop i, ?_, ?_⟩
  · rw [List.length_append, List.length_drop]; omega
  · rw [hs, List.append_assoc]

theorem countOp_err {env : Env} {c : Core} {n : Nat} {e : Err} (h : countOp env c n = .error e) : e = .opCount := by
  unfold countOp at h
  dsimp only at h
  split at h
  · cases h; rfl
  · cases h

theorem res_countOp {env : Env} {c : Core} {n : Nat} {out rest : List Bytes} {o : Nat}
    (hs : c.stack = out ++ rest) (ho : out.length = o) : Res (countOp env c n) rest o := by
  refine ⟨?_, ?_⟩
  · cases h : countOp env c n with
    | ok c => exact NoUF_ok _
    | error e => rw [countOp_err h]; exact NoUF_error nofun nofun
  · intro c' hc
    exact ⟨out, ho, by rw [(countOp_stack hc).1, hs]⟩

theorem res_skipCount {env : Env} {sc : List Op} {c : Core} {out rest : List Bytes} {o : Nat}
    (hs : c.stack = out ++ rest) (ho : out.length = o) : Res (skipCount env sc c) rest o := by
  unfold skipCount
  split
  · exact ⟨NoUF_error nofun nofun, fun c' hc => by cases hc⟩
  · exact res_countOp hs ho

theorem cons_countOp (env : Env) (n : Nat) : Cons (fun c => countOp env c n) 0 0 :=
  fun _ _ _ _ hl => res_countOp rfl hl

theorem cons_skipCount (env : Env) (sc : List Op) : Cons (skipCount env sc) 0 0 :=
  fun _ _ _ _ hl => res_skipCount rfl hl

theorem cons_opc {env : Env} (hlim : env.flags.stackLimits = false) {o : Opc} {i n : Nat}
    (h : arity o = some (i, n)) : Cons (opc env o) i n := by
  refine cons_congr (g := fun c => countOp env c 1 >>= execOpc env o) ?_
    ((cons_bind (cons_countOp env 1) (cons_execOpc hlim h)).cast (by omega) (by omega))
  intro c
  unfold opc
  cases countOp env c 1 <;> rfl

theorem cons_pushElem {env : Env} (hlim : env.flags.stackLimits = false) (b : Bytes) :
    Cons (fun c => pushElem env c b) 0 1 := by
  intro pre rest alt ops hl
  have : pre = [] := List.eq_nil_of_length_eq_zero hl
  subst this
  show Res (pushElem env ⟨[] ++ rest, alt, ops⟩ b) rest 1
  rw [Script.pushElem_ok hlim]
  exact ⟨NoUF_ok _, fun c' hc => by cases hc; exact ⟨[b], rfl, rfl⟩⟩

theorem cons_psh {env : Env} (hlim : env.flags.stackLimits = false) (b : Bytes) : Cons (psh env b) 0 1 := by
  refine cons_congr ?_ (cons_pushElem hlim b)
  intro c
  rw [psh_ok hlim, pushElem_ok hlim]

theorem cons_pushInt {env : Env} (hlim : env.flags.stackLimits = false) (n : Nat) :
    Cons (pshOp env (pushInt n)) 0 1 := by
  unfold pushInt
  split
  · exact cons_pushElem hlim _
  · exact cons_psh hlim _

theorem cons_code {env : Env} (hlim : env.flags.stackLimits = false) {o : Opc} {i n : Nat}
    (h : arity o = some (i, n)) : Cons (pshOp env (.code o)) i n := cons_opc hlim h

theorem cons_seq_nil (env : Env) : Cons (seqOps env []) 0 0 := by
  intro pre rest alt ops hl
  have : pre = [] := List.eq_nil_of_length_eq_zero hl
  subst this
  exact ⟨NoUF_ok _, fun c' hc => by cases hc; exact ⟨[], rfl, rfl⟩⟩

theorem cons_seq_cons {env : Env} {op : Op} {ops : List Op} {i o i' o' : Nat}
    (h1 : Cons (pshOp env op) i o) (h2 : Cons (seqOps env ops) i' o') :
    Cons (seqOps env (op :: ops)) (i + (i' - o)) (o' + (o - i')) := by
  exact cons_congr (seqOps_cons env op ops) (cons_bind h1 h2)

theorem cons_seq_one {env : Env} {op : Op} {i o : Nat} (h1 : Cons (pshOp env op) i o) :
    Cons (seqOps env [op]) i o :=
  (cons_seq_cons h1 (cons_seq_nil env)).cast (by omega) (by omega)

end MsVerif.TypeSound
