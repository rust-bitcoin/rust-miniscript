/-
C09: what is assumed of the assets (`AssetsOk`), the size of one signature (`sigWit_isSig`), and the
leaves `multi` and `multi_a`, sized from the shape of their witnesses (`SatSpec.multiSD_stack`: the dummy
and `k` signatures; `SatSpec.multiASD_stack`: one slot per key, `k` of them signatures).
-/
import MsVerif.Lemmas.BoundsBasic

namespace MsVerif.C09
open MsVerif ExtData

/-- what the caller can hand in stays within the sizes the library assumes: Schnorr signatures
of 64/65 bytes.  (Nothing is asked about keys revealed for raw `pk_h` hashes: see
`pkLen_le_rawKeySig`.) -/
structure AssetsOk (ke : KeyEnv) (ctx : Ctx) (a : Assets) : Prop where
  schnorr : ∀ k sz, a.schnorrSig k = some sz → sz ≤ 65
  rawSchnorr : ∀ h pk sz, a.rawPkhSchnorr h = some (pk, sz) → sz ≤ 65

/-- the key-size figure of a raw key hash: the largest key the context allows (the hash does not
    tell which encoding the revealed key has) -/
def rawUnc (ctx : Ctx) : Bool := ctx == .bare || ctx == .legacy

/-- ANY key revealed for a raw key hash fits that figure - no hypothesis on the caller's assets
    is needed -/
theorem pkLen_le_rawKeySig (ke : KeyEnv) (ctx : Ctx) (pk : Key) :
    pkLen ke ctx pk ≤ (keySig ctx (rawUnc ctx)).1 := by
  cases ctx <;> simp [pkLen, keySig, rawUnc, Ctx.sigType] <;> split <;> omega

def IsSig (ctx : Ctx) (s : List Ph) : Prop :=
  ∃ p, s = [p] ∧ 1 ≤ p.size ∧ p.size ≤ (keySig ctx false).2 ∧ phSs p ≤ (keySig ctx false).2

theorem keySig_snd (ctx : Ctx) (u : Bool) : (keySig ctx u).2 = (keySig ctx false).2 := by
  cases ctx <;> cases u <;> rfl

theorem keySig_snd_le (ctx : Ctx) : (keySig ctx false).2 ≤ 73 := by cases ctx <;> decide

theorem sigWit_isSig {ke : KeyEnv} {ctx : Ctx} {a : Assets} (ha : AssetsOk ke ctx a) {k : Key}
    {s : List Ph} (h : sigWit ctx a k = .stack s) : IsSig ctx s := by
  rcases sigWit_cases ctx a k with hi | ⟨sz, hc, hs, hw⟩ | ⟨hc, _, hw⟩
  · rw [hi] at h; cases h
  · rw [hw] at h; cases h
    have := ha.schnorr k sz hs
    have hk : (keySig ctx false).2 = 66 := by simp [keySig, hc]
    exact ⟨_, rfl, by simp [Ph.size], by simp only [Ph.size, hk]; omega, by simp only [phSs, hk]; omega⟩
  · rw [hw] at h; cases h
    have hk : (keySig ctx false).2 = 73 := by simp [keySig, hc]
    exact ⟨_, rfl, by simp [Ph.size], by simp [Ph.size, hk], by simp [phSs, hk]⟩

theorem bounded_sum (b : Nat) : ∀ w : List Ph, (∀ p ∈ w, p.size ≤ b ∧ phSs p ≤ b) →
    wsz w ≤ b * w.length ∧ wss w ≤ b * w.length := by
  intro w
  induction w with
  | nil => intro _; simp
  | cons p ps ih =>
    intro h
    obtain ⟨h1, h2⟩ := h p (List.mem_cons_self ..)
    obtain ⟨i1, i2⟩ := ih (fun q hq => h q (List.mem_cons_of_mem _ hq))
    simp only [wsz_cons, wss_cons, List.length_cons, Nat.mul_add, Nat.mul_one]
    omega

theorem replicate_zero_size (n : Nat) :
    wsz (List.replicate n Ph.pushZero) = n ∧ wss (List.replicate n Ph.pushZero) = n := by
  induction n with
  | zero => exact ⟨rfl, rfl⟩
  | succ n ih => simp [List.replicate_succ, Ph.size, phSs, ih]; omega

theorem multi_SB {ke : KeyEnv} {ctx : Ctx} {a : Assets} (ha : AssetsOk ke ctx a) (e : Bool)
    (k : Nat) (ks : List Key) (uncs : List Bool) :
    SB e (multiSD ctx a k ks).sat (ExtData.multi k uncs).satData
    ∧ SB e (multiSD ctx a k ks).dissat (ExtData.multi k uncs).dissatData := by
  constructor
  · intro w hw
    obtain ⟨ss, _, hlen, hss, rfl⟩ := SatSpec.multiSD_stack ctx a k ks hw
    obtain ⟨h1, h2⟩ := bounded_sum 73 (ss.map (·.2)) fun p hp => by
      obtain ⟨q, hq, rfl⟩ := List.mem_map.1 hp
      obtain ⟨_, e, _, q2, q3⟩ := sigWit_isSig ha (hss q hq)
      cases e
      have := keySig_snd_le ctx
      exact ⟨by omega, by omega⟩
    rw [List.length_map, hlen] at h1 h2
    exact ⟨_, rfl, by simp [hlen], by simp only [wsz_cons, Ph.size]; omega,
      fun _ => by simp only [wss_cons, phSs]; omega⟩
  · intro w hw
    refine ⟨_, rfl, ?_⟩
    rw [multiSD_dis] at hw; cases hw
    obtain ⟨h1, h2⟩ := replicate_zero_size (k + 1)
    exact ⟨by simp, by simp [h1]; omega, fun _ => by simp [h2]; omega⟩

theorem slots_size {ke : KeyEnv} {a : Assets} (ha : AssetsOk ke .tap a) {keys : List Key}
    {sigs : List (List Ph)} (h : SatSpec.All2 (SatSpec.Slot .tap a) keys sigs) :
    sigs.flatten.length = keys.length ∧
      wsz sigs.flatten + SatSpec.sigSlots sigs ≤ keys.length + 66 * SatSpec.sigSlots sigs := by
  induction h with
  | nil => exact ⟨rfl, Nat.le_refl _⟩
  | @cons pk s keys sigs hs _ ih =>
    obtain ⟨i1, i2⟩ := ih
    rcases hs with rfl | hs
    · rw [SatSpec.sigSlots_cons_zero]
      simp only [List.flatten_cons, List.length_append, List.length_cons, List.length_nil, wsz_append, wsz_cons,
        wsz_nil, Ph.size, i1]
      omega
    · obtain ⟨p, rfl, _, hp, _⟩ := sigWit_isSig ha hs
      rw [SatSpec.sigSlots_cons_of (SatSpec.isSigSlot_sigWit hs)]
      have : (keySig .tap false).2 = 66 := rfl
      simp only [List.flatten_cons, List.length_append, List.length_cons, List.length_nil, wsz_append, wsz_cons,
        wsz_nil, i1]
      omega

theorem multiA_SB {ke : KeyEnv} {a : Assets} (ha : AssetsOk ke .tap a) (k : Nat) (hk : 1 ≤ k)
    (ks : List Key) :
    SB false (multiASD .tap a k ks).sat (ExtData.multiA k ks.length).satData
    ∧ SB false (multiASD .tap a k ks).dissat (ExtData.multiA k ks.length).dissatData := by
  constructor
  · intro w hw
    obtain ⟨sigs, hslots, hcnt, rfl⟩ := SatSpec.multiASD_stack .tap a k ks hk hw
    obtain ⟨h1, h2⟩ := slots_size ha hslots
    rw [List.length_reverse] at h1 h2
    rw [hcnt] at h2
    exact ⟨_, rfl, by simp only; omega, by simp only; omega, fun h => by cases h⟩
  · intro w hw
    refine ⟨_, rfl, ?_⟩
    rw [multiASD_dis] at hw; cases hw
    exact ⟨by simp, by simp [(replicate_zero_size _).1], fun h => by cases h⟩

end MsVerif.C09
