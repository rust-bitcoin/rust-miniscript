/-
The decoder normal form keeps the TYPE and the SPENDING CONDITION of every well-typed miniscript:
`typeOf ms = some t → typeOf (norm ms) = some t ∧ sem W (norm ms) = sem W ms` (`typeOf_norm`, `sem_norm`).

Type-level facts: `and_v` is associative, `c:`/`v:`/`n:` commute with the right operand of an
`and_v`, `and_b(and_v(x,y),w)` has the type of `and_v(x,and_b(y,w))` (both for the correctness
and the malleability part); positions that need a dissatisfiable first argument never see a
floated operand, because an `and_v` is never dissatisfiable (`TR_noFloat`).  Type and spending condition
(`Spec/MsSem.lean`, the trusted specification of C07) are one instance of `NormRel`: "has every type of, and then
the same condition as" — the condition alone is not transitive without the type.
-/
import MsVerif.Lemmas.NormRel
import MsVerif.Model.TypeCheck
import MsVerif.Spec.MsSem
import MsVerif.Lemmas.CoreHasType

namespace MsVerif
namespace NormL

/-! ### the rule algebra

A type rule is a correctness rule (partial) paired with a malleability rule (total), so an
identity between composed rules is one identity for each half (`lift2_lift2`, `lift2_lift1`). -/

theorem lift2_lift2 {c₁ c₂ c₃ c₄ : Corr → Corr → Option Corr} {m₁ m₂ m₃ m₄ : Mall → Mall → Mall}
    (hc : ∀ a b c, (c₁ a b).bind (c₂ · c) = (c₃ b c).bind (c₄ a ·))
    (hm : ∀ a b c, m₂ (m₁ a b) c = m₄ a (m₃ b c)) (x y z : Ty) :
    (Ty.lift2 c₁ m₁ x y).bind (Ty.lift2 c₂ m₂ · z) = (Ty.lift2 c₃ m₃ y z).bind (Ty.lift2 c₄ m₄ x ·) := by
  have := congrArg (Option.map fun c => (⟨c, m₄ x.mall (m₃ y.mall z.mall)⟩ : Ty)) (hc x.corr y.corr z.corr)
  simpa only [Ty.lift2_eq, Option.bind_map, Function.comp_def, hm, Option.map_bind] using this

theorem lift2_lift1 {c : Corr → Corr → Option Corr} {m : Mall → Mall → Mall} {fc : Corr → Option Corr}
    {fm : Mall → Mall} (hc : ∀ a b, (c a b).bind fc = (fc b).bind (c a ·))
    (hm : ∀ a b, fm (m a b) = m a (fm b)) (x y : Ty) :
    (Ty.lift2 c m x y).bind (Ty.lift1 fc fm) = (Ty.lift1 fc fm y).bind (Ty.lift2 c m x ·) := by
  have := congrArg (Option.map fun c => (⟨c, m x.mall (fm y.mall)⟩ : Ty)) (hc x.corr y.corr)
  simpa only [Ty.lift2_eq, Ty.lift1_eq, Option.bind_map, Function.comp_def, hm, Option.map_bind] using this

theorem andInput_assoc : ∀ a b c : Input,
    Corr.andInput (Corr.andInput a b) c = Corr.andInput a (Corr.andInput b c) := by
  intro a b c; cases a <;> cases b <;> cases c <;> rfl

theorem corr_andV_assoc (x y z : Corr) :
    (Corr.andV x y).bind (Corr.andV · z) = (Corr.andV y z).bind (Corr.andV x ·) := by
  simp only [Corr.andV_eq]
  by_cases hx : x.base = .V <;> by_cases hy : y.base = .V <;> by_cases hz : z.base = .W <;>
    simp [hx, hy, hz, andInput_assoc]

theorem corr_andB_andV (x y w : Corr) :
    (Corr.andV x y).bind (Corr.andB · w) = (Corr.andB y w).bind (Corr.andV x ·) := by
  simp only [Corr.andV_eq, Corr.andB_eq]
  by_cases hx : x.base = .V <;> by_cases hy : y.base = .B <;> by_cases hw : w.base = .W <;>
    simp [hx, hy, hw, andInput_assoc]

theorem corr_check_andV (x y : Corr) :
    (Corr.andV x y).bind Corr.castCheck = (Corr.castCheck y).bind (Corr.andV x ·) := by
  by_cases hx : x.base = .V <;> by_cases hy : y.base = .K <;> simp [Corr.andV_eq, Corr.castCheck_eq, hx, hy]

theorem corr_verify_andV (x y : Corr) :
    (Corr.andV x y).bind Corr.castVerify = (Corr.castVerify y).bind (Corr.andV x ·) := by
  by_cases hx : x.base = .V <;> by_cases hy : y.base = .B <;> simp [Corr.andV_eq, Corr.castVerify_eq, hx, hy]

theorem corr_zne_andV (x y : Corr) :
    (Corr.andV x y).bind Corr.castZeroNotEqual = (Corr.castZeroNotEqual y).bind (Corr.andV x ·) := by
  by_cases hx : x.base = .V <;> by_cases hy : y.base = .B <;> simp [Corr.andV_eq, Corr.castZeroNotEqual_eq, hx, hy]

theorem mall_andV_assoc (x y z : Mall) :
    Mall.andV (Mall.andV x y) z = Mall.andV x (Mall.andV y z) := by
  obtain ⟨xd, xs, xn⟩ := x; obtain ⟨yd, ys, yn⟩ := y; obtain ⟨zd, zs, zn⟩ := z
  -- `s` and `m` are a disjunction and a conjunction; only the dissatisfaction letter is a table
  simp only [Mall.andV, Bool.or_assoc, Bool.and_assoc, Mall.mk.injEq, and_true]
  cases xs <;> cases ys <;> cases zd <;> rfl

theorem mall_andB_andV (x y w : Mall) :
    Mall.andB (Mall.andV x y) w = Mall.andV x (Mall.andB y w) := by
  obtain ⟨xd, xs, xn⟩ := x; obtain ⟨yd, ys, yn⟩ := y; obtain ⟨wd, ws, wn⟩ := w
  simp only [Mall.andB, Mall.andV, Bool.or_assoc, Bool.and_assoc, Mall.mk.injEq, and_true]
  cases xs <;> cases yd <;> cases ys <;> cases wd <;> cases ws <;> rfl

theorem mall_verify_andV (x y : Mall) :
    Mall.castVerify (Mall.andV x y) = Mall.andV x (Mall.castVerify y) := by
  obtain ⟨xd, xs, xn⟩ := x
  cases xs <;> rfl

theorem ty_andV_assoc (x y z : Ty) :
    (Ty.andV x y).bind (fun xy => Ty.andV xy z) = (Ty.andV y z).bind (fun yz => Ty.andV x yz) :=
  lift2_lift2 corr_andV_assoc mall_andV_assoc x y z

theorem ty_andB_andV (x y w : Ty) :
    (Ty.andV x y).bind (fun xy => Ty.andB xy w) = (Ty.andB y w).bind (fun yw => Ty.andV x yw) :=
  lift2_lift2 corr_andB_andV mall_andB_andV x y w

theorem ty_check_andV (x y : Ty) :
    (Ty.andV x y).bind Ty.castCheck = (Ty.castCheck y).bind (fun cy => Ty.andV x cy) :=
  lift2_lift1 (m := Mall.andV) (fm := Mall.castCheck) corr_check_andV (fun _ _ => rfl) x y

theorem ty_verify_andV (x y : Ty) :
    (Ty.andV x y).bind Ty.castVerify = (Ty.castVerify y).bind (fun cy => Ty.andV x cy) :=
  lift2_lift1 corr_verify_andV mall_verify_andV x y

theorem ty_zne_andV (x y : Ty) :
    (Ty.andV x y).bind Ty.castZeroNotEqual = (Ty.castZeroNotEqual y).bind (fun cy => Ty.andV x cy) :=
  lift2_lift1 (m := Mall.andV) (fm := Mall.castZeroNotEqual) corr_zne_andV (fun _ _ => rfl) x y

theorem tyAssoc (a b c : Ms) : typeOf (.andV (.andV a b) c) = typeOf (.andV a (.andV b c)) := by
  simp only [typeOf_andV_eq]
  cases typeOf a with
  | none => rfl
  | some x =>
    cases typeOf b with
    | none => rfl
    | some y =>
      cases typeOf c with
      | none => simp
      | some z => simpa using ty_andV_assoc x y z

theorem tyAndB (a b w : Ms) : typeOf (.andB (.andV a b) w) = typeOf (.andV a (.andB b w)) := by
  simp only [typeOf_andB_eq, typeOf_andV_eq]
  cases typeOf a with
  | none => rfl
  | some x =>
    cases typeOf b with
    | none => rfl
    | some y =>
      cases typeOf w with
      | none => simp
      | some z => simpa using ty_andB_andV x y z
theorem wrap {c : Ms → Ms} {cast : Ty → Option Ty} (hc : ∀ x, typeOf (c x) = (typeOf x).bind cast)
    (h : ∀ x y, (Ty.andV x y).bind cast = (cast y).bind (fun cy => Ty.andV x cy)) (x y : Ms) :
    typeOf (.andV x (c y)) = typeOf (c (.andV x y)) := by
  rw [hc, typeOf_andV_eq, typeOf_andV_eq, hc]
  cases typeOf x with
  | none => rfl
  | some a =>
    cases typeOf y with
    | none => rfl
    | some b => simpa using (h a b).symm

section typed
open MsSem

/-- `a` has every type `b` has, and then the same spending condition -/
def TR (a b : Ms) : Prop := ∀ t, typeOf b = some t → typeOf a = some t ∧ ∀ W, sem W a = sem W b
def TRL (xs ys : MsList) : Prop :=
  ∀ ts, typesOf ys = some ts → typesOf xs = some ts ∧ ∀ W, semCount W xs = semCount W ys

theorem TR_congr1 {c : Ms → Ms} {cast : Ty → Option Ty} (hc : ∀ x, typeOf (c x) = (typeOf x).bind cast)
    (hs : ∀ W x, sem W (c x) = sem W x) {a b : Ms} (e : TR a b) : TR (c a) (c b) := by
  intro t ht
  rw [hc] at ht
  obtain ⟨s, hb, ht⟩ := Option.bind_eq_some_iff.mp ht
  obtain ⟨h1, h2⟩ := e s hb
  exact ⟨by rw [hc, h1]; exact ht, fun W => by rw [hs, hs, h2]⟩

theorem TR_congr2 {c : Ms → Ms → Ms} {f : Ty → Ty → Option Ty} {g : Bool → Bool → Bool}
    (hc : ∀ l r, typeOf (c l r) = (typeOf l).bind fun a => (typeOf r).bind (f a))
    (hs : ∀ W l r, sem W (c l r) = g (sem W l) (sem W r)) {a b a' b' : Ms} (e : TR a b) (e' : TR a' b') :
    TR (c a a') (c b b') := by
  intro t ht
  rw [hc] at ht
  obtain ⟨s, hb, ht⟩ := Option.bind_eq_some_iff.mp ht
  obtain ⟨s', hb', ht⟩ := Option.bind_eq_some_iff.mp ht
  obtain ⟨h1, h2⟩ := e s hb
  obtain ⟨h1', h2'⟩ := e' s' hb'
  exact ⟨by rw [hc, h1, h1']; exact ht, fun W => by rw [hs, hs, h2, h2']⟩

theorem TR_noFloat {m n x y : Ms}
    (h : ∀ {t}, HasType n t → ∃ a, HasType (.andV x y) a ∧ a.corr.dissat = true) : TR m n := by
  intro t ht
  obtain ⟨a, ha, hd⟩ := h (.of_typeOf n ht)
  obtain ⟨_, _, _, _, _, _, rfl⟩ := ha.andV_inv
  cases hd

theorem TR_float1 {c : Ms → Ms} {cast : Ty → Option Ty} (hc : ∀ x, typeOf (c x) = (typeOf x).bind cast)
    (hs : ∀ W x, sem W (c x) = sem W x)
    (hr : ∀ x y, (Ty.andV x y).bind cast = (cast y).bind (fun cy => Ty.andV x cy)) {x y : Ms} :
    TR (.andV x (c y)) (c (.andV x y)) :=
  fun _ ht => ⟨(wrap hc hr x y).trans ht, fun W => by simp only [sem, hs]⟩

theorem tyRel : NormRel TR TRL where
  refl _ _ ht := ⟨ht, fun _ => rfl⟩
  trans e e' t ht := ⟨(e t (e' t ht).1).1, fun W => ((e t (e' t ht).1).2 W).trans ((e' t ht).2 W)⟩
  alt := TR_congr1 typeOf_alt_eq fun _ _ => by simp only [sem]
  swap := TR_congr1 typeOf_swap_eq fun _ _ => by simp only [sem]
  check := TR_congr1 typeOf_check_eq fun _ _ => by simp only [sem]
  dupIf := TR_congr1 typeOf_dupIf_eq fun _ _ => by simp only [sem]
  verify := TR_congr1 typeOf_verify_eq fun _ _ => by simp only [sem]
  nonZero := TR_congr1 typeOf_nonZero_eq fun _ _ => by simp only [sem]
  zeroNotEqual := TR_congr1 typeOf_zeroNotEqual_eq fun _ _ => by simp only [sem]
  andV := TR_congr2 (g := and) typeOf_andV_eq fun _ _ _ => by simp only [sem]
  andB := TR_congr2 (g := and) typeOf_andB_eq fun _ _ _ => by simp only [sem]
  orB := TR_congr2 (g := or) typeOf_orB_eq fun _ _ _ => by simp only [sem]
  orD := TR_congr2 (g := or) typeOf_orD_eq fun _ _ _ => by simp only [sem]
  orC := TR_congr2 (g := or) typeOf_orC_eq fun _ _ _ => by simp only [sem]
  orI := TR_congr2 (g := or) typeOf_orI_eq fun _ _ _ => by simp only [sem]
  andOr e e' e'' t ht := by
    obtain ⟨a, b, c, ha, hb, hc, h⟩ := typeOf_andOr_inv ht
    obtain ⟨h1, h2⟩ := e a ha
    obtain ⟨h1', h2'⟩ := e' b hb
    obtain ⟨h1'', h2''⟩ := e'' c hc
    exact ⟨by rw [typeOf_andOr_eq, h1, h1', h1'']; exact h, fun W => by simp only [sem, h2, h2', h2'']⟩
  thresh e t ht := by
    obtain ⟨ts, hts, hth⟩ := typeOf_thresh_inv ht
    obtain ⟨h1, h2⟩ := e ts hts
    exact ⟨by rw [typeOf_thresh_eq, h1]; exact hth, fun W => by simp only [sem, h2]⟩
  nil _ ht := ⟨ht, fun _ => rfl⟩
  cons e e' ts ht := by
    obtain ⟨a, ts', hx, hxs, rfl⟩ := typesOf_cons ht
    obtain ⟨h1, h2⟩ := e a hx
    obtain ⟨h1', h2'⟩ := e' ts' hxs
    exact ⟨by rw [typesOf_cons_eq, h1, h1']; rfl, fun W => by simp only [semCount, h2, h2']⟩
  assoc _ ht := ⟨(tyAssoc ..).trans ht, fun W => by simp only [sem, Bool.and_assoc]⟩
  fCheck := TR_float1 typeOf_check_eq (fun _ _ => by simp only [sem]) ty_check_andV
  fVerify := TR_float1 typeOf_verify_eq (fun _ _ => by simp only [sem]) ty_verify_andV
  fZne := TR_float1 typeOf_zeroNotEqual_eq (fun _ _ => by simp only [sem]) ty_zne_andV
  fAndB _ ht := ⟨(tyAndB ..).symm.trans ht, fun W => by simp only [sem, Bool.and_assoc]⟩
  fOrB := TR_noFloat fun h => let ⟨a, _, ha, _, _, _, hd, _⟩ := h.orB_inv; ⟨a, ha, hd⟩
  fOrD := TR_noFloat fun h => let ⟨a, _, ha, _, _, _, hd, _⟩ := h.orD_inv; ⟨a, ha, hd⟩
  fOrC := TR_noFloat fun h => let ⟨a, _, ha, _, _, _, hd, _⟩ := h.orC_inv; ⟨a, ha, hd⟩
  fAndOr := TR_noFloat fun h => let ⟨a, _, _, ha, _, _, _, hd, _⟩ := h.andOr_inv; ⟨a, ha, hd⟩
  fThresh := TR_noFloat fun h => let ⟨a, _, ha, _, _, _, hd, _⟩ := h.thresh_inv; ⟨a, ha, hd⟩

theorem typeOf_norm (ms : Ms) (t : Ty) (ht : typeOf ms = some t) : typeOf (norm ms) = some t :=
  (tyRel.norm_rel ms t ht).1

theorem sem_norm (W : Pol.World) (ms : Ms) (t : Ty) (ht : typeOf ms = some t) :
    sem W (norm ms) = sem W ms :=
  (tyRel.norm_rel ms t ht).2 W

theorem ty_normList : (xs : MsList) → (ts : List Ty) → typesOf xs = some ts →
    typesOf (normList xs) = some ts :=
  fun xs ts h => (tyRel.normList_rel xs ts h).1

theorem sem_normList (W : Pol.World) : (xs : MsList) → (ts : List Ty) → typesOf xs = some ts →
    semCount W (normList xs) = semCount W xs :=
  fun xs ts h => (tyRel.normList_rel xs ts h).2 W

end typed

end NormL
end MsVerif
