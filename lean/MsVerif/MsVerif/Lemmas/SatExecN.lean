/-
Execution lemmas for the n-ary fragments: `thresh` (ADD chain), `multi` (CHECKMULTISIG) and
`multi_a` (CHECKSIG / CHECKSIGADD chain).  Limits disabled.
-/
import MsVerif.Lemmas.SatExec
import MsVerif.Lemmas.CoreEncode

namespace MsVerif.SatSpec
open MsVerif Script
open MsVerif.InterpSound (NoLimits)

variable {env : Env} {ke : KeyEnv} {ctx : Ctx}

theorem numOk_le_20 (n : Nat) (h : n ≤ 20) : NumOk n :=
  numOk_of_lt n (by omega)

theorem fragThresh_nil (first : Bool) (s : List Bytes) :
    Runs (fragThresh env ke ctx first .nil) s s :=
  .of_eq fun _ ops => ⟨ops, MsVerif.fragThresh_nil env ke ctx first _⟩

theorem fragThresh_cons_first {x : Ms} {xs : MsList} {s s1 s2 : List Bytes}
    (hx : Runs (frag env ke ctx x) s s1) (hxs : Runs (fragThresh env ke ctx false xs) s1 s2) :
    Runs (fragThresh env ke ctx true (.cons x xs)) s s2 :=
  .congr (MsVerif.fragThresh_cons env ke ctx true x xs) (hx.bind (.bind (.of_eq fun _ ops => ⟨ops, rfl⟩) hxs))

theorem fragThresh_cons_add (h : NoLimits env) {x : Ms} {xs : MsList} {a b : Bytes} {m n : Int}
    {s s1 s2 : List Bytes}
    (hx : Runs (frag env ke ctx x) s (a :: b :: s1))
    (ha : num4 env a = .ok m) (hb : num4 env b = .ok n)
    (hxs : Runs (fragThresh env ke ctx false xs) (numEncode (n + m) :: s1) s2) :
    Runs (fragThresh env ke ctx false (.cons x xs)) s s2 :=
  .congr (MsVerif.fragThresh_cons env ke ctx false x xs)
    (hx.bind (.bind (.of_eq fun _ _ => ⟨_, add_nl h _ _ _ _ _ ha hb⟩) hxs))

theorem frag_thresh (h : NoLimits env) {k : Nat} {xs : MsList} {v : Bytes} {s s' : List Bytes}
    (hxs : Runs (fragThresh env ke ctx true xs) s (v :: s')) :
    Runs (frag env ke ctx (.thresh k xs)) s (boolBytes (numEncode (k : Int) == v) :: s') := by
  refine .congr (MsVerif.frag_thresh env ke ctx k xs) (hxs.bind (.of_eq fun alt ops => ⟨ops + 1, ?_⟩))
  simp only [seqOps_cons, seqOps_nil, pshOp_pushInt h.st, Except.bind_ok, pshOp_code, equal_nl h]

theorem except_match_id {ε α : Type} (m : Except ε α) :
    (match m with | .error e => .error e | .ok v => .ok v) = m := by cases m <;> rfl

theorem seqOps_pushes (h : NoLimits env) (l : List Bytes) (c : Core) :
    seqOps env (l.map Op.push) c = .ok { c with stack := l.reverse ++ c.stack } := by
  induction l generalizing c with
  | nil => simp [seqOps_nil]
  | cons x xs ih =>
    rw [List.map_cons, seqOps_cons, pshOp_push, psh_ok h.st, Except.bind_ok, ih]
    simp

theorem multi_seq (h : NoLimits env) (k : Nat) (keys : List Bytes) (n : Nat) (c : Core) :
    seqOps env ([pushInt k] ++ keys.map Op.push ++ [pushInt n, .code .checkmultisig]) c =
      multisig env { c with
        stack := numEncode (n : Int) :: (keys.reverse ++ numEncode (k : Int) :: c.stack),
        ops := c.ops + 1 } false := by
  rw [seqOps_append, seqOps_append, seqOps_single, pshOp_pushInt h.st, Except.bind_ok, seqOps_pushes h, Except.bind_ok,
    seqOps_cons, pshOp_pushInt h.st, Except.bind_ok, seqOps_single, pshOp_code, opc_eq h.op, Script.execOpc_cms]

theorem multisig_eval (h : NoLimits env) (htap : env.flags.tapscript = false)
    {n k : Nat} (hn : n ≤ 20) (hk : k ≤ n)
    (keys sigs : List Bytes) (hkl : keys.length = n) (hsl : sigs.length = k)
    (rest alt : List Bytes) (ops : Nat) {b : Bool}
    (hloop : multisigLoop env sigs keys = .ok b)
    (hnf : b = true ∨ sigs.all (·.isEmpty) = true) :
    multisig env ⟨numEncode (n : Int) :: (keys ++ numEncode (k : Int) :: (sigs ++ [] :: rest)), alt, ops⟩ false
      = .ok ⟨boolBytes b :: rest, alt, ops + n⟩ := by
  have hnok := (numOk_le_20 n hn).1 env.flags.minimalNum
  have hkok := (numOk_le_20 k (by omega)).1 env.flags.minimalNum
  have h1 : ¬ ((n : Int) < 0 ∨ (n : Int) > 20) := by omega
  have h2 : ¬ ((k : Int) < 0 ∨ (k : Int) > (n : Int)) := by omega
  have h3 : ¬ (keys ++ numEncode (k : Int) :: (sigs ++ [] :: rest)).length < n + 1 := by
    simp [hkl]
  have h4 : ¬ (sigs ++ [] :: rest).length < k + 1 := by simp [hsl]
  have hany : (!b && env.flags.nullFail && sigs.any (fun x => !x.isEmpty)) = false := by
    rcases hnf with hb | hall
    · simp [hb]
    · have : sigs.any (fun x => !x.isEmpty) = false := by
        rw [List.any_eq_false]
        intro x hx
        have := List.all_eq_true.mp hall x hx
        simp [this]
      simp [this]
  unfold multisig
  simp only [htap, Bool.false_eq_true, if_false, hnok, h1, countOp_ok h.op, Int.toNat_natCast, h3,
    List.take_left' hkl, List.drop_left' hkl, hkok, h2, h4, List.take_left' hsl, List.drop_left' hsl,
    hloop, hany, List.isEmpty_nil, Bool.not_true, Bool.and_false, pushElem_ok h.st]

theorem frag_multi_aux (h : NoLimits env) (htap : env.flags.tapscript = false)
    (k : Nat) (ks : List Key) (n : Nat) (hnl : ks.length = n) (hn : n ≤ 20) (hk : k ≤ n)
    (sigs : List Bytes) (hsl : sigs.length = k) (rest : List Bytes) {b : Bool}
    (hloop : multisigLoop env sigs (ks.map ke.ser).reverse = .ok b)
    (hnf : b = true ∨ sigs.all (·.isEmpty) = true) :
    Runs (seqOps env ([pushInt k] ++ ks.map (fun pk => Op.push (ke.ser pk)) ++
      [pushInt n, .code .checkmultisig])) (sigs ++ [] :: rest) (boolBytes b :: rest) := by
  intro alt ops
  have e : ks.map (fun pk => Op.push (ke.ser pk)) = (ks.map ke.ser).map Op.push := by
    simp [List.map_map]
  rw [e, multi_seq h]
  have := multisig_eval h htap hn hk (ks.map ke.ser).reverse sigs (by simp [hnl]) hsl rest alt
    (ops + 1) hloop hnf
  simp only [this]
  simp

theorem frag_multi (h : NoLimits env) (htap : env.flags.tapscript = false)
    (k : Nat) (ks : List Key) (hn : ks.length ≤ 20) (hk : k ≤ ks.length)
    (sigs : List Bytes) (hsl : sigs.length = k) (rest : List Bytes) {b : Bool}
    (hloop : multisigLoop env sigs (ks.map ke.ser).reverse = .ok b)
    (hnf : b = true ∨ sigs.all (·.isEmpty) = true) :
    Runs (frag env ke ctx (.multi k ks)) (sigs ++ [] :: rest) (boolBytes b :: rest) := by
  exact .congr (MsVerif.frag_multi env ke ctx k ks)
    (frag_multi_aux (ke := ke) h htap k ks ks.length rfl hn hk sigs hsl rest hloop hnf)

theorem frag_sortedMulti (h : NoLimits env) (htap : env.flags.tapscript = false)
    (k : Nat) (ks : List Key) (hn : ks.length ≤ 20) (hk : k ≤ ks.length)
    (sigs : List Bytes) (hsl : sigs.length = k) (rest : List Bytes) {b : Bool}
    (hloop : multisigLoop env sigs ((sortKeys ke ks).map ke.ser).reverse = .ok b)
    (hnf : b = true ∨ sigs.all (·.isEmpty) = true) :
    Runs (frag env ke ctx (.sortedMulti k ks)) (sigs ++ [] :: rest) (boolBytes b :: rest) := by
  exact .congr (MsVerif.frag_sortedMulti env ke ctx k ks)
    (frag_multi_aux (ke := ke) h htap k (sortKeys ke ks) ks.length (sortKeys_length ke ks) hn hk
      sigs hsl rest hloop hnf)

theorem multisigLoop_sublist (ser sigOf : Key → Bytes)
    (hok : ∀ k, pubkeyOk env (ser k) = true)
    (ks : List Key) : ∀ ss : List Key, ss.Sublist ks →
    (∀ k ∈ ss, sigOf k ≠ [] ∧ env.sigOk (ser k) (sigOf k) = true) →
    multisigLoop env (ss.map sigOf) (ks.map ser) = .ok true := by
  intro ss hss hs
  have := multisigLoop_pairs (env := env) (ks.map ser) (fun key hkey => by
      obtain ⟨q, _, rfl⟩ := List.mem_map.mp hkey; exact hok q)
    (ss.map fun k => (ser k, sigOf k)) (by simpa [List.map_map, Function.comp_def] using hss.map ser)
    (fun p hp => by obtain ⟨q, hq, rfl⟩ := List.mem_map.mp hp; exact hs q hq)
  simpa [List.map_map, Function.comp_def] using this

theorem boolBytes_enc (b : Bool) : boolBytes b = numEncode (((if b then 1 else 0 : Nat)) : Int) := by
  cases b <;> decide

theorem filter_len_cons {α : Type} (f : α → Bool) (p : α) (ps : List α) :
    ((p :: ps).filter f).length = (if f p = true then 1 else 0) + (ps.filter f).length := by
  simp only [List.filter_cons]
  split <;> simp <;> omega

theorem seq_pushInt_numequal (h : NoLimits env) {k : Nat} (hk : NumOk k) {b : Bytes} {y : Int}
    (hb : num4 env b = .ok y) (r alt : List Bytes) (ops : Nat) :
    seqOps env [pushInt k, .code .numequal] ⟨b :: r, alt, ops⟩ =
      .ok ⟨boolBytes ((k : Int) == y) :: r, alt, ops + 1⟩ := by
  simp only [seqOps_cons, seqOps_nil, pshOp_pushInt h.st, Except.bind_ok, pshOp_code,
    numequal_nl h _ _ _ _ _ (hk.num4 env) hb]

theorem checksigadd_nl (h : NoLimits env) (htap : env.flags.tapscript = true) {pk n sig : Bytes} {v : Int}
    {ok : Bool} (hn : num4 env n = .ok v) (hc : checkSig env sig pk = .ok ok) (r alt : List Bytes) (ops : Nat) :
    opc env .checksigadd ⟨pk :: n :: sig :: r, alt, ops⟩
      = .ok ⟨numEncode (v + (if ok then 1 else 0)) :: r, alt, ops + 1⟩ := by
  rw [opc_eq h.op]
  show (if !env.flags.tapscript then _
    else num4 env n >>= fun v => checkSig env sig pk >>= fun ok => pushElem env _ _) = _
  rw [htap, hn, hc]
  exact pushElem_ok h.st _ _

/-- the CHECKSIGADD chain: `ps` = (key, signature on the stack, outcome of the check) -/
theorem csa_chain (h : NoLimits env) (htap : env.flags.tapscript = true)
    (ps : List (Key × Bytes × Bool))
    (hps : ∀ p ∈ ps, checkSig env p.2.1 (ke.ser p.1) = .ok p.2.2) :
    ∀ (acc : Nat) (_hnum : ∀ j, j ≤ acc + ps.length → NumOk j) (rest alt : List Bytes) (ops : Nat),
    seqOps env ((ps.map (·.1)).flatMap (fun pk => [Op.push (ke.ser pk), .code .checksigadd]))
      ⟨numEncode (acc : Int) :: (ps.map (·.2.1) ++ rest), alt, ops⟩ =
    .ok ⟨numEncode ((acc + (ps.filter (·.2.2)).length : Nat) : Int) :: rest, alt, ops + ps.length⟩ := by
  induction ps with
  | nil => intro acc _ rest alt ops; simp [seqOps_nil]
  | cons p ps ih =>
    intro acc hnum rest alt ops
    have hp := hps p (by simp)
    have hacc := (hnum acc (by omega)).num4 env
    simp only [List.map_cons, List.flatMap_cons, List.cons_append, List.nil_append, seqOps_cons,
      pshOp_push, pshOp_code, psh_ok h.st, Except.bind_ok, checksigadd_nl h htap hacc hp]
    have ih' := ih (fun q hq => hps q (by simp [hq])) (acc + (if p.2.2 then 1 else 0))
      (fun j hj => hnum j (by simp at hj ⊢; split at hj <;> omega)) rest alt (ops + 1)
    have e : ((acc : Int) + (if p.2.2 = true then 1 else 0)) =
        ((acc + (if p.2.2 = true then 1 else 0) : Nat) : Int) := by
      split <;> simp
    rw [e, ih']
    congr 2
    · rw [filter_len_cons]; congr 2; omega
    · simp; omega

theorem frag_multiA_aux (h : NoLimits env) (htap : env.flags.tapscript = true) (k : Nat)
    (ps : List (Key × Bytes × Bool)) (hne : ps ≠ [])
    (hps : ∀ p ∈ ps, checkSig env p.2.1 (ke.ser p.1) = .ok p.2.2)
    (hnum : ∀ j, j ≤ ps.length → NumOk j) (hkk : NumOk k) (rest : List Bytes) :
    Runs (seqOps env (encodeMultiA ke (ps.map (·.1)) ++ [pushInt k, .code .numequal]))
      (ps.map (·.2.1) ++ rest)
      (boolBytes ((k : Int) == (((ps.filter (·.2.2)).length : Nat) : Int)) :: rest) := by
  apply Runs.of_eq
  intro alt ops
  cases ps with
  | nil => exact absurd rfl hne
  | cons p ps =>
    refine ⟨ops + 1 + ps.length + 1, ?_⟩
    have hp := hps p (by simp)
    have chain := csa_chain (ke := ke) h htap ps (fun q hq => hps q (by simp [hq]))
      (if p.2.2 then 1 else 0)
      (fun j hj => hnum j (by simp at hj ⊢; split at hj <;> omega)) rest alt (ops + 1)
    have hcnt : NumOk ((if p.2.2 = true then 1 else 0) + (ps.filter (·.2.2)).length) := by
      apply hnum
      have := List.length_filter_le (fun q : Key × Bytes × Bool => q.2.2) ps
      simp; split <;> omega
    have first : seqOps env (encodeMultiA ke ((p :: ps).map (·.1)))
        ⟨(p :: ps).map (·.2.1) ++ rest, alt, ops⟩ =
        .ok ⟨numEncode (((if p.2.2 = true then 1 else 0) + (ps.filter (·.2.2)).length : Nat) : Int) :: rest,
          alt, ops + 1 + ps.length⟩ := by
      simp only [List.map_cons, encodeMultiA, List.cons_append, List.nil_append, seqOps_cons, pshOp_push,
        pshOp_code, psh_ok h.st, Except.bind_ok, checksig_nl h _ _ _ _ _ hp, boolBytes_enc, chain]
    rw [seqOps_append, first]
    show seqOps env _ _ = _
    rw [seq_pushInt_numequal h hkk (hcnt.num4 env), filter_len_cons]

theorem frag_multiA (h : NoLimits env) (htap : env.flags.tapscript = true) (k : Nat)
    (ps : List (Key × Bytes × Bool)) (hne : ps ≠ [])
    (hps : ∀ p ∈ ps, checkSig env p.2.1 (ke.ser p.1) = .ok p.2.2)
    (hnum : ∀ j, j ≤ ps.length → NumOk j) (hkk : NumOk k) (rest : List Bytes) :
    Runs (frag env ke ctx (.multiA k (ps.map (·.1)))) (ps.map (·.2.1) ++ rest)
      (boolBytes ((k : Int) == (((ps.filter (·.2.2)).length : Nat) : Int)) :: rest) := by
  exact .congr (MsVerif.frag_multiA env ke ctx k _) (frag_multiA_aux (ke := ke) h htap k ps hne hps hnum hkk rest)

theorem frag_sortedMultiA (h : NoLimits env) (htap : env.flags.tapscript = true) (k : Nat)
    (ks : List Key) (ps : List (Key × Bytes × Bool)) (hks : sortKeys ke ks = ps.map (·.1))
    (hne : ps ≠ [])
    (hps : ∀ p ∈ ps, checkSig env p.2.1 (ke.ser p.1) = .ok p.2.2)
    (hnum : ∀ j, j ≤ ps.length → NumOk j) (hkk : NumOk k) (rest : List Bytes) :
    Runs (frag env ke ctx (.sortedMultiA k ks)) (ps.map (·.2.1) ++ rest)
      (boolBytes ((k : Int) == (((ps.filter (·.2.2)).length : Nat) : Int)) :: rest) := by
  exact .congr (MsVerif.frag_sortedMultiA env ke ctx k ks)
    (hks ▸ frag_multiA_aux (ke := ke) h htap k ps hne hps hnum hkk rest)

end MsVerif.SatSpec
