/- Round trip of the descriptor wrappers (Model/DescDisplay.lean): at tree level, and on characters
since the printed trees are well-formed for the expression grammar. -/
import MsVerif.Model.DescDisplay
import MsVerif.Lemmas.DisplayString
import MsVerif.Lemmas.ExprTable

namespace MsVerif.DescDisplay
open MsVerif MsVerif.Display
open MsVerif.Expr (Tree Parens)

theorem msRound (c : Codec) (m : Ms) (h : Ms.all (nodeOk c) m = true) :
    Display.fromTree c (Display.toTree c m) = .ok m :=
  (toTreeW_spells c m []).fromTree_eq h

theorem rootName_core (pre : List Char) (f : Frag) (cs : List Tree) :
    rootName (core pre f cs) = joinName pre f.name := rfl

/-- what is known of the root name: it is `prefix:fragment`, and without a prefix of the printer's
own it is `pkh` only for `c:pk_h(K)` -/
theorem rootName_toTreeW (c : Codec) (m : Ms) (pre : List Char) :
    ∃ p f, rootName (toTreeW c pre m) = joinName (pre ++ p) f.name
      ∧ (p = [] → f = Frag.pkh → ∃ k, m = .check (.pkH k)) :=
  (toTreeW_spells c m pre).shape (P := fun pre m t => ∃ p f, rootName t = joinName (pre ++ p) f.name
      ∧ (p = [] → f = Frag.pkh → ∃ k, m = .check (.pkH k)))
    (fun w _ _ _ ⟨p, f, h1, _⟩ => ⟨w.char :: p, f, by rw [h1, List.append_assoc]; rfl, nofun⟩)
    (fun _ f _ _ hf _ => ⟨[], f, by rw [List.append_nil]; rfl, fun _ => hf⟩)

def isWrapperName (n : List Char) : Bool := n == nPkh || n == nWpkh || n == nSh || n == nWsh || n == nTr

theorem joinName_wrapper (q : List Char) (f : Frag) (h : isWrapperName (joinName q f.name) = true) :
    q = [] ∧ f = .pkh := by
  cases q with
  | nil =>
    refine ⟨rfl, ?_⟩
    simp only [joinName, List.isEmpty_nil, if_true] at h
    revert h; cases f <;> decide
  | cons x xs =>
    exfalso
    have hc : ':' ∈ joinName (x :: xs) f.name := by simp [joinName]
    have hn : ∀ n, isWrapperName n = true → ':' ∉ n := by
      intro n hn
      simp only [isWrapperName, Bool.or_eq_true, beq_iff_eq] at hn
      rcases hn with ((((e | e) | e) | e) | e) <;> subst e <;> decide
    exact hn _ h hc

theorem toTree_not_wrapper (c : Codec) (m : Ms) (hm : ∀ k, m ≠ .check (.pkH k)) :
    isWrapperName (rootName (Display.toTree c m)) = false := by
  obtain ⟨p, f, h1, h2⟩ := rootName_toTreeW c m []
  unfold Display.toTree
  rw [h1]
  cases hw : isWrapperName (joinName ([] ++ p) f.name) with
  | false => rfl
  | true =>
    obtain ⟨hq, hf⟩ := joinName_wrapper _ f hw
    simp only [List.nil_append] at hq
    obtain ⟨k, hk⟩ := h2 hq hf
    exact absurd hk (hm k)

theorem toTree_not_wsh_wpkh (c : Codec) (m : Ms) :
    rootName (Display.toTree c m) ≠ nWsh ∧ rootName (Display.toTree c m) ≠ nWpkh := by
  obtain ⟨p, f, h1, _⟩ := rootName_toTreeW c m []
  unfold Display.toTree
  rw [h1]
  constructor <;> intro e
  · have := joinName_wrapper ([] ++ p) f (by rw [e]; decide)
    rw [this.1, this.2] at e; revert e; decide
  · have := joinName_wrapper ([] ++ p) f (by rw [e]; decide)
    rw [this.1, this.2] at e; revert e; decide

theorem toTree_parens (c : Codec) (m : Ms) : rootParens (Display.toTree c m) ≠ .curly := by
  have h := toTreeW_noCurly c m []
  unfold Display.toTree
  cases ht : toTreeW c [] m with
  | node nm p cs =>
    rw [ht] at h
    simp only [hasCurly, Bool.or_eq_false_iff, beq_eq_false_iff_ne] at h
    exact h.1

@[simp] theorem rootName_node (a : List Char) (p : Parens) (cs : List Tree) : rootName (.node a p cs) = a := rfl
@[simp] theorem rootParens_node (a : List Char) (p : Parens) (cs : List Tree) : rootParens (.node a p cs) = p := rfl
@[simp] theorem children_node (a : List Char) (p : Parens) (cs : List Tree) : children (.node a p cs) = cs := rfl

/-- tap tree below depth `d`: leaves admissible and accepted by `validate(&Tap::CONSENSUS)`, inner
nodes at depth < 128 -/
def tapOk (c : DCodec) : Nat → TapT → Prop
  | _, .leaf m => Ms.all (nodeOk (c.ms .tap)) m = true ∧ c.leafOk m = true
  | d, .node l r => d < MAX_TAP_DEPTH ∧ tapOk c (d + 1) l ∧ tapOk c (d + 1) r

/-- a descriptor value the library can hold -/
def DescOk (c : DCodec) : Desc → Prop
  | .bare m => Ms.all (nodeOk (c.ms .bare)) m = true ∧ c.wrapOk (.bare m) = true ∧ ∀ k, m ≠ .check (.pkH k)
  | .pkh k => c.readKey (c.showKey k) = some k ∧ c.wrapOk (.pkh k) = true
  | .wpkh k => c.readKey (c.showKey k) = some k ∧ c.wrapOk (.wpkh k) = true
  | .sh m => Ms.all (nodeOk (c.ms .legacy)) m = true ∧ c.wrapOk (.sh m) = true
  | .shWpkh k => c.readKey (c.showKey k) = some k ∧ c.wrapOk (.wpkh k) = true
  | .shWsh m => Ms.all (nodeOk (c.ms .segwitv0)) m = true ∧ c.wrapOk (.wsh m) = true
  | .wsh m => Ms.all (nodeOk (c.ms .segwitv0)) m = true ∧ c.wrapOk (.wsh m) = true
  | .tr ik none => c.readKey (c.showKey ik) = some ik ∧ c.wrapOk (.tr ik none) = true
  | .tr ik (some t) => c.readKey (c.showKey ik) = some ik ∧ c.wrapOk (.tr ik (some t)) = true ∧ tapOk c 0 t

theorem parseTap_tapTree (c : DCodec) : ∀ (t : TapT) (d : Nat), tapOk c d t → parseTap c d (tapTree c t) = .ok t
  | .leaf m, d, h => by
    obtain ⟨hm, hl⟩ := h
    have hp := toTree_parens (c.ms .tap) m
    have hr := msRound (c.ms .tap) m hm
    rw [show tapTree c (.leaf m) = Display.toTree (c.ms .tap) m from rfl]
    cases ht : Display.toTree (c.ms .tap) m with
    | node nm p cs =>
      rw [ht] at hp hr
      simp only [rootParens_node] at hp
      have hpc : (p == Parens.curly) = false := by cases p <;> simp_all
      unfold parseTap
      simp only [hpc, Bool.false_eq_true, if_false, msIn, hr, hl, if_true]
  | .node l r, d, h => by
    obtain ⟨hd, hl, hr⟩ := h
    have h1 := parseTap_tapTree c l (d + 1) hl
    have h2 := parseTap_tapTree c r (d + 1) hr
    have hd' : ¬ d ≥ MAX_TAP_DEPTH := by omega
    simp [tapTree, parseTap, h1, h2, hd']

theorem len1 (a : Tree) : ([a] : List Tree).length = 1 := rfl

theorem names_ne : nWpkh ≠ nPkh ∧ nSh ≠ nPkh ∧ nSh ≠ nWpkh ∧ nWpkh ≠ nWsh ∧ nWsh ≠ nPkh ∧ nWsh ≠ nWpkh
    ∧ nWsh ≠ nSh ∧ nTr ≠ nPkh ∧ nTr ≠ nWpkh ∧ nTr ≠ nSh ∧ nTr ≠ nWsh := by decide

theorem fromTree_toTree (c : DCodec) (d : Desc) (h : DescOk c d) : fromTree c (toTree c d) = .ok d := by
  cases d with
  | pkh k =>
    obtain ⟨hk, hw⟩ := h
    simp [fromTree, toTree, keyParent, leaf, leafName, hk, wrap, hw]
  | wpkh k =>
    obtain ⟨hk, hw⟩ := h
    simp [fromTree, toTree, keyParent, leaf, leafName, hk, wrap, hw, names_ne]
  | shWpkh k =>
    obtain ⟨hk, hw⟩ := h
    simp [fromTree, toTree, topLevel1, keyParent, leaf, leafName, hk, wrap, hw,
      names_ne, Except.bind]
  | shWsh m =>
    obtain ⟨hm, hw⟩ := h
    simp [fromTree, toTree, topLevel1, wshFromTree, msIn,
      msRound _ m hm, wrap, hw, names_ne, Except.bind]
  | wsh m =>
    obtain ⟨hm, hw⟩ := h
    simp [fromTree, toTree, topLevel1, wshFromTree, msIn,
      msRound _ m hm, wrap, hw, names_ne]
  | sh m =>
    obtain ⟨hm, hw⟩ := h
    obtain ⟨n1, n2⟩ := toTree_not_wsh_wpkh (c.ms .legacy) m
    simp [fromTree, toTree, topLevel1, msIn, msRound _ m hm, wrap, hw,
      names_ne, n1, n2]
  | tr ik t =>
    cases t with
    | none =>
      obtain ⟨hk, hw⟩ := h
      simp [fromTree, toTree, leaf, leafName, hk, wrap, hw, names_ne]
    | some tt =>
      obtain ⟨hk, hw, ht⟩ := h
      simp [fromTree, toTree, leaf, leafName, hk, wrap, hw, names_ne,
        parseTap_tapTree c tt 0 ht]
  | bare m =>
    obtain ⟨hm, hw, hne⟩ := h
    have hnw := toTree_not_wrapper (c.ms .bare) m hne
    simp only [isWrapperName, Bool.or_eq_false_iff, beq_eq_false_iff_ne] at hnw
    obtain ⟨⟨⟨⟨a1, a2⟩, a3⟩, a4⟩, a5⟩ := hnw
    simp [fromTree, toTree, a1, a2, a3, a4, a5, msIn, msRound _ m hm, wrap, hw]

/-- a bare `c:pk_h(K)` prints as `pkh(K)` and is read back as the `pkh()` DESCRIPTOR -/
theorem bare_pkh_reads_as_pkh (c : DCodec) (k : Key)
    (hk : (c.ms .bare).showKey k = c.showKey k) (hr : c.readKey (c.showKey k) = some k)
    (hw : c.wrapOk (.pkh k) = true) :
    fromTree c (toTree c (.bare (.check (.pkH k)))) = .ok (.pkh k) := by
  have e : toTree c (.bare (.check (.pkH k))) = toTree c (.pkh k) := by
    simp only [toTree, Display.toTree]
    rw [toTreeW]
    simp [sugarCheck, core, joinName, Frag.name, nPkh, hk]
  rw [e]
  exact fromTree_toTree c (.pkh k) ⟨hr, hw⟩

open MsVerif.Expr

structure DNames (c : DCodec) : Prop where
  ms : ∀ ctx, CodecNames (c.ms ctx)
  key : ∀ k, NameOk (c.showKey k)

theorem node1_wf (n : List Char) (hn : NameOk n) (x : Tree) (hx : x.WF) : (Tree.node n .round [x]).WF := by
  unfold Tree.WF; exact ⟨hn, by simp, by simp [Tree.WFList, hx]⟩

theorem tapTree_wf (c : DCodec) (hn : DNames c) : ∀ t : TapT, (tapTree c t).WF
  | .leaf m => by
    rw [show tapTree c (.leaf m) = Display.toTree (c.ms .tap) m from rfl]
    exact toTreeW_wf _ (hn.ms .tap) m [] NameOk.nil
  | .node l r => by
    rw [show tapTree c (.node l r) = .node [] .curly [tapTree c l, tapTree c r] from rfl]
    unfold Tree.WF
    refine ⟨by intro ch hc; simp at hc, by simp, ?_⟩
    simp [Tree.WFList, tapTree_wf c hn l, tapTree_wf c hn r]

theorem toTree_wf (c : DCodec) (hn : DNames c) (d : Desc) : (toTree c d).WF := by
  have kleaf : ∀ k, (leaf (c.showKey k)).WF := fun k => leaf_wf _ (hn.key k)
  cases d with
  | bare m => exact toTreeW_wf _ (hn.ms .bare) m [] NameOk.nil
  | pkh k => exact node1_wf _ (nameOk_of_all _ (by decide)) _ (kleaf k)
  | wpkh k => exact node1_wf _ (nameOk_of_all _ (by decide)) _ (kleaf k)
  | sh m => exact node1_wf _ (nameOk_of_all _ (by decide)) _ (toTreeW_wf _ (hn.ms .legacy) m [] NameOk.nil)
  | shWpkh k => exact node1_wf _ (nameOk_of_all _ (by decide)) _ (node1_wf _ (nameOk_of_all _ (by decide)) _ (kleaf k))
  | shWsh m =>
    exact node1_wf _ (nameOk_of_all _ (by decide)) _
      (node1_wf _ (nameOk_of_all _ (by decide)) _ (toTreeW_wf _ (hn.ms .segwitv0) m [] NameOk.nil))
  | wsh m => exact node1_wf _ (nameOk_of_all _ (by decide)) _ (toTreeW_wf _ (hn.ms .segwitv0) m [] NameOk.nil)
  | tr ik t =>
    cases t with
    | none => exact node1_wf _ (nameOk_of_all _ (by decide)) _ (kleaf ik)
    | some tt =>
      simp only [toTree]
      unfold Tree.WF
      refine ⟨nameOk_of_all _ (by decide), by simp, ?_⟩
      simp [Tree.WFList, kleaf ik, tapTree_wf c hn tt]

/-- on CHARACTERS: `Descriptor::from_str` (without the checksum and the final `Tap::SANE` sweep)
reads back what `Display` writes, as long as the printed nesting stays within the expression
parser's limit of 403 -/
theorem fromStr_display (c : DCodec) (hn : DNames c) (d : Desc) (h : DescOk c d)
    (hd : (toTree c d).depth ≤ 403) : fromStr c (display c d) = .ok d :=
  (Expr.fromStr_print_then (toTree c d) (toTree_wf c hn d) hd _ _).trans (fromTree_toTree c d h)

end MsVerif.DescDisplay
