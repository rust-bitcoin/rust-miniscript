/-
`minimum_n_keys` = fewest signatures over all selections.

Route: costs of `chooseK` have minimum `minK` (skip-or-take recursion on the children's minima);
`minK` is the minimum of `sum` over the length-`k` sublists of the defined children's minima;
for a sorted list that minimum is the sum of the first `k`.
-/
import MsVerif.Lemmas.PolicyBasic

namespace MsVerif.Pol
open Sem

def MinOf (l : List Nat) : Option Nat → Prop
  | none => l = []
  | some m => m ∈ l ∧ ∀ x ∈ l, m ≤ x

theorem minOf_iff (l : List Nat) (r : Option Nat) : MinOf l r ↔ l.min? = r := by
  cases r with
  | none => simp [MinOf]
  | some m => simp [MinOf, List.min?_eq_some_iff]

def optMin : Option Nat → Option Nat → Option Nat
  | none, x => x
  | x, none => x
  | some a, some b => some (min a b)

def optAdd : Option Nat → Option Nat → Option Nat
  | some a, some b => some (a + b)
  | _, _ => none

theorem minOf_append {l1 l2 : List Nat} {r1 r2 : Option Nat} (h1 : MinOf l1 r1) (h2 : MinOf l2 r2) :
    MinOf (l1 ++ l2) (optMin r1 r2) := by
  cases r1 with
  | none =>
    simp only [MinOf] at h1; subst h1
    cases r2 <;> simpa [optMin] using h2
  | some a =>
    cases r2 with
    | none =>
      simp only [MinOf] at h2; subst h2
      simpa [optMin] using h1
    | some b =>
      obtain ⟨ha, ha'⟩ := h1
      obtain ⟨hb, hb'⟩ := h2
      simp only [optMin, MinOf, List.mem_append]
      constructor
      · rcases Nat.le_total a b with h | h
        · left; rw [Nat.min_eq_left h]; exact ha
        · right; rw [Nat.min_eq_right h]; exact hb
      · intro x hx
        rcases hx with hx | hx
        · exact Nat.le_trans (Nat.min_le_left a b) (ha' x hx)
        · exact Nat.le_trans (Nat.min_le_right a b) (hb' x hx)

theorem nSigs_append (a b : List Atom) : nSigs (a ++ b) = nSigs a + nSigs b := by
  simp [nSigs, List.countP_append]

theorem minOf_product {A B : List (List Atom)} {r1 r2 : Option Nat}
    (h1 : MinOf (A.map nSigs) r1) (h2 : MinOf (B.map nSigs) r2) :
    MinOf ((A.flatMap (fun a => B.map (a ++ ·))).map nSigs) (optAdd r1 r2) := by
  cases r1 with
  | none =>
    have : A = [] := by simpa [MinOf] using h1
    subst this; simp [optAdd, MinOf]
  | some a =>
    cases r2 with
    | none =>
      have : B = [] := by simpa [MinOf] using h2
      subst this; simp [optAdd, MinOf]
    | some b =>
      obtain ⟨ha, ha'⟩ := h1
      obtain ⟨hb, hb'⟩ := h2
      obtain ⟨sa, hsa, rfl⟩ := List.mem_map.mp ha
      obtain ⟨sb, hsb, rfl⟩ := List.mem_map.mp hb
      simp only [optAdd, MinOf]
      constructor
      · apply List.mem_map.mpr
        refine ⟨sa ++ sb, ?_, nSigs_append _ _⟩
        exact List.mem_flatMap.mpr ⟨sa, hsa, List.mem_map.mpr ⟨sb, hsb, rfl⟩⟩
      · intro x hx
        obtain ⟨s, hs, rfl⟩ := List.mem_map.mp hx
        obtain ⟨s1, hs1, hs'⟩ := List.mem_flatMap.mp hs
        obtain ⟨s2, hs2, rfl⟩ := List.mem_map.mp hs'
        rw [nSigs_append]
        have := ha' _ (List.mem_map.mpr ⟨s1, hs1, rfl⟩)
        have := hb' _ (List.mem_map.mpr ⟨s2, hs2, rfl⟩)
        omega

/-- minimum total of exactly `k` members, each member available at its (optional) price -/
def minK : List (Option Nat) → Nat → Option Nat
  | _, 0 => some 0
  | [], _ + 1 => none
  | c :: cs, k + 1 => optMin (minK cs (k + 1)) (optAdd c (minK cs k))

theorem minK_zero (cs : List (Option Nat)) : minK cs 0 = some 0 := by
  cases cs <;> rfl

theorem minOf_chooseK (alts : List (List (List Atom))) :
    ∀ k, MinOf ((chooseK alts k).map nSigs) (minK (alts.map (fun al => (al.map nSigs).min?)) k) := by
  induction alts with
  | nil =>
    intro k
    cases k with
    | zero => simp [chooseK, minK, MinOf, nSigs]
    | succ k => simp [chooseK, minK, MinOf]
  | cons al rest ih =>
    intro k
    cases k with
    | zero => simp [chooseK_zero, minK_zero, MinOf, nSigs]
    | succ k =>
      simp only [chooseK, List.map_cons, minK, List.map_append]
      apply minOf_append (ih (k + 1))
      exact minOf_product ((minOf_iff _ _).mpr rfl) (ih k)

theorem minK_filterMap (cs : List (Option Nat)) :
    ∀ k, minK cs k = minK ((cs.filterMap id).map some) k := by
  induction cs with
  | nil => intro k; cases k <;> rfl
  | cons c cs ih =>
    intro k
    cases k with
    | zero => simp [minK_zero]
    | succ k =>
      cases c with
      | none =>
        simp only [minK, List.filterMap_cons, id, ih]
        cases minK ((cs.filterMap id).map some) (k + 1) <;> simp [optAdd, optMin]
      | some c => simp only [minK, List.filterMap_cons, id, List.map_cons, ih]

def kSums : List Nat → Nat → List Nat
  | _, 0 => [0]
  | [], _ + 1 => []
  | x :: xs, k + 1 => kSums xs (k + 1) ++ (kSums xs k).map (x + ·)

theorem kSums_zero (xs : List Nat) : kSums xs 0 = [0] := by
  cases xs <;> rfl

theorem mem_kSums : ∀ (xs : List Nat) (k m : Nat),
    m ∈ kSums xs k ↔ ∃ s : List Nat, s.Sublist xs ∧ s.length = k ∧ s.sum = m
  | xs, 0, m => by
    rw [kSums_zero, List.mem_singleton]
    constructor
    · rintro rfl; exact ⟨[], List.nil_sublist _, rfl, rfl⟩
    · rintro ⟨s, _, hl, rfl⟩
      rw [List.length_eq_zero_iff.mp hl]; rfl
  | [], k + 1, m => by
    simp only [kSums, List.not_mem_nil, false_iff]
    rintro ⟨s, hs, hl, _⟩
    have := hs.length_le
    rw [hl] at this
    exact absurd this (by simp)
  | x :: xs, k + 1, m => by
    simp only [kSums, List.mem_append, List.mem_map, mem_kSums xs]
    constructor
    · rintro (⟨s, hs, hl, rfl⟩ | ⟨_, ⟨s, hs, hl, rfl⟩, rfl⟩)
      · exact ⟨s, hs.cons x, hl, rfl⟩
      · exact ⟨x :: s, hs.cons_cons x, by simp [hl], by simp⟩
    · rintro ⟨s, hs, hl, rfl⟩
      cases hs with
      | cons _ h => exact Or.inl ⟨s, h, hl, rfl⟩
      | cons_cons _ h =>
        rename_i s'
        exact Or.inr ⟨_, ⟨s', h, by simpa using hl, rfl⟩, by simp⟩

theorem minOf_map_add (x : Nat) {l : List Nat} {r : Option Nat} (h : MinOf l r) :
    MinOf (l.map (x + ·)) (optAdd (some x) r) := by
  cases r with
  | none =>
    simp only [MinOf] at h
    subst h; simp [optAdd, MinOf]
  | some m =>
    obtain ⟨hm, hle⟩ := h
    refine ⟨List.mem_map.mpr ⟨m, hm, rfl⟩, fun y hy => ?_⟩
    obtain ⟨z, hz, rfl⟩ := List.mem_map.mp hy
    exact Nat.add_le_add_left (hle z hz) x

theorem minOf_kSums : ∀ (xs : List Nat) (k : Nat), MinOf (kSums xs k) (minK (xs.map some) k)
  | xs, 0 => by rw [kSums_zero, minK_zero]; simp [MinOf]
  | [], k + 1 => by simp [kSums, minK, MinOf]
  | x :: xs, k + 1 => by
    simp only [kSums, List.map_cons, minK]
    exact minOf_append (minOf_kSums xs (k + 1)) (minOf_map_add x (minOf_kSums xs k))

theorem sorted_take_sum_le : ∀ (l : List Nat), l.Pairwise (· ≤ ·) →
    ∀ s : List Nat, s.Sublist l → (l.take s.length).sum ≤ s.sum := by
  intro l
  induction l with
  | nil => intro _ s hs; simp
  | cons a l ih =>
    intro hp s hs
    obtain ⟨ha, hp'⟩ := List.pairwise_cons.mp hp
    cases s with
    | nil => simp
    | cons b s' =>
      have hb : a ≤ b ∧ s'.Sublist l := by
        cases hs with
        | cons _ h =>
          exact ⟨ha b (h.subset (by simp)), (List.sublist_cons_self b s').trans h⟩
        | cons_cons _ h => exact ⟨Nat.le_refl _, h⟩
      have := ih hp' s' hb.2
      simp only [List.length_cons, List.take_succ_cons, List.sum_cons]
      omega

theorem minOf_kSums_sorted (xs : List Nat) (k : Nat) :
    MinOf (kSums xs k) (if xs.length < k then none
      else some ((xs.mergeSort (fun a b => decide (a ≤ b))).take k).sum) := by
  split
  · rename_i hk
    show kSums xs k = []
    apply List.eq_nil_iff_forall_not_mem.mpr
    intro m hm
    obtain ⟨s, hs, hl, _⟩ := (mem_kSums xs k m).mp hm
    have := hs.length_le
    omega
  · rename_i hk
    have hperm := List.mergeSort_perm xs (fun a b => decide (a ≤ b))
    have hsorted := mergeSort_le_sorted xs
    generalize xs.mergeSort (fun a b => decide (a ≤ b)) = l at hperm hsorted
    have hlen : l.length = xs.length := hperm.length_eq
    constructor
    · obtain ⟨s', hs'p, hs's⟩ := List.exists_perm_sublist (List.take_sublist k l) hperm
      refine (mem_kSums xs k _).mpr ⟨s', hs's, ?_, hs'p.sum_nat⟩
      rw [hs'p.length_eq, List.length_take]; omega
    · intro m hm
      obtain ⟨s, hs, hl, rfl⟩ := (mem_kSums xs k m).mp hm
      obtain ⟨s', hs'p, hs's⟩ := List.exists_perm_sublist hs hperm.symm
      have := sorted_take_sum_le l hsorted s' hs's
      rw [hs'p.length_eq, hl] at this
      rw [← hs'p.sum_nat]; exact this

theorem minKeysThresh_eq_minK (k : Nat) (cs : List (Option Nat)) :
    minKeysThresh k cs = minK cs k := by
  rw [minK_filterMap]
  exact ((minOf_iff _ _).mp (minOf_kSums_sorted _ _)).symm.trans
    ((minOf_iff _ _).mp (minOf_kSums _ _))

end MsVerif.Pol
