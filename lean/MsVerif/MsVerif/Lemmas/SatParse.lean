/-
Parse / serialise round trips for the byte parser of `Spec/Script.lean`:

* `parse (serialize ops) = some ops` for canonical elements (`OP_0`..`OP_16`, direct pushes of
  1..75 bytes, opcodes of the subset), hence `parse (encodeBytes ke ctx ms) = some (encode ke ctx ms)`
  for key environments whose atoms have 1..75 bytes;
* the scriptSig `util::witness_to_scriptsig` builds from satisfier items parses to push-only
  elements with minimal pushes whose evaluation leaves exactly the items.
-/
import MsVerif.Lemmas.CoreNum
import MsVerif.Lemmas.CoreEncode
import MsVerif.Lemmas.PlanSizes
import MsVerif.Spec.Spend

namespace MsVerif.SatSpec
open MsVerif Script

theorem opc_byte_ge (o : Opc) : 0x61 ≤ o.byte.toNat := by cases o <;> decide

theorem opc_ofByte (o : Opc) : Opc.ofByte? o.byte = some o := by cases o <;> decide

/-- one step of the parser on a non-empty input (the third equation of `parseAux`) -/
theorem parseAux_cons (fuel : Nat) (b : UInt8) (rest : Bytes) :
    parseAux (fuel + 1) (b :: rest) =
      (let n := b.toNat
      if n = 0 then (parseAux fuel rest).map (fun t => (Op.small 0, true) :: t)
      else if n < 0x4c then
        if rest.length < n then none
        else (parseAux fuel (rest.drop n)).map (fun t => (Op.push (rest.take n), true) :: t)
      else if n = 0x4c then
        match rest with
        | l :: rest' =>
          if rest'.length < l.toNat then none
          else (parseAux fuel (rest'.drop l.toNat)).map
            (fun t => (Op.push (rest'.take l.toNat), decide (l.toNat ≥ 0x4c)) :: t)
        | _ => none
      else if n = 0x4d then
        match rest with
        | l0 :: l1 :: rest' =>
          let len := l0.toNat + 256 * l1.toNat
          if rest'.length < len then none
          else (parseAux fuel (rest'.drop len)).map
            (fun t => (Op.push (rest'.take len), decide (len > 0xff)) :: t)
        | _ => none
      else if n = 0x4e then none
      else if 0x51 ≤ n ∧ n ≤ 0x60 then
        (parseAux fuel rest).map (fun t => (Op.small (n - 0x50), true) :: t)
      else
        match Opc.ofByte? b with
        | some o => (parseAux fuel rest).map (fun t => (Op.code o, true) :: t)
        | none => (parseAux fuel rest).map (fun t => (Op.bad b, true) :: t)) := rfl

theorem parseAux_code (o : Opc) (fuel : Nat) (rest : Bytes) :
    parseAux (fuel + 1) ((Op.code o).bytes ++ rest)
      = (parseAux fuel rest).map (fun t => (Op.code o, true) :: t) := by
  have h1 := opc_byte_ge o
  have h2 := opc_ofByte o
  simp only [Op.bytes, List.cons_append, List.nil_append, parseAux_cons]
  rw [if_neg (by omega), if_neg (by omega), if_neg (by omega), if_neg (by omega),
    if_neg (by omega), if_neg (by omega), h2]

theorem parseAux_small (n : Nat) (h : n ≤ 16) (fuel : Nat) (rest : Bytes) :
    parseAux (fuel + 1) ((Op.small n).bytes ++ rest)
      = (parseAux fuel rest).map (fun t => (Op.small n, true) :: t) := by
  cases n with
  | zero => simp [Op.bytes, parseAux_cons]
  | succ k =>
    have hb : (UInt8.ofNat (0x50 + (k + 1))).toNat = 0x50 + (k + 1) := by
      rw [UInt8.toNat_ofNat']; omega
    simp only [Op.bytes, List.cons_append, List.nil_append, parseAux_cons, hb]
    rw [if_neg (by omega), if_neg (by omega), if_neg (by omega), if_neg (by omega),
      if_neg (by omega), if_pos (by omega)]
    have : 0x50 + (k + 1) - 0x50 = k + 1 := by omega
    rw [this]

theorem parseAux_push (bs : Bytes) (h1 : 1 ≤ bs.length) (h2 : bs.length ≤ 0xffff)
    (fuel : Nat) (rest : Bytes) :
    parseAux (fuel + 1) ((Op.push bs).bytes ++ rest)
      = (parseAux fuel rest).map (fun t => (Op.push bs, true) :: t) := by
  show parseAux (fuel + 1) (pushPrefix bs.length ++ bs ++ rest) = _
  unfold pushPrefix
  split
  · rename_i hl
    have hb : (UInt8.ofNat bs.length).toNat = bs.length := by
      rw [UInt8.toNat_ofNat']; omega
    simp only [List.cons_append, List.nil_append, parseAux_cons, hb]
    rw [if_neg (by omega), if_pos (by omega), if_neg (by simp)]
    rw [List.take_left', List.drop_left'] <;> rfl
  · rename_i hl
    split
    · rename_i hl2
      have hb : (UInt8.ofNat bs.length).toNat = bs.length := by
        rw [UInt8.toNat_ofNat']; omega
      have h76 : (76 : UInt8).toNat = 76 := rfl
      have hd : decide (bs.length ≥ 76) = true := by simp; omega
      simp [parseAux_cons, hb, h76, hd]
      intro h; omega
    · rename_i hl2
      have hb0 : (UInt8.ofNat (bs.length % 256)).toNat = bs.length % 256 := by
        rw [UInt8.toNat_ofNat']; omega
      have hb1 : (UInt8.ofNat (bs.length / 256)).toNat = bs.length / 256 := by
        rw [UInt8.toNat_ofNat']; omega
      have hlen : bs.length % 256 + 256 * (bs.length / 256) = bs.length := by omega
      have h77 : (77 : UInt8).toNat = 77 := rfl
      have hd : decide (bs.length > 255) = true := by simp; omega
      simp [parseAux_cons, hb0, hb1, h77, hlen, hd]
      intro h; omega

/-- elements that parse back to themselves with flag `true` (pushes up to 65535 bytes) -/
def goodOp : Op → Bool
  | .small n => decide (n ≤ 16)
  | .push bs => decide (1 ≤ bs.length) && decide (bs.length ≤ 0xffff)
  | .code _ => true
  | .bad _ => false

theorem parseAux_good (o : Op) (h : goodOp o = true) (fuel : Nat) (rest : Bytes) :
    parseAux (fuel + 1) (o.bytes ++ rest)
      = (parseAux fuel rest).map (fun t => (o, true) :: t) := by
  cases o with
  | small n => exact parseAux_small n (by simpa [goodOp] using h) fuel rest
  | push bs =>
    simp only [goodOp, Bool.and_eq_true, decide_eq_true_eq] at h
    exact parseAux_push bs h.1 h.2 fuel rest
  | code o => exact parseAux_code o fuel rest
  | bad b => simp [goodOp] at h

theorem pushPrefix_length_pos (n : Nat) : 1 ≤ (pushPrefix n).length := by
  unfold pushPrefix
  split
  · simp
  · split
    · simp
    · split <;> simp

theorem Op.bytes_length_pos (o : Op) : 1 ≤ o.bytes.length := by
  cases o with
  | small n => cases n <;> simp [Op.bytes]
  | push bs =>
    show 1 ≤ (pushPrefix bs.length ++ bs).length
    have := pushPrefix_length_pos bs.length
    rw [List.length_append]; omega
  | code o => simp [Op.bytes]
  | bad b => simp [Op.bytes]

theorem parseAux_serialize_good (ops : List Op) (h : ops.all goodOp = true) :
    ∀ fuel, (serialize ops).length ≤ fuel →
      parseAux fuel (serialize ops) = some (ops.map (fun o => (o, true))) := by
  induction ops with
  | nil => intro fuel _; cases fuel <;> simp [serialize, parseAux]
  | cons o ops ih =>
    intro fuel hf
    rw [List.all_cons, Bool.and_eq_true] at h
    rw [serialize_cons] at hf ⊢
    have hp := Op.bytes_length_pos o
    rw [List.length_append] at hf
    cases fuel with
    | zero => omega
    | succ f =>
      rw [parseAux_good o h.1 f, ih h.2 f (by omega)]
      rfl

theorem parseFlagged_serialize_good (ops : List Op) (h : ops.all goodOp = true) :
    parseFlagged (serialize ops) = some (ops.map (fun o => (o, true))) :=
  parseAux_serialize_good ops h _ (Nat.le_refl _)

/-- script elements whose serialisation parses back to themselves with the parser of
Spec/Script.lean: OP_0..OP_16, direct pushes of 1..75 bytes, opcodes of the subset -/
def canonOp : Op → Bool
  | .small n => decide (n ≤ 16)
  | .push bs => decide (1 ≤ bs.length) && decide (bs.length < 76)
  | .code _ => true
  | .bad _ => false

theorem goodOp_of_canonOp (o : Op) (h : canonOp o = true) : goodOp o = true := by
  cases o with
  | small n => exact h
  | push bs =>
    simp only [canonOp, Bool.and_eq_true, decide_eq_true_eq] at h
    simp only [goodOp, Bool.and_eq_true, decide_eq_true_eq]
    omega
  | code o => rfl
  | bad b => exact h

theorem all_good_of_all_canon (ops : List Op) (h : ops.all canonOp = true) :
    ops.all goodOp = true := by
  rw [List.all_eq_true] at h ⊢
  intro o ho; exact goodOp_of_canonOp o (h o ho)

theorem parseFlagged_serialize (ops : List Op) (h : ops.all canonOp = true) :
    parseFlagged (serialize ops) = some (ops.map (fun o => (o, true))) :=
  parseFlagged_serialize_good ops (all_good_of_all_canon ops h)

theorem parse_serialize (ops : List Op) (h : ops.all canonOp = true) :
    parse (serialize ops) = some ops := by
  unfold parse
  rw [parseFlagged_serialize ops h]
  simp [Function.comp_def]

/-- byte strings of the atoms have between 1 and 75 bytes (keys 32/33/65, hashes 20/32) -/
def KeyEnv.Std (ke : KeyEnv) : Prop :=
  (∀ k, 1 ≤ (ke.ser k).length ∧ (ke.ser k).length < 76) ∧
  (∀ k, 1 ≤ (ke.pkh k).length ∧ (ke.pkh k).length < 76) ∧
  (∀ h, 1 ≤ (ke.rawPkh h).length ∧ (ke.rawPkh h).length < 76) ∧
  (∀ kind h, 1 ≤ (ke.hashVal kind h).length ∧ (ke.hashVal kind h).length < 76)

theorem canonOp_push (bs : Bytes) (h : 1 ≤ bs.length ∧ bs.length < 76) :
    canonOp (.push bs) = true := by
  simp only [canonOp, Bool.and_eq_true, decide_eq_true_eq]; exact h

theorem canonOp_code (o : Opc) : canonOp (.code o) = true := rfl

theorem canonOp_pushInt (n : Nat) : canonOp (pushInt n) = true := by
  unfold pushInt
  split
  · rename_i h; simp [canonOp, h]
  · rename_i h
    apply canonOp_push
    have h1 := numEncode_nat_length_pos (n := n) (by omega)
    have h2 := Script.numEncode_length (Int.ofNat n)
    exact ⟨h1, by omega⟩

theorem alphabet_canon {ke : KeyEnv} (hs : KeyEnv.Std ke) : Alphabet (canonOp · = true) ke :=
  ⟨canonOp_code, canonOp_pushInt, fun k => canonOp_push _ (hs.1 k), fun k => canonOp_push _ (hs.2.1 k),
    fun h => canonOp_push _ (hs.2.2.1 h), fun kind h => canonOp_push _ (hs.2.2.2 kind h)⟩

theorem encode_canon (ke : KeyEnv) (ctx : Ctx) (hs : KeyEnv.Std ke) :
    (ms : Ms) → (encode ke ctx ms).all canonOp = true :=
  fun ms => List.all_eq_true.2 (AllOps_encode ctx (alphabet_canon hs) ms)

theorem encodeThresh_canon (ke : KeyEnv) (ctx : Ctx) (hs : KeyEnv.Std ke) (first : Bool) :
    (xs : MsList) → (encodeThresh ke ctx first xs).all canonOp = true :=
  fun xs => List.all_eq_true.2 (AllOps_encodeThresh ctx (alphabet_canon hs) xs first)

theorem parse_encodeBytes (ke : KeyEnv) (ctx : Ctx) (hs : KeyEnv.Std ke) (ms : Ms) :
    parse (encodeBytes ke ctx ms) = some (encode ke ctx ms) :=
  parse_serialize _ (encode_canon ke ctx hs ms)

/-- stack elements as the satisfier produces them: empty, `[1]`, or longer than 4 bytes
(signatures, keys, preimages, scripts) and at most 520 bytes -/
def ssItemOk (x : Bytes) : Prop := x = [] ∨ x = [1] ∨ (4 < x.length ∧ x.length ≤ 520)

theorem w2ssItem_nil : Plan.w2ssItem [] = [0x00] := by decide

theorem w2ssItem_one : Plan.w2ssItem [1] = [0x51] := by decide

/-- the script element `witness_to_scriptsig` emits for an item -/
def ssOp (x : Bytes) : Op :=
  if x = [] then .small 0 else if x = [1] then .small 1 else .push x

theorem ssOp_long (x : Bytes) (h : 4 < x.length) : ssOp x = .push x := by
  have h1 : x ≠ [] := by intro e; rw [e] at h; simp at h
  have h2 : x ≠ [1] := by intro e; rw [e] at h; simp at h
  simp [ssOp, h1, h2]

theorem w2ssItem_ssOp (x : Bytes) (h : ssItemOk x) : Plan.w2ssItem x = (ssOp x).bytes := by
  rcases h with rfl | rfl | ⟨h, _⟩
  · exact w2ssItem_nil
  · exact w2ssItem_one
  · rw [PlanSizes.w2ssItem_long x h, ssOp_long x h]; rfl

theorem goodOp_ssOp (x : Bytes) (h : ssItemOk x) : goodOp (ssOp x) = true := by
  rcases h with rfl | rfl | ⟨h, h'⟩
  · rfl
  · rfl
  · rw [ssOp_long x h]
    simp only [goodOp, Bool.and_eq_true, decide_eq_true_eq]; omega

theorem pushed_ssOp (x : Bytes) (h : ssItemOk x) : (ssOp x).pushed? = some x := by
  rcases h with rfl | rfl | ⟨h, _⟩
  · rfl
  · rfl
  · rw [ssOp_long x h]; rfl

theorem pushMinimal_long (bs : Bytes) (h : 2 ≤ bs.length) : pushMinimal bs true = true := by
  match bs, h with
  | _ :: _ :: _, _ => rfl

theorem ssOp_shape (x : Bytes) (h : ssItemOk x) :
    (∃ n, ssOp x = .small n) ∨ (∃ bs, ssOp x = .push bs ∧ pushMinimal bs true = true) := by
  rcases h with rfl | rfl | ⟨h, _⟩
  · exact Or.inl ⟨0, rfl⟩
  · exact Or.inl ⟨1, rfl⟩
  · exact Or.inr ⟨x, ssOp_long x h, pushMinimal_long x (by omega)⟩

theorem w2ss_serialize (items : List Bytes) (h : ∀ x ∈ items, ssItemOk x) :
    Plan.witnessToScriptSig items = serialize (items.map ssOp) := by
  induction items with
  | nil => rfl
  | cons x xs ih =>
    have hx := h x (List.mem_cons_self ..)
    have hxs : ∀ y ∈ xs, ssItemOk y := fun y hy => h y (List.mem_cons_of_mem _ hy)
    rw [List.map_cons, serialize_cons, ← ih hxs, ← w2ssItem_ssOp x hx]
    simp [Plan.witnessToScriptSig]

/-- the scriptSig `witness_to_scriptsig` builds parses to push-only elements, every push minimal,
and evaluating it leaves exactly the items (last item on top) -/
theorem parseFlagged_w2ss (items : List Bytes) (h : ∀ x ∈ items, ssItemOk x) :
    ∃ l, parseFlagged (Plan.witnessToScriptSig items) = some l ∧
      (∀ p ∈ l, (∃ n, p.1 = .small n) ∨ (∃ bs, p.1 = .push bs ∧ pushMinimal bs p.2 = true)) ∧
      Spend.isPushOnly (l.map (·.1)) = true ∧
      l.any (fun p => match p.1 with | .push bs => !pushMinimal bs p.2 | _ => false) = false ∧
      Spend.pushedStack (l.map (·.1)) = items.reverse := by
  obtain ⟨l, h1, h2, h3⟩ : ∃ l, parseFlagged (Plan.witnessToScriptSig items) = some l ∧
      (∀ p ∈ l, (∃ n, p.1 = .small n) ∨ (∃ bs, p.1 = .push bs ∧ pushMinimal bs p.2 = true)) ∧
      (l.map (·.1)).filterMap Op.pushed? = items := by
    refine ⟨(items.map ssOp).map (fun o => (o, true)), ?_, ?_, ?_⟩
    · rw [w2ss_serialize items h]
      apply parseFlagged_serialize_good
      rw [List.all_map, List.all_eq_true]
      intro x hx; exact goodOp_ssOp x (h x hx)
    · intro p hp
      rw [List.map_map, List.mem_map] at hp
      obtain ⟨x, hx, rfl⟩ := hp
      exact ssOp_shape x (h x hx)
    · have e : ((items.map ssOp).map (fun o => (o, true))).map (·.1) = items.map ssOp := by
        simp [Function.comp_def]
      rw [e]
      clear e
      induction items with
      | nil => rfl
      | cons x xs ih =>
        have hx := h x (List.mem_cons_self ..)
        have hxs : ∀ y ∈ xs, ssItemOk y := fun y hy => h y (List.mem_cons_of_mem _ hy)
        rw [List.map_cons, List.filterMap_cons, pushed_ssOp x hx, ih hxs]
  refine ⟨l, h1, h2, ?_, ?_, ?_⟩
  · unfold Spend.isPushOnly
    rw [List.all_eq_true]
    intro o ho
    rw [List.mem_map] at ho
    obtain ⟨p, hp, rfl⟩ := ho
    rcases h2 p hp with ⟨n, hn⟩ | ⟨bs, hbs, _⟩
    · rw [hn]
    · rw [hbs]
  · rw [List.any_eq_false]
    intro p hp
    rcases h2 p hp with ⟨n, hn⟩ | ⟨bs, hbs, hm⟩
    · rw [hn]; simp
    · rw [hbs]; simp [hm]
  · unfold Spend.pushedStack
    rw [h3]

end MsVerif.SatSpec
