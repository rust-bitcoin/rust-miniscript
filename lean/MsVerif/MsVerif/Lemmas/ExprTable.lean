/-
The node table that `Tree::from_str` builds for a printed tree is the pre-order table of that tree
(names, bracket kinds, child counts), and `decodeTree` reads the tree back from it.

Method: an abstract machine `astep` over the list of (name, brackets, child count) triples is
simulated by the real builder step whenever the latter succeeds (`buildStep_sim`); on the abstract
machine the run over `print t` is computed by induction over the tree (`arun_tree`); success of the
real builder on printed trees comes from the joint invariant of the two passes (`build_of_preCheck`).  The results others use:
`fromStr_print`, `fromStr_print_then` (a parser that goes on from the tree), `roundtripOk_of_wfB`.
-/
import MsVerif.Lemmas.ExprPrint
import MsVerif.Lemmas.ExprBuild
import MsVerif.Lemmas.ExprRound

namespace MsVerif.Expr

/-- what `decodeTree` reads of a node -/
def proj (n : Node) : List Char × Parens × Nat := (n.name, n.parens, n.nChildren)

mutual
/-- (name, bracket kind, number of children) of all nodes, in pre-order -/
def preorder : Tree → List (List Char × Parens × Nat)
  | .node name p cs => (name, p, cs.length) :: preorderList cs
def preorderList : List Tree → List (List Char × Parens × Nat)
  | [] => []
  | t :: ts => preorder t ++ preorderList ts
end

mutual
/-- fuel that `decodeTree` needs -/
def fuelT : Tree → Nat
  | .node _ _ cs => fuelK cs + 1
def fuelK : List Tree → Nat
  | [] => 1
  | t :: ts => max (fuelT t) (fuelK ts) + 1
end

mutual
theorem decodeTree_preorder (t : Tree) (fuel : Nat) (hf : fuelT t ≤ fuel) (ns rest : List Node)
    (h : ns.map proj = preorder t) : decodeTree fuel (ns ++ rest) = some (t, rest) := by
  match t with
  | .node name p cs =>
    simp only [preorder] at h
    obtain ⟨n, ns', e, hn, hns⟩ := List.map_eq_cons_iff.mp h
    subst e
    simp only [fuelT] at hf
    obtain ⟨f, rfl⟩ : ∃ f, fuel = f + 1 := ⟨fuel - 1, by omega⟩
    simp only [proj, Prod.mk.injEq] at hn
    obtain ⟨h1, h2, h3⟩ := hn
    simp only [List.cons_append, decodeTree]
    rw [h3, decodeKids_preorder cs f (by omega) ns' rest hns, h1, h2]
theorem decodeKids_preorder (cs : List Tree) (fuel : Nat) (hf : fuelK cs ≤ fuel)
    (ns rest : List Node) (h : ns.map proj = preorderList cs) :
    decodeKids fuel cs.length (ns ++ rest) = some (cs, rest) := by
  match cs with
  | [] =>
    simp only [preorderList, List.map_eq_nil_iff] at h
    subst h
    simp only [fuelK] at hf
    obtain ⟨f, rfl⟩ : ∃ f, fuel = f + 1 := ⟨fuel - 1, by omega⟩
    simp [decodeKids]
  | t :: ts =>
    simp only [preorderList] at h
    obtain ⟨l1, l2, e, h1, h2⟩ := List.map_eq_append_iff.mp h
    subst e
    simp only [fuelK] at hf
    obtain ⟨f, rfl⟩ : ∃ f, fuel = f + 1 := ⟨fuel - 1, by omega⟩
    simp only [List.length_cons, decodeKids, List.append_assoc]
    rw [decodeTree_preorder t f (by omega) l1 (l2 ++ rest) h1]
    simp only
    rw [decodeKids_preorder ts f (by omega) l2 rest h2]
end

mutual
theorem fuelT_le (t : Tree) : fuelT t ≤ 2 * t.size := by
  match t with
  | .node _ _ cs => simp only [fuelT, Tree.size]; have := fuelK_le cs; omega
theorem fuelK_le (cs : List Tree) : fuelK cs ≤ 2 * Tree.sizeList cs + 1 := by
  match cs with
  | [] => simp [fuelK, Tree.sizeList]
  | t :: ts =>
    simp only [fuelK, Tree.sizeList]
    have := fuelT_le t; have := fuelK_le ts
    have := t.size_pos
    omega
end

mutual
theorem preorder_length (t : Tree) : (preorder t).length = t.size := by
  match t with
  | .node _ _ cs => simp only [preorder, Tree.size, List.length_cons]; rw [preorderList_length cs]; omega
theorem preorderList_length (cs : List Tree) : (preorderList cs).length = Tree.sizeList cs := by
  match cs with
  | [] => rfl
  | t :: ts =>
    simp only [preorderList, Tree.sizeList, List.length_append]
    rw [preorder_length t, preorderList_length ts]
end

theorem toTree_of_preorder (nodes : Array Node) (t : Tree)
    (h : nodes.toList.map proj = preorder t) : toTree nodes = some t := by
  unfold toTree
  have hsz : nodes.size = t.size := by
    have := congrArg List.length h
    rw [List.length_map, preorder_length] at this
    simpa using this
  have := decodeTree_preorder t (2 * nodes.size + 2) (by have := fuelT_le t; omega) nodes.toList [] h
  rw [List.append_nil] at this
  rw [this]

/-- a row of the abstract table; the same triple as `proj` reads off a node (`flat_eq` below) -/
abbrev K := List Char × Parens × Nat

def key (n : Node) : K := (n.name, n.parens, n.nChildren)

def bumpK (k : K) : K := (k.1, k.2.1, k.2.2 + 1)

structure AS where
  keys : List K
  stack : List Nat
  cur : Option Nat
deriving Repr

def bumpHead (keys : List K) (stack : List Nat) : List K :=
  match stack with
  | [] => keys
  | i :: _ => keys.modify i bumpK

def aflush (s : Array Char) (pos : Nat) (a : AS) : Option AS :=
  match a.cur with
  | none => some a
  | some np =>
    match slice s np pos with
    | none => none
    | some nm => some { a with keys := a.keys ++ [(nm, Parens.none, 0)] }

def astep (s : Array Char) (a : AS) (pos : Nat) (ch : Char) : Option AS :=
  if ch = '(' ∨ ch = '{' then
    match a.cur with
    | none => none
    | some np =>
      match slice s np pos with
      | none => none
      | some nm =>
        let keys1 := a.keys ++ [(nm, if ch = '(' then Parens.round else Parens.curly, 0)]
        let stack1 := a.keys.length :: a.stack
        some { keys := bumpHead keys1 stack1, stack := stack1, cur := some (pos + 1) }
  else if ch = ',' then
    match aflush s pos a with
    | none => none
    | some a1 => some { a1 with keys := bumpHead a1.keys a1.stack, cur := some (pos + 1) }
  else if ch = ')' ∨ ch = '}' then
    match aflush s pos a with
    | none => none
    | some a1 => some { a1 with cur := none, stack := a1.stack.tail }
  else some a

def aloop (s : Array Char) : Nat → List Char → AS → Option AS
  | _, [], a => some a
  | pos, ch :: tail, a =>
    match astep s a pos ch with
    | none => none
    | some a' => aloop s (pos + 1) tail a'

theorem map_modify {α β} (g : α → β) (f : α → α) (h : β → β) (hf : ∀ a, g (f a) = h (g a)) (l : List α)
    (i : Nat) : (l.modify i f).map g = (l.map g).modify i h := by
  induction l generalizing i with
  | nil => simp
  | cons x xs ih =>
    cases i with
    | zero => simp [hf]
    | succ j => simp [ih j]

theorem modify_append_left {α} (l r : List α) (i : Nat) (f : α → α) (h : i < l.length) :
    (l ++ r).modify i f = l.modify i f ++ r := by
  induction l generalizing i with
  | nil => simp at h
  | cons x xs ih =>
    cases i with
    | zero => simp
    | succ j => simp only [List.cons_append, List.modify_succ_cons]; rw [ih j (by simpa using h)]

theorem modify_append_at {α} (l : List α) (x : α) (r : List α) (f : α → α) :
    (l ++ x :: r).modify l.length f = l ++ f x :: r := by
  induction l with
  | nil => simp
  | cons y ys ih => simp only [List.cons_append, List.length_cons, List.modify_succ_cons]; rw [ih]

def absSt (st : BSt) : AS := ⟨st.nodes.toList.map key, st.stack, st.current.map (·.namePos)⟩

/-- a pending node has no brackets and no children yet -/
def Inv (st : BSt) : Prop := ∀ c, st.current = some c → c.parens = Parens.none ∧ c.nChildren = 0

theorem newNode_sim {nodes nodes' : Array Node} {stack : List Nat} {pos : Nat} {nn : Node}
    (h : newNode nodes stack pos = .ok (nodes', nn)) :
    nodes'.toList.map key = bumpHead (nodes.toList.map key) stack
      ∧ nn.namePos = pos ∧ ∀ c, some nn = some c → c.parens = Parens.none ∧ c.nChildren = 0 := by
  unfold newNode at h
  cases stack with
  | nil =>
    simp only [List.head?_nil, pure, Except.pure, Except.ok.injEq, Prod.mk.injEq] at h
    obtain ⟨h1, h2⟩ := h
    subst h1; subst h2
    exact ⟨rfl, rfl, fun c e => by cases e; exact ⟨rfl, rfl⟩⟩
  | cons idx tl =>
    simp only [List.head?_cons] at h
    by_cases hi : idx < nodes.size
    · simp only [hi, if_true, pure, Except.pure, Except.ok.injEq, Prod.mk.injEq] at h
      obtain ⟨h1, h2⟩ := h
      subst h1; subst h2
      refine ⟨?_, rfl, fun c e => by cases e; exact ⟨rfl, rfl⟩⟩
      simp only [bumpHead, Array.toList_modify]
      exact map_modify key _ bumpK (fun n => by simp [key, bumpK]) _ _
    · rw [if_neg hi] at h; cases h

theorem linkSibling_sim {nodes nodes' : Array Node} {ls : Option Nat}
    (h : linkSibling nodes ls = .ok nodes') : nodes'.toList.map key = nodes.toList.map key := by
  unfold linkSibling at h
  cases ls with
  | none => simp only [pure, Except.pure, Except.ok.injEq] at h; rw [h]
  | some i =>
    by_cases hi : i < nodes.size
    · simp only [hi, if_true, pure, Except.pure, Except.ok.injEq] at h
      subst h
      simp only [Array.toList_modify]
      rw [map_modify key _ id (fun n => by simp [key]), List.modify_id]
    · simp only [hi, if_false] at h; cases h

theorem flushCurrent_sim {s : Array Char} {pos : Nat} {st st1 : BSt} (hinv : Inv st)
    (h : flushCurrent s pos st = .ok st1) :
    aflush s pos (absSt st) = some { absSt st with keys := st1.nodes.toList.map key }
      ∧ st1.stack = st.stack ∧ st1.current = st.current := by
  unfold flushCurrent at h
  unfold aflush absSt
  cases hc : st.current with
  | none =>
    rw [hc] at h
    simp only [pure, Except.pure, Except.ok.injEq] at h
    subst h
    simp [hc]
  | some cur =>
    rw [hc] at h
    simp only [Option.map_some]
    cases hsl : slice s cur.namePos pos with
    | none => simp only [hsl] at h; cases h
    | some nm =>
      simp only [hsl, pure, Except.pure, Except.ok.injEq] at h
      subst h
      obtain ⟨hp, hn⟩ := hinv cur hc
      simp [BSt.pushNode, key, hp, hn, hc]

theorem buildStep_sim {s : Array Char} {st st' : BSt} {pos : Nat} {ch : Char} (hinv : Inv st)
    (h : buildStep s st pos ch = .ok st') :
    astep s (absSt st) pos ch = some (absSt st') ∧ Inv st' := by
  unfold buildStep at h
  unfold astep
  by_cases ho : ch = '(' ∨ ch = '{'
  · simp only [ho, if_true] at h ⊢
    split at h
    · cases h
    rename_i cur hc
    split at h
    · cases h
    rename_i nm hsl
    split at h
    · cases h
    rename_i nodes nn hn
    cases h
    obtain ⟨hk, hnp, hfresh⟩ := newNode_sim hn
    obtain ⟨hp0, hn0⟩ := hinv cur hc
    have hcur : (absSt st).cur = some cur.namePos := by simp [absSt, hc]
    rw [hcur]
    simp only [hsl]
    refine ⟨?_, hfresh⟩
    simp only [absSt, Option.map_some, hnp]
    congr 1
    simp only [AS.mk.injEq, and_true]
    refine ⟨?_, by simp⟩
    rw [hk]
    simp [BSt.pushNode, key, hn0]
  · simp only [ho, if_false] at h ⊢
    by_cases hcm : ch = ','
    · simp only [hcm, if_true] at h ⊢
      split at h
      · cases h
      rename_i st1 hf
      obtain ⟨hfl, hstk, hcur⟩ := flushCurrent_sim hinv hf
      rw [hfl]
      split at h
      · cases h
      rename_i ls hl
      split at h
      · cases h
      rename_i nodes1 hk
      split at h
      · cases h
      rename_i nodes nn hn
      cases h
      obtain ⟨hkk, hnp, hfresh⟩ := newNode_sim hn
      exact ⟨by simp only [absSt, Option.map_some, hnp, hkk, linkSibling_sim hk, hstk], hfresh⟩
    · simp only [hcm, if_false] at h ⊢
      by_cases hcl : ch = ')' ∨ ch = '}'
      · simp only [hcl, if_true] at h ⊢
        split at h
        · cases h
        rename_i st1 hf
        obtain ⟨hfl, hstk, hcur⟩ := flushCurrent_sim hinv hf
        rw [hfl]
        cases h
        exact ⟨by simp [absSt, hstk], fun c hc' => nomatch hc'⟩
      · simp only [hcl, if_false, pure, Except.pure, Except.ok.injEq] at h ⊢
        subst h
        exact ⟨rfl, hinv⟩

theorem buildLoop_sim {s : Array Char} : ∀ (cs : List Char) (pos : Nat) (st st' : BSt), Inv st →
    buildLoop s pos cs st = .ok st' → aloop s pos cs (absSt st) = some (absSt st') ∧ Inv st'
  | [], pos, st, st', hinv, h => by
    simp only [buildLoop, pure, Except.pure, Except.ok.injEq] at h
    subst h
    exact ⟨rfl, hinv⟩
  | ch :: tail, pos, st, st', hinv, h => by
    simp only [buildLoop] at h
    cases hs : buildStep s st pos ch with
    | error e => rw [hs] at h; cases h
    | ok st1 =>
      rw [hs] at h
      obtain ⟨ha, hinv1⟩ := buildStep_sim hinv hs
      simp only [aloop, ha]
      exact buildLoop_sim tail (pos + 1) st1 st' hinv1 h

mutual
/-- the pre-order table of a tree: (name, brackets, number of children) -/
def flat : Tree → List K
  | .node name p cs => (name, p, cs.length) :: flatList cs
def flatList : List Tree → List K
  | [] => []
  | t :: ts => flat t ++ flatList ts
end

def bumpBy (n : Nat) (k : K) : K := (k.1, k.2.1, k.2.2 + n)

theorem slice_mid (s : Array Char) (pre name rest : List Char) (h : s.toList = pre ++ (name ++ rest)) :
    slice s pre.length (pre.length + name.length) = some name := by
  unfold slice
  have hsz : s.size = pre.length + (name.length + rest.length) := by
    rw [← Array.length_toList, h]; simp
  have hc : pre.length ≤ pre.length + name.length ∧ pre.length + name.length ≤ s.size := by omega
  simp only [hc, and_self, if_true, Array.toList_extract, h, List.extract_eq_take_drop]
  congr 1
  have e : pre.length + name.length - pre.length = name.length := by omega
  rw [e, List.drop_left' rfl, List.take_left' rfl]

theorem astep_plain (s : Array Char) (a : AS) (pos : Nat) (c : Char) (h : ¬ special c) :
    astep s a pos c = some a := by
  unfold astep
  have h1 : ¬ (c = '(' ∨ c = '{') := (not_special h).1
  have h3 : ¬ (c = ')' ∨ c = '}') := (not_special h).2.1
  simp [h1, (not_special h).2.2, h3]

theorem aloop_name (s : Array Char) (name : List Char) (hn : NameOk name) (pos : Nat) (rest : List Char)
    (a : AS) : aloop s pos (name ++ rest) a = aloop s (pos + name.length) rest a := by
  induction name generalizing pos with
  | nil => simp
  | cons c cs ih =>
    have hc := (hn c List.mem_cons_self).2
    simp only [List.cons_append, aloop, astep_plain s a pos c hc]
    rw [ih (fun d hd => hn d (List.mem_cons_of_mem _ hd))]
    simp only [List.length_cons]; congr 1; omega

theorem aloop_cons {s : Array Char} {a a' : AS} {pos : Nat} {ch : Char} {tail : List Char}
    (h : astep s a pos ch = some a') : aloop s pos (ch :: tail) a = aloop s (pos + 1) tail a' := by
  simp only [aloop, h]

theorem openCh_par (p : Parens) (hp : p ≠ .none) :
    (openCh p = '(' ∨ openCh p = '{') ∧ (if openCh p = '(' then Parens.round else Parens.curly) = p := by
  cases p with
  | none => exact absurd rfl hp
  | round => simp [openCh]
  | curly => simp [openCh]

theorem closeCh_cls (p : Parens) :
    ¬ (closeCh p = '(' ∨ closeCh p = '{') ∧ ¬ closeCh p = ',' ∧ (closeCh p = ')' ∨ closeCh p = '}') := by
  cases p <;> simp [closeCh]

theorem bumpBy_zero : bumpBy 0 = id := by funext k; simp [bumpBy]

theorem bumpBy_comp (n : Nat) : bumpBy n ∘ bumpK = bumpBy (n + 1) := by
  funext k; simp [bumpBy, bumpK, Nat.add_comm, Nat.add_left_comm]

theorem aflush_stack {s : Array Char} {pos : Nat} {a b : AS} (h : aflush s pos a = some b) :
    b.stack = a.stack := by
  unfold aflush at h
  split at h
  · cases h; rfl
  · split at h
    · cases h
    · cases h; rfl

/- The run over a printed subtree that starts at `pre.length`, with a pending node named from there.
`rest` is what follows the subtree in the string (names are slices of `s`), `inp` what the loop is
still to read: the two are independent, so that the same statement serves a run to the end of the
string and a run that stops behind the subtree. -/
mutual
theorem arun_tree (s : Array Char) (t : Tree) (hw : t.WF) (pre rest : List Char)
    (hs : s.toList = pre ++ (t.print ++ rest)) (a : AS) (hc : a.cur = some pre.length)
    (inp : List Char) :
    ∃ a' c', aloop s pre.length (t.print ++ inp) a = aloop s (pre.length + t.print.length) inp a'
      ∧ aflush s (pre.length + t.print.length) a' = some ⟨a.keys ++ flat t, a.stack, c'⟩ := by
  match t, hw with
  | .node name p cs, hw =>
    unfold Tree.WF at hw
    obtain ⟨hn, hpc, hcs⟩ := hw
    by_cases hp : p = .none
    · have hce := hpc.mp hp
      subst hp; subst hce
      simp only [Tree.print] at hs ⊢
      refine ⟨a, a.cur, aloop_name s name hn _ inp a, ?_⟩
      unfold aflush
      rw [hc]
      simp only [slice_mid s pre name rest hs, flat, flatList, List.length_nil]
    · have hne : cs ≠ [] := fun e => hp (hpc.mpr e)
      rw [print_node name p cs hp] at hs ⊢
      have e1 : ∀ r, name ++ openCh p :: (Tree.printList cs ++ [closeCh p]) ++ r
          = name ++ (openCh p :: (Tree.printList cs ++ closeCh p :: r)) := by simp
      rw [e1] at hs ⊢
      obtain ⟨hop, hpar⟩ := openCh_par p hp
      have hstep : astep s a (pre.length + name.length) (openCh p)
          = some ⟨a.keys ++ [(name, p, 1)], a.keys.length :: a.stack, some (pre.length + name.length + 1)⟩ := by
        unfold astep
        simp only [hop, if_true, hc, slice_mid s pre name _ hs, hpar]
        congr 1
        simp only [AS.mk.injEq, and_true]
        simp only [bumpHead]
        rw [modify_append_at]
        simp [bumpK]
      rw [aloop_name s name hn, aloop_cons hstep]
      have hs1 : s.toList = (pre ++ name ++ [openCh p]) ++ (Tree.printList cs ++ (closeCh p :: rest)) := by
        rw [hs]; simp
      have hl1 : (pre ++ name ++ [openCh p]).length = pre.length + name.length + 1 := by
        simp only [List.length_append, List.length_cons, List.length_nil]
      obtain ⟨a1, c1, hrun, hfl⟩ := arun_list s cs hne hcs (pre ++ name ++ [openCh p]) (closeCh p :: rest) hs1
        ⟨a.keys ++ [(name, p, 1)], a.keys.length :: a.stack, some (pre.length + name.length + 1)⟩
        a.keys.length a.stack rfl (by simp) (by rw [hl1]) (closeCh p :: inp)
      rw [hl1] at hrun hfl
      rw [hrun]
      obtain ⟨hc1, hc2, hc3⟩ := closeCh_cls p
      have hk : (a.keys ++ [(name, p, 1)]).modify a.keys.length (bumpBy (cs.length - 1)) ++ flatList cs
          = a.keys ++ flat (.node name p cs) := by
        rw [modify_append_at]
        have : cs.length ≠ 0 := fun e => hne (List.eq_nil_of_length_eq_zero e)
        have e : 1 + (cs.length - 1) = cs.length := by omega
        simp [flat, bumpBy, e]
      have hclose : astep s a1 (pre.length + name.length + 1 + (Tree.printList cs).length) (closeCh p)
          = some ⟨a.keys ++ flat (.node name p cs), a.stack, none⟩ := by
        unfold astep
        simp only [hc1, hc2, hc3, if_false, if_true, hfl, hk, List.tail_cons]
      rw [aloop_cons hclose]
      refine ⟨⟨a.keys ++ flat (.node name p cs), a.stack, none⟩, none, ?_, ?_⟩
      · congr 1
        simp only [List.length_append, List.length_cons, List.length_nil]; omega
      · simp [aflush]
theorem arun_list (s : Array Char) (cs : List Tree) (hne : cs ≠ []) (hw : Tree.WFList cs)
    (pre rest : List Char) (hs : s.toList = pre ++ (Tree.printList cs ++ rest)) (a : AS)
    (i : Nat) (stk : List Nat) (hstk : a.stack = i :: stk) (hi : i < a.keys.length)
    (hc : a.cur = some pre.length) (inp : List Char) :
    ∃ a' c', aloop s pre.length (Tree.printList cs ++ inp) a
        = aloop s (pre.length + (Tree.printList cs).length) inp a'
      ∧ aflush s (pre.length + (Tree.printList cs).length) a'
        = some ⟨a.keys.modify i (bumpBy (cs.length - 1)) ++ flatList cs, a.stack, c'⟩ := by
  match cs, hne, hw with
  | [t], _, hw =>
    unfold Tree.WFList at hw
    simp only [Tree.printList] at hs ⊢
    obtain ⟨a', c', h1, h2⟩ := arun_tree s t hw.1 pre rest hs a hc inp
    refine ⟨a', c', h1, ?_⟩
    rw [h2]
    simp [bumpBy_zero, flatList, List.modify_id]
  | t :: t2 :: ts, _, hw =>
    unfold Tree.WFList at hw
    obtain ⟨hw1, hw2⟩ := hw
    rw [printList_cons_cons] at hs ⊢
    have e1 : ∀ r, t.print ++ ',' :: Tree.printList (t2 :: ts) ++ r
        = t.print ++ (',' :: (Tree.printList (t2 :: ts) ++ r)) := by simp
    rw [e1] at hs ⊢
    obtain ⟨a1, c1, hrun1, hfl1⟩ := arun_tree s t hw1 pre _ hs a hc (',' :: (Tree.printList (t2 :: ts) ++ inp))
    rw [hrun1]
    have hcomma : astep s a1 (pre.length + t.print.length) ','
        = some ⟨a.keys.modify i bumpK ++ flat t, a.stack, some (pre.length + t.print.length + 1)⟩ := by
      unfold astep
      have h1 : ¬ (',' = '(' ∨ ',' = '{') := by decide
      simp only [h1, if_false, if_true, hfl1]
      congr 1
      simp only [AS.mk.injEq, and_true]
      rw [hstk]
      simp only [bumpHead]
      exact modify_append_left _ _ _ _ hi
    rw [aloop_cons hcomma]
    have hs2 : s.toList = (pre ++ t.print ++ [',']) ++ (Tree.printList (t2 :: ts) ++ rest) := by
      rw [hs]; simp
    have hl2 : (pre ++ t.print ++ [',']).length = pre.length + t.print.length + 1 := by
      simp only [List.length_append, List.length_cons, List.length_nil]
    obtain ⟨a2, c2, hrun2, hfl2⟩ := arun_list s (t2 :: ts) (by simp) hw2 (pre ++ t.print ++ [',']) rest hs2
      ⟨a.keys.modify i bumpK ++ flat t, a.stack, some (pre.length + t.print.length + 1)⟩ i stk hstk
      (by simp only [List.length_append, List.length_modify]; omega) (by rw [hl2]) inp
    rw [hl2] at hrun2 hfl2
    rw [hrun2]
    refine ⟨a2, c2, ?_, ?_⟩
    · congr 1
      simp only [List.length_append, List.length_cons]; omega
    · have epos : pre.length + (t.print ++ ',' :: Tree.printList (t2 :: ts)).length
          = pre.length + t.print.length + 1 + (Tree.printList (t2 :: ts)).length := by
        simp only [List.length_append, List.length_cons]; omega
      rw [epos, hfl2]
      congr 1
      simp only [AS.mk.injEq, and_true]
      have hi' : i < (a.keys.modify i bumpK).length := by simp only [List.length_modify]; exact hi
      rw [modify_append_left _ _ _ _ hi', List.modify_modify_eq, bumpBy_comp]
      simp [flatList, List.append_assoc]
end

theorem aloop_list (s : Array Char) (cs : List Tree) (hne : cs ≠ []) (hw : Tree.WFList cs)
    (pre rest : List Char) (hs : s.toList = pre ++ (Tree.printList cs ++ rest)) (a : AS)
    (i : Nat) (stk : List Nat) (hstk : a.stack = i :: stk) (hi : i < a.keys.length)
    (hc : a.cur = some pre.length) :
    ∃ a' c', aloop s pre.length (Tree.printList cs ++ rest) a
        = aloop s (pre.length + (Tree.printList cs).length) rest a'
      ∧ aflush s (pre.length + (Tree.printList cs).length) a'
        = some ⟨a.keys.modify i (bumpBy (cs.length - 1)) ++ flatList cs, a.stack, c'⟩ :=
  arun_list s cs hne hw pre rest hs a i stk hstk hi hc rest

mutual
theorem flat_eq : ∀ t : Tree, flat t = preorder t
  | .node _ _ cs => by rw [flat, preorder, flatList_eq cs]
theorem flatList_eq : ∀ cs : List Tree, flatList cs = preorderList cs
  | [] => rfl
  | t :: ts => by rw [flatList, preorderList, flat_eq t, flatList_eq ts]
end

theorem flatList_length : ∀ cs : List Tree, (flatList cs).length = Tree.sizeList cs :=
  fun cs => by rw [flatList_eq, preorderList_length]

theorem decodeKids_flat : ∀ (cs : List Tree) (fuel : Nat) (ns rest : List Node),
    ns.map key = flatList cs → 2 * Tree.sizeList cs + 1 ≤ fuel →
    decodeKids fuel cs.length (ns ++ rest) = some (cs, rest) :=
  fun cs fuel ns rest hk hf =>
    decodeKids_preorder cs fuel (Nat.le_trans (fuelK_le cs) hf) ns rest (flatList_eq cs ▸ hk)

def initSt (n d : Nat) : BSt :=
  { nodes := #[], nodesCap := n, stack := [], stackCap := d, current := some (Node.null 0) }

theorem initSt_inv (n d : Nat) : Inv (initSt n d) := by
  intro c hc
  cases hc
  exact ⟨rfl, rfl⟩

theorem build_ok {body : List Char} {D N : Nat} {nodes : Array Node}
    (h : build body D N = .ok nodes) :
    ∃ st st2, buildLoop body.toArray 0 body (initSt N D) = .ok st ∧
      flushCurrent body.toArray body.toArray.size st = .ok st2 ∧ nodes = st2.nodes := by
  unfold build at h
  simp only at h
  split at h
  · cases h
  · rename_i st hl
    split at h
    · cases h
    · rename_i st2 hf
      refine ⟨st, st2, hl, hf, ?_⟩
      repeat' split at h
      all_goals cases h
      rfl

theorem build_print (t : Tree) (hw : t.WF) (D N : Nat) (nodes : Array Node)
    (h : build t.print D N = .ok nodes) : nodes.toList.map proj = preorder t := by
  obtain ⟨st, st2, hl, hf, rfl⟩ := build_ok h
  obtain ⟨hsim, hinv⟩ := buildLoop_sim t.print 0 _ st (initSt_inv _ _) hl
  obtain ⟨hfl, _, _⟩ := flushCurrent_sim hinv hf
  obtain ⟨a', c', hrun, hafl⟩ := arun_tree t.print.toArray t hw [] [] (by simp) (absSt (initSt N D)) rfl []
  simp only [List.append_nil, List.length_nil, Nat.zero_add, aloop] at hrun hafl
  rw [hrun] at hsim
  cases hsim
  rw [List.size_toArray, hafl] at hfl
  injection hfl with hfl
  injection hfl with hkeys
  exact hkeys.symm.trans (flat_eq t)

theorem fromStr_print (t : Tree) (hw : t.WF) (hd : t.depth ≤ 403) :
    ∃ nodes, fromStrInner t.print = .ok nodes ∧ nodes.size = t.size ∧
      (∀ i, i < nodes.size → ∃ d, d ≤ t.depth ∧ HasDepth nodes i d) ∧ toTree nodes = some t := by
  have hp := parsePreCheck_print t hw hd
  obtain ⟨_, pst, h1, h2, h3, h4, _⟩ := parsePreCheck_ok hp
  obtain ⟨nodes, hb, hsz, hdep⟩ := build_of_preCheck _ _ _ pst h1 h2 h3 h4
  refine ⟨nodes, by unfold fromStrInner; rw [hp]; exact hb, hsz, hdep, ?_⟩
  exact toTree_of_preorder nodes t (build_print t hw _ _ nodes hb)

/-- `Tree::from_str` followed by a `from_tree`, on the characters of a printed tree: the tree is handed on -/
theorem fromStr_print_then {ε α : Type} (t : Tree) (hw : t.WF) (hd : t.depth ≤ 403) (e : ε)
    (k : Tree → Except ε α) :
    (match fromStrInner t.print with
     | .error _ => .error e
     | .ok nodes => match toTree nodes with | none => .error e | some t' => k t') = k t := by
  obtain ⟨nodes, hok, _, _, hdec⟩ := fromStr_print t hw hd
  simp only [hok, hdec]

mutual
theorem Tree.beq_refl : ∀ t : Tree, Tree.beq t t = true
  | .node n p cs => by simp [Tree.beq, Tree.beqList_refl cs]
theorem Tree.beqList_refl : ∀ cs : List Tree, Tree.beqList cs cs = true
  | [] => rfl
  | t :: ts => by simp [Tree.beqList, Tree.beq_refl t, Tree.beqList_refl ts]
end

theorem roundtripOk_of_wfB (t : Tree) (h : (t.wfB && decide (t.depth ≤ 403)) = true) :
    roundtripOk t = true := by
  simp only [Bool.and_eq_true, decide_eq_true_eq] at h
  obtain ⟨nodes, h1, _, _, h2⟩ := fromStr_print t (Tree.wf_of_wfB t h.1) h.2
  simp only [roundtripOk, h1, h2, Tree.beq_refl]

/-! ### a printed child list inside a longer string

Two vocabularies name the one table.  The proofs above run in the abstract machine's: `K`, `key`, `flat`/`flatList`,
`bumpBy` with `List.modify`.  `decodeTree` is stated in the other: `proj`, `preorder`/`preorderList`; `flat_eq`,
`flatList_eq` are the bridge and `build_print` crosses it once.  This section states, in `decodeTree`'s vocabulary
(`P`, `bump`, `bumpAt` = `List.modify · (bumpBy ·)`), what the builder adds for a child list that is only PART of the
string; nothing in the development uses it. -/

abbrev P := List Char × Parens × Nat

def bump (k : Nat) : P → P | (a, b, n) => (a, b, n + k)

/-- add `k` to the child count of entry `i` -/
def bumpAt : Nat → Nat → List P → List P
  | _, _, [] => []
  | 0, k, x :: L => bump k x :: L
  | i + 1, k, x :: L => x :: bumpAt i k L

theorem bumpAt_eq_modify (i k : Nat) (L : List P) : bumpAt i k L = L.modify i (bumpBy k) := by
  induction L generalizing i with
  | nil => cases i <;> rfl
  | cons x L ih =>
    cases i with
    | zero => rfl
    | succ i => rw [bumpAt, ih, List.modify_succ_cons]

theorem buildLoop_append {s : Array Char} {l1 l2 : List Char} {pos : Nat} {st stF : BSt}
    (h : buildLoop s pos (l1 ++ l2) st = .ok stF) :
    ∃ stA, buildLoop s pos l1 st = .ok stA ∧ buildLoop s (pos + l1.length) l2 stA = .ok stF := by
  induction l1 generalizing pos st with
  | nil => exact ⟨st, rfl, h⟩
  | cons ch tail ih =>
    rw [List.cons_append, buildLoop] at h
    rw [buildLoop]
    split at h
    · cases h
    · obtain ⟨stA, h1, h2⟩ := ih h
      exact ⟨stA, h1, by rw [List.length_cons, Nat.add_comm tail.length, ← Nat.add_assoc]; exact h2⟩

/-- a freshly created node: no name yet, no children, no brackets -/
structure Fresh (n : Node) (pos : Nat) : Prop where
  namePos : n.namePos = pos
  kids : n.nChildren = 0
  parens : n.parens = .none

theorem build_list (cs : List Tree) (hne : cs ≠ []) (hw : Tree.WFList cs) (body pre rest : List Char)
    (hb : body = pre ++ (Tree.printList cs ++ rest)) (st stF : BSt) (c : Node) (p : Nat)
    (stk : List Nat) (hstk : st.stack = p :: stk) (hp : p < st.nodes.size)
    (hc : st.current = some c) (hf : Fresh c pre.length)
    (h : buildLoop body.toArray pre.length (Tree.printList cs ++ rest) st = .ok stF) :
    ∃ stA, buildLoop body.toArray (pre.length + (Tree.printList cs).length) rest stA = .ok stF ∧
      stA.stack = st.stack ∧
      ∀ stB, flushCurrent body.toArray (pre.length + (Tree.printList cs).length) stA = .ok stB →
        stB.nodes.toList.map proj
          = bumpAt p (cs.length - 1) (st.nodes.toList.map proj) ++ preorderList cs := by
  obtain ⟨stA, h1, h2⟩ := buildLoop_append h
  have inv : Inv st := fun c' e => by
    rw [hc] at e
    cases e
    exact ⟨hf.parens, hf.kids⟩
  obtain ⟨hsim, invA⟩ := buildLoop_sim _ _ _ _ inv h1
  obtain ⟨a', c', hrun, hfl⟩ := arun_list body.toArray cs hne hw pre rest (by rw [hb]) (absSt st) p stk
    hstk (by simpa [absSt] using hp) (by simp [absSt, hc, hf.namePos]) []
  rw [List.append_nil, aloop, hsim] at hrun
  cases hrun
  refine ⟨stA, h2, (aflush_stack hfl).symm, fun stB hB => ?_⟩
  have hB' := (flushCurrent_sim invA hB).1
  rw [hfl] at hB'
  injection hB' with hB'
  injection hB' with hkeys
  rw [bumpAt_eq_modify, ← flatList_eq]
  exact hkeys.symm

end MsVerif.Expr
