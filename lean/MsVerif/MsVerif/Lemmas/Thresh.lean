/-
C05, thresholds of arbitrary arity: `corr_threshold_spec`, `mall_threshold_spec` (`Corr.threshold` / `Mall.threshold` against the
specification's `C.thresh` / `M.thresh`).  The Rust folds are characterised by
counters and related to the specification's counting formulation by induction on the child
list.
-/
import MsVerif.Lemmas.TypesEnum
import MsVerif.Lemmas.CoreMisc


namespace MsVerif.Thresh
open MsVerif Spec

def okW (s : Corr) : Bool := decide (s.base = .W) && s.unit && s.dissat

def na (l : List Corr) : Nat := (l.map (fun s => Corr.numArgs s.input)).sum

@[simp] theorem numArgs_zero : Corr.numArgs .zero = 0 := rfl
@[simp] theorem numArgs_one : Corr.numArgs .one = 1 := rfl
@[simp] theorem numArgs_onz : Corr.numArgs .oneNonZero = 1 := rfl
@[simp] theorem numArgs_any : Corr.numArgs .any = 2 := rfl
@[simp] theorem numArgs_anz : Corr.numArgs .anyNonZero = 2 := rfl

theorem na_cons (s : Corr) (t : List Corr) : na (s :: t) = Corr.numArgs s.input + na t := by
  simp [na]

theorem loop_head (x : Corr) (rest : List Corr) :
    Corr.threshLoop 0 0 (x :: rest) =
      if decide (x.base = .B) && x.unit && x.dissat && rest.all okW
      then some (na (x :: rest)) else none :=
  Corr.threshLoop_zero x rest

theorem na_eq_zero (l : List Corr) : na l = 0 ↔ (l.map Corr.toSpec).all (·.z) = true := by
  induction l with
  | nil => simp [na]
  | cons s t ih =>
    obtain ⟨b, inp, d, u⟩ := s
    rw [na_cons]
    cases inp <;> simp_all [Corr.toSpec, Input.z]

theorem filter_nil_iff (l : List Corr) :
    ((l.map Corr.toSpec).filter (fun x => !x.z) = []) ↔ na l = 0 := by
  rw [na_eq_zero, List.filter_eq_nil_iff, List.all_eq_true]
  constructor
  · intro hh x hx; simpa using hh x hx
  · intro hh x hx; simpa using hh x hx

theorem threshO_cons_z (x : SCorr) (l : List SCorr) (h : x.z = true) :
    C.threshO (x :: l) = C.threshO l := by
  simp [C.threshO, h]

theorem threshO_cons_nz (x : SCorr) (l : List SCorr) (h : x.z = false) :
    C.threshO (x :: l) = (x.o && (l.filter (fun x => !x.z)).isEmpty) := by
  simp only [C.threshO, List.filter_cons, h, Bool.not_false, if_true]
  cases l.filter (fun x => !x.z) <;> simp

theorem na_eq_one (l : List Corr) : na l = 1 ↔ C.threshO (l.map Corr.toSpec) = true := by
  induction l with
  | nil => simp [na, C.threshO]
  | cons s t ih =>
    obtain ⟨b, inp, d, u⟩ := s
    rw [na_cons]
    have hnil := filter_nil_iff t
    cases inp
    case zero => rw [List.map_cons, threshO_cons_z _ _ (by simp [Corr.toSpec, Input.z]), ← ih]; simp
    case one | oneNonZero =>
      rw [List.map_cons, threshO_cons_nz _ _ (by simp [Corr.toSpec, Input.z])]
      simp only [numArgs_one, numArgs_onz, Corr.toSpec, Input.o, Bool.true_and, List.isEmpty_iff,
        hnil]
      omega
    case any | anyNonZero =>
      rw [List.map_cons, threshO_cons_nz _ _ (by simp [Corr.toSpec, Input.z])]
      simp [Corr.toSpec, Input.o]; omega

theorem okW_spec (rest : List Corr) :
    rest.all okW = (rest.map Corr.toSpec).all (fun x => decide (x.base = .W) && x.d && x.u) := by
  induction rest with
  | nil => rfl
  | cons s t ih =>
    obtain ⟨b, inp, d, u⟩ := s
    simp only [List.all_cons, ih, List.map_cons]
    cases b <;> cases d <;> cases u <;> simp [okW, Corr.toSpec, Base.toSpec]

theorem corr_threshold_spec (k : Nat) (xs : List Corr) (hne : xs ≠ []) :
    eqC (Corr.threshold k xs) (C.thresh k (xs.map Corr.toSpec)) = true := by
  cases xs with
  | nil => exact absurd rfl hne
  | cons x rest =>
    rw [Corr.threshold_eq, loop_head]
    have h0 := na_eq_zero (x :: rest)
    have h1 := na_eq_one (x :: rest)
    have hw := okW_spec rest
    simp only [C.thresh, List.map_cons] at *
    rw [← hw]
    -- both sides now depend on the children only through the number of arguments `n`: the specification's
    -- `z` is `n = 0` (`h0`), its `o` is `n = 1` (`h1`); forget the lists
    generalize hz : (x.toSpec :: rest.map Corr.toSpec).all (·.z) = zz at *
    generalize ho : C.threshO (x.toSpec :: rest.map Corr.toSpec) = oo at *
    generalize na (x :: rest) = n at *
    have hzz : zz = decide (n = 0) := by
      rw [Bool.eq_iff_iff, decide_eq_true_iff]; exact h0.symm
    have hoo : oo = decide (n = 1) := by
      rw [Bool.eq_iff_iff, decide_eq_true_iff]; exact h1.symm
    obtain ⟨b, inp, d, u⟩ := x
    cases hall : rest.all okW <;> cases b <;> cases d <;> cases u <;>
      simp [eqC, Corr.toSpec, Base.toSpec]
    all_goals
      match n with
      | 0 | 1 | n + 2 => simp [Input.z, Input.o, Input.n, hzz, hoo]

theorem signed_add_nonS (l : List Mall) :
    (l.filter (·.signed)).length + ((l.map Mall.toSpec).filter (fun x => !x.s)).length
      = l.length := by
  rw [← List.countP_eq_length_filter, ← List.countP_eq_length_filter, List.countP_map]
  simpa [Function.comp_def, Mall.toSpec, Bool.not_eq_true] using
    (List.length_eq_countP_add_countP (·.signed) (l := l)).symm

theorem signed_eq_len_iff (l : List Mall) :
    (l.filter (·.signed)).length = l.length ↔ l.all (·.signed) = true := by
  induction l with
  | nil => simp
  | cons s t ih =>
    have hle : (t.filter (·.signed)).length ≤ t.length := List.length_filter_le _ _
    cases hs : s.signed <;> simp [hs]
    · omega

theorem all_e_s (xs : List Mall) :
    (xs.map Mall.toSpec).all (fun x => x.e && x.s)
      = (xs.all (fun s => s.dissat == .unique) && xs.all (·.signed)) := by
  rw [List.all_map]; exact List.all_and xs _ _

theorem all_m_e (xs : List Mall) :
    (xs.map Mall.toSpec).all (fun x => x.m && x.e)
      = (xs.all (·.nonMall) && xs.all (fun s => s.dissat == .unique)) := by
  rw [List.all_map]; exact List.all_and xs _ _

theorem mall_threshold_spec (k : Nat) (xs : List Mall) (hk : k ≤ xs.length) :
    (Mall.threshold k xs).toSpec = M.thresh k (xs.map Mall.toSpec) := by
  unfold Mall.threshold M.thresh
  rw [Mall.threshFold_eq]
  have hsum := signed_add_nonS xs
  have hall := signed_eq_len_iff xs
  simp only [all_e_s, all_m_e]
  generalize ((xs.map Mall.toSpec).filter (fun x => !x.s)).length = nonS at *
  generalize (xs.filter (·.signed)).length = sc at *
  generalize xs.all (fun s => s.dissat == .unique) = allU at *
  generalize xs.all (·.nonMall) = allM at *
  generalize hsg : xs.all (·.signed) = allS at *
  generalize xs.length = n at *
  have hS : (sc == n) = allS := by
    cases allS with
    | true => simpa using hall.mpr rfl
    | false =>
      have : ¬ sc = n := fun h => by simpa using hall.mp h
      simpa using this
  have e1 : decide (sc > n - k) = decide (nonS + 1 ≤ k) := by
    apply decide_eq_decide.mpr; omega
  have e2 : decide (sc ≥ n - k) = decide (nonS ≤ k) := by
    apply decide_eq_decide.mpr; omega
  simp only [Mall.toSpec, hS, e1, e2]
  cases allU <;> cases allS <;> cases allM <;> simp

end MsVerif.Thresh
