/-
C02 T3: the non-malleable satisfier (`satDissat`, `mall = false`, `root_has_sig = true`)
finds a satisfaction whenever the specification's table has one, for scripts whose type is
non-malleable (`m`), at whose nodes `nmP` holds: every hash preimage known, no raw `pkh`, `1 ≤ k ≤ n` at a `thresh`,
common units of the available locks.

Invariants carried by the induction, for a node of malleability type `M`
(`Model/Types.lean`: `dissat` ∈ {none, unique, unknown}, `signed`, `nonMall`):
  * the satisfaction is never `Unavailable`;
  * `M.signed`  → a possible satisfaction has `has_sig`;
  * `M.dissat = none`   → a possible dissatisfaction has `has_sig`;
  * `M.dissat = unique` → the dissatisfaction is a stack without signature;
  * table-satisfiable → the satisfaction is a stack.
With them `Satisfaction::minimum` never reaches its `(false, false)` refusal and
`Satisfaction::thresh` never answers `Unavailable`/`Impossible` when the table has a row.
`NMInv` states them of a node (`nm_inv`, by induction on `HasType`), `NS` / `ND` of one result.
-/
import MsVerif.Lemmas.CompleteFixed
import MsVerif.Lemmas.CompleteThresh
import MsVerif.Lemmas.CoreHasType


namespace MsVerif.Complete
open MsVerif Sat SatTable

section
variable {ua ur : Bool}

theorem concat_sigOrImp_left {s o : Sat} (h : SigOrImp s) : SigOrImp (concatenateRev s o) := by
  intro hne
  rw [concat_hasSig hne, h (concat_ne_imp hne).1]; rfl

theorem concat_sigOrImp_right {s o : Sat} (h : SigOrImp o) : SigOrImp (concatenateRev s o) := by
  intro hne
  rw [concat_hasSig hne, h (concat_ne_imp hne).2]; simp

end

theorem pushTop_sigOrImp {p : Ph} {s : Sat} (h : SigOrImp s) : SigOrImp (pushTop p s) :=
  fun hne => h (Wit.combine_ne_impossible.mp hne).1

theorem pushTop_isStk {p : Ph} {s : Sat} (h : isStk s.stack = true) :
    isStk (pushTop p s).stack = true := by simp [pushTop, h]

theorem sigOrImp_of_imp {s : Sat} (h : s.stack = .impossible) : SigOrImp s := fun hne => absurd h hne
theorem sigOrImp_of_sig {s : Sat} (h : s.hasSig = true) : SigOrImp s := fun _ => h

/-- the type of a well-typed fragment, as a function: `thresh_nm_inv` and `thresh_uinv` index the
children of a `thresh` by it, where the derivation has a parallel list of types -/
def tyOf (x : Ms) : Ty := (typeOf x).getD default

theorem tyOf_eq {x : Ms} {t : Ty} (h : HasType x t) : tyOf x = t := by simp [tyOf, h.typeOf_eq]

structure NMInv (ua ur : Bool) (av : Avail) (ms : Ms) (M : Mall) (r : SatDissat) : Prop where
  lockS : LockOK ua ur r.sat
  lockD : LockOK ua ur r.dissat
  nu : r.sat.stack ≠ .unavailable
  sgn : M.signed = true → SigOrImp r.sat
  dn : M.dissat = .none → SigOrImp r.dissat
  du : M.dissat = .unique → isStk r.dissat.stack = true ∧ r.dissat.hasSig = false
  cs : satEx av ms = true → isStk r.sat.stack = true

/-! `Mall` (`Model/Types.lean`) is an abstract value for the pair: `signed` says that a third party
cannot produce the satisfaction, `dissat = none` the same of the dissatisfaction, `dissat = unique`
that the dissatisfaction is the one signature-free stack.  `NS` / `ND` say this of ONE alternative,
and each lemma below is the soundness of a rule of `Mall` for the operation of `satDissat` it
abstracts: a composite case of `nm_inv` is the body of `satDissat` read with them. -/

/-- an alternative in satisfaction position: never `Unavailable`; not third-party producible if
`sg`; a stack if the table's row `e` says so -/
structure NS (ua ur : Bool) (sg e : Bool) (s : Sat) : Prop where
  lock : LockOK ua ur s
  nu : s.stack ≠ .unavailable
  sgn : sg = true → SigOrImp s
  stk : e = true → isStk s.stack = true

/-- an alternative in dissatisfaction position, of class `d` -/
structure ND (ua ur : Bool) (d : Dissat) (s : Sat) : Prop where
  lock : LockOK ua ur s
  dn : d = .none → SigOrImp s
  du : d = .unique → isStk s.stack = true ∧ s.hasSig = false

section
variable {ua ur : Bool} {av : Avail} {sg sg' sg1 sg2 e e' e1 e2 : Bool} {d d1 d2 : Dissat}
  {s o s1 s2 : Sat}

namespace NMInv

theorem S {ms : Ms} {M : Mall} {r : SatDissat} (h : NMInv ua ur av ms M r) :
    NS ua ur M.signed (satEx av ms) r.sat := ⟨h.lockS, h.nu, h.sgn, h.cs⟩

theorem D {ms : Ms} {M : Mall} {r : SatDissat} (h : NMInv ua ur av ms M r) :
    ND ua ur M.dissat r.dissat := ⟨h.lockD, h.dn, h.du⟩

theorem of_alt {ms : Ms} {M : Mall} {r : SatDissat} (hS : NS ua ur M.signed (satEx av ms) r.sat)
    (hD : ND ua ur M.dissat r.dissat) : NMInv ua ur av ms M r :=
  ⟨hS.lock, hD.lock, hS.nu, hS.sgn, hD.dn, hD.du, hS.stk⟩

end NMInv

namespace NS

theorem of (h : NS ua ur sg e s) (hsg : sg' = true → sg = true) (he : e' = true → e = true) :
    NS ua ur sg' e' s :=
  ⟨h.lock, h.nu, fun h' => h.sgn (hsg h'), fun h' => h.stk (he h')⟩

theorem concat (h1 : NS ua ur sg1 e1 s) (h2 : NS ua ur sg2 e2 o) :
    NS ua ur (sg1 || sg2) (e1 && e2) (s.concatenateRev o) :=
  ⟨concat_lockOK h1.lock h2.lock, concat_ne_unav h1.nu h2.nu,
   fun h => (Bool.or_eq_true_iff.mp h).elim
     (fun h => concat_sigOrImp_left (h1.sgn h))
     (fun h => concat_sigOrImp_right (h2.sgn h)),
   fun h => concat_stk h1.lock h2.lock (h1.stk (Bool.and_eq_true_iff.mp h).1)
     (h2.stk (Bool.and_eq_true_iff.mp h).2)⟩

theorem pick (h1 : NS ua ur sg1 e1 s1) (h2 : NS ua ur sg2 e2 s2)
    (c : s2.stack = .impossible ∨ s1.stack ≠ .impossible ∧ s2.hasSig = true) :
    NS ua ur (sg1 && sg2) (e1 || e2) s1 :=
  ⟨h1.lock, h1.nu, fun h => h1.sgn (Bool.and_eq_true_iff.mp h).1, fun h =>
    c.elim (fun i2 => (Bool.or_eq_true_iff.mp h).elim h1.stk
        (fun h' => absurd i2 (isStk_ne_imp (h2.stk h'))))
      (fun a => isStk_of_ne a.1 h1.nu)⟩

/-- `minimum` does not refuse when the rule demands a signed side -/
theorem min (h1 : NS ua ur sg1 e1 s1) (h2 : NS ua ur sg2 e2 s2) (h : sg1 = true ∨ sg2 = true) :
    NS ua ur (sg1 && sg2) (e1 || e2) (minimum s1 s2) := by
  rcases minimum_pick s1 s2 with ⟨e, c⟩ | ⟨e, c⟩ | ⟨_, a, b, c, d⟩
  · rw [e]; exact h1.pick h2 c
  · rw [e, Bool.and_comm, Bool.or_comm]; exact h2.pick h1 c
  · rcases h with g | g
    · rw [h1.sgn g a] at c; cases c
    · rw [h2.sgn g b] at d; cases d

theorem push (p : Ph) (h : NS ua ur sg e s) : NS ua ur sg e (pushTop p s) :=
  ⟨lockOK_congr h.lock rfl rfl, combine_ne_unav h.nu (fun h => nomatch h),
   fun h' => pushTop_sigOrImp (h.sgn h'), fun h' => pushTop_isStk (h.stk h')⟩

end NS

namespace ND

/-- the unique dissatisfaction, used as an operand of a satisfaction -/
theorem sat (h : ND ua ur .unique s) : NS ua ur false true s :=
  ⟨h.lock, isStk_ne_unav (h.du rfl).1, (fun h' => nomatch h'), fun _ => (h.du rfl).1⟩

theorem concat (h1 : ND ua ur d1 s) (h2 : ND ua ur d2 o)
    (hn : d = .none → d1 = .none ∨ d2 = .none) (hu : d = .unique → d1 = .unique ∧ d2 = .unique) :
    ND ua ur d (s.concatenateRev o) :=
  ⟨concat_lockOK h1.lock h2.lock,
   fun h => (hn h).elim (fun h => concat_sigOrImp_left (h1.dn h))
     (fun h => concat_sigOrImp_right (h2.dn h)),
   fun h => ⟨concat_stk h1.lock h2.lock (h1.du (hu h).1).1 (h2.du (hu h).2).1,
     concat_hasSig_false (h1.du (hu h).1).2 (h2.du (hu h).2).2⟩⟩

theorem min (h1 : ND ua ur d1 s1) (h2 : ND ua ur d2 s2) (hn : d = .none → d1 = .none ∧ d2 = .none)
    (hu : d = .unique → (d1 = .unique ∧ d2 = .none) ∨ (d1 = .none ∧ d2 = .unique)) :
    ND ua ur d (minimum s1 s2) := by
  rcases minimum_pick s1 s2 with ⟨e, c⟩ | ⟨e, c⟩ | ⟨e, a, b, c, d'⟩ <;> rw [e]
  · refine ⟨h1.lock, fun h => h1.dn (hn h).1, fun h => (hu h).elim (fun g => h1.du g.1) (fun g => ?_)⟩
    -- `s2` is the unique stack: it is possible and unflagged, so `minimum` did not prefer `s1`
    rcases c with i2 | ⟨_, f2⟩
    · exact absurd i2 (isStk_ne_imp (h2.du g.2).1)
    · rw [(h2.du g.2).2] at f2; cases f2
  · refine ⟨h2.lock, fun h => h2.dn (hn h).2, fun h => (hu h).elim (fun g => ?_) (fun g => h2.du g.2)⟩
    rcases c with i1 | ⟨_, f1⟩
    · exact absurd i1 (isStk_ne_imp (h1.du g.1).1)
    · rw [(h1.du g.1).2] at f1; cases f1
  · refine ⟨lockOK_UNAVAILABLE _ _, fun h => ?_, fun h => ?_⟩
    · rw [h1.dn (hn h).1 a] at c; cases c
    · rcases hu h with g | g
      · rw [h2.dn g.2 b] at d'; cases d'
      · rw [h1.dn g.1 a] at c; cases c

theorem push (p : Ph) (h : ND ua ur d s) : ND ua ur d (pushTop p s) :=
  ⟨lockOK_congr h.lock rfl rfl, fun h' => pushTop_sigOrImp (h.dn h'),
   fun h' => ⟨pushTop_isStk (h.du h').1, (h.du h').2⟩⟩

theorem imp : ND ua ur .none IMPOSSIBLE :=
  ⟨lockOK_IMPOSSIBLE _ _, fun _ => sigOrImp_of_imp rfl, fun h => nomatch h⟩

theorem push0 (hd : d ≠ .none) : ND ua ur d push0 :=
  ⟨lockOK_push0 _ _, fun h => absurd h hd, fun _ => ⟨rfl, rfl⟩⟩

end ND

end

theorem leaf_nmInv {ua ur : Bool} {av : Avail} {ms : Ms} {a : Assets} {B : Nat} {can : Bool}
    {r : SatDissat} {M : Mall} (hf : LeafFacts a B can r) (hM : M.dissat = .unique)
    (hsat : satEx av ms = can) : NMInv ua ur av ms M r :=
  ⟨lockOK_none hf.sAbs hf.sRel, lockOK_none hf.dAbs hf.dRel, hf.sNU, fun _ => hf.sSig,
    fun h => (by rw [hM] at h; cases h),
    fun _ => ⟨hf.dStk, hf.dNoSig⟩, fun h => by rw [hf.sStk, ← hsat, h]⟩

section
variable {ua ur : Bool} {av : Avail}

theorem thresh_nm_inv (k : Nat) (xs : MsList) (f : Ms → SatDissat) (ty : Ms → Mall) (M : Mall)
    (h : ∀ x ∈ xs.toList, NMInv ua ur av x (ty x) (f x))
    (hallU : ∀ x ∈ xs.toList, (ty x).dissat = .unique)
    (hk1 : 1 ≤ k) (hkn : k ≤ xs.toList.length)
    (hcnt : xs.toList.length - xs.toList.countP (fun x => (ty x).signed) ≤ k)
    (hMs : M.signed = true → xs.toList.length - xs.toList.countP (fun x => (ty x).signed) < k)
    (hMd : M.dissat ≠ .none) :
    NMInv ua ur av (.thresh k xs) M
      ⟨foldConcat ((xs.toList.map f).map (·.dissat)),
       if k = (xs.toList.map f).length then foldConcat ((xs.toList.map f).map (·.sat))
       else threshNonMall k ((xs.toList.map f).map (·.dissat)) ((xs.toList.map f).map (·.sat))⟩ := by
  have hlen : (xs.toList.map f).length = xs.toList.length := List.length_map _
  have hlock : ∀ sd ∈ xs.toList.map f, LockOK ua ur sd.sat ∧ LockOK ua ur sd.dissat := by
    intro sd hsd
    obtain ⟨x, hx, rfl⟩ := List.mem_map.mp hsd
    exact ⟨(h x hx).lockS, (h x hx).lockD⟩
  have hlockD := lockOK_dissats hlock
  have hlockS := lockOK_sats hlock
  have hdu : ∀ sd ∈ xs.toList.map f, isStk sd.dissat.stack = true ∧ sd.dissat.hasSig = false := by
    intro sd hsd
    obtain ⟨x, hx, rfl⟩ := List.mem_map.mp hsd
    exact (h x hx).du (hallU x hx)
  have hnu : ∀ sd ∈ xs.toList.map f, sd.sat.stack ≠ .unavailable := by
    intro sd hsd
    obtain ⟨x, hx, rfl⟩ := List.mem_map.mp hsd
    exact (h x hx).nu
  have hfree : (xs.toList.map f).countP freeSat
      ≤ xs.toList.length - xs.toList.countP (fun x => (ty x).signed) := by
    have h1 : (xs.toList.map f).countP freeSat
        ≤ xs.toList.countP (fun x => decide ¬(ty x).signed = true) := by
      rw [List.countP_map]
      apply List.countP_mono_left
      intro x hx hfx
      simp only [Function.comp] at hfx
      cases hsg : (ty x).signed with
      | false => rfl
      | true =>
        exfalso
        have hso := (h x hx).sgn hsg
        simp only [freeSat, Bool.and_eq_true, decide_eq_true_eq, Bool.not_eq_true'] at hfx
        have := hso hfx.1
        rw [hfx.2] at this; cases this
    have h2 := List.length_eq_countP_add_countP (fun x => (ty x).signed) (l := xs.toList)
    omega
  refine ⟨?_, foldConcat_lockOK _ hlockD, ?_, ?_, fun hd => absurd hd hMd, ?_, ?_⟩
  · show LockOK ua ur (if _ then _ else _)
    split
    · exact foldConcat_lockOK _ hlockS
    · exact threshNonMall_lockOK k _ hlock
  · show (if _ then _ else _ : Sat).stack ≠ _
    split
    · unfold foldConcat
      refine foldl_concat_ne_unav _ _ (by simp [Sat.empty]) ?_
      intro s hs
      obtain ⟨sd, hsd, rfl⟩ := List.mem_map.mp hs
      exact hnu sd hsd
    next hk =>
      exact threshNonMall_ne_unav k _ (by omega)
        (fun sd hsd => ⟨hnu sd hsd, isStk_ne_unav (hdu sd hsd).1⟩) (by omega)
  · intro hsg
    have hlt := hMs hsg
    show SigOrImp (if _ then _ else _)
    split
    next hk =>
      -- all children satisfied; one of them is not `freeSat`
      obtain ⟨sd, hsd, hfs⟩ := exists_not_of_countP_lt (l := xs.toList.map f) (p := freeSat) (by omega)
      intro hne
      unfold foldConcat at hne ⊢
      exact foldl_concat_hasSig _ _ hne
        (.inr ⟨sd.sat, List.mem_map.mpr ⟨sd, hsd, rfl⟩, not_freeSat_sigOrImp hfs⟩)
    next hk =>
      exact threshNonMall_sigOrImp k _ (by omega) (by omega)
  · intro _
    constructor
    · rw [foldConcat_isStk _ hlockD, List.all_map, List.all_eq_true]
      intro sd hsd
      exact (hdu sd hsd).1
    · unfold foldConcat
      refine foldl_concat_hasSig_false _ _ rfl ?_
      intro s hs
      obtain ⟨sd, hsd, rfl⟩ := List.mem_map.mp hs
      exact (hdu sd hsd).2
  · intro hex
    obtain ⟨-, -, hhi⟩ := satEx_thresh hex
    have hcs := countP_satEx_le (f := f) (fun x hx => (h x hx).cs)
    show isStk (if _ then _ else _ : Sat).stack = true
    split
    next hk => exact foldConcat_sats_isStk hlock (by omega)
    next hk =>
      apply threshNonMall_isStk k _ hk1 (by omega) hlock hnu (fun sd hsd => (hdu sd hsd).1) (by omega)
      refine Nat.le_trans hhi (Nat.le_trans hcs ?_)
      apply List.countP_mono_left
      intro sd _ hst
      simpa using isStk_ne_imp hst

end

theorem forall_cons {p : Ms → Prop} {x : Ms} {xs : MsList} (hx : p x) (hxs : ∀ y ∈ xs.toList, p y) :
    ∀ y ∈ (MsList.cons x xs).toList, p y :=
  fun y hy => (List.mem_cons.mp hy).elim (fun e => e ▸ hx) (hxs y)

def nmP (nz : Sat) (a : Assets) (ua ur : Bool) (m : Ms) : Bool :=
  lockUnit a ua ur m && (isNotNonZero m || decide (nz = Sat.push0)) && isNotRawPkH m
    && preKnown a m && threshKOK m

theorem nmP_iff {nz : Sat} {a : Assets} {ua ur : Bool} {m : Ms} :
    nmP nz a ua ur m = true ↔ lockUnit a ua ur m = true ∧ (isNotNonZero m = true ∨ nz = Sat.push0) ∧
      isNotRawPkH m = true ∧ preKnown a m = true ∧ threshKOK m = true := by
  simp [nmP, and_assoc]

theorem nmP_thresh {nz : Sat} {a : Assets} {ua ur : Bool} {k : Nat} {xs : MsList}
    (h : nmP nz a ua ur (.thresh k xs) = true) : 1 ≤ k ∧ k ≤ xs.length := by
  simpa [threshKOK] using (nmP_iff.mp h).2.2.2.2

theorem allNodes_nmP {nz : Sat} {a : Assets} {ua ur : Bool} {ms : Ms}
    (hu : allNodes (lockUnit a ua ur) ms = true)
    (hnz : allNodes (fun m => isNotNonZero m || decide (nz = Sat.push0)) ms = true)
    (hraw : allNodes isNotRawPkH ms = true) (hpre : allNodes (preKnown a) ms = true)
    (hk : allNodes threshKOK ms = true) : allNodes (nmP nz a ua ur) ms = true := by
  unfold allNodes at *
  rw [List.all_eq_true] at *
  exact fun m hm => nmP_iff.mpr ⟨hu m hm, by simpa using hnz m hm, hraw m hm, hpre m hm, hk m hm⟩

section
variable (c : SatCfg) (ua ur : Bool)

/- By induction on the typing derivation; what the malleability rule demands of the children comes from
`Mall.*_nonMall`, the node facts from `allNodes_*`.  In the `or` cases the satisfaction is `minimum A B`: the rule
demands a signed side, which is what `NS.min` asks for; a dissatisfaction used as an operand is `unique` (`ND.sat`). -/
theorem nm_inv (hm : c.mall = false) (hr : c.rootHasSig = true) {ms : Ms} {τ : Ty} (h : HasType ms τ) :
    τ.mall.nonMall = true → allNodes (nmP MODEL_NZ c.assets ua ur) ms = true →
      NMInv ua ur (availOf c.assets c.ctx) ms τ.mall (satDissat c ms) := by
  induction h using HasType.rec (motive_2 := fun xs _ _ =>
    (∀ y ∈ xs.toList, (tyOf y).mall.nonMall = true) → allNodesL (nmP MODEL_NZ c.assets ua ur) xs = true →
      ∀ y ∈ xs.toList, NMInv ua ur (availOf c.assets c.ctx) y (tyOf y).mall (satDissat c y)) with
  | fls =>
    intro _ hP
    exact ⟨lockOK_IMPOSSIBLE _ _, lockOK_TRIVIAL _ _, (fun h => nomatch h),
      fun _ => sigOrImp_of_imp rfl, (fun h => nomatch h), fun _ => ⟨rfl, rfl⟩, by simp [satEx]⟩
  | tru =>
    intro _ hP
    exact ⟨lockOK_TRIVIAL _ _, lockOK_IMPOSSIBLE _ _, (fun h => nomatch h), (fun h => nomatch h),
      fun _ => sigOrImp_of_imp rfl, (fun h => nomatch h), fun _ => rfl⟩
  | @pkK k =>
    intro _ hP
    exact ⟨lockOK_none rfl rfl, lockOK_push0 _ _, sigWit_ne_unav _ _ _, fun _ => sigOrImp_of_sig rfl,
      (fun h => nomatch h), fun _ => ⟨rfl, rfl⟩,
      fun h => by simpa [satEx, availOf, sigWit_isStk, satDissat_pkK] using h⟩
  | @pkH k =>
    intro _ hP
    exact ⟨lockOK_none rfl rfl, lockOK_none rfl rfl,
      combine_ne_unav (sigWit_ne_unav _ _ _) (fun h => nomatch h), fun _ => sigOrImp_of_sig rfl,
      (fun h => nomatch h), fun _ => ⟨rfl, rfl⟩,
      fun h => by simpa [satEx, availOf, sigWit_isStk, satDissat_pkH] using h⟩
  | @rawPkH h =>
    intro _ hP
    exact nomatch (nmP_iff.mp (allNodes_leaf hP rfl)).2.2.1
  | @multi k ks =>
    intro _ hP
    exact leaf_nmInv (multiSD_facts c.ctx c.assets k ks) rfl (by simp [satEx, availOf])
  | @sortedMulti k ks =>
    intro _ hP
    exact leaf_nmInv (multiSD_facts c.ctx c.assets k (sortKeys' c.env ks)) rfl
      (by simp [satEx, availOf, sortKeys'_filter])
  | @multiA k ks =>
    intro _ hP
    exact leaf_nmInv (multiASD_facts c.ctx c.assets k ks) rfl (by simp [satEx, availOf])
  | @sortedMultiA k ks =>
    intro _ hP
    exact leaf_nmInv (multiASD_facts c.ctx c.assets k (sortKeys' c.env ks)) rfl
      (by simp [satEx, availOf, sortKeys'_filter])
  | @after n =>
    intro _ hP
    have hu : (!c.assets.checkAfter n || absUnit n == ua) = true := (nmP_iff.mp (allNodes_leaf hP rfl)).1
    simp only [satDissat_after]
    cases hc : c.assets.checkAfter n with
    | true =>
      refine ⟨⟨fun m hm' => ?_, by simp⟩, lockOK_IMPOSSIBLE _ _, (fun h => nomatch h),
        (fun h => nomatch h), fun _ => sigOrImp_of_imp rfl, (fun h => nomatch h), fun _ => rfl⟩
      cases hm'
      simpa [hc] using hu
    | false =>
      have hsat : satEx (availOf c.assets c.ctx) (.after n) = false := by simp [satEx, availOf, hc]
      simp only [hr]
      exact ⟨lockOK_none rfl rfl, lockOK_IMPOSSIBLE _ _, (fun h => nomatch h),
        (fun h => nomatch h), fun _ => sigOrImp_of_imp rfl, (fun h => nomatch h), by simp [hsat]⟩
  | @older n =>
    intro _ hP
    have hu : (!c.assets.checkOlder (relCanon n) || relIsTime n == ur) = true :=
      (nmP_iff.mp (allNodes_leaf hP rfl)).1
    simp only [satDissat_older]
    cases hc : c.assets.checkOlder (relCanon n) with
    | true =>
      refine ⟨⟨by simp, fun m hm' => ?_⟩, lockOK_IMPOSSIBLE _ _, (fun h => nomatch h),
        (fun h => nomatch h), fun _ => sigOrImp_of_imp rfl, (fun h => nomatch h), fun _ => rfl⟩
      cases hm'
      simpa [hc] using hu
    | false =>
      have hsat : satEx (availOf c.assets c.ctx) (.older n) = false := by simp [satEx, availOf, hc]
      simp only [hr]
      exact ⟨lockOK_none rfl rfl, lockOK_IMPOSSIBLE _ _, (fun h => nomatch h),
        (fun h => nomatch h), fun _ => sigOrImp_of_imp rfl, (fun h => nomatch h), by simp [hsat]⟩
  | @hash kind h =>
    intro _ hP
    have hpre : c.assets.preimage kind h = true := (nmP_iff.mp (allNodes_leaf hP rfl)).2.2.2.1
    simp only [satDissat_hash, hpre, if_true]
    exact ⟨lockOK_none rfl rfl, lockOK_none rfl rfl, (fun h => nomatch h), (fun h => nomatch h),
      (fun h => nomatch h), (fun h => nomatch h), fun _ => rfl⟩
  | alt _ _ ih | swap _ _ _ ih | check _ _ ih | zeroNotEqual _ _ ih =>
    intro hnm hP
    have ih := ih hnm (allNodes_un hP rfl).2
    exact .of_alt (ih.S.of id (by simp only [satEx]; exact id)) ih.D
  | dupIf _ _ _ ih =>
    intro hnm hP
    have ih := ih hnm (allNodes_un hP rfl).2
    exact .of_alt ((ih.S.push .pushOne).of id (by simp only [satEx]; exact id))
      (.push0 (Mall.wrapD_not_none _))
  | verify _ _ ih =>
    intro hnm hP
    have ih := ih hnm (allNodes_un hP rfl).2
    exact .of_alt (ih.S.of id (by simp only [satEx]; exact id)) .imp
  | nonZero _ _ _ ih =>
    intro hnm hP
    have ih := ih hnm (allNodes_un hP rfl).2
    exact .of_alt (ih.S.of id (by simp only [satEx]; exact id)) (.push0 (Mall.wrapD_not_none _))
  | andB _ _ _ _ ihl ihr =>
    intro hnm hP
    obtain ⟨hml, hmr⟩ := Mall.andB_nonMall hnm
    obtain ⟨-, hPl, hPr⟩ := allNodes_bin hP rfl
    have hl := ihl hml hPl
    have hr' := ihr hmr hPr
    exact .of_alt ((hl.S.concat hr'.S).of id (by simp only [satEx]; exact id))
      (hl.D.concat hr'.D (fun h => (Mall.andB_none _ _ h).elim (fun h => .inl h.1)
        (·.elim (fun h => .inl h.1) (fun h => .inr h.1))) (Mall.andB_unique _ _))
  | andV _ _ _ _ ihl ihr =>
    intro hnm hP
    obtain ⟨hml, hmr⟩ := Mall.andV_nonMall hnm
    obtain ⟨-, hPl, hPr⟩ := allNodes_bin hP rfl
    have hl := ihl hml hPl
    have hr' := ihr hmr hPr
    -- the dissatisfaction `sat(l) · dsat(r)` is not third-party producible if `l` is signed or `r` is `none`
    exact .of_alt ((hl.S.concat hr'.S).of id (by simp only [satEx]; exact id))
      ⟨concat_lockOK hl.lockS hr'.lockD, fun h => (Mall.andV_none _ _ h).elim
        (fun h => concat_sigOrImp_right (hr'.dn h))
        (fun h => concat_sigOrImp_left (hl.sgn h)),
       fun h => absurd h (Mall.andV_not_unique _ _)⟩
  | orB _ _ _ _ _ _ ihl ihr =>
    intro hnm hP
    obtain ⟨hml, hmr, hdl, hdr, hsg⟩ := Mall.orB_nonMall hnm
    obtain ⟨-, hPl, hPr⟩ := allNodes_bin hP rfl
    have dl := hdl ▸ (ihl hml hPl).D
    have dr := hdr ▸ (ihr hmr hPr).D
    simp only [satDissat, SatCfg.minFn_nonmall c hm]
    exact .of_alt
      (((dl.sat.concat (ihr hmr hPr).S).min ((ihl hml hPl).S.concat dr.sat)
          (by simpa [or_comm] using hsg)).of (by simp [Mall.orB, and_comm]) (by
        simp only [satEx, Bool.or_eq_true, Bool.and_eq_true, Bool.true_and, Bool.and_true]
        exact fun h => h.symm.imp And.right And.left))
      (dl.concat dr (fun h => nomatch h) (fun _ => ⟨rfl, rfl⟩))
  | orD _ _ _ _ _ _ ihl ihr =>
    intro hnm hP
    obtain ⟨hml, hmr, hdl, hsg⟩ := Mall.orD_nonMall hnm
    obtain ⟨-, hPl, hPr⟩ := allNodes_bin hP rfl
    have hl := ihl hml hPl
    have hr' := ihr hmr hPr
    have dl := hdl ▸ hl.D
    simp only [satDissat, SatCfg.minFn_nonmall c hm]
    exact .of_alt
      ((hl.S.min (dl.sat.concat hr'.S) (by simpa using hsg)).of (by simp [Mall.orD]) (by
        simp only [satEx, Bool.or_eq_true, Bool.and_eq_true, Bool.true_and]
        exact Or.imp_right And.right))
      (dl.concat hr'.D .inr (fun h => ⟨rfl, h⟩))
  | orC _ _ _ _ _ _ ihl ihr =>
    intro hnm hP
    obtain ⟨hml, hmr, hdl, hsg⟩ := Mall.orC_nonMall hnm
    obtain ⟨-, hPl, hPr⟩ := allNodes_bin hP rfl
    have hl := ihl hml hPl
    have dl := hdl ▸ hl.D
    simp only [satDissat, SatCfg.minFn_nonmall c hm]
    exact .of_alt
      ((hl.S.min (dl.sat.concat (ihr hmr hPr).S) (by simpa using hsg)).of (by simp [Mall.orC]) (by
        simp only [satEx, Bool.or_eq_true, Bool.and_eq_true, Bool.true_and]
        exact Or.imp_right And.right))
      .imp
  | @orI l r _ _ _ _ _ _ ihl ihr =>
    intro hnm hP
    obtain ⟨hml, hmr, hsg⟩ := Mall.orI_nonMall hnm
    obtain ⟨-, hPl, hPr⟩ := allNodes_bin hP rfl
    have hl := ihl hml hPl
    have hr' := ihr hmr hPr
    simp only [satDissat, SatCfg.minFn_nonmall c hm]
    exact .of_alt
      (((hl.S.push .pushOne).min (hr'.S.push .pushZero) hsg).of (by simp [Mall.orI])
        (by simp only [satEx]; exact id))
      ((hl.D.push .pushOne).min (hr'.D.push .pushZero) (Mall.orI_none _ _) (Mall.orI_unique _ _))
  | @andOr x y z tx ty tz _ _ _ _ _ _ _ _ ihx ihy ihz =>
    intro hnm hP
    obtain ⟨hmx, hmy, hmz, hdx, hsg⟩ := Mall.andOr_nonMall hnm
    obtain ⟨-, hPx, hPy, hPz⟩ := allNodes_andOr hP
    have hx := ihx hmx hPx
    have hz := ihz hmz hPz
    have dx := hdx ▸ hx.D
    simp only [satDissat, SatCfg.minFn_nonmall c hm]
    exact .of_alt
      (((hx.S.concat (ihy hmy hPy).S).min (dx.sat.concat hz.S) (by simpa using hsg)).of
        (by simp [Mall.andOr]) (by
          simp only [satEx, Bool.or_eq_true, Bool.and_eq_true, Bool.true_and]
          exact Or.imp_right And.right))
      (dx.concat hz.D (fun h => .inr (Mall.andOr_none _ _ _ h).1) (fun h => ⟨rfl, Mall.andOr_unique _ _ _ h⟩))
  | @threshNil k =>
    intro _ hP
    have hkk := nmP_thresh (allNodes_thresh hP).1
    exact absurd (Nat.le_trans hkk.1 hkk.2) (by decide)
  | @thresh k x xs t ts hx hxs _ _ _ _ ihx ihxs =>
    intro hnm hP
    obtain ⟨hPn, hPxs⟩ := allNodes_thresh hP
    have hkk := nmP_thresh hPn
    have hmap : (t :: ts).map (·.mall) = (MsList.cons x xs).toList.map (fun y => (tyOf y).mall) := by
      rw [(HasTypes.cons hx hxs).eq_map.1, List.map_map]; rfl
    rw [hmap] at hnm ⊢
    obtain ⟨hallM, hallU, hcnt, hsgn, hdnn⟩ := Mall.threshold_nonMall hnm
    rw [List.countP_map, List.length_map] at hcnt hsgn
    rw [List.all_map, List.all_eq_true] at hallM hallU
    have hallM : ∀ y ∈ (MsList.cons x xs).toList, (tyOf y).mall.nonMall = true :=
      fun y hy => by simpa using hallM y hy
    rw [allNodesL_cons, Bool.and_eq_true] at hPxs
    have htx := tyOf_eq hx
    have := thresh_nm_inv (ua := ua) (ur := ur) (av := availOf c.assets c.ctx) k (.cons x xs)
      (satDissat c) (fun y => (tyOf y).mall) _
      (forall_cons (htx ▸ ihx (htx ▸ hallM x List.mem_cons_self) hPxs.1)
        (ihxs (fun y hy => hallM y (List.mem_cons_of_mem _ hy)) hPxs.2))
      (fun y hy => by simpa using hallU y hy)
      hkk.1 (by rw [MsList.length_toList]; exact hkk.2) hcnt hsgn hdnn
    simp only [satDissat_thresh, hm, satDissats_eq_map]
    exact this
  | nil => rename_i hy; cases hy
  | @cons x xs t ts hx hxs ihx ihxs =>
    rename_i hall hP y hy
    rw [allNodesL_cons, Bool.and_eq_true] at hP
    have htx := tyOf_eq hx
    exact forall_cons (htx ▸ ihx (htx ▸ hall x List.mem_cons_self) hP.1)
      (ihxs (fun y hy => hall y (List.mem_cons_of_mem _ hy)) hP.2) y hy

end

section
variable (nz : Sat) (c : SatCfg) (ua ur : Bool)

/-- under `nmP nz` the satisfier with the `j:` dissatisfaction as a parameter is the model's
(`satDissatG_eq`), and `nmP nz` gives `nmP MODEL_NZ` -/
theorem nm_invG (hm : c.mall = false) (hr : c.rootHasSig = true) {ms : Ms} {τ : Ty} (h : HasType ms τ)
    (hnm : τ.mall.nonMall = true) (hP : allNodes (nmP nz c.assets ua ur) ms = true) :
    NMInv ua ur (availOf c.assets c.ctx) ms τ.mall (satDissatG nz c ms) := by
  rw [satDissatG_eq c ms (allNodes_mono (fun m h => by
    have := (nmP_iff.mp h).2.1; simpa using this) hP)]
  exact nm_inv c ua ur hm hr h hnm (allNodes_mono (fun m h => by
    obtain ⟨h1, -, h3, h4, h5⟩ := nmP_iff.mp h
    exact nmP_iff.mpr ⟨h1, .inr rfl, h3, h4, h5⟩) hP)

theorem nm_invs (hm : c.mall = false) (hr : c.rootHasSig = true) :
    (xs : MsList) → allNodesL (nmP nz c.assets ua ur) xs = true →
      ∀ x ∈ xs.toList, ∀ t, typeOf x = some t → t.mall.nonMall = true →
        NMInv ua ur (availOf c.assets c.ctx) x t.mall (satDissatG nz c x) :=
  fun xs hP x hx _ ht hnm => nm_invG nz c ua ur hm hr (.of_typeOf x ht) hnm (allNodesL_mem xs hP x hx)

end

end MsVerif.Complete
