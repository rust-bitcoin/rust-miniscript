/-
`Ord for Policy` (Model/PolicyOrd.lean) is a lawful total order whose `Equal` is structural
identity, for every lawful order on keys and hashes.
-/
import MsVerif.Lemmas.CoreCmp
import MsVerif.Model.PolicyOrd

namespace MsVerif.PolicyOrd
open MsVerif MsVerif.CmpOrd

theorem hashRank_inj (k1 k2 : HashKind) (h : hashRank k1 = hashRank k2) : k1 = k2 := by
  cases k1 <;> cases k2 <;> simp [hashRank] at h <;> rfl

def sameVariant : PPol → PPol → Bool
  | .unsat, .unsat | .trivial, .trivial | .key _, .key _ | .after _, .after _ | .older _, .older _
  | .and _, .and _ | .or _, .or _ | .thresh _ _, .thresh _ _ => true
  | .hash k1 _, .hash k2 _ => k1 = k2
  | _, _ => false

/-- equal variant names ⇒ same variant: the `unreachable!` arm of `cmp` is never reached -/
theorem same_rank_same_variant (a b : PPol) (h : a.vrank = b.vrank) : sameVariant a b = true := by
  cases a <;> cases b <;> simp [PPol.vrank, sameVariant] at h ⊢
  case hash.hash => exact hashRank_inj _ _ h
  -- a hash against another variant: no hash kind has that variant's rank
  all_goals cases ‹HashKind› <;> simp [hashRank] at h

theorem polCmp_of_rank_ne (o : AtomOrd) (a b : PPol) (h : a.vrank ≠ b.vrank) :
    polCmp o a b = natCmp a.vrank b.vrank := by
  cases a <;> cases b
  -- the same constructor has the same rank, except two hashes
  case unsat.unsat | trivial.trivial | key.key | after.after | older.older | and.and | or.or | thresh.thresh =>
    exact absurd rfl h
  case hash.hash k1 _ k2 _ =>
    have hk : k1 ≠ k2 := fun e => h (by subst e; rfl)
    simp only [polCmp, hk, if_false]
  -- different constructors: the last arm of `polCmp`
  all_goals rfl

/-! ### the three laws

Each is reduced by the rank lemmas to pairs of equal rank, i.e. (`same_rank_same_variant`) of the
same variant; there the payloads are compared, child lists recursively. -/

mutual
theorem polCmp_eq_iff (o : AtomOrd) (ho : LawfulAtoms o) : (a b : PPol) → (polCmp o a b = .eq ↔ a = b)
  | a, b => eq_iff_of_rank PPol.vrank (polCmp_of_rank_ne o) a b fun h => by
    have v := same_rank_same_variant a b h
    match a, b, v with
    | .unsat, .unsat, _ | .trivial, .trivial, _ => simp only [polCmp, natCmp_eq]
    | .key x, .key y, _ => simp [polCmp, ho.key.eq_iff]
    | .after x, .after y, _ | .older x, .older y, _ => simp [polCmp, natCmp_eq]
    | .hash k1 x, .hash k2 y, v =>
      simp only [sameVariant, decide_eq_true_eq] at v
      subst v
      simp [polCmp, (ho.hash k1).eq_iff]
    | .and xs, .and ys, _ | .or xs, .or ys, _ => simp [polCmp, polListCmp_eq_iff o ho xs ys]
    | .thresh k1 xs, .thresh k2 ys, _ =>
      simp [polCmp, Ordering.then_eq_eq, natCmp_eq, polListCmp_eq_iff o ho xs ys]
theorem polListCmp_eq_iff (o : AtomOrd) (ho : LawfulAtoms o) :
    (xs ys : PPolList) → (polListCmp o xs ys = .eq ↔ xs = ys)
  | .nil, .nil => by simp only [polListCmp]
  | .nil, .cons _ _ _ => by simp [polListCmp]
  | .cons _ _ _, .nil => by simp [polListCmp]
  | .cons w x xs, .cons w' y ys => by
    simp [polListCmp, Ordering.then_eq_eq, natCmp_eq, polCmp_eq_iff o ho x y, polListCmp_eq_iff o ho xs ys]
end

mutual
theorem polCmp_swap (o : AtomOrd) (ho : LawfulAtoms o) : (a b : PPol) → polCmp o b a = (polCmp o a b).swap
  | a, b => swap_of_rank PPol.vrank (polCmp_of_rank_ne o) a b fun h => by
    have v := same_rank_same_variant a b h
    match a, b, v with
    | .unsat, .unsat, _ | .trivial, .trivial, _ => rfl
    | .key x, .key y, _ => exact ho.key.swap x y
    | .after x, .after y, _ | .older x, .older y, _ => exact natCmp_lawful.swap x y
    | .hash k1 x, .hash k2 y, v =>
      simp only [sameVariant, decide_eq_true_eq] at v
      subst v
      simp only [polCmp, if_true]
      exact (ho.hash k1).swap x y
    | .and xs, .and ys, _ | .or xs, .or ys, _ => exact polListCmp_swap o ho xs ys
    | .thresh k1 xs, .thresh k2 ys, _ =>
      simp only [polCmp]
      rw [Ordering.swap_then, natCmp_lawful.swap, polListCmp_swap o ho xs]
theorem polListCmp_swap (o : AtomOrd) (ho : LawfulAtoms o) :
    (xs ys : PPolList) → polListCmp o ys xs = (polListCmp o xs ys).swap
  | .nil, .nil => rfl
  | .nil, .cons _ _ _ => rfl
  | .cons _ _ _, .nil => rfl
  | .cons w x xs, .cons w' y ys => by
    simp only [polListCmp]
    rw [Ordering.swap_then, Ordering.swap_then, natCmp_lawful.swap w w', polCmp_swap o ho x y, polListCmp_swap o ho xs ys]
end

mutual
theorem polCmp_trans (o : AtomOrd) (ho : LawfulAtoms o) : (a b c : PPol) →
    polCmp o a b = .lt → polCmp o b c = .lt → polCmp o a c = .lt
  | a, b, c, h1, h2 => trans_of_rank PPol.vrank (polCmp_of_rank_ne o) a b c (fun e1 e2 => by
      -- first `a` and `b` of the same variant, then `c`: a single three-way `match` is slow to compile
      have v1 := same_rank_same_variant a b e1
      have v2 := same_rank_same_variant b c e2
      match a, b, v1 with
      | .unsat, .unsat, _ | .trivial, .trivial, _ => simp [polCmp, natCmp_lt] at h1
      | .key x, .key y, _ =>
        match c, v2 with
        | .key z, _ => exact ho.key.trans_lt x y z h1 h2
      | .after x, .after y, _ =>
        match c, v2 with
        | .after z, _ => exact natCmp_lawful.trans_lt x y z h1 h2
      | .older x, .older y, _ =>
        match c, v2 with
        | .older z, _ => exact natCmp_lawful.trans_lt x y z h1 h2
      | .hash k1 x, .hash k2 y, v1 =>
        match c, v2 with
        | .hash k3 z, v2 =>
          simp only [sameVariant, decide_eq_true_eq] at v1 v2
          subst v1; subst v2
          simp only [polCmp, if_true] at h1 h2 ⊢
          exact (ho.hash k1).trans_lt _ _ _ h1 h2
      | .and xs, .and ys, _ =>
        match c, v2 with
        | .and zs, _ => exact polListCmp_trans o ho xs ys zs h1 h2
      | .or xs, .or ys, _ =>
        match c, v2 with
        | .or zs, _ => exact polListCmp_trans o ho xs ys zs h1 h2
      | .thresh k1 xs, .thresh k2 ys, _ =>
        match c, v2 with
        | .thresh k3 zs, _ =>
          simp only [polCmp, Ordering.then_eq_lt, natCmp_lt, natCmp_eq] at h1 h2 ⊢
          rcases h1 with h1 | ⟨e1, h1⟩ <;> rcases h2 with h2 | ⟨e2, h2⟩
          · left; omega
          · left; omega
          · left; omega
          · right; exact ⟨by omega, polListCmp_trans o ho xs ys zs h1 h2⟩) h1 h2
theorem polListCmp_trans (o : AtomOrd) (ho : LawfulAtoms o) : (xs ys zs : PPolList) →
    polListCmp o xs ys = .lt → polListCmp o ys zs = .lt → polListCmp o xs zs = .lt
  | .nil, ys, .nil, h1, h2 => by cases ys <;> simp [polListCmp] at h1 h2
  | .nil, _, .cons _ _ _, _, _ => by simp only [polListCmp]
  | .cons _ _ _, .nil, _, h1, _ => by simp [polListCmp] at h1
  | .cons _ _ _, .cons _ _ _, .nil, _, h2 => by simp [polListCmp] at h2
  | .cons w x xs, .cons w' y ys, .cons w'' z zs, h1, h2 => by
    simp only [polListCmp, Ordering.then_eq_lt, natCmp_lt, natCmp_eq, polCmp_eq_iff o ho] at h1 h2 ⊢
    rcases h1 with h1 | ⟨e1, h1 | ⟨ex, h1⟩⟩ <;> rcases h2 with h2 | ⟨e2, h2 | ⟨ey, h2⟩⟩
    · left; omega
    · left; omega
    · left; omega
    · left; omega
    · right; exact ⟨by omega, Or.inl (polCmp_trans o ho x y z h1 h2)⟩
    · right; subst ey; exact ⟨by omega, Or.inl h1⟩
    · left; omega
    · right; subst ex; exact ⟨by omega, Or.inl h2⟩
    · right; subst ex; subst ey; exact ⟨by omega, Or.inr ⟨rfl, polListCmp_trans o ho xs ys zs h1 h2⟩⟩
end

theorem polCmp_lawful (o : AtomOrd) (ho : LawfulAtoms o) : LawfulCmp (polCmp o) :=
  ⟨polCmp_eq_iff o ho, polCmp_swap o ho, polCmp_trans o ho⟩

end MsVerif.PolicyOrd
