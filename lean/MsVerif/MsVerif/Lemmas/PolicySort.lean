/-
`Ord for Policy` (model `Sem.cmp`) is a lawful total order — `Equal` only on identical policies,
antisymmetric, transitive — hence `sorted` is a normal form of the children's order: permuting
the children of any threshold, at any depth, does not change the result.  The laws are those of
`polCmp` (Model/PolicyOrd, the same `Ord` on the policy type of the translation model, proved lawful in
`PolicyOrd`): `Sem.cmp` is `polCmp` on the embedding `emb` with numbers compared as numbers.  The embedding is
there so that the two models of the one Rust `Ord` are known to agree and the laws are proved once.
-/
import MsVerif.Lemmas.PolicyBasic
import MsVerif.Lemmas.PolicyOrd
import MsVerif.Thm.C19

namespace MsVerif.Pol
open Sem MsVerif.CmpOrd MsVerif.PolicyOrd
open C19 (natOrd natOrd_lawful)

theorem match_eq_then (o x : Ordering) : (match o with | .eq => x | o' => o') = o.then x := by
  cases o <;> rfl

def hk : HashKind → MsVerif.HashKind
  | .sha256 => .sha256 | .hash256 => .hash256 | .ripemd160 => .ripemd160 | .hash160 => .hash160

mutual
/-- a semantic policy as a `PPol` (children unweighted) -/
def emb : Policy → PPol
  | .unsat => .unsat
  | .trivial => .trivial
  | .atom (.key i) => .key i
  | .atom (.after n) => .after n
  | .atom (.older n) => .older n
  | .atom (.hash k h) => .hash (hk k) h
  | .thresh k subs => .thresh k (embL subs)
def embL : List Policy → PPolList
  | [] => .nil
  | p :: ps => .cons 0 (emb p) (embL ps)
end

mutual
theorem cmp_eq_polCmp : ∀ a b : Policy, cmp a b = polCmp natOrd (emb a) (emb b)
  | .thresh k1 s1, .thresh k2 s2 => by
    rw [cmp, emb, emb, polCmp, cmpList_eq_polListCmp s1 s2]; rfl
  | a, b => by
    -- a leaf on one side: both orders compare the variant names, then the payloads, and the two rank tables
    -- (`and`, `or` inserted on the `PPol` side) order the ten variants alike: `rfl` evaluates the ranks.
    -- The second alternative is the pair of two thresholds, which the case split produces again.
    rcases a with _ | _ | (_ | _ | _ | ⟨k, _⟩) | _ <;> rcases b with _ | _ | (_ | _ | _ | ⟨k', _⟩) | _ <;>
      (try cases k) <;> (try cases k') <;>
      first
      | rfl
      | (rw [cmp, emb, emb, polCmp, cmpList_eq_polListCmp]; rfl)
theorem cmpList_eq_polListCmp : ∀ l1 l2 : List Policy, cmpList l1 l2 = polListCmp natOrd (embL l1) (embL l2)
  | [], [] | [], _ :: _ | _ :: _, [] => rfl
  | a :: as, b :: bs => by
    rw [cmpList, embL, embL, polListCmp, cmp_eq_polCmp a b, cmpList_eq_polListCmp as bs]; rfl
end

def unhk : MsVerif.HashKind → HashKind
  | .sha256 => .sha256 | .hash256 => .hash256 | .ripemd160 => .ripemd160 | .hash160 => .hash160

mutual
/-- left inverse of `emb` (`and`, `or` are not in its image) -/
def unemb : PPol → Policy
  | .unsat | .and _ | .or _ => .unsat
  | .trivial => .trivial
  | .key i => .atom (.key i)
  | .after n => .atom (.after n)
  | .older n => .atom (.older n)
  | .hash k h => .atom (.hash (unhk k) h)
  | .thresh k xs => .thresh k (unembL xs)
def unembL : PPolList → List Policy
  | .nil => []
  | .cons _ x xs => unemb x :: unembL xs
end

mutual
theorem unemb_emb : ∀ p, unemb (emb p) = p
  | .unsat | .trivial | .atom (.key _) | .atom (.after _) | .atom (.older _) => rfl
  | .atom (.hash k _) => by cases k <;> rfl
  | .thresh k subs => by rw [emb, unemb, unembL_embL subs]
theorem unembL_embL : ∀ l, unembL (embL l) = l
  | [] => rfl
  | p :: ps => by rw [embL, unembL, unemb_emb p, unembL_embL ps]
end

theorem emb_inj (a b : Policy) (h : emb a = emb b) : a = b := by
  rw [← unemb_emb a, h, unemb_emb]

theorem cmp_eq_iff (a b : Policy) : cmp a b = .eq ↔ a = b := by
  rw [cmp_eq_polCmp, (polCmp_lawful natOrd natOrd_lawful).eq_iff]
  exact ⟨emb_inj a b, congrArg emb⟩

theorem cmp_refl (a : Policy) : cmp a a = .eq := (cmp_eq_iff a a).mpr rfl

theorem cmp_swap (a b : Policy) : cmp b a = (cmp a b).swap := by
  rw [cmp_eq_polCmp, cmp_eq_polCmp]; exact (polCmp_lawful natOrd natOrd_lawful).swap _ _

theorem cmp_trans (a b c : Policy) : cmp a b = .lt → cmp b c = .lt → cmp a c = .lt := by
  simp only [cmp_eq_polCmp]; exact (polCmp_lawful natOrd natOrd_lawful).trans_lt _ _ _

theorem le_total (a b : Policy) : (le a b || le b a) = true := by
  unfold le
  rw [cmp_swap a b]
  cases cmp a b <;> rfl

theorem le_trans (a b c : Policy) (h1 : le a b = true) (h2 : le b c = true) : le a c = true := by
  unfold le at *
  cases hab : cmp a b with
  | gt => rw [hab] at h1; simp at h1
  | eq => rw [(cmp_eq_iff a b).mp hab]; exact h2
  | lt =>
    cases hbc : cmp b c with
    | gt => rw [hbc] at h2; simp at h2
    | eq => rw [← (cmp_eq_iff b c).mp hbc, hab]; rfl
    | lt => rw [cmp_trans a b c hab hbc]; rfl

theorem le_antisymm (a b : Policy) (h1 : le a b = true) (h2 : le b a = true) : a = b := by
  unfold le at *
  rw [cmp_swap a b] at h2
  cases hab : cmp a b with
  | eq => exact (cmp_eq_iff a b).mp hab
  | lt => rw [hab] at h2; simp [Ordering.swap] at h2
  | gt => rw [hab] at h1; simp at h1

theorem mergeSort_perm_eq {l1 l2 : List Policy} (h : l1.Perm l2) :
    l1.mergeSort le = l2.mergeSort le := by
  apply List.Perm.eq_of_pairwise (le := fun a b => le a b = true)
  · intro a b _ _ h1 h2; exact le_antisymm a b h1 h2
  · exact List.pairwise_mergeSort le_trans le_total l1
  · exact List.pairwise_mergeSort le_trans le_total l2
  · exact (List.mergeSort_perm l1 le).trans (h.trans (List.mergeSort_perm l2 le).symm)

mutual
theorem sorted_childPerm : ∀ {p q : Policy}, ChildPerm p q → sorted p = sorted q
  | _, _, .refl _ => rfl
  | _, _, .trans h1 h2 => (sorted_childPerm h1).trans (sorted_childPerm h2)
  | _, _, .symm h => (sorted_childPerm h).symm
  | _, _, .perm k h => by
    rw [sorted, sorted, sortedList_eq, sortedList_eq]
    exact congrArg _ (mergeSort_perm_eq (h.map sorted))
  | _, _, .congr k h => by
    rw [sorted, sorted, sortedList_eq, sortedList_eq, sortedList_childPerm h]
theorem sortedList_childPerm : ∀ {l1 l2 : List Policy}, ChildPermList l1 l2 →
    l1.map sorted = l2.map sorted
  | _, _, .nil => rfl
  | _, _, .cons h t => by
    rw [List.map_cons, List.map_cons, sorted_childPerm h, sortedList_childPerm t]
end

theorem childPermList_map_sorted (l : List Policy) (ih : ∀ p ∈ l, ChildPerm p (sorted p)) :
    ChildPermList l (l.map sorted) := by
  induction l with
  | nil => exact .nil
  | cons x xs ihx => exact .cons (ih x (by simp)) (ihx (fun p hp => ih p (by simp [hp])))

end MsVerif.Pol
