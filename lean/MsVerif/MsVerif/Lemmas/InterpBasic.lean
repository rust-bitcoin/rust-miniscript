/-
For C13: the abstraction of a concrete stack (`absS`) and of a result (`Res`), the oracle agreement between the interpreter's
environment and Script's (`Agree`), and what it gives for the two lock opcodes (`lockVal`, `LockOk`, `after_ok`, `older_ok`).
-/
import MsVerif.Lemmas.CoreFrag
import MsVerif.Model.Interp
import MsVerif.Lemmas.CoreLocks

namespace MsVerif.InterpSound
open MsVerif Script Interp

variable {env : Env}

/-- the interpreter's view of a concrete stack (`Element::from` on every item) -/
def absS (c : List Bytes) : AStack := c.map Elem.ofBytes

@[simp] theorem absS_nil : absS [] = [] := rfl
@[simp] theorem absS_cons (v : Bytes) (c : List Bytes) : absS (v :: c) = Elem.ofBytes v :: absS c := rfl

theorem ofBytes_sat {v : Bytes} (h : Elem.ofBytes v = .sat) : v = [1] := by
  unfold Elem.ofBytes at h
  split at h
  · assumption
  · split at h <;> simp at h

theorem ofBytes_dissat {v : Bytes} (h : Elem.ofBytes v = .dissat) : v = [] := by
  unfold Elem.ofBytes at h
  split at h
  · simp at h
  · split at h
    · assumption
    · simp at h

theorem ofBytes_push {v b : Bytes} (h : Elem.ofBytes v = .push b) : v = b ∧ b ≠ [] ∧ b ≠ [1] := by
  unfold Elem.ofBytes at h
  split at h
  · simp at h
  · split at h
    · simp at h
    · simp at h; subst h; exact ⟨rfl, by assumption, by assumption⟩

theorem absS_eq_cons {c : List Bytes} {e : Elem} {st : AStack} (h : absS c = e :: st) :
    ∃ v c', c = v :: c' ∧ Elem.ofBytes v = e ∧ absS c' = st := by
  cases c with
  | nil => simp at h
  | cons v c' => simp at h; exact ⟨v, c', rfl, h.1, h.2⟩

theorem absS_eq_dissat {c : List Bytes} {st : AStack} (h : .dissat :: st = absS c) :
    ∃ c1, c = [] :: c1 ∧ st = absS c1 := by
  obtain ⟨v, c1, rfl, he, rfl⟩ := absS_eq_cons h.symm
  exact ⟨c1, by rw [ofBytes_dissat he], rfl⟩

theorem absS_eq_sat {c : List Bytes} {st : AStack} (h : .sat :: st = absS c) :
    ∃ c1, c = [1] :: c1 ∧ st = absS c1 := by
  obtain ⟨v, c1, rfl, he, rfl⟩ := absS_eq_cons h.symm
  exact ⟨c1, by rw [ofBytes_sat he], rfl⟩

theorem absS_eq_push {c : List Bytes} {b : Bytes} {st : AStack} (h : absS c = .push b :: st) :
    ∃ c1, c = b :: c1 ∧ st = absS c1 ∧ b ≠ [] := by
  obtain ⟨v, c1, rfl, he, rfl⟩ := absS_eq_cons h
  obtain ⟨rfl, hne, _⟩ := ofBytes_push he
  exact ⟨c1, rfl, rfl, hne⟩

/-- relation between the abstract result of a `B`/`W` fragment and the value Script leaves:
`Dissatisfied ~ []`; `Satisfied ~` a true value that is a non-zero 4-byte script number, and
exactly `[1]` where the type says unit (`u`) -/
structure Res (env : Env) (u : Bool) (r : Elem) (v : Bytes) : Prop where
  bool : r = .sat ∨ r = .dissat
  dis : r = .dissat → v = []
  sat : r = .sat → castToBool v = true ∧ (u = true → v = [1]) ∧
    ∃ z : Int, numDecode env.flags.minimalNum 4 v = some z ∧ z ≠ 0

theorem Res.ofBool (env : Env) (u : Bool) (b : Bool) :
    Res env u (if b then .sat else .dissat) (boolBytes b) := by
  cases b
  · exact ⟨Or.inr rfl, fun _ => rfl, fun h => by simp at h⟩
  · refine ⟨Or.inl rfl, fun h => by simp at h, fun _ => ⟨by decide, fun _ => rfl, 1, ?_, by decide⟩⟩
    exact numDecode_one _

theorem Res.mono {u u' : Bool} {r : Elem} {v : Bytes} (huu : u = true → u' = true) (h : Res env u' r v) :
    Res env u r v :=
  ⟨h.bool, h.dis, fun hs => ⟨(h.sat hs).1, fun hu => (h.sat hs).2.1 (huu hu), (h.sat hs).2.2⟩⟩

theorem Res.weaken {u : Bool} {r : Elem} {v : Bytes} (h : Res env true r v) : Res env u r v :=
  h.mono fun _ => rfl

theorem Res.num {u : Bool} {r : Elem} {v : Bytes} (h : Res env u r v) :
    ∃ z : Int, num4 env v = .ok z ∧ (z ≠ 0 ↔ r = .sat) := by
  rcases h.bool with hr | hr
  · obtain ⟨_, _, z, hz, hnz⟩ := h.sat hr
    exact ⟨z, by simp [num4, hz], by simp [hr, hnz]⟩
  · have hv := h.dis hr
    subst hv
    exact ⟨0, num4_nil env, by simp [hr]⟩

theorem Res.numB {u : Bool} {r : Elem} {v : Bytes} (h : Res env u r v) :
    ∃ z : Int, num4 env v = .ok z ∧ (z != 0) = (r == .sat) := by
  obtain ⟨z, hz, hzr⟩ := h.num
  exact ⟨z, hz, by rw [Bool.eq_iff_iff]; simpa using hzr⟩

theorem Res.ofElem {e : Elem} (he : e = .sat ∨ e = .dissat) : Res env true e (boolBytes (e == .sat)) := by
  rcases he with rfl | rfl
  · exact Res.ofBool env true true
  · exact Res.ofBool env true false

/-- a unit result is `[]` or `[1]`: acceptable to MINIMALIF -/
theorem Res.minimal {r : Elem} {v : Bytes} (h : Res env true r v) :
    (v = [] ∧ r = .dissat) ∨ (v = [1] ∧ r = .sat) := by
  rcases h.bool with hr | hr
  · exact Or.inr ⟨(h.sat hr).2.1 rfl, hr⟩
  · exact Or.inl ⟨h.dis hr, hr⟩

def hkOp : HashKind → HashOp
  | .sha256 => .sha256 | .hash256 => .hash256 | .ripemd160 => .ripemd160 | .hash160 => .hash160

theorem hashOpc_exec (h : NoLimits env) (k : HashKind) (a : Bytes) (r : List Bytes) (alt : List Bytes) (ops : Nat) :
    execOpc env (hashOpc k) ⟨a :: r, alt, ops⟩ = .ok ⟨env.hash (hkOp k) a :: r, alt, ops⟩ := by
  cases k <;> exact pushElem_ok h.st _ _

structure Agree (env : Env) (ie : IEnv) : Prop where
  /-- whatever `verify_sersig` + the caller's verifier accept is a valid signature for Script -/
  sig : ∀ pk sg, ie.verifySig pk sg = true → env.sigOk pk sg = true
  key : ∀ pk, ie.keyParse pk = true → pubkeyOk env pk = true
  h160 : ∀ b, ie.hash160 b = env.hash .hash160 b
  hash : ∀ k b, ie.hash k b = env.hash (hkOp k) b
  lockTime : ie.lockTime = env.nLockTime
  sequence : ie.sequence = env.nSequence
  /-- CSV fails in a version-1 transaction (the interpreter does not check this: finding) -/
  version : env.txVersion ≥ 2

/-- value pushed by `pushInt n` -/
def lockVal (n : Nat) : Bytes :=
  if n ≤ 16 then (if n = 0 then [] else [UInt8.ofNat n]) else numEncode (Int.ofNat n)

theorem lockVal_eq (n : Nat) : lockVal n = numEncode (n : Int) := by
  unfold lockVal
  split
  · next hn => exact (numEncode_small hn).symm
  · rfl

/-- the script-number codec round-trips on a lock value of the script (a property of
`Spec/Script.numEncode`/`numDecode`; decidable for every concrete `n`) -/
structure LockOk (env : Env) (n : Nat) : Prop where
  dec5 : numDecode env.flags.minimalNum 5 (lockVal n) = some (Int.ofNat n)
  dec4 : numDecode env.flags.minimalNum 4 (lockVal n) = some (Int.ofNat n)
  pos : 0 < n
  truthy : castToBool (lockVal n) = true
  /-- the value has no BIP112 disable flag (`RelLockTime` guarantees it) -/
  small : n < Script.SEQ_DISABLE

theorem after_ok (ag : Agree env ie) {n : Nat} (h0 : ie.sequence ≠ Interp.SEQ_FINAL)
    (h1 : (n < Interp.LOCKTIME_THRESHOLD ∧ ie.lockTime < Interp.LOCKTIME_THRESHOLD)
      ∨ (n ≥ Interp.LOCKTIME_THRESHOLD ∧ ie.lockTime ≥ Interp.LOCKTIME_THRESHOLD))
    (h2 : n ≤ ie.lockTime) : checkLockTime env n = true := by
  rw [ag.sequence] at h0
  rw [ag.lockTime] at h1 h2
  refine (Sat.checkLockTime_iff env n).mpr ⟨⟨?_, h2⟩, h0⟩
  simp only [Interp.LOCKTIME_THRESHOLD] at h1
  omega

theorem older_ok (ag : Agree env ie) {n : Nat} (h0 : (ie.sequence / Interp.SEQ_DISABLE) % 2 = 0)
    (h1 : (ie.sequence / Interp.SEQ_TYPE) % 2 = 1 ↔ (n / Interp.SEQ_TYPE) % 2 = 1)
    (h2 : n % 65536 ≤ ie.sequence % 65536) : checkSequence env n = true := by
  rw [ag.sequence] at h0 h1 h2
  exact (Sat.checkSequence_iff env n).mpr ⟨ag.version, h0, (Sat.relIsTime_eq_iff _ _).mpr h1.symm, h2⟩

theorem pubkeyOk_flags {env env' : Env} (h : env'.flags = env.flags) (pk : Bytes) : pubkeyOk env' pk = pubkeyOk env pk := by
  unfold pubkeyOk
  rw [h]

/-- `iter_custom` / `iter_assume_sigs`: the same verifier `f` on both sides (the caller's closure
as the interpreter's oracle and as Script's `sigOk`) keeps the agreement, whatever `f` is -/
theorem Agree.withVerifier {env : Env} {ie : IEnv} (ag : Agree env ie) (f : Bytes → Bytes → Bool) :
    Agree { env with sigOk := f } { ie with verifySig := f } where
  sig := fun _ _ h => h
  key := fun pk h => (pubkeyOk_flags rfl pk).trans (ag.key pk h)
  h160 := ag.h160
  hash := ag.hash
  lockTime := ag.lockTime
  sequence := ag.sequence
  version := ag.version

end MsVerif.InterpSound
