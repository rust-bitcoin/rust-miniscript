/-
Conditional balance (`bal`, `balanced`) and the skip lemma: under a `false` on the
condition stack a balanced region only counts its opcodes (`run_skip`), in closed form `skipCount` provided
the op-count limit and the push-size limit cannot both fire in it (`SkipHyp`, `skipRun_eq_skipCount`).
-/
import MsVerif.Lemmas.BridgeBasic

namespace MsVerif.Bridge
open MsVerif MsVerif.Script

/-- relative IF-depth after `ops` when started at depth `d`; `none` if an ELSE / ENDIF occurs at relative
depth 0 -/
def bal : Nat → List Op → Option Nat
  | d, [] => some d
  | d, .code .if_ :: r => bal (d + 1) r
  | d, .code .notif :: r => bal (d + 1) r
  | d, .code .else_ :: r => if d = 0 then none else bal d r
  | d, .code .endif :: r => if d = 0 then none else bal (d - 1) r
  | d, _ :: r => bal d r

def balanced (ops : List Op) : Bool := bal 0 ops == some 0

theorem bal_plain_cons (d : Nat) (op : Op) (r : List Op) (h : Op.plain op = true) :
    bal d (op :: r) = bal d r := by
  cases op with
  | code o => cases o <;> first | rfl | cases h
  | _ => rfl

theorem bal_append (d : Nat) (xs ys : List Op) :
    bal d (xs ++ ys) = (bal d xs).bind (fun d' => bal d' ys) := by
  fun_induction bal d xs
  all_goals simp_all [bal]

theorem bal_shift (d d' k : Nat) (xs : List Op) (h : bal d xs = some d') :
    bal (d + k) xs = some (d' + k) := by
  induction xs generalizing d with
  | nil => cases h; rfl
  | cons op r ih =>
    rcases Op.cases op with hp | ⟨nf, rfl⟩ | rfl | rfl
    · rw [bal_plain_cons _ _ _ hp] at h ⊢
      exact ih d h
    · have h' : bal (d + 1) r = some d' := by cases nf <;> exact h
      have := ih (d + 1) h'
      rw [Nat.add_right_comm] at this
      cases nf <;> exact this
    · cases d with
      | zero => cases h
      | succ d =>
        show (if d + 1 + k = 0 then none else bal (d + 1 + k) r) = _
        rw [if_neg (by omega)]
        exact ih (d + 1) h
    · cases d with
      | zero => cases h
      | succ d =>
        show (if d + 1 + k = 0 then none else bal (d + 1 + k - 1) r) = _
        rw [if_neg (by omega), show d + 1 + k - 1 = d + k by omega]
        exact ih d h

theorem balanced_iff (ops : List Op) : balanced ops = true ↔ bal 0 ops = some 0 := by
  simp [balanced]

theorem bal_of_balanced (d : Nat) (ops : List Op) (h : balanced ops = true) : bal d ops = some d := by
  have := bal_shift 0 0 d ops ((balanced_iff ops).1 h)
  simpa using this

theorem balanced_nil : balanced [] = true := rfl

theorem balanced_append (xs ys : List Op) (hx : balanced xs = true) (hy : balanced ys = true) :
    balanced (xs ++ ys) = true := by
  rw [balanced_iff] at *
  rw [bal_append, hx]; exact hy

theorem balanced_plain_cons (op : Op) (ops : List Op) (h : Op.plain op = true)
    (hy : balanced ops = true) : balanced (op :: ops) = true := by
  rw [balanced_iff] at *
  rw [bal_plain_cons 0 op ops h]; exact hy

theorem bal_append_plain (d : Nat) (pre : List Op) (op : Op) (h : Op.plain op = true) :
    bal d (pre ++ [op]) = bal d pre := by
  rw [bal_append]
  cases bal d pre with
  | none => rfl
  | some d' => simp only [Option.bind_some]; rw [bal_plain_cons d' op [] h]; rfl

theorem balanced_ifThen (nf : Bool) (xs : List Op) (hx : balanced xs = true) :
    balanced (.code (condOpc nf) :: (xs ++ [.code .endif])) = true := by
  rw [balanced_iff]
  have h1 : bal 1 (xs ++ [.code .endif]) = some 0 := by
    rw [bal_append, bal_of_balanced 1 xs hx]; rfl
  cases nf <;> exact h1

theorem balanced_ifElse (nf : Bool) (xs ys : List Op) (hx : balanced xs = true) (hy : balanced ys = true) :
    balanced (.code (condOpc nf) :: (xs ++ .code .else_ :: (ys ++ [.code .endif]))) = true := by
  rw [balanced_iff]
  have h2 : bal 1 (ys ++ [.code .endif]) = some 0 := by
    rw [bal_append, bal_of_balanced 1 ys hy]; rfl
  have h1 : bal 1 (xs ++ .code .else_ :: (ys ++ [.code .endif])) = some 0 := by
    rw [bal_append, bal_of_balanced 1 xs hx]; exact h2
  cases nf <;> exact h1

def skipRun (env : Env) (ops : List Op) (c : Core) : Except Err Core := ops.foldlM (skipStep env) c

theorem skipRun_cons (env : Env) (op : Op) (ops : List Op) (c : Core) :
    skipRun env (op :: ops) c = (skipStep env c op >>= skipRun env ops) := by
  simp only [skipRun, List.foldlM_cons]; rfl

/-- in a dead region that `bal` accepts, the condition stack keeps the `false` it sits under; `inner` is
what the region itself has opened so far -/
theorem deadConds_bal (op : Op) (rest : List Op) (inner outer : List Bool) (d' : Nat)
    (hb : bal inner.length (op :: rest) = some d') :
    ∃ inner', deadConds op (inner ++ false :: outer) = inner' ++ false :: outer ∧
      bal inner'.length rest = some d' := by
  rcases Op.cases op with hp | ⟨nf, rfl⟩ | rfl | rfl
  · exact ⟨inner, deadConds_plain op hp _, by rwa [bal_plain_cons _ _ _ hp] at hb⟩
  · exact ⟨false :: inner, by cases nf <;> rfl, by cases nf <;> exact hb⟩
  · rcases inner with _ | ⟨b, inner0⟩
    · cases hb
    · exact ⟨(!b) :: inner0, rfl, by simpa [bal] using hb⟩
  · rcases inner with _ | ⟨b, inner0⟩
    · cases hb
    · exact ⟨inner0, rfl, by simpa [bal] using hb⟩

theorem run_dead (env : Env) (ops : List Op) (c : Core) (inner outer : List Bool) (d' : Nat)
    (hb : bal inner.length ops = some d') :
    ∃ inner', inner'.length = d' ∧
      run env ops ⟨c, inner ++ false :: outer⟩
        = (skipRun env ops c).map (fun c' => ⟨c', inner' ++ false :: outer⟩) := by
  induction ops generalizing c inner with
  | nil => cases hb; exact ⟨inner, rfl, rfl⟩
  | cons op ops ih =>
    obtain ⟨inner1, hc1, hb1⟩ := deadConds_bal op ops inner outer d' hb
    rw [run_cons, skipRun_cons, step_dead env op c _ (by simp), hc1]
    cases hk : skipStep env c op with
    -- both sides are the error, which does not mention `inner'`: any list of length `d'` will do
    | error e => exact ⟨List.replicate d' true, by simp, rfl⟩
    | ok c1 => exact ih c1 inner1 hb1

theorem run_skip (env : Env) (ops : List Op) (hb : balanced ops = true) (c : Core) (cs : List Bool) :
    run env ops ⟨c, false :: cs⟩ = lift (false :: cs) (skipRun env ops c) := by
  obtain ⟨inner', hl, hrun⟩ := run_dead env ops c [] cs 0 ((balanced_iff ops).1 hb)
  cases inner' with
  | nil => exact hrun
  | cons _ _ => cases hl

def cntLim (env : Env) : Bool := env.flags.opLimit && !env.flags.tapscript

def bigPush (s : List Op) : Bool :=
  s.any (fun o => match o with | .push bs => decide (bs.length > 520) | _ => false)

/-- the closed form `skipCount` reports the errors of a dead region in the same order as the
interpreter: not both limits can fire inside `ops` -/
def SkipHyp (env : Env) (ops : List Op) : Prop :=
  cntLim env = false ∨ env.flags.stackLimits = false ∨ bigPush ops = false

theorem bigPush_nil : bigPush [] = false := rfl

theorem bigPush_cons (op : Op) (ops : List Op) :
    bigPush (op :: ops) = ((match op with | .push bs => decide (bs.length > 520) | _ => false) || bigPush ops) := by
  simp [bigPush]

theorem bigPush_append (xs ys : List Op) : bigPush (xs ++ ys) = (bigPush xs || bigPush ys) := by
  simp [bigPush]

theorem SkipHyp.mono {env : Env} {xs ys : List Op} (h : SkipHyp env ys)
    (hsub : bigPush ys = false → bigPush xs = false) : SkipHyp env xs := by
  rcases h with h | h | h
  · exact .inl h
  · exact .inr (.inl h)
  · exact .inr (.inr (hsub h))

theorem SkipHyp.left {env : Env} {xs ys : List Op} (h : SkipHyp env (xs ++ ys)) : SkipHyp env xs :=
  h.mono fun hb => by rw [bigPush_append, Bool.or_eq_false_iff] at hb; exact hb.1

theorem SkipHyp.right {env : Env} {xs ys : List Op} (h : SkipHyp env (xs ++ ys)) : SkipHyp env ys :=
  h.mono fun hb => by rw [bigPush_append, Bool.or_eq_false_iff] at hb; exact hb.2

theorem SkipHyp.tail {env : Env} {op : Op} {xs : List Op} (h : SkipHyp env (op :: xs)) : SkipHyp env xs :=
  SkipHyp.right (xs := [op]) h

/-- the opcode counter is within the limit (true after every successful `countOp`) -/
def CntOk (env : Env) (c : Core) : Prop := cntLim env = true → c.ops ≤ 201

theorem countOp_eq (env : Env) (c : Core) (n : Nat) :
    countOp env c n = if cntLim env && decide (c.ops + n > 201) then .error .opCount
      else .ok { c with ops := c.ops + n } := rfl

theorem countOp_cntOk (env : Env) (c c' : Core) (n : Nat) (h : countOp env c n = .ok c') : CntOk env c' := by
  rw [countOp_eq] at h
  split at h
  · cases h
  · rename_i hn
    cases h
    intro hl
    simp only [hl, Bool.true_and, decide_eq_true_eq] at hn
    show c.ops + n ≤ 201
    omega

theorem countOp_zero (env : Env) (c : Core) (h : CntOk env c) : countOp env c 0 = .ok c := by
  rw [countOp_eq]
  split
  · rename_i hn
    simp only [Bool.and_eq_true, decide_eq_true_eq] at hn
    have := h hn.1
    omega
  · rfl

theorem skipCount_eq (env : Env) (ops : List Op) (c : Core) :
    skipCount env ops c =
      if env.flags.stackLimits && bigPush ops then .error .pushSize else countOp env c (codeCount ops) := rfl

theorem skipRun_eq_skipCount (env : Env) (ops : List Op) (c : Core) (hk : SkipHyp env ops)
    (hc : CntOk env c) : skipRun env ops c = skipCount env ops c := by
  induction ops generalizing c with
  | nil =>
    rw [skipCount_eq]
    simp only [bigPush, List.any_nil, Bool.and_false, Bool.false_eq_true, if_false]
    show Except.ok c = countOp env c 0
    rw [countOp_zero env c hc]
  | cons op ops ih =>
    have hk' := hk.tail
    rw [skipRun_cons]
    cases op with
    | code o =>
      rw [skipCount_eq, bigPush_cons, codeCount_code]
      simp only [skipStep, Bool.false_or]
      cases hb : env.flags.stackLimits && bigPush ops
      · rw [if_neg Bool.false_ne_true, ← countOp_countOp]
        cases h1 : countOp env c 1 with
        | error e => rfl
        | ok c1 => rw [bind_ok, bind_ok, ih c1 hk' (countOp_cntOk env c c1 1 h1), skipCount_eq, hb]; rfl
      · -- an oversized push follows: the count limit must be off, so counting cannot fail first
        have hcl : cntLim env = false := by
          rcases hk' with h | h | h
          · exact h
          · rw [h] at hb; cases hb
          · rw [h, Bool.and_false] at hb; cases hb
        rw [countOp_eq, hcl, Bool.false_and, if_neg Bool.false_ne_true, bind_ok,
          ih _ hk' (fun h => by rw [hcl] at h; cases h), skipCount_eq, hb]
        rfl
    | push bs =>
      rw [skipCount_eq, bigPush_cons, codeCount_cons_plain _ _ (by intro o h; cases h), Bool.and_or_distrib_left]
      simp only [skipStep]
      cases env.flags.stackLimits && decide (bs.length > 520)
      · exact ih c hk' hc
      · rfl
    | small _ | bad _ =>
      simp only [skipStep, bind_ok]
      rw [ih c hk' hc, skipCount_eq, skipCount_eq, bigPush_cons,
        codeCount_cons_plain _ _ (by intro o h; cases h)]
      simp only [Bool.false_or]

end MsVerif.Bridge
