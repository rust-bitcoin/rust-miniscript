/- The spellings of a miniscript as a relation (`Spells`), so that mixed spellings such as `and_v(pk(K),1)` are
covered.  The parser inverts every spelling (`Spells.parse`, one case per rule, from `fromTreeI_core` and the `core_*` lemmas of
DisplayRound); `Display`'s printer `toTreeW` and the printer without any sugar `plainTreeW` are two functions into
the relation. -/
import MsVerif.Lemmas.DisplayRound

namespace MsVerif.Display
open MsVerif.Expr

mutual
/-- the tree of the spelling without any syntactic sugar -/
def plainTreeW (c : Codec) (pre : List Char) : Ms → Tree
  | .tru => core pre .tru []
  | .fls => core pre .fls []
  | .pkK k => core pre .pk_k [leaf (c.showKey k)]
  | .pkH k => core pre .pk_h [leaf (c.showKey k)]
  | .rawPkH h => core pre .rawPkh [leaf (c.showRaw h)]
  | .after n => core pre .after [leaf (showNat n)]
  | .older n => core pre .older [leaf (showNat n)]
  | .hash kind h => core pre (hashFrag kind) [leaf (c.showHash kind h)]
  | .alt x => plainTreeW c (pre ++ ['a']) x
  | .swap x => plainTreeW c (pre ++ ['s']) x
  | .check x => plainTreeW c (pre ++ ['c']) x
  | .dupIf x => plainTreeW c (pre ++ ['d']) x
  | .verify x => plainTreeW c (pre ++ ['v']) x
  | .nonZero x => plainTreeW c (pre ++ ['j']) x
  | .zeroNotEqual x => plainTreeW c (pre ++ ['n']) x
  | .andV l r => core pre .and_v [plainTreeW c [] l, plainTreeW c [] r]
  | .andB l r => core pre .and_b [plainTreeW c [] l, plainTreeW c [] r]
  | .andOr a b z => core pre .andor [plainTreeW c [] a, plainTreeW c [] b, plainTreeW c [] z]
  | .orB l r => core pre .or_b [plainTreeW c [] l, plainTreeW c [] r]
  | .orD l r => core pre .or_d [plainTreeW c [] l, plainTreeW c [] r]
  | .orC l r => core pre .or_c [plainTreeW c [] l, plainTreeW c [] r]
  | .orI l r => core pre .or_i [plainTreeW c [] l, plainTreeW c [] r]
  | .thresh k xs => core pre .thresh (leaf (showNat k) :: plainTreeList c xs)
  | .multi k ks => core pre .multi (leaf (showNat k) :: ks.map (fun k => leaf (c.showKey k)))
  | .sortedMulti k ks => core pre .sortedmulti (leaf (showNat k) :: ks.map (fun k => leaf (c.showKey k)))
  | .multiA k ks => core pre .multi_a (leaf (showNat k) :: ks.map (fun k => leaf (c.showKey k)))
  | .sortedMultiA k ks => core pre .sortedmulti_a (leaf (showNat k) :: ks.map (fun k => leaf (c.showKey k)))
def plainTreeList (c : Codec) : MsList → List Tree
  | .nil => []
  | .cons x xs => plainTreeW c [] x :: plainTreeList c xs
end

def plainTree (c : Codec) (m : Ms) : Tree := plainTreeW c [] m

theorem plainTreeList_length (c : Codec) : ∀ xs : MsList, (plainTreeList c xs).length = xs.length
  | .nil => rfl
  | .cons _ xs => by simp [plainTreeList, MsList.length, plainTreeList_length c xs]

/-- a fragment printed with one atom: its text and the term it stands for (`pk`, `pkh` are sugar) -/
inductive Leaf1 (c : Codec) : Frag → List Char → Ms → Prop
  | pk_k (k : Nat) : Leaf1 c .pk_k (c.showKey k) (.pkK k)
  | pk_h (k : Nat) : Leaf1 c .pk_h (c.showKey k) (.pkH k)
  | raw (h : Nat) : Leaf1 c .rawPkh (c.showRaw h) (.rawPkH h)
  | after (n : Nat) : Leaf1 c .after (showNat n) (.after n)
  | older (n : Nat) : Leaf1 c .older (showNat n) (.older n)
  | hash (kind : HashKind) (h : Nat) : Leaf1 c (hashFrag kind) (c.showHash kind h) (.hash kind h)
  | pk (k : Nat) : Leaf1 c .pk (c.showKey k) (.check (.pkK k))
  | pkh (k : Nat) : Leaf1 c .pkh (c.showKey k) (.check (.pkH k))

/-- the fragments with two sub-expressions (`and_n(X,Y)` is sugar for `andor(X,Y,0)`) -/
inductive Bin : Frag → (Ms → Ms → Ms) → Prop
  | and_v : Bin .and_v .andV
  | and_b : Bin .and_b .andB
  | or_b : Bin .or_b .orB
  | or_d : Bin .or_d .orD
  | or_c : Bin .or_c .orC
  | or_i : Bin .or_i .orI
  | and_n : Bin .and_n (fun x y => .andOr x y .fls)

/-- the key thresholds with the `MAX` of their `Threshold` type -/
inductive Keys : Frag → (Nat → List Nat → Ms) → Nat → Prop
  | multi : Keys .multi .multi 20
  | sortedmulti : Keys .sortedmulti .sortedMulti 20
  | multi_a : Keys .multi_a .multiA 999
  | sortedmulti_a : Keys .sortedmulti_a .sortedMultiA 999

/-- `Spells c pre t m`: below wrapper characters `pre` already written, `t` is a spelling of `m`; a wrapper (`t:`,
`u:`, `l:` included) may be handed to the prefix at any node; atoms are spelt as the codec prints them. -/
inductive Spells (c : Codec) : List Char → Tree → Ms → Prop
  | wrap (w : W) {pre : List Char} {t : Tree} {x : Ms} :
      Spells c (pre ++ [w.char]) t x → Spells c pre t (w.apply x)
  | tru (pre : List Char) : Spells c pre (core pre .tru []) .tru
  | fls (pre : List Char) : Spells c pre (core pre .fls []) .fls
  | leaf1 (pre : List Char) {f : Frag} {s : List Char} {m : Ms} :
      Leaf1 c f s m → Spells c pre (core pre f [leaf s]) m
  | bin (pre : List Char) {f : Frag} {g : Ms → Ms → Ms} {tl tr : Tree} {l r : Ms} :
      Bin f g → Spells c [] tl l → Spells c [] tr r → Spells c pre (core pre f [tl, tr]) (g l r)
  | andor (pre : List Char) {ta tb tz : Tree} {a b z : Ms} :
      Spells c [] ta a → Spells c [] tb b → Spells c [] tz z →
      Spells c pre (core pre .andor [ta, tb, tz]) (.andOr a b z)
  | thresh (pre : List Char) (k : Nat) {cs : List Tree} {xs : MsList} :
      cs.length = xs.length → (∀ p ∈ cs.zip xs.toList, Spells c [] p.1 p.2) →
      Spells c pre (core pre .thresh (leaf (showNat k) :: cs)) (.thresh k xs)
  | keys (pre : List Char) {f : Frag} {g : Nat → List Nat → Ms} {max : Nat} (k : Nat) (ks : List Nat) :
      Keys f g max →
      Spells c pre (core pre f (leaf (showNat k) :: ks.map (fun k => leaf (c.showKey k)))) (g k ks)

/-- a mixed spelling: `and_v(pk(K),1)` -/
example (c : Codec) (k : Nat) :
    Spells c [] (core [] .and_v [core [] .pk [leaf (c.showKey k)], core [] .tru []])
      (.andV (.check (.pkK k)) .tru) :=
  .bin [] .and_v (.leaf1 [] (.pk k)) (.tru [])

theorem all_apply (p : Ms → Bool) (w : W) (x : Ms) (h : Ms.all p (w.apply x) = true) :
    p (w.apply x) = true ∧ Ms.all p x = true := by
  cases w <;> simp only [W.apply, Ms.all, Bool.and_eq_true] at h
  case t | u => exact h.1
  case l => exact ⟨h.1.1, h.2⟩
  all_goals exact h

theorem Bin.all {f : Frag} {g : Ms → Ms → Ms} (hb : Bin f g) (p : Ms → Bool) (l r : Ms)
    (h : Ms.all p (g l r) = true) : p (g l r) = true ∧ Ms.all p l = true ∧ Ms.all p r = true := by
  cases hb <;> simp only [Ms.all, Bool.and_eq_true] at h
  case and_n => exact ⟨h.1.1.1, h.1.1.2, h.1.2⟩
  all_goals exact ⟨h.1.1, h.1.2, h.2⟩

theorem MsList.all_mem (p : Ms → Bool) : ∀ xs : MsList, MsList.all p xs = true → ∀ x ∈ xs.toList, Ms.all p x = true
  | .nil, _, _, hx => nomatch hx
  | .cons y ys, h, x, hx => by
    simp only [MsList.all, Bool.and_eq_true] at h
    rcases List.mem_cons.mp hx with rfl | hx
    · exact h.1
    · exact MsList.all_mem p ys h.2 x hx

theorem Bin.parse {f : Frag} {g : Ms → Ms → Ms} (hb : Bin f g) (c : Codec) (cs : List Tree)
    (kids : List (R Ms)) : parseCore c f cs kids = binary c kids g := by
  cases hb <;> rfl

theorem Keys.parse {f : Frag} {g : Nat → List Nat → Ms} {max : Nat} (hk : Keys f g max) (c : Codec)
    (cs : List Tree) (kids : List (R Ms)) : parseCore c f cs kids = keysThresh c max cs g ∧ max ≤ 999 := by
  cases hk <;> exact ⟨rfl, by decide⟩

theorem Keys.local {f : Frag} {g : Nat → List Nat → Ms} {max : Nat} (hk : Keys f g max) (c : Codec)
    (k : Nat) (ks : List Nat) (hn : nodeOk c (g k ks) = true) :
    (1 ≤ k ∧ k ≤ ks.length ∧ ks.length ≤ max) ∧
      ks.all (fun k => c.readKey (c.showKey k) == some k) = true := by
  cases hk <;> exact ⟨of_decide_eq_true (nodeOk_local hn), nodeOk_atoms hn⟩

theorem Leaf1.parse {c : Codec} {f : Frag} {s : List Char} {m : Ms} (h : Leaf1 c f s m)
    (hall : Ms.all (nodeOk c) m = true) (kids : List (R Ms)) : parseCore c f [leaf s] kids = .ok m := by
  cases h with
  | pk_k k => exact termParent_leaf _ c.readKey .pkK k (eq_of_beq (nodeOk_atoms hall))
  | pk_h k => exact termParent_leaf _ c.readKey .pkH k (eq_of_beq (nodeOk_atoms hall))
  | raw h => exact termParent_leaf _ c.readRaw .rawPkH h (eq_of_beq (nodeOk_atoms hall))
  | after n => exact lockParent_leaf n .after (of_decide_eq_true (nodeOk_local hall))
  | older n => exact lockParent_leaf n .older (of_decide_eq_true (nodeOk_local hall))
  | hash kind h =>
    have ha := eq_of_beq (nodeOk_atoms hall)
    cases kind <;> exact termParent_leaf _ _ _ h ha
  | pk k =>
    simp only [Ms.all, Bool.and_eq_true] at hall
    exact termParent_leaf _ _ _ k (eq_of_beq (nodeOk_atoms hall.2))
  | pkh k =>
    simp only [Ms.all, Bool.and_eq_true] at hall
    exact termParent_leaf _ _ _ k (eq_of_beq (nodeOk_atoms hall.2))

theorem fromTreeL_zip (c : Codec) : ∀ (cs : List Tree) (l : List Ms), cs.length = l.length →
    (∀ p ∈ cs.zip l, fromTreeI c p.1 = .ok p.2) → fromTreeL c cs = l.map Except.ok
  | [], [], _, _ => rfl
  | [], _ :: _, h, _ => nomatch h
  | _ :: _, [], h, _ => nomatch h
  | t :: cs, x :: l, h, hp => by
    rw [fromTreeL, List.map_cons, hp (t, x) (by simp),
      fromTreeL_zip c cs l (by simpa using h) fun p hm => hp p (by simp [hm])]

theorem Spells.parse {c : Codec} {pre : List Char} {t : Tree} {m : Ms} (h : Spells c pre t m) :
    ∀ ws : List W, pre = ws.map W.char → Ms.all (nodeOk c) m = true →
      fromTreeI c t = wrapAll c ws (.ok m) := by
  induction h with
  | wrap w _ ih =>
    intro ws e hall
    obtain ⟨hn, hx⟩ := all_apply _ w _ hall
    rw [ih (ws ++ [w]) (by rw [e, List.map_append]; rfl) hx, wrapAll_snoc]
    simp only [mk_ok c _ hn]
  | tru pre => intro ws e _; subst e; exact fromTreeI_core c ws .tru [] .tru rfl
  | fls pre => intro ws e _; subst e; exact fromTreeI_core c ws .fls [] .fls rfl
  | leaf1 pre hl => intro ws e hall; subst e; exact fromTreeI_core c ws _ _ _ (hl.parse hall _)
  | bin pre hb _ _ il ir =>
    intro ws e hall; subst e
    obtain ⟨hn, hl, hr⟩ := hb.all _ _ _ hall
    exact core_binary c ws _ _ (hb.parse c) (il [] rfl hl) (ir [] rfl hr) hn
  | andor pre _ _ _ ia ib iz =>
    intro ws e hall; subst e
    simp only [Ms.all, Bool.and_eq_true] at hall
    exact core_andor c ws (ia [] rfl hall.1.1.2) (ib [] rfl hall.1.2) (iz [] rfl hall.2) hall.1.1.1
  | thresh pre k hlen _ ih =>
    intro ws e hall; subst e
    simp only [Ms.all, Bool.and_eq_true] at hall
    refine core_thresh c ws k (fromTreeL_zip c _ _ (hlen.trans (MsList.length_toList _).symm) ?_) hlen hall.1
    exact fun p hp => ih p hp [] rfl (MsList.all_mem _ _ hall.2 p.2 (List.of_mem_zip hp).2)
  | keys pre k ks hk =>
    intro ws e hall; subst e
    have hn := root_of_all _ _ hall
    obtain ⟨hloc, hat⟩ := hk.local c k ks hn
    exact core_keys c ws _ _ _ k ks (fun cs kids => (hk.parse c cs kids).1) (hk.parse c [] []).2 hloc hn hat

theorem zip_cons_mem {α β} {P : α × β → Prop} {a : α} {b : β} {as : List α} {bs : List β}
    (h0 : P (a, b)) (h : ∀ p ∈ as.zip bs, P p) : ∀ p ∈ (a :: as).zip (b :: bs), P p := by
  intro p hp
  rcases List.mem_cons.mp hp with rfl | hp
  · exact h0
  · exact h p hp

mutual
theorem plainTreeW_spells (c : Codec) : ∀ (m : Ms) (pre : List Char), Spells c pre (plainTreeW c pre m) m
  | .tru, pre => .tru pre
  | .fls, pre => .fls pre
  | .pkK k, pre => .leaf1 pre (.pk_k k)
  | .pkH k, pre => .leaf1 pre (.pk_h k)
  | .rawPkH h, pre => .leaf1 pre (.raw h)
  | .after n, pre => .leaf1 pre (.after n)
  | .older n, pre => .leaf1 pre (.older n)
  | .hash kind h, pre => .leaf1 pre (.hash kind h)
  | .alt x, _ => .wrap .a (plainTreeW_spells c x _)
  | .swap x, _ => .wrap .s (plainTreeW_spells c x _)
  | .check x, _ => .wrap .c (plainTreeW_spells c x _)
  | .dupIf x, _ => .wrap .d (plainTreeW_spells c x _)
  | .verify x, _ => .wrap .v (plainTreeW_spells c x _)
  | .nonZero x, _ => .wrap .j (plainTreeW_spells c x _)
  | .zeroNotEqual x, _ => .wrap .n (plainTreeW_spells c x _)
  | .andV l r, pre => .bin pre .and_v (plainTreeW_spells c l []) (plainTreeW_spells c r [])
  | .andB l r, pre => .bin pre .and_b (plainTreeW_spells c l []) (plainTreeW_spells c r [])
  | .orB l r, pre => .bin pre .or_b (plainTreeW_spells c l []) (plainTreeW_spells c r [])
  | .orD l r, pre => .bin pre .or_d (plainTreeW_spells c l []) (plainTreeW_spells c r [])
  | .orC l r, pre => .bin pre .or_c (plainTreeW_spells c l []) (plainTreeW_spells c r [])
  | .orI l r, pre => .bin pre .or_i (plainTreeW_spells c l []) (plainTreeW_spells c r [])
  | .andOr a b z, pre =>
    .andor pre (plainTreeW_spells c a []) (plainTreeW_spells c b []) (plainTreeW_spells c z [])
  | .thresh k xs, pre => .thresh pre k (plainTreeList_length c xs) (plainTreeList_spells c xs)
  | .multi k ks, pre => .keys pre k ks .multi
  | .sortedMulti k ks, pre => .keys pre k ks .sortedmulti
  | .multiA k ks, pre => .keys pre k ks .multi_a
  | .sortedMultiA k ks, pre => .keys pre k ks .sortedmulti_a
theorem plainTreeList_spells (c : Codec) :
    ∀ xs : MsList, ∀ p ∈ (plainTreeList c xs).zip xs.toList, Spells c [] p.1 p.2
  | .nil => nofun
  | .cons x xs => zip_cons_mem (plainTreeW_spells c x []) (plainTreeList_spells c xs)
end

mutual
theorem toTreeW_spells (c : Codec) : ∀ (m : Ms) (pre : List Char), Spells c pre (toTreeW c pre m) m
  | .tru, pre => .tru pre
  | .fls, pre => .fls pre
  | .pkK k, pre => .leaf1 pre (.pk_k k)
  | .pkH k, pre => .leaf1 pre (.pk_h k)
  | .rawPkH h, pre => .leaf1 pre (.raw h)
  | .after n, pre => .leaf1 pre (.after n)
  | .older n, pre => .leaf1 pre (.older n)
  | .hash kind h, pre => .leaf1 pre (.hash kind h)
  | .alt x, _ => .wrap .a (toTreeW_spells c x _)
  | .swap x, _ => .wrap .s (toTreeW_spells c x _)
  | .dupIf x, _ => .wrap .d (toTreeW_spells c x _)
  | .verify x, _ => .wrap .v (toTreeW_spells c x _)
  | .nonZero x, _ => .wrap .j (toTreeW_spells c x _)
  | .zeroNotEqual x, _ => .wrap .n (toTreeW_spells c x _)
  | .check x, pre => by
    have ih := toTreeW_spells c x (pre ++ ['c'])
    rw [toTreeW]
    rcases sugarCheck_cases c x with hnone | ⟨k, rfl⟩ | ⟨k, rfl⟩
    · rw [hnone]; exact .wrap .c ih
    · exact .leaf1 pre (.pk k)
    · exact .leaf1 pre (.pkh k)
  | .andV l r, pre => by
    have il := toTreeW_spells c l
    have ir := toTreeW_spells c r []
    rw [toTreeW]
    split
    · subst r; exact .wrap .t (il _)
    · exact .bin pre .and_v (il []) ir
  | .andB l r, pre => .bin pre .and_b (toTreeW_spells c l []) (toTreeW_spells c r [])
  | .orB l r, pre => .bin pre .or_b (toTreeW_spells c l []) (toTreeW_spells c r [])
  | .orD l r, pre => .bin pre .or_d (toTreeW_spells c l []) (toTreeW_spells c r [])
  | .orC l r, pre => .bin pre .or_c (toTreeW_spells c l []) (toTreeW_spells c r [])
  | .orI l r, pre => by
    have il := toTreeW_spells c l
    have ir := toTreeW_spells c r
    rw [toTreeW]
    split
    · subst r
      split
      · subst l; exact .wrap .u (ir _)
      · exact .wrap .u (il _)
    · split
      · subst l; exact .wrap .l (ir _)
      · exact .bin pre .or_i (il []) (ir [])
  | .andOr a b z, pre => by
    have ia := toTreeW_spells c a []
    have ib := toTreeW_spells c b []
    have iz := toTreeW_spells c z []
    rw [toTreeW]
    split
    · subst z; exact (Spells.bin pre Bin.and_n ia ib :)
    · exact .andor pre ia ib iz
  | .thresh k xs, pre => .thresh pre k (toTreeList_length c xs) (toTreeList_spells c xs)
  | .multi k ks, pre => .keys pre k ks .multi
  | .sortedMulti k ks, pre => .keys pre k ks .sortedmulti
  | .multiA k ks, pre => .keys pre k ks .multi_a
  | .sortedMultiA k ks, pre => .keys pre k ks .sortedmulti_a
theorem toTreeList_spells (c : Codec) :
    ∀ xs : MsList, ∀ p ∈ (toTreeList c xs).zip xs.toList, Spells c [] p.1 p.2
  | .nil => nofun
  | .cons x xs => zip_cons_mem (toTreeW_spells c x []) (toTreeList_spells c xs)
end

theorem rtL (c : Codec) :
    ∀ (xs : MsList), MsList.all (nodeOk c) xs = true →
      fromTreeL c (toTreeList c xs) = xs.toList.map Except.ok :=
  fun xs h => fromTreeL_zip c _ _ ((toTreeList_length c xs).trans (MsList.length_toList xs).symm) fun p hp =>
    (toTreeList_spells c xs p hp).parse [] rfl (MsList.all_mem _ _ h p.2 (List.of_mem_zip hp).2)

theorem rtXL (c : Codec) :
    ∀ (xs : MsList), MsList.all (nodeOk c) xs = true →
      fromTreeL c (plainTreeList c xs) = xs.toList.map Except.ok :=
  fun xs h => fromTreeL_zip c _ _ ((plainTreeList_length c xs).trans (MsList.length_toList xs).symm) fun p hp =>
    (plainTreeList_spells c xs p hp).parse [] rfl (MsList.all_mem _ _ h p.2 (List.of_mem_zip hp).2)

theorem hasCurly_core (pre : List Char) (f : Frag) (cs : List Tree) (h : hasCurlyL cs = false) :
    hasCurly (core pre f cs) = false := by
  unfold core
  cases cs <;> simp_all [hasCurly]

theorem fromTree_of (c : Codec) (t : Tree) (m : Ms) (hc : hasCurly t = false)
    (hi : fromTreeI c t = .ok m) (h : Ms.all (nodeOk c) m = true) : fromTree c t = .ok m := by
  have hg : Ms.all c.gv m = true :=
    all_mono (nodeOk c) c.gv (fun x hx => ((nodeOk_iff c x).1 hx).2.2.1) m h
  simp [fromTree, hc, hi, hg]

end MsVerif.Display
