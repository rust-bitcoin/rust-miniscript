/-
The decoder normal form keeps the ENCODING (not only the token list): `encode (norm ms) = encode ms`
— `push_verify` only looks at the last opcode, so it commutes with floating `and_v` operands out.
-/
import MsVerif.Lemmas.NormRel
import MsVerif.Lemmas.CoreEncode

namespace MsVerif
namespace NormL
open Script

variable (env : KeyEnv) (ctx : Ctx)

theorem pushVerify_append (a b : List Op) (hb : b ≠ []) : pushVerify (a ++ b) = a ++ pushVerify b := by
  have h1 : (a ++ b).getLast? = b.getLast? := by
    cases hg : b.getLast? with
    | none => exact absurd (by simpa using hg) hb
    | some x => simp [List.getLast?_append, hg]
  have h2 : (a ++ b).dropLast = a ++ b.dropLast := List.dropLast_append_of_ne_nil hb
  unfold pushVerify
  rw [h1, h2]
  split <;> simp [List.append_assoc]

theorem encRel : NormRel (fun a b => encode env ctx a = encode env ctx b)
    (fun xs ys => ∀ first, encodeThresh env ctx first xs = encodeThresh env ctx first ys) where
  refl _ := rfl
  trans := Eq.trans
  alt e := by simp only [encode, e]
  swap e := by simp only [encode, e]
  check e := by simp only [encode, e]
  dupIf e := by simp only [encode, e]
  verify e := by simp only [encode, e]
  nonZero e := by simp only [encode, e]
  zeroNotEqual e := by simp only [encode, e]
  andV e e' := by simp only [encode, e, e']
  andB e e' := by simp only [encode, e, e']
  orB e e' := by simp only [encode, e, e']
  orD e e' := by simp only [encode, e, e']
  orC e e' := by simp only [encode, e, e']
  orI e e' := by simp only [encode, e, e']
  andOr e e' e'' := by simp only [encode, e, e', e'']
  thresh e := by simp only [encode, e]
  nil _ := rfl
  cons e e' _ := by simp only [encodeThresh, e, e']
  assoc := by simp [encode]
  fCheck := by simp [encode]
  fVerify := by simp only [encode]; exact (pushVerify_append _ _ (encode_ne_nil env ctx _)).symm
  fZne := by simp [encode]
  fAndB := by simp [encode]
  fOrB := by simp [encode]
  fOrD := by simp [encode]
  fOrC := by simp [encode]
  fAndOr := by simp [encode]
  fThresh := by simp [encode, encodeThresh]

theorem encode_norm (ms : Ms) : encode env ctx (norm ms) = encode env ctx ms :=
  (encRel env ctx).norm_rel ms
theorem encode_normList (first : Bool) : (xs : MsList) →
    encodeThresh env ctx first (normList xs) = encodeThresh env ctx first xs :=
  fun xs => (encRel env ctx).normList_rel xs first

end NormL
end MsVerif
