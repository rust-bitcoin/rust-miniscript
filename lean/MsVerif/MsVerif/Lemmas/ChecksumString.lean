/-
String-level lemmas for C10: whole-string engine runs and their finalisation, the output
characters, the `#` scan of `verify_checksum`, and a run seen as a stream of symbols.
-/
import MsVerif.Lemmas.ChecksumEngine

namespace MsVerif.Checksum

def AllValid (s : List Char) : Prop := ∀ c ∈ s, validChar c = true

theorem allValid_iff (s : List Char) : s.all validChar = true ↔ AllValid s := by
  simp [AllValid, List.all_eq_true]

theorem AllValid.append {s t : List Char} (hs : AllValid s) (ht : AllValid t) : AllValid (s ++ t) :=
  List.forall_mem_append.2 ⟨hs, ht⟩

theorem AllValid.cons {c : Char} {t : List Char} (hc : validChar c = true) (ht : AllValid t) :
    AllValid (c :: t) :=
  List.forall_mem_cons.2 ⟨hc, ht⟩

theorem AllValid.of_cons {c : Char} {t : List Char} (h : AllValid (c :: t)) :
    validChar c = true ∧ AllValid t :=
  List.forall_mem_cons.1 h

theorem AllValid.of_append {s t : List Char} (h : AllValid (s ++ t)) : AllValid s ∧ AllValid t :=
  List.forall_mem_append.1 h

theorem pos_of_valid (c : Char) (h : validChar c = true) : ∃ p, charMap? c.toNat = some p ∧ p < 95 :=
  charMap?_valid _ ((validChar_iff c).mp h)

theorem inputUnchecked_append (en : Engine) (s t : List Char) :
    en.inputUnchecked (s ++ t) = (en.inputUnchecked s).bind (·.inputUnchecked t) := by
  induction s generalizing en with
  | nil => rfl
  | cons c cs ih =>
    simp only [List.cons_append, Engine.inputUnchecked]
    cases en.inputByte c.toNat with
    | none => rfl
    | some e' => exact ih e'

def tail8 (r : W) : W := [0, 0, 0, 0, 0, 0, 0, 1].foldl inputFe r

/-- residue after the pending class symbol (what `checksum_chars` does first) -/
def preTail (en : Engine) : W :=
  if en.clscount > 0 then inputFe en.residue en.cls else en.residue

theorem finalResidue_eq {en : Engine} (w : WF en) :
    en.finalResidue = some (tail8 (preTail en)) := by
  unfold Engine.finalResidue preTail
  by_cases h : en.clscount > 0
  · simp [h, inputFeChecked, WF_cls_lt w, tail8]
  · simp [h, tail8]

theorem charsLower_inj : ∀ i, i < 32 → ∀ j, j < 32 →
    CHARS_LOWER.getD i 'q' = CHARS_LOWER.getD j 'q' → i = j := by decide +kernel

theorem charsLower_ok : ∀ i, i < 32 →
    (validChar (CHARS_LOWER.getD i 'q') = true ∧ CHARS_LOWER.getD i 'q' ≠ '#') := by decide +kernel

theorem residueChars_get (r : W) (j : Nat) (hj : j < 8) :
    (residueChars r)[j]? = some (CHARS_LOWER.getD (unpack r (7 - j)) 'q') := by
  have : j = 0 ∨ j = 1 ∨ j = 2 ∨ j = 3 ∨ j = 4 ∨ j = 5 ∨ j = 6 ∨ j = 7 := by omega
  rcases this with rfl | rfl | rfl | rfl | rfl | rfl | rfl | rfl <;> rfl

theorem residueChars_inj {a b : W} (h : residueChars a = residueChars b) : a = b := by
  apply ext_digits
  intro n hn
  have e := residueChars_get a (7 - n) (by omega)
  rw [h, residueChars_get b _ (by omega), show 7 - (7 - n) = n by omega] at e
  exact (charsLower_inj _ (unpack_lt b n) _ (unpack_lt a n) (Option.some.inj e)).symm

theorem residueChars_length (r : W) : (residueChars r).length = 8 := by
  simp [residueChars]

theorem residueChars_ok (r : W) : ∀ c ∈ residueChars r, validChar c = true ∧ c ≠ '#' := by
  intro c hc
  unfold residueChars at hc
  simp only [List.map, List.mem_cons, List.not_mem_nil, or_false] at hc
  rcases hc with h | h | h | h | h | h | h | h <;> rw [h] <;> exact charsLower_ok _ (unpack_lt _ _)

theorem input_eq {en : Engine} {s : List Char} (hs : AllValid s) :
    en.input s = en.inputUnchecked s := by
  unfold Engine.input
  rw [(allValid_iff s).mpr hs]; rfl

theorem checksumOf_invalid {s : List Char} (hs : ¬ AllValid s) : checksumOf s = none := by
  unfold checksumOf Engine.input
  have : ¬ (s.all validChar = true) := fun h => hs ((allValid_iff s).mp h)
  simp [this]

theorem scanHash_invalid {l : List Char} (h : ¬ AllValid l) (pos last : Nat) :
    scanHash l pos last = none := by
  induction l generalizing pos last with
  | nil => exact absurd (fun c hc => by cases hc) h
  | cons c cs ih =>
    unfold scanHash
    by_cases hc : validChar c = true
    · simp only [hc, Bool.not_true, Bool.false_eq_true, if_false]
      apply ih
      intro hcs; exact h (AllValid.cons hc hcs)
    · simp [hc]

theorem scanHash_nohash {l : List Char} (hv : AllValid l) (hn : '#' ∉ l) (pos last : Nat) :
    scanHash l pos last = some last := by
  induction l generalizing pos last with
  | nil => rfl
  | cons c cs ih =>
    obtain ⟨hc, hcs⟩ := hv.of_cons
    unfold scanHash
    have : c ≠ '#' := fun e => hn (e ▸ List.mem_cons_self)
    simp only [hc, Bool.not_true, Bool.false_eq_true, if_false, this]
    exact ih hcs (fun h => hn (List.mem_cons_of_mem _ h)) _ _

theorem scanHash_append {a b : List Char} (ha : AllValid a) (hb : AllValid b) (hn : '#' ∉ b)
    (pos last : Nat) : scanHash (a ++ '#' :: b) pos last = some (pos + a.length) := by
  induction a generalizing pos last with
  | nil =>
    simp only [List.nil_append, scanHash, List.length_nil, Nat.add_zero]
    have : validChar '#' = true := by decide
    simp only [this, Bool.not_true, Bool.false_eq_true, if_false, if_true]
    exact scanHash_nohash hb hn _ _
  | cons c cs ih =>
    obtain ⟨hc, hcs⟩ := ha.of_cons
    simp only [List.cons_append, scanHash, hc, Bool.not_true, Bool.false_eq_true, if_false]
    rw [ih hcs]
    simp only [List.length_cons]
    congr 1; omega

theorem last_hash_split : ∀ {l : List Char}, '#' ∈ l → ∃ u v, l = u ++ '#' :: v ∧ '#' ∉ v
  | [], h => by cases h
  | c :: cs, h => by
    by_cases hin : '#' ∈ cs
    · obtain ⟨u, v, e, hv⟩ := last_hash_split hin
      exact ⟨c :: u, v, by rw [e]; rfl, hv⟩
    · rcases List.mem_cons.mp h with e | e
      · exact ⟨[], cs, by rw [← e]; rfl, hin⟩
      · exact absurd e hin

theorem verify_invalid {t : List Char} (h : ¬ AllValid t) :
    verifyChecksumL t = .err .invalidCharacter := by
  unfold verifyChecksumL
  rw [scanHash_invalid h]

theorem verify_nohash {t : List Char} (hv : AllValid t) (hn : '#' ∉ t) :
    verifyChecksumL t = .ok t := by
  unfold verifyChecksumL
  rw [scanHash_nohash hv hn]
  simp

theorem verifyChecksumL_take {s b : List Char} (h : verifyChecksumL s = .ok b) : ∃ k, b = s.take k := by
  unfold verifyChecksumL at h
  cases hsc : scanHash s 0 s.length with
  | none => rw [hsc] at h; cases h
  | some k =>
    rw [hsc] at h
    simp only at h
    split at h
    · split at h
      · cases h
      · split at h
        · cases h
        · split at h
          · cases h
          · exact ⟨k, (CsResult.ok.inj h).symm⟩
    · exact ⟨k, (CsResult.ok.inj h).symm⟩

theorem verify_append_hash {a b : List Char} (ha : AllValid a) (hb : AllValid b) (hn : '#' ∉ b) :
    verifyChecksumL (a ++ '#' :: b) =
      if b.length ≠ 8 then .err .invalidChecksumLength
      else match checksumOf a with
        | none => .panic
        | some expected => if expected ≠ b then .err .invalidChecksum else .ok a := by
  unfold verifyChecksumL
  rw [scanHash_append ha hb hn]
  have hlt : 0 + a.length < (a ++ '#' :: b).length := by simp
  have hd : List.drop (0 + a.length + 1) (a ++ '#' :: b) = b := by
    rw [Nat.zero_add, ← List.drop_drop, List.drop_left]; rfl
  have ht : List.take (0 + a.length) (a ++ '#' :: b) = a := by
    rw [Nat.zero_add, List.take_left]
  simp only [hlt, if_true, hd, ht]
  have : (Engine.new.inputUnchecked a).bind Engine.checksumChars = checksumOf a := by
    unfold checksumOf; rw [input_eq ha]
  rw [this]
  cases checksumOf a with
  | none => by_cases hl : b.length = 8 <;> simp [hl]
  | some e => by_cases hl : b.length = 8 <;> by_cases he : e = b <;> simp [hl, he]

/-- the symbols fed to the residue for the characters with CHAR_MAP values `ps`, from a state with
`cnt` pending class digits of value `cls`; a pending class symbol is flushed at the end -/
def stream : Nat → Nat → List Nat → List Nat
  | cnt, cls, [] => if cnt > 0 then [cls] else []
  | cnt, cls, p :: ps =>
    if cnt + 1 = 3 then p % 32 :: (cls * 3 + p / 32) :: stream 0 0 ps
    else p % 32 :: stream (cnt + 1) (cls * 3 + p / 32) ps

theorem stream_emit {cnt cls p : Nat} {ps : List Nat} (h : cnt + 1 = 3) :
    stream cnt cls (p :: ps) = p % 32 :: (cls * 3 + p / 32) :: stream 0 0 ps := by
  rw [stream, if_pos h]

theorem stream_noemit {cnt cls p : Nat} {ps : List Nat} (h : ¬ cnt + 1 = 3) :
    stream cnt cls (p :: ps) = p % 32 :: stream (cnt + 1) (cls * 3 + p / 32) ps := by
  rw [stream, if_neg h]

theorem preTail_foldl : ∀ (ps : List Nat) (en : Engine),
    preTail (ps.foldl next en) = (stream en.clscount en.cls ps).foldl inputFe en.residue
  | [], en => by
    show preTail en = _
    unfold preTail stream
    by_cases h : en.clscount > 0
    · rw [if_pos h, if_pos h]; rfl
    · rw [if_neg h, if_neg h]; rfl
  | p :: ps, en => by
    rw [List.foldl_cons, preTail_foldl ps (next en p)]
    by_cases h3 : en.clscount + 1 = 3
    · rw [next_emit h3, stream_emit h3]; rfl
    · rw [next_noemit h3, stream_noemit h3]; rfl

/-- CHAR_MAP value of a character (0 outside the alphabet) -/
def posOf (c : Char) : Nat := (charMap? c.toNat).getD 0

theorem posOf_eq {c : Char} {p : Nat} (h : charMap? c.toNat = some p) : posOf c = p := by
  rw [posOf, h]; rfl

theorem posOf_lt {c : Char} (h : validChar c = true) : posOf c < 95 := by
  obtain ⟨p, hp, hlt⟩ := pos_of_valid c h
  rwa [posOf_eq hp]

theorem posOf_ne {x y : Char} (hx : validChar x = true) (hy : validChar y = true) (hne : x ≠ y) :
    posOf x ≠ posOf y := by
  obtain ⟨p, hp, _⟩ := pos_of_valid x hx
  obtain ⟨q, hq, _⟩ := pos_of_valid y hy
  rw [posOf_eq hp, posOf_eq hq]
  intro e
  have := charMap?_inj _ _ ((validChar_iff x).mp hx) ((validChar_iff y).mp hy) (by rw [hp, hq, e])
  exact hne (Char.toNat_inj.mp this)

/-- class (group of 32 in INPUT_CHARSET order) of a valid character: 0, 1 or 2 -/
def classOf (c : Char) : Option Nat := (charMap? c.toNat).map (· / 32)

theorem classOf_valid {c : Char} (h : validChar c = true) : classOf c = some (posOf c / 32) := by
  obtain ⟨p, hp, _⟩ := pos_of_valid c h
  rw [classOf, posOf_eq hp, hp]; rfl

theorem inputUnchecked_foldl : ∀ {s : List Char} {en : Engine}, WF en → AllValid s →
    en.inputUnchecked s = some ((s.map posOf).foldl next en)
  | [], _, _, _ => rfl
  | c :: cs, en, w, hs => by
    obtain ⟨hc, hcs⟩ := hs.of_cons
    obtain ⟨p, hp, hlt⟩ := pos_of_valid c hc
    simp only [Engine.inputUnchecked, inputByte_eq w hp hlt, List.map_cons, List.foldl_cons, posOf_eq hp]
    exact inputUnchecked_foldl (WF_next w hlt) hcs

theorem WF_foldl : ∀ {ps : List Nat} {en : Engine}, WF en → (∀ p ∈ ps, p < 95) → WF (ps.foldl next en)
  | [], _, w, _ => w
  | p :: ps, en, w, h =>
    WF_foldl (ps := ps) (en := next en p) (WF_next w (h p List.mem_cons_self))
      (fun q hq => h q (List.mem_cons_of_mem _ hq))

theorem stream_lt : ∀ (ps : List Nat) (cnt cls : Nat), cnt < 3 → cls < 3 ^ cnt → (∀ p ∈ ps, p < 95) →
    ∀ e ∈ stream cnt cls ps, e < 32
  | [], cnt, cls, hc, hcls, _, e, he => by
    unfold stream at he
    split at he
    · rw [List.mem_singleton.mp he]; exact acc_lt32 hcls (Nat.le_of_lt hc)
    · cases he
  | p :: ps, cnt, cls, hc, hcls, hps, e, he => by
    have hps' : ∀ q ∈ ps, q < 95 := fun q hq => hps q (List.mem_cons_of_mem _ hq)
    have hn := acc_lt hcls (div32_le (hps p List.mem_cons_self))
    have hlo : p % 32 < 32 := Nat.mod_lt _ (by decide)
    unfold stream at he
    split at he
    · simp only [List.mem_cons] at he
      rcases he with rfl | rfl | he
      · exact hlo
      · exact acc_lt32 hn (by omega)
      · exact stream_lt ps 0 0 (by decide) (by decide) hps' e he
    · simp only [List.mem_cons] at he
      rcases he with rfl | he
      · exact hlo
      · exact stream_lt ps (cnt + 1) _ (by omega) hn hps' e he

theorem posOf_map_lt {s : List Char} (hs : AllValid s) : ∀ p ∈ s.map posOf, p < 95 := by
  intro p hp
  obtain ⟨c, hc, rfl⟩ := List.mem_map.mp hp
  exact posOf_lt (hs c hc)

theorem checksumOf_stream {s : List Char} (hs : AllValid s) :
    checksumOf s = some (residueChars (tail8
      ((stream 0 0 (s.map posOf)).foldl inputFe 1#40))) := by
  have h := preTail_foldl (s.map posOf) Engine.new
  unfold checksumOf
  rw [input_eq hs, inputUnchecked_foldl WF_new hs]
  simp only [Option.bind, Engine.checksumChars, finalResidue_eq (WF_foldl WF_new (posOf_map_lt hs)),
    Option.map, h]
  rfl

theorem verifyChecksumL_ne_panic (s : List Char) : verifyChecksumL s ≠ .panic := by
  by_cases hv : AllValid s
  · by_cases hin : '#' ∈ s
    · obtain ⟨u, v, rfl, hnv⟩ := last_hash_split hin
      have hu := hv.of_append.1
      rw [verify_append_hash hu hv.of_append.2.of_cons.2 hnv, checksumOf_stream hu]
      simp only
      split
      · simp
      · split <;> simp
    · rw [verify_nohash hv hin]; simp
  · rw [verify_invalid hv]; simp

end MsVerif.Checksum
