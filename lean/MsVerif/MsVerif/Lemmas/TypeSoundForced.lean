/-
C06, for the `f` letter (`Dissat::None`) — when no signature verifies, a forced fragment that completes
leaves a TRUE value (B/W); a forced K fragment cannot complete at all: the claim per base type (`ForcedS`)
and the lock-time side condition `wfT`.
-/
import MsVerif.Lemmas.TypeSoundSignedThm

namespace MsVerif.TypeSound
open MsVerif MsVerif.Script

mutual
/-- lock times are in range (`AbsLockTime` / `RelLockTime` reject 0 and values ≥ 2³¹) -/
def wfT : Ms → Bool
  | .after n | .older n => decide (1 ≤ n) && decide (n < 2 ^ 31)
  | .thresh _ xs => wfTL xs
  | .alt x | .swap x | .check x | .dupIf x | .verify x | .nonZero x | .zeroNotEqual x => wfT x
  | .andV l r | .andB l r | .orB l r | .orD l r | .orC l r | .orI l r => wfT l && wfT r
  | .andOr a b c => wfT a && wfT b && wfT c
  | _ => true
def wfTL : MsList → Bool
  | .nil => true
  | .cons x xs => wfT x && wfTL xs
end

/-- "forced": what a completed run of a fragment with `Dissat::None` looks like -/
def ForcedS (base : Base) (s : List Bytes) (c' : Core) : Prop :=
  match base with
  | .B => ∀ v r, c'.stack = v :: r → castToBool v = true
  | .V => True
  | .K => False
  | .W => ∀ x tl, s = x :: tl → ∃ v r, (c'.stack = x :: v :: r ∨ c'.stack = v :: x :: r) ∧ castToBool v = true

theorem ForcedS.B {b : Base} {s : List Bytes} {c' : Core} (hb : b = .B) :
    ForcedS b s c' ↔ ∀ v r, c'.stack = v :: r → castToBool v = true := by subst hb; rfl
theorem ForcedS.K {b : Base} {s : List Bytes} {c' : Core} (hb : b = .K) :
    ForcedS b s c' ↔ False := by subst hb; rfl
theorem ForcedS.W {b : Base} {s : List Bytes} {c' : Core} (hb : b = .W) :
    ForcedS b s c' ↔ ∀ x tl, s = x :: tl →
      ∃ v r, (c'.stack = x :: v :: r ∨ c'.stack = v :: x :: r) ∧ castToBool v = true := by subst hb; rfl

theorem ForcedS.move {b : Base} {s s' : List Bytes} {c' c'' : Core} (h : ForcedS b s c')
    (hw : b ≠ .W) (hs : c''.stack = c'.stack) : ForcedS b s' c'' := by
  cases b with
  | B => intro v r hv; rw [hs] at hv; exact h v r hv
  | V => trivial
  | K => exact h
  | W => exact absurd rfl hw

end MsVerif.TypeSound
