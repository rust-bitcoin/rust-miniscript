/-
Results of the satisfier (`Wit`, `Sat`): `isStk`, the byte size `wsz` (`witnessSize` is it plus at most 9), and the
invariant `LockOK`, common units of the recorded locks, under which `concatenate_rev` combines the two stacks
(`concat_ok`), and so do its folds; `minimum_mall` by cases (`minMall_cases`).  `SigOrImp`, `pushTop`, `absUnit`.
-/
import MsVerif.Lemmas.CoreSat
import MsVerif.Lemmas.CoreLocks

namespace MsVerif.Complete
open MsVerif Sat

def isStk : Wit → Bool
  | .stack _ => true
  | _ => false

def sumSize (w : List Ph) : Nat := (w.map Ph.size).sum

def wsz : Wit → Nat
  | .stack w => sumSize w
  | _ => 0

@[simp] theorem sumSize_nil : sumSize [] = 0 := rfl
@[simp] theorem sumSize_cons (x : Ph) (w : List Ph) : sumSize (x :: w) = x.size + sumSize w := by
  simp [sumSize]
@[simp] theorem sumSize_append (a b : List Ph) : sumSize (a ++ b) = sumSize a + sumSize b := by
  simp [sumSize]

@[simp] theorem isStk_stack (l : List Ph) : isStk (.stack l) = true := rfl
@[simp] theorem isStk_impossible : isStk .impossible = false := rfl
@[simp] theorem isStk_unavailable : isStk .unavailable = false := rfl
@[simp] theorem wsz_stack (l : List Ph) : wsz (.stack l) = sumSize l := rfl
@[simp] theorem wsz_impossible : wsz .impossible = 0 := rfl
@[simp] theorem wsz_unavailable : wsz .unavailable = 0 := rfl

theorem isStk_ne_imp {w : Wit} (h : isStk w = true) : w ≠ .impossible := by
  cases w <;> simp_all [isStk]

theorem isStk_ne_unav {w : Wit} (h : isStk w = true) : w ≠ .unavailable := by
  cases w <;> simp_all [isStk]

theorem isStk_of_ne {w : Wit} (h1 : w ≠ .impossible) (h2 : w ≠ .unavailable) : isStk w = true := by
  cases w <;> simp_all [isStk]

theorem isStk_exists {w : Wit} (h : isStk w = true) : ∃ l, w = .stack l := by
  cases w with
  | stack l => exact ⟨l, rfl⟩
  | _ => cases h

theorem varintLen_le (n : Nat) : varintLen n ≤ 9 := by
  unfold varintLen; split <;> (try split) <;> (try split) <;> omega

theorem witnessSize_le (w : List Ph) : witnessSize w ≤ sumSize w + 9 := by
  have := varintLen_le w.length
  unfold witnessSize sumSize; omega

theorem sumSize_le_witnessSize (w : List Ph) : sumSize w ≤ witnessSize w := by
  unfold witnessSize sumSize; omega

@[simp] theorem combine_isStk (a b : Wit) : isStk (Wit.combine a b) = (isStk a && isStk b) := by
  cases a <;> cases b <;> simp [Wit.combine, isStk]

theorem combine_wsz_le (a b : Wit) : wsz (Wit.combine a b) ≤ wsz a + wsz b := by
  cases a <;> cases b <;> simp [Wit.combine, wsz]

theorem combine_ne_unav {a b : Wit} (ha : a ≠ .unavailable) (hb : b ≠ .unavailable) :
    Wit.combine a b ≠ .unavailable := by
  cases a <;> cases b <;> simp_all [Wit.combine]

def absUnit (n : Nat) : Bool := decide (n < 500000000)

/-- the time locks recorded in `s` have the units `ua` (absolute: `true` = block height, `absUnit`) and
`ur` (relative: `true` = time, `relIsTime`), so that `concatenate_rev` never meets mixed units -/
structure LockOK (ua ur : Bool) (s : Sat) : Prop where
  abs : ∀ n, s.abs = some n → absUnit n = ua
  rel : ∀ n, s.rel = some n → relIsTime n = ur

theorem lockOK_none {ua ur : Bool} {s : Sat} (ha : s.abs = none) (hr : s.rel = none) :
    LockOK ua ur s := ⟨by simp [ha], by simp [hr]⟩

theorem lockOK_IMPOSSIBLE (ua ur : Bool) : LockOK ua ur IMPOSSIBLE := lockOK_none rfl rfl
theorem lockOK_UNAVAILABLE (ua ur : Bool) : LockOK ua ur UNAVAILABLE := lockOK_none rfl rfl
theorem lockOK_TRIVIAL (ua ur : Bool) : LockOK ua ur TRIVIAL := lockOK_none rfl rfl
theorem lockOK_empty (ua ur : Bool) : LockOK ua ur Sat.empty := lockOK_none rfl rfl
theorem lockOK_push0 (ua ur : Bool) : LockOK ua ur push0 := lockOK_none rfl rfl

theorem lockOK_congr {ua ur : Bool} {s t : Sat} (h : LockOK ua ur s) (ha : t.abs = s.abs)
    (hr : t.rel = s.rel) : LockOK ua ur t := ⟨by rw [ha]; exact h.abs, by rw [hr]; exact h.rel⟩

theorem absMax_ok {ua : Bool} {a b : Nat} (ha : absUnit a = ua) (hb : absUnit b = ua) :
    ∃ c, absMax a b = some c ∧ absUnit c = ua := by
  obtain ⟨c, e⟩ := absMax_some (ha.trans hb.symm)
  exact ⟨c, e, (absMax_le e).1.elim (· ▸ ha) (· ▸ hb)⟩

theorem relMax_ok {ur : Bool} {a b : Nat} (ha : relIsTime a = ur) (hb : relIsTime b = ur) :
    ∃ c, relMax a b = some c ∧ relIsTime c = ur := by
  obtain ⟨c, e⟩ := relMax_some (ha.trans hb.symm)
  exact ⟨c, e, (relMax_le e).1.elim (· ▸ ha) (· ▸ hb)⟩

theorem mergeOpt_ok {P : Nat → Prop} {f : Nat → Nat → Option Nat}
    (hf : ∀ a b, P a → P b → ∃ c, f a b = some c ∧ P c) {x y : Option Nat}
    (hx : ∀ n, x = some n → P n) (hy : ∀ n, y = some n → P n) :
    ∃ z, mergeOpt f x y = some z ∧ ∀ n, z = some n → P n := by
  cases x with
  | none => exact ⟨y, by simp [mergeOpt], hy⟩
  | some a =>
    cases y with
    | none => exact ⟨some a, by simp [mergeOpt], hx⟩
    | some b =>
      obtain ⟨c, hc, hp⟩ := hf a b (hx a rfl) (hy b rfl)
      exact ⟨some c, by simp [mergeOpt, hc], by intro n hn; cases hn; exact hp⟩

theorem concat_ok {ua ur : Bool} {s o : Sat} (hs : LockOK ua ur s) (ho : LockOK ua ur o) :
    ∃ t : Sat, concatenateRev s o = t ∧ LockOK ua ur t ∧
      t.stack = Wit.combine o.stack s.stack ∧
      (t.stack ≠ .impossible → t.hasSig = (s.hasSig || o.hasSig)) ∧
      (t.hasSig = false ∨ t.hasSig = (s.hasSig || o.hasSig)) := by
  obtain ⟨rel, hrel, hrelP⟩ := mergeOpt_ok (P := fun n => relIsTime n = ur)
    (fun a b => relMax_ok) hs.rel ho.rel
  obtain ⟨abs, habs, habsP⟩ := mergeOpt_ok (P := fun n => absUnit n = ua)
    (fun a b => absMax_ok) hs.abs ho.abs
  rw [concatenateRev_eq, hrel, habs]
  by_cases h : s.stack = .impossible ∨ o.stack = .impossible
  · refine ⟨IMPOSSIBLE, by simp [h], lockOK_IMPOSSIBLE _ _, ?_, by simp [IMPOSSIBLE], .inl rfl⟩
    rcases h with h | h
    · rw [h, Wit.combine_imp_right]; rfl
    · rw [h, Wit.combine_imp_left]; rfl
  · exact ⟨⟨Wit.combine o.stack s.stack, s.hasSig || o.hasSig, abs, rel⟩, by simp [h],
      ⟨habsP, hrelP⟩, rfl, fun _ => rfl, .inr rfl⟩

theorem concat_lockOK {ua ur : Bool} {s o : Sat} (hs : LockOK ua ur s) (ho : LockOK ua ur o) :
    LockOK ua ur (concatenateRev s o) := by
  obtain ⟨t, h, hl, _⟩ := concat_ok hs ho; rw [h]; exact hl

theorem concat_stack {ua ur : Bool} {s o : Sat} (hs : LockOK ua ur s) (ho : LockOK ua ur o) :
    (concatenateRev s o).stack = Wit.combine o.stack s.stack := by
  obtain ⟨t, h, _, hst, _⟩ := concat_ok hs ho; rw [h]; exact hst

theorem concat_isStk {ua ur : Bool} {s o : Sat} (hs : LockOK ua ur s) (ho : LockOK ua ur o) :
    isStk (concatenateRev s o).stack = (isStk s.stack && isStk o.stack) := by
  rw [concat_stack hs ho, combine_isStk, Bool.and_comm]

theorem concat_wsz {s o : Sat} : wsz (concatenateRev s o).stack ≤ wsz s.stack + wsz o.stack := by
  rcases concatenateRev_cases s o with e | ⟨_, _, _, _, e⟩ <;> rw [e]
  · exact Nat.zero_le _
  · have := combine_wsz_le o.stack s.stack; dsimp only; omega

theorem concat_stk {ua ur : Bool} {s o : Sat} (hs : LockOK ua ur s) (ho : LockOK ua ur o)
    (h1 : isStk s.stack = true) (h2 : isStk o.stack = true) :
    isStk (concatenateRev s o).stack = true := by
  rw [concat_isStk hs ho, h1, h2]; rfl

/-! Where `concatenate_rev` gives up (a child impossible, or mixed lock units) it answers IMPOSSIBLE, which has
no signature flag and no size: what follows holds for any two results. -/

theorem concat_hasSig {s o : Sat} (h : (concatenateRev s o).stack ≠ .impossible) :
    (concatenateRev s o).hasSig = (s.hasSig || o.hasSig) := by
  rcases concatenateRev_cases s o with e | ⟨_, _, _, _, e⟩ <;> rw [e] at h ⊢
  exact absurd rfl h

theorem concat_ne_imp {s o : Sat} (h : (concatenateRev s o).stack ≠ .impossible) :
    s.stack ≠ .impossible ∧ o.stack ≠ .impossible := by
  rcases concatenateRev_cases s o with e | ⟨_, _, _, _, e⟩ <;> rw [e] at h
  · exact absurd rfl h
  · exact (Wit.combine_ne_impossible.mp h).symm

theorem concat_ne_unav {s o : Sat} (h1 : s.stack ≠ .unavailable) (h2 : o.stack ≠ .unavailable) :
    (concatenateRev s o).stack ≠ .unavailable := by
  rcases concatenateRev_cases s o with e | ⟨_, _, _, _, e⟩ <;> rw [e]
  · exact nofun
  · exact combine_ne_unav h2 h1

theorem concat_hasSig_false {s o : Sat} (h1 : s.hasSig = false) (h2 : o.hasSig = false) :
    (concatenateRev s o).hasSig = false := by
  rcases concatenateRev_cases s o with e | ⟨_, _, _, _, e⟩ <;> rw [e]
  · rfl
  · show (s.hasSig || o.hasSig) = false
    rw [h1, h2]; rfl

theorem minMall_cases (s1 s2 : Sat) :
    (minimumMall s1 s2 = s2 ∧ isStk s1.stack = false) ∨
    (minimumMall s1 s2 = s1 ∧ isStk s2.stack = false ∧ isStk s1.stack = true) ∨
    (isStk s1.stack = true ∧ isStk s2.stack = true ∧
      ((minimumMall s1 s2).stack = s1.stack ∧ (minimumMall s1 s2).abs = s1.abs ∧
          (minimumMall s1 s2).rel = s1.rel ∨
       (minimumMall s1 s2).stack = s2.stack ∧ (minimumMall s1 s2).abs = s2.abs ∧
          (minimumMall s1 s2).rel = s2.rel)) := by
  have no : ∀ {w : Wit}, w = .impossible ∨ w = .unavailable → isStk w = false := fun h => by
    rcases h with h | h <;> rw [h] <;> rfl
  have yes : ∀ {w : Wit}, ¬ (w = .impossible ∨ w = .unavailable) → isStk w = true := fun h =>
    isStk_of_ne (fun e => h (.inl e)) (fun e => h (.inr e))
  rcases minimumMall_cases s1 s2 with ⟨h1, e⟩ | ⟨h1, h2, e⟩ | ⟨h1, h2, e | e⟩
  · exact .inl ⟨e, no h1⟩
  · exact .inr (.inl ⟨e, no h2, yes h1⟩)
  · exact .inr (.inr ⟨yes h1, yes h2, .inl (by rw [e]; exact ⟨rfl, rfl, rfl⟩)⟩)
  · exact .inr (.inr ⟨yes h1, yes h2, .inr (by rw [e]; exact ⟨rfl, rfl, rfl⟩)⟩)

/-- "a third party cannot produce it": impossible, or carries a signature -/
def SigOrImp (s : Sat) : Prop := s.stack ≠ .impossible → s.hasSig = true

/-- `or_i`'s selector push (and `d:`'s) -/
def pushTop (p : Ph) (s : Sat) : Sat := { s with stack := Wit.combine s.stack (.stack [p]) }

theorem foldl_concat_isStk {ua ur : Bool} (l : List Sat) (acc : Sat) (ha : LockOK ua ur acc)
    (hl : ∀ s ∈ l, LockOK ua ur s) :
    isStk (l.foldl concatenateRev acc).stack = (isStk acc.stack && l.all (fun s => isStk s.stack)) := by
  induction l generalizing acc with
  | nil => simp
  | cons s t ih =>
    simp only [List.foldl_cons, List.all_cons]
    rw [ih _ (concat_lockOK ha (hl s (by simp))) (fun x hx => hl x (by simp [hx])),
      concat_isStk ha (hl s (by simp)), Bool.and_assoc]

theorem foldl_concat_wsz (l : List Sat) (acc : Sat) :
    wsz (l.foldl concatenateRev acc).stack ≤ wsz acc.stack + (l.map (fun s => wsz s.stack)).sum := by
  induction l generalizing acc with
  | nil => simp
  | cons s t ih =>
    simp only [List.foldl_cons, List.map_cons, List.sum_cons]
    have h1 := ih (concatenateRev acc s)
    have h2 := concat_wsz (s := acc) (o := s)
    omega

theorem foldl_concat_ne_unav (l : List Sat) (acc : Sat) (hna : acc.stack ≠ .unavailable)
    (hnl : ∀ s ∈ l, s.stack ≠ .unavailable) :
    (l.foldl concatenateRev acc).stack ≠ .unavailable :=
  foldl_concatenateRev_ind (P := fun s => s.stack ≠ .unavailable) (fun _ _ => concat_ne_unav) l acc hna hnl

theorem foldl_concat_hasSig_false (l : List Sat) (acc : Sat) (hna : acc.hasSig = false)
    (hnl : ∀ s ∈ l, s.hasSig = false) :
    (l.foldl concatenateRev acc).hasSig = false :=
  foldl_concatenateRev_ind (P := fun s => s.hasSig = false) (fun _ _ => concat_hasSig_false) l acc hna hnl

theorem foldl_concat_imp (l : List Sat) (acc : Sat) (hi : acc.stack = .impossible) :
    (l.foldl concatenateRev acc).stack = .impossible := by
  induction l generalizing acc with
  | nil => exact hi
  | cons s t ih =>
    simp only [List.foldl_cons]
    exact ih _ (by rw [concatenateRev_eq, if_pos (.inl hi)]; rfl)

theorem foldl_concat_hasSig (l : List Sat) (acc : Sat)
    (hne : (l.foldl concatenateRev acc).stack ≠ .impossible)
    (hex : acc.hasSig = true ∨ ∃ s ∈ l, SigOrImp s ) :
    (l.foldl concatenateRev acc).hasSig = true := by
  induction l generalizing acc with
  | nil =>
    rcases hex with h | ⟨s, hs, _⟩
    · exact h
    · simp at hs
  | cons s t ih =>
    simp only [List.foldl_cons] at hne ⊢
    have hne' : (concatenateRev acc s).stack ≠ .impossible := fun h => hne (foldl_concat_imp t _ h)
    have hsig := concat_hasSig hne'
    have hparts := concat_ne_imp hne'
    refine ih _ hne ?_
    rcases hex with h | ⟨x, hx, hsx⟩
    · left; rw [hsig, h]; rfl
    · rcases List.mem_cons.mp hx with rfl | hx
      · left; rw [hsig, hsx hparts.2]; simp
      · right; exact ⟨x, hx, hsx⟩

end MsVerif.Complete
