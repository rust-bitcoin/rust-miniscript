/-
Resource limits transfer for `Script.run`: a run that succeeds with the opcode-count limit (201)
and the stack limits (1000 elements, 520-byte elements) off succeeds with the same final state
under any setting of the two flags (`run_withLimits`, `run_limitsOn`), given static size, depth
and counter conditions; `run_ops_le` bounds the final opcode counter syntactically.
`Post` (bounds on every successful outcome) and `Trans` (a successful outcome within the limits
is the outcome under changed flags) are proved compositionally from `pushElem` up to `run`.
-/
import MsVerif.Lemmas.BridgeExtra
import MsVerif.Lemmas.CoreOpc

namespace MsVerif.SatSpec
open MsVerif Script Bridge

/-- script elements that can make `stack + altstack` grow (by one): pushes, DUP, IFDUP, SIZE -/
def grows : Op → Bool
  | .small _ | .push _ => true
  | .code .dup | .code .ifdup | .code .size => true
  | _ => false

def growCount (s : List Op) : Nat := (s.filter grows).length

/-- CHECKMULTISIG(VERIFY) opcodes: each adds its number of keys (≤ 20) to the opcode counter -/
def isMs : Op → Bool
  | .code .checkmultisig | .code .checkmultisigverify => true
  | _ => false

def msCount (s : List Op) : Nat := (s.filter isMs).length

def withLimits (env : Env) (o t : Bool) : Env :=
  { env with flags := { env.flags with opLimit := o, stackLimits := t } }

def limitsOn (env : Env) : Env := withLimits env true true

@[simp] theorem withLimits_tapscript (env : Env) (o t : Bool) : (withLimits env o t).flags.tapscript = env.flags.tapscript := rfl
@[simp] theorem withLimits_minimalIf (env : Env) (o t : Bool) : (withLimits env o t).flags.minimalIf = env.flags.minimalIf := rfl
@[simp] theorem withLimits_nullFail (env : Env) (o t : Bool) : (withLimits env o t).flags.nullFail = env.flags.nullFail := rfl
@[simp] theorem withLimits_nullDummy (env : Env) (o t : Bool) : (withLimits env o t).flags.nullDummy = env.flags.nullDummy := rfl
@[simp] theorem withLimits_minimalNum (env : Env) (o t : Bool) : (withLimits env o t).flags.minimalNum = env.flags.minimalNum := rfl
@[simp] theorem withLimits_opLimit (env : Env) (o t : Bool) : (withLimits env o t).flags.opLimit = o := rfl
@[simp] theorem withLimits_stackLimits (env : Env) (o t : Bool) : (withLimits env o t).flags.stackLimits = t := rfl
@[simp] theorem withLimits_sigOk (env : Env) (o t : Bool) : (withLimits env o t).sigOk = env.sigOk := rfl
@[simp] theorem withLimits_hash (env : Env) (o t : Bool) : (withLimits env o t).hash = env.hash := rfl
@[simp] theorem withLimits_nLockTime (env : Env) (o t : Bool) : (withLimits env o t).nLockTime = env.nLockTime := rfl
@[simp] theorem withLimits_nSequence (env : Env) (o t : Bool) : (withLimits env o t).nSequence = env.nSequence := rfl
@[simp] theorem withLimits_txVersion (env : Env) (o t : Bool) : (withLimits env o t).txVersion = env.txVersion := rfl

@[simp] theorem num4_withLimits (env : Env) (o t : Bool) : num4 (withLimits env o t) = num4 env := rfl
@[simp] theorem pubkeyOk_withLimits (env : Env) (o t : Bool) : pubkeyOk (withLimits env o t) = pubkeyOk env := rfl
@[simp] theorem checkSig_withLimits (env : Env) (o t : Bool) : checkSig (withLimits env o t) = checkSig env := rfl
@[simp] theorem checkLockTime_withLimits (env : Env) (o t : Bool) : checkLockTime (withLimits env o t) = checkLockTime env := rfl
@[simp] theorem checkSequence_withLimits (env : Env) (o t : Bool) : checkSequence (withLimits env o t) = checkSequence env := rfl
@[simp] theorem condPop_withLimits (env : Env) (o t : Bool) : condPop (withLimits env o t) = condPop env := rfl

@[simp] theorem multisigLoop_withLimits (env : Env) (o t : Bool) :
    multisigLoop (withLimits env o t) = multisigLoop env := by
  funext sigs keys
  induction keys generalizing sigs with
  | nil => cases sigs <;> simp only [multisigLoop]
  | cons key keys ih =>
    cases sigs with
    | nil => simp only [multisigLoop]
    | cons sig sigs => simp only [multisigLoop, pubkeyOk_withLimits, withLimits_sigOk, ih]


def small (l : List Bytes) : Prop := ∀ x, x ∈ l → x.length ≤ 520

@[simp] theorem small_nil : small [] := by intro x h; cases h

@[simp] theorem small_cons (a : Bytes) (l : List Bytes) : small (a :: l) ↔ a.length ≤ 520 ∧ small l :=
  List.forall_mem_cons

theorem small_append (l₁ l₂ : List Bytes) : small (l₁ ++ l₂) ↔ small l₁ ∧ small l₂ :=
  List.forall_mem_append

def Small (c : Core) : Prop := small c.stack ∧ small c.alt

def depth (c : Core) : Nat := c.stack.length + c.alt.length

theorem numEncode_length_small (v : Int) : (numEncode v).length ≤ 520 := by
  have := Script.numEncode_length v; omega

theorem boolBytes_small (b : Bool) : (boolBytes b).length ≤ 520 := by
  cases b <;> decide

/-- what the limit hypotheses say about the final state of a step -/
def OK (env : Env) (c : Core) : Prop :=
  Small c ∧ depth c ≤ 1000 ∧ (env.flags.tapscript = true ∨ c.ops ≤ 201)

theorem pushElem_withLimits (env : Env) (o t : Bool) (s : Core) (b : Bytes) (c' : Core)
    (h : pushElem env s b = .ok c') (hok : OK env c') : pushElem (withLimits env o t) s b = .ok c' := by
  cases pushElem_inv h
  obtain ⟨⟨hs, _⟩, hd, _⟩ := hok
  simp only [small_cons] at hs
  simp only [depth, List.length_cons] at hd
  unfold pushElem
  simp only [withLimits_stackLimits, List.length_cons]
  have h1 : ¬ b.length > 520 := by omega
  have h2 : ¬ s.stack.length + 1 + s.alt.length > 1000 := by omega
  simp [h1, h2]

theorem countOp_withLimits {env : Env} (o t : Bool) (s : Core) (n : Nat)
    (h : env.flags.tapscript = true ∨ s.ops + n ≤ 201) :
    countOp (withLimits env o t) s n = .ok { s with ops := s.ops + n } := by
  unfold countOp
  cases h with
  | inl h => simp [h]
  | inr h => simp [Nat.not_lt.mpr h]


/-! ### outcomes of one opcode

For CHECKMULTISIG `Post` is read off `multisig_inv` (`Lemmas/CoreOpc.lean`); `Trans` is proved by walking the
program text: an `if` is taken apart by `trans_ite` (not by `split`, which re-simplifies the whole remaining program
at every `if`), a `match` by `cases`.  Every other opcode is its local action followed by `finish` (`Lemmas/CoreOpc.lean`). -/

/-- every successful outcome of `x`, started from `c`: the counter moved by at most `k`, the
depth grew by at most `g`, element sizes are preserved (given small hash outputs) -/
def Post (env : Env) (c : Core) (k g : Nat) (x : Except Err Core) : Prop :=
  ∀ c', x = .ok c' →
    (c.ops ≤ c'.ops ∧ c'.ops ≤ c.ops + k) ∧ depth c' ≤ depth c + g ∧
    ((∀ op b, (env.hash op b).length ≤ 520) → Small c → Small c')

section post
variable {env : Env} {c : Core} {k g : Nat}

theorem post_ok {c1 : Core}
    (h1 : c.ops ≤ c1.ops ∧ c1.ops ≤ c.ops + k) (h2 : depth c1 ≤ depth c + g)
    (h3 : (∀ op b, (env.hash op b).length ≤ 520) → Small c → Small c1) : Post env c k g (.ok c1) := by
  intro c' h; cases h; exact ⟨h1, h2, h3⟩

theorem post_pushElem {s : Core} {b : Bytes}
    (h1 : c.ops ≤ s.ops ∧ s.ops ≤ c.ops + k) (h2 : depth s + 1 ≤ depth c + g)
    (h3 : (∀ op b, (env.hash op b).length ≤ 520) → Small c → Small s ∧ b.length ≤ 520) :
    Post env c k g (pushElem env s b) := by
  intro c' h
  cases pushElem_inv h
  refine ⟨h1, ?_, ?_⟩
  · simp only [depth, List.length_cons] at h2 ⊢; omega
  · intro hh hs
    obtain ⟨⟨h4, h5⟩, h6⟩ := h3 hh hs
    exact ⟨(small_cons _ _).mpr ⟨h6, h4⟩, h5⟩

theorem post_ite' {p : Prop} [Decidable p] {x y : Except Err Core}
    (hx : Post env c k g x) (hy : ¬ p → Post env c k g y) : Post env c k g (if p then x else y) := by
  by_cases h : p
  · rw [if_pos h]; exact hx
  · rw [if_neg h]; exact hy h

end post

theorem post_ite (env : Env) (c : Core) (k g : Nat) (p : Prop) [Decidable p] (x y : Except Err Core)
    (hx : Post env c k g x) (hy : Post env c k g y) : Post env c k g (if p then x else y) :=
  post_ite' hx fun _ => hy

/-- CHECKMULTISIG adds its key count (≤ 20) to the counter and pops at least three elements
before it pushes at most one. -/
theorem post_multisig (env : Env) (c : Core) (v : Bool) : Post env c 20 0 (multisig env c v) := by
  obtain ⟨st, alt, ops⟩ := c
  intro c' h
  obtain ⟨nB, nI, keys, mB, mI, sigs, dummy, rest, ok, rfl, -, -, hn, -, -, -, -, -, -, -, rfl⟩ := multisig_inv h
  refine ⟨by dsimp only; omega, ?_, fun _ hc => ⟨?_, hc.2⟩⟩
  · cases v <;> simp only [depth, List.length_cons, List.length_append, Bool.false_eq_true, ↓reduceIte] <;> omega
  · have := hc.1
    simp only [small_cons, small_append] at this
    cases v
    · exact (small_cons _ _).2 ⟨boolBytes_small _, this.2.2.2.2.2⟩
    · exact this.2.2.2.2.2

theorem grows_code (o : Opc) : grows (.code o) = o.grows := by cases o <;> rfl

theorem made_small {env : Env} (hh : ∀ op b, (env.hash op b).length ≤ 520) {b : Bytes} (h : Made env b) :
    b.length ≤ 520 := by
  cases h with
  | num n => exact numEncode_length_small n
  | bool v => exact boolBytes_small v
  | hash op a => exact hh op a

/-- The counter is `finish`'s; old elements stay old and the new one is old or made by the opcode (`ActOk`), so sizes
are kept; the depth is the count in `ActOk`. -/
theorem post_execOpc (env : Env) (o : Opc) (c : Core) :
    Post env c (20 * (isMs (.code o)).toNat) (grows (.code o)).toNat (execOpc env o c) := by
  induction o using Opc.multisig_or with
  | h1 => rw [execOpc_cms]; exact post_multisig env c false
  | h2 => rw [execOpc_cmsv]; exact post_multisig env c true
  | h ho =>
    rw [grows_code]
    refine holds_execOpc ho c fun pre rest r hst hr => ?_
    obtain ⟨out, al', p⟩ := r
    have hk : c.ops ≤ c.ops ∧ c.ops ≤ c.ops + 20 * (isMs (.code o)).toNat := ⟨Nat.le_refl _, Nat.le_add_right _ _⟩
    have hs : Small c → small (out ++ rest) ∧ small al' := fun hc => by
      rw [Small, hst, small_append] at hc
      exact ⟨(small_append _ _).mpr ⟨fun e he => hc.1.1 e (hr.old_out e he), hc.1.2⟩,
        fun e he => (hr.old_alt e he).elim (hc.2 e) (hc.1.1 e)⟩
    cases p with
    | none =>
      refine post_ok hk ?_ fun _ => hs
      have := hr.count
      simp only [depth, hst, List.length_append] at this ⊢; omega
    | some b =>
      refine post_pushElem hk ?_ fun hh hc => ⟨hs hc, ?_⟩
      · have := hr.count_push rfl
        simp only [depth, hst, List.length_append] at this ⊢; omega
      · rw [Small, hst, small_append] at hc
        rcases hr.pushed b rfl with hb | hb | hb
        · exact hc.1.1 b hb
        · exact hc.2 b hb
        · exact made_small hh hb


/-- a successful outcome of `x` (limits as in `env`) has counter at least `m`, and if it respects
the limits it is also the outcome of `y` (limits changed).  The lower bound is what lets a
`countOp` in the middle of `x` be transferred: the final counter bounds the intermediate one. -/
def Trans (env : Env) (m : Nat) (x y : Except Err Core) : Prop :=
  ∀ c', x = .ok c' → m ≤ c'.ops ∧ (OK env c' → y = .ok c')

section trans
variable {env : Env} {m : Nat} {x y x' y' : Except Err Core}

theorem trans_error {e : Err} : Trans env m (.error e) y := by
  intro c' h; cases h

theorem trans_ok {c : Core} (h : m ≤ c.ops) : Trans env m (.ok c) (.ok c) := by
  intro c' hc; cases hc; exact ⟨h, fun _ => rfl⟩

theorem trans_pushElem {o t : Bool} {s : Core} {b : Bytes} :
    Trans env s.ops (pushElem env s b) (pushElem (withLimits env o t) s b) := by
  intro c' h
  refine ⟨?_, pushElem_withLimits env o t s b c' h⟩
  rw [pushElem_inv h]
  exact Nat.le_refl _

theorem trans_bind {α} {z : Except Err α} {f g : α → Except Err Core}
    (h : ∀ a, Trans env m (f a) (g a)) : Trans env m (z >>= f) (z >>= g) := by
  cases z with
  | error e => exact trans_error
  | ok a => exact h a

theorem trans_ite {p : Prop} [Decidable p] (hx : Trans env m x x') (hy : Trans env m y y') :
    Trans env m (if p then x else y) (if p then x' else y') := by
  by_cases h : p
  · rw [if_pos h, if_pos h]; exact hx
  · rw [if_neg h, if_neg h]; exact hy

theorem trans_mono {m' : Nat} (hm : m' ≤ m) (h : Trans env m x y) : Trans env m' x y :=
  fun c' hx => ⟨Nat.le_trans hm (h c' hx).1, (h c' hx).2⟩

theorem trans_of_imp (h : Trans env m x y') (hy : env.flags.tapscript = true ∨ m ≤ 201 → y = y') :
    Trans env m x y := by
  intro c' hx
  obtain ⟨hm, ht⟩ := h c' hx
  refine ⟨hm, fun hok => ?_⟩
  rw [hy (hok.2.2.imp_right fun h => Nat.le_trans hm h)]
  exact ht hok

end trans

theorem trans_msTail (env : Env) (o t : Bool) (v : Bool) (alt : List Bytes) (ops : Nat)
    (a : List Bytes × List Bytes × Bytes × List Bytes) :
    Trans env ops (msTail env v alt ops a) (msTail (withLimits env o t) v alt ops a) := by
  unfold msTail
  simp only [withLimits_nullFail, withLimits_nullDummy, multisigLoop_withLimits]
  split
  · exact trans_error
  · exact trans_ite trans_error (trans_ite trans_error (trans_ite
      (trans_ite (trans_ok (Nat.le_refl _)) trans_error) trans_pushElem))

/- `msArgs` reads no limit flag; the counter is raised once, by `countOp`, before the matching loop. -/
theorem trans_multisig (env : Env) (o t : Bool) (c : Core) (v : Bool) :
    Trans env c.ops (multisig env c v) (multisig (withLimits env o t) c v) := by
  obtain ⟨st, alt, ops⟩ := c
  rw [multisig_eq, multisig_eq]
  simp only [withLimits_tapscript, withLimits_minimalNum]
  refine trans_ite trans_error ?_
  cases st with
  | nil => exact trans_error
  | cons nB r =>
    dsimp only
    cases numDecode env.flags.minimalNum 4 nB with
    | none => exact trans_error
    | some nI =>
      dsimp only
      refine trans_ite trans_error ?_
      cases hs : countOp env ⟨nB :: r, alt, ops⟩ nI.toNat with
      | error e => exact trans_error
      | ok s =>
        cases countOp_inv hs
        refine trans_mono (Nat.le_add_right _ _)
          (trans_of_imp ?_ fun hb => by rw [countOp_withLimits o t _ _ hb])
        show Trans env _ (msArgs env nI r >>= msTail env v alt (ops + nI.toNat))
          (msArgs env nI r >>= msTail (withLimits env o t) v alt (ops + nI.toNat))
        exact trans_bind fun a => trans_msTail env o t v _ _ a

/-- the local action of an opcode reads neither limit flag: under changed limits only `finish` differs -/
theorem act_withLimits (env : Env) (o t : Bool) : act (withLimits env o t) = act env := rfl

theorem trans_finish {env : Env} {o t : Bool} {rest : List Bytes} {ops : Nat}
    (r : List Bytes × List Bytes × Option Bytes) :
    Trans env ops (finish env rest ops r) (finish (withLimits env o t) rest ops r) := by
  obtain ⟨out, al, _ | b⟩ := r
  · exact trans_ok (Nat.le_refl _)
  · exact trans_pushElem

theorem trans_execOpc (env : Env) (o t : Bool) (op : Opc) (c : Core) :
    Trans env c.ops (execOpc env op c) (execOpc (withLimits env o t) op c) := by
  induction op using Opc.multisig_or with
  | h1 => rw [execOpc_cms, execOpc_cms]; exact trans_multisig env o t c false
  | h2 => rw [execOpc_cmsv, execOpc_cmsv]; exact trans_multisig env o t c true
  | h ho =>
    rcases execOpc_cases ho c with hs | ⟨pre, rest, _, _, hl⟩
    · rw [hs]; exact trans_error
    · rw [hl, hl, act_withLimits]
      exact trans_bind trans_finish

/-! ### one script element

What `step` does to the core is `Bridge.coreStep` (`Bridge.step_core`). -/

theorem filter_length_cons {α} (p : α → Bool) (a : α) (l : List α) :
    ((a :: l).filter p).length = ([a].filter p).length + (l.filter p).length := by
  simp only [List.filter_cons, List.filter_nil]
  cases p a <;> simp <;> omega

theorem growCount_cons (op : Op) (rest : List Op) : growCount (op :: rest) = growCount [op] + growCount rest :=
  filter_length_cons _ op rest

theorem msCount_cons (op : Op) (rest : List Op) : msCount (op :: rest) = msCount [op] + msCount rest :=
  filter_length_cons _ op rest

theorem growCount_single (op : Op) : growCount [op] = (grows op).toNat := by
  simp only [growCount, List.filter_cons, List.filter_nil]
  cases grows op <;> rfl

theorem msCount_single (op : Op) : msCount [op] = (isMs op).toNat := by
  simp only [msCount, List.filter_cons, List.filter_nil]
  cases isMs op <;> rfl

theorem small_pushed (n : Nat) : (if n = 0 then ([] : Bytes) else [UInt8.ofNat n]).length ≤ 520 := by
  split <;> simp

/-- what running the elements `script` may do to the core: the counter moves by the number of opcodes and at most 20
more per CHECKMULTISIG, the depth grows by at most the number of growing elements, element sizes are kept -/
def RunPost (env : Env) (script : List Op) (c c' : Core) : Prop :=
  (c.ops + codeCount script ≤ c'.ops ∧ c'.ops ≤ c.ops + codeCount script + 20 * msCount script) ∧
  depth c' ≤ depth c + growCount script ∧
  ((∀ op b, (env.hash op b).length ≤ 520) → bigPush script = false → Small c → Small c')

abbrev StepPost (env : Env) (op : Op) (c c' : Core) : Prop := RunPost env [op] c c'

section stepPost
variable {env : Env} {op : Op} {c c' : Core}

theorem StepPost.same (ho : c'.ops = c.ops + codeCount [op]) (hs : c'.stack = c.stack) (ha : c'.alt = c.alt) :
    StepPost env op c c' :=
  ⟨⟨by omega, by omega⟩, by simp only [depth, hs, ha]; omega, fun _ _ h => by rw [Small, hs, ha]; exact h⟩

theorem StepPost.push {b : Bytes} (hc : codeCount [op] = 0) (hg : grows op = true) (hb : bigPush [op] = false → b.length ≤ 520)
    (h : pushElem env c b = .ok c') : StepPost env op c c' := by
  cases pushElem_inv h
  refine ⟨⟨by show c.ops + _ ≤ c.ops; omega, by show c.ops ≤ _; omega⟩, ?_, fun _ hbig hs =>
    ⟨(small_cons _ _).mpr ⟨hb hbig, hs.1⟩, hs.2⟩⟩
  simp only [depth, List.length_cons, growCount_single, hg, Bool.toNat_true]; omega

theorem post_pshOp (h : pshOp env op c = .ok c') : StepPost env op c c' := by
  cases op with
  | bad b => cases h
  | small n => exact .push rfl rfl (fun _ => small_pushed n) h
  | push bs =>
    change psh env bs c = .ok c' at h
    unfold psh at h
    split at h
    · cases h
    · refine .push rfl rfl (fun hb => ?_) h
      simp only [bigPush_cons, bigPush_nil, Bool.or_false, decide_eq_false_iff_not] at hb
      omega
  | code o =>
    change opc env o c = .ok c' at h
    unfold opc at h
    cases hc : countOp env c 1 with
    | error e => rw [hc] at h; cases h
    | ok c1 =>
      rw [hc] at h
      cases countOp_inv hc
      obtain ⟨h1, h2, h3⟩ := post_execOpc env o _ c' h
      have e1 : codeCount [Op.code o] = 1 := rfl
      rw [StepPost, RunPost, e1, msCount_single, growCount_single]
      exact ⟨by simp only at h1; omega, h2, fun hh _ hs => h3 hh hs⟩

theorem post_coreStep {exec : Bool} (h : coreStep env exec op c = .ok c') : StepPost env op c c' := by
  cases exec with
  | false =>
    rw [coreStep_dead] at h
    cases op with
    | code o => cases countOp_inv h; exact .same rfl rfl rfl
    | push bs =>
      simp only [skipStep] at h
      split at h
      · cases h
      · cases h; exact .same rfl rfl rfl
    | small n => cases h; exact .same rfl rfl rfl
    | bad b => cases h; exact .same rfl rfl rfl
  | true =>
    rcases Op.cases op with hp | ⟨nf, rfl⟩ | rfl | rfl
    · rw [coreStep_plain hp] at h
      exact post_pshOp h
    · rw [coreStep_cond] at h
      cases hc : cnd env nf c with
      | error e => rw [hc] at h; cases h
      | ok p =>
        obtain ⟨v, c2⟩ := p
        rw [hc] at h
        obtain rfl : c2 = c' := by injection h
        obtain ⟨a, h1, h2, _⟩ := cnd_inv hc
        have h3 := cnd_ops hc
        have e1 : codeCount [Op.code (condOpc nf)] = 1 := rfl
        refine ⟨by rw [e1]; omega, ?_, fun _ _ hs => ?_⟩
        · simp only [depth, h1, h2, List.length_cons]; omega
        · rw [Small, h1] at hs
          exact ⟨((small_cons _ _).mp hs.1).2, h2 ▸ hs.2⟩
    · cases countOp_inv (coreStep_else ▸ h); exact .same rfl rfl rfl
    · cases countOp_inv (coreStep_endif ▸ h); exact .same rfl rfl rfl

end stepPost

theorem step_post (env : Env) (s s1 : State) (op : Op) (h : step env s op = .ok s1) :
    StepPost env op s.core s1.core :=
  post_coreStep (step_core h)

theorem countOp_transfer {env : Env} (o t : Bool) {c c1 : Core} {n : Nat} (h : countOp env c n = .ok c1)
    (hb : env.flags.tapscript = true ∨ c1.ops ≤ 201) : countOp (withLimits env o t) c n = .ok c1 := by
  cases countOp_inv h
  exact countOp_withLimits o t c n hb

theorem trans_pshOp {env : Env} {o t : Bool} {op : Op} {c c' : Core} (h : pshOp env op c = .ok c') (hok : OK env c')
    (hbig : bigPush [op] = false) : pshOp (withLimits env o t) op c = .ok c' := by
  cases op with
  | bad b => cases h
  | small n => exact pushElem_withLimits env o t c _ c' h hok
  | push bs =>
    simp only [bigPush_cons, bigPush_nil, Bool.or_false, decide_eq_false_iff_not] at hbig
    change psh env bs c = .ok c' at h
    change psh (withLimits env o t) bs c = .ok c'
    unfold psh at h ⊢
    split at h
    · cases h
    · rw [if_neg (by simp [hbig])]
      exact pushElem_withLimits env o t c bs c' h hok
  | code op =>
    change opc env op c = .ok c' at h
    change opc (withLimits env o t) op c = .ok c'
    unfold opc at h ⊢
    cases hc : countOp env c 1 with
    | error e => rw [hc] at h; cases h
    | ok c1 =>
      rw [hc] at h
      obtain ⟨hm, ht⟩ := trans_execOpc env o t op c1 c' h
      rw [countOp_transfer o t hc (hok.2.2.imp_right (Nat.le_trans hm))]
      exact ht hok

/-- the limits enter the core part of a step through `pshOp`, through the `countOp 1` of an opcode that is not executed
as a plain one (dead region, IF / NOTIF, ELSE, ENDIF), and through the size check of a push in a dead region -/
theorem trans_coreStep {env : Env} {o t exec : Bool} {op : Op} {c c' : Core} (h : coreStep env exec op c = .ok c')
    (hok : OK env c') (hbig : bigPush [op] = false) : coreStep (withLimits env o t) exec op c = .ok c' := by
  have hcnt : ∀ {c1 : Core}, countOp env c 1 = .ok c1 → c1.ops ≤ c'.ops →
      countOp (withLimits env o t) c 1 = .ok c1 :=
    fun hc hle => countOp_transfer o t hc (hok.2.2.imp_right (Nat.le_trans hle))
  cases exec with
  | false =>
    rw [coreStep_dead] at h ⊢
    cases op with
    | code o' => exact hcnt h (Nat.le_refl _)
    | push bs =>
      simp only [bigPush_cons, bigPush_nil, Bool.or_false, decide_eq_false_iff_not] at hbig
      simp only [skipStep] at h ⊢
      split at h
      · cases h
      · rw [if_neg (by simp [hbig])]; exact h
    | _ => exact h
  | true =>
    rcases Op.cases op with hp | ⟨nf, rfl⟩ | rfl | rfl
    · rw [coreStep_plain hp] at h ⊢
      exact trans_pshOp h hok hbig
    · rw [coreStep_cond] at h ⊢
      cases hc : cnd env nf c with
      | error e => rw [hc] at h; cases h
      | ok p =>
        obtain ⟨v, c2⟩ := p
        rw [hc] at h
        obtain rfl : c2 = c' := by injection h
        have e : cnd (withLimits env o t) nf c = .ok (v, c2) := by
          unfold cnd at hc ⊢
          cases hk : countOp env c 1 with
          | error e => rw [hk] at hc; cases hc
          | ok c1 =>
            rw [hk] at hc
            rw [hcnt hk (Nat.le_of_eq (condPop_ops hc).symm)]
            exact hc
        rw [e]; rfl
    · exact hcnt h (Nat.le_refl _)
    · exact hcnt h (Nat.le_refl _)

theorem step_trans (env : Env) (o t : Bool) (s s1 : State) (op : Op) (h : step env s op = .ok s1)
    (hok : OK env s1.core) (hbig : bigPush [op] = false) :
    step (withLimits env o t) s op = .ok s1 :=
  step_of_core h (trans_coreStep (step_core h) hok hbig)

theorem run_post (env : Env) (script : List Op) (s s' : State) (h : run env script s = .ok s') :
    RunPost env script s.core s'.core := by
  induction script generalizing s with
  | nil =>
    cases h
    exact ⟨⟨Nat.le_refl _, Nat.le_refl _⟩, Nat.le_refl _, fun _ _ hs => hs⟩
  | cons op rest ih =>
    rw [run_cons] at h
    cases hs : step env s op with
    | error e => rw [hs] at h; cases h
    | ok s1 =>
      rw [hs] at h
      obtain ⟨a1, a2, a3⟩ := step_post env s s1 op hs
      obtain ⟨b1, b2, b3⟩ := ih s1 h
      rw [RunPost, codeCount_cons, growCount_cons, msCount_cons]
      refine ⟨⟨by omega, by omega⟩, by omega, ?_⟩
      intro hh hb hsm
      rw [← List.singleton_append, bigPush_append, Bool.or_eq_false_iff] at hb
      exact b3 hh hb.2 (a3 hh hb.1 hsm)

/-- executed-opcode counter after a successful run: every non-push opcode counts once
(executed or not), every CHECKMULTISIG at most 20 more -/
theorem run_ops_le (env : Env) (script : List Op) (s s' : State)
    (hrun : run env script s = .ok s') :
    s.core.ops ≤ s'.core.ops ∧ s'.core.ops ≤ s.core.ops + codeCount script + 20 * msCount script :=
  ⟨Nat.le_trans (Nat.le_add_right _ _) (run_post env script s s' hrun).1.1, (run_post env script s s' hrun).1.2⟩

theorem run_trans (env : Env) (o t : Bool) (hhash : ∀ op b, (env.hash op b).length ≤ 520)
    (script : List Op) (hbig : bigPush script = false)
    (s s' : State) (hrun : run env script s = .ok s')
    (helem : Small s.core) (hdepth : depth s.core + growCount script ≤ 1000)
    (hops : env.flags.tapscript = true ∨ s'.core.ops ≤ 201) :
    run (withLimits env o t) script s = .ok s' := by
  induction script generalizing s with
  | nil => exact hrun
  | cons op rest ih =>
    rw [run_cons] at hrun ⊢
    cases hs : step env s op with
    | error e => rw [hs] at hrun; cases hrun
    | ok s1 =>
      rw [hs] at hrun
      rw [← List.singleton_append, bigPush_append, Bool.or_eq_false_iff] at hbig
      have hb1 : bigPush [op] = false := hbig.1
      rw [growCount_cons] at hdepth
      obtain ⟨_, a2, a3⟩ := step_post env s s1 op hs
      obtain ⟨b1, _, _⟩ := run_post env rest s1 s' hrun
      have hok : OK env s1.core := by
        refine ⟨a3 hhash hb1 helem, by omega, ?_⟩
        cases hops with
        | inl ht => exact Or.inl ht
        | inr hl => right; omega
      rw [step_trans env o t s s1 op hs hok hb1]
      exact ih hbig.2 s1 hrun hok.1 (by omega)

/-- **Transfer**, for an arbitrary setting `o t` of the two limit flags (`run_trans` in the
vocabulary of the spec) -/
theorem run_withLimits (env : Env) (o t : Bool)
    (hhash : ∀ op b, (env.hash op b).length ≤ 520)
    (script : List Op) (hbig : bigPush script = false)
    (s s' : State) (hrun : run env script s = .ok s')
    (helem : ∀ x, x ∈ s.core.stack ++ s.core.alt → x.length ≤ 520)
    (hdepth : s.core.stack.length + s.core.alt.length + growCount script ≤ 1000)
    (hops : env.flags.tapscript = true ∨ s'.core.ops ≤ 201) :
    run (withLimits env o t) script s = .ok s' :=
  run_trans env o t hhash script hbig s s' hrun ((small_append _ _).mp helem) hdepth hops

set_option linter.unusedVariables false in
/-- **Transfer.**  A run that succeeds with the limits OFF also succeeds, with the same final
state, with the limits ON, provided: no push in the script exceeds 520 bytes, hash outputs are
≤ 520 bytes, the initial elements are ≤ 520 bytes, the initial depth plus the number of growing
script elements is ≤ 1000, and (outside tapscript) the final opcode counter is ≤ 201.  `hop` / `hst` say
what the statement is for (limits OFF → limits ON); the proof does not need them. -/
theorem run_limitsOn (env : Env) (hop : env.flags.opLimit = false) (hst : env.flags.stackLimits = false)
    (hhash : ∀ op b, (env.hash op b).length ≤ 520)
    (script : List Op) (hbig : bigPush script = false)
    (s s' : State) (hrun : run env script s = .ok s')
    (helem : ∀ x, x ∈ s.core.stack ++ s.core.alt → x.length ≤ 520)
    (hdepth : s.core.stack.length + s.core.alt.length + growCount script ≤ 1000)
    (hops : env.flags.tapscript = true ∨ s'.core.ops ≤ 201) :
    run (limitsOn env) script s = .ok s' :=
  run_withLimits env true true hhash script hbig s s' hrun helem hdepth hops

end MsVerif.SatSpec
