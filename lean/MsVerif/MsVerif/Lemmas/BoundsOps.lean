/-
C09: `static_ops` is the number of non-push opcodes of the encoded script (the part of Core's `nOpCount`
that does not depend on the witness); the executed-opcode counter; the 201-opcode limit.
-/
import MsVerif.Lemmas.BoundsSize
import MsVerif.Lemmas.CoreFrag
import MsVerif.Lemmas.SatLimits

namespace MsVerif.C09
open MsVerif Script

def isCode : Op → Bool
  | .code _ => true
  | _ => false

@[simp] theorem isCode_code (o : Opc) : isCode (.code o) = true := rfl
@[simp] theorem isCode_push (b : Bytes) : isCode (.push b) = false := rfl
@[simp] theorem isCode_small (n : Nat) : isCode (.small n) = false := rfl

@[simp] theorem codeCount_nil : codeCount [] = 0 := MsVerif.codeCount_nil

attribute [local simp] codeCount_append

@[simp] theorem codeCount_cons_eq (op : Op) (s : List Op) :
    codeCount (op :: s) = (if isCode op then 1 else 0) + codeCount s := by
  cases op <;> simp [isCode, codeCount] <;> omega

@[simp] theorem isCode_pushInt (n : Nat) : isCode (pushInt n) = false := by
  unfold pushInt; split <;> rfl

theorem codeCount_keys (ke : KeyEnv) (ks : List Key) :
    codeCount (ks.map (fun pk => Op.push (ke.ser pk))) = 0 := by
  induction ks with
  | nil => rfl
  | cons k ks ih => simp [ih]

theorem codeCount_pushVerify (s : List Op) :
    codeCount (pushVerify s) = codeCount s + (if endsFusable s then 0 else 1) :=
  pushVerify_measure codeCount codeCount_append (fun _ => rfl) s

mutual
/-- no `multi_a` (its `static_ops` is 0: "irrelevant; no ops limit in Taproot"), `thresh` non-empty -/
def opsOk : Ms → Bool
  | .multiA _ _ | .sortedMultiA _ _ => false
  | .alt x | .swap x | .check x | .dupIf x | .verify x | .nonZero x | .zeroNotEqual x => opsOk x
  | .andV l r | .andB l r | .orB l r | .orD l r | .orC l r | .orI l r => opsOk l && opsOk r
  | .andOr a b c => opsOk a && opsOk b && opsOk c
  | .thresh _ xs => decide (0 < xs.length) && opsOks xs
  | _ => true
def opsOks : MsList → Bool
  | .nil => true
  | .cons x xs => opsOk x && opsOks xs
end

mutual
theorem staticOps_eq (ke : KeyEnv) (ctx : Ctx) : (ms : Ms) → opsOk ms = true →
    (extOf ke ctx ms).staticOps = codeCount (encode ke ctx ms)
  | .tru, _ | .fls, _ => rfl
  | .pkK _, _ | .pkH _, _ | .rawPkH _, _ => by cases ctx <;> rfl
  | .after n, _ | .older n, _ => by simp [extOf, ExtData.after, ExtData.older, encode]
  | .hash kind _, _ => by cases kind <;> simp [extOf, ExtData.hash32, ExtData.hash20, encode]
  | .swap x, h => by
    simp only [extOf, ExtData.castSwap, encode, codeCount_append, codeCount_cons_eq, codeCount_nil, isCode_code,
      if_true, staticOps_eq ke ctx x h]
  | .alt x, h | .check x, h | .zeroNotEqual x, h | .dupIf x, h | .nonZero x, h => by
    simp only [extOf, ExtData.castAlt, ExtData.castCheck, ExtData.castZeroNotEqual,
      ExtData.castDupIf, ExtData.castNonZero, encode, codeCount_append, codeCount_cons_eq, codeCount_nil, isCode_code,
      if_true, staticOps_eq ke ctx x h]
    omega
  | .verify x, h => by
    simp only [extOf, ExtData.castVerify, encode, codeCount_pushVerify, hfv_eq ke ctx x,
      staticOps_eq ke ctx x h]
    split <;> omega
  | .andV l r, h => by
    simp only [opsOk, Bool.and_eq_true] at h
    simp only [extOf, ExtData.andV, encode, codeCount_append, staticOps_eq ke ctx l h.1, staticOps_eq ke ctx r h.2]
  | .andB l r, h | .orB l r, h | .orD l r, h | .orC l r, h | .orI l r, h => by
    simp only [opsOk, Bool.and_eq_true] at h
    simp only [extOf, ExtData.andB, ExtData.orB, ExtData.orD, ExtData.orC, ExtData.orI, encode,
      codeCount_append, codeCount_cons_eq, codeCount_nil, isCode_code, if_true, staticOps_eq ke ctx l h.1,
      staticOps_eq ke ctx r h.2]
    omega
  | .andOr a b c, h => by
    simp only [opsOk, Bool.and_eq_true] at h
    simp only [extOf, ExtData.andOr, encode, codeCount_append, codeCount_cons_eq, codeCount_nil, isCode_code, if_true,
      staticOps_eq ke ctx a h.1.1, staticOps_eq ke ctx b h.1.2, staticOps_eq ke ctx c h.2]
    omega
  | .thresh k xs, h => by
    simp only [opsOk, Bool.and_eq_true, decide_eq_true_eq] at h
    have := encodeThresh_ops ke ctx xs h.2 true
    simp only [h.1, decide_true, Bool.and_true, if_true] at this
    simp [extOf, ExtData.threshold, encode, extsOf_length] at this ⊢
    omega
  | .multi k ks, _ | .sortedMulti k ks, _ => by
    simp [extOf, ExtData.multi, encode, codeCount_keys]
  | .multiA _ _, h | .sortedMultiA _ _, h => by simp [opsOk] at h
theorem encodeThresh_ops (ke : KeyEnv) (ctx : Ctx) : (xs : MsList) → opsOks xs = true →
    ∀ first : Bool, codeCount (encodeThresh ke ctx first xs)
        + (if (first && decide (0 < xs.length)) = true then 1 else 0)
      = ((extsOf ke ctx xs).map (·.staticOps)).sum + xs.length
  | .nil, _ => by intro first; cases first <;> simp [encodeThresh, extsOf, MsList.length]
  | .cons x xs, h => by
    intro first
    simp only [opsOks, Bool.and_eq_true] at h
    have ih := encodeThresh_ops ke ctx xs h.2 false
    simp only [Bool.false_and, Bool.false_eq_true, if_false, Nat.add_zero] at ih
    cases first <;>
      simp [encodeThresh, extsOf, MsList.length, ih, staticOps_eq ke ctx x h.1] <;> omega
end

/-! ### CHECKMULTISIG(VERIFY), the one opcode that counts more than itself -/

def isMultisig : Op → Bool
  | .code .checkmultisig | .code .checkmultisigverify => true
  | _ => false

@[simp] theorem isMultisig_code (o : Opc) :
    isMultisig (.code o) = decide (o = .checkmultisig ∨ o = .checkmultisigverify) := by
  cases o <;> rfl
@[simp] theorem isMultisig_push (b : Bytes) : isMultisig (.push b) = false := rfl
@[simp] theorem isMultisig_small (n : Nat) : isMultisig (.small n) = false := rfl

@[simp] theorem isMultisig_pushInt (n : Nat) : isMultisig (pushInt n) = false := by
  unfold pushInt; split <;> rfl

def NoMs (s : List Op) : Prop := ∀ op ∈ s, isMultisig op = false

theorem NoMs_of_forall {s : List Op} (h : ∀ op ∈ s, isMultisig op = false) : NoMs s := h

@[simp] theorem NoMs_nil : NoMs [] := fun _ h => absurd h List.not_mem_nil

@[simp] theorem NoMs_cons {o : Op} {s : List Op} : NoMs (o :: s) ↔ isMultisig o = false ∧ NoMs s := by
  simp [NoMs]

@[simp] theorem NoMs_append_iff {a b : List Op} : NoMs (a ++ b) ↔ NoMs a ∧ NoMs b := by
  simp only [NoMs, List.mem_append]
  exact ⟨fun h => ⟨fun o ho => h o (.inl ho), fun o ho => h o (.inr ho)⟩, fun h o ho => ho.elim (h.1 o) (h.2 o)⟩

theorem msCount_eq_zero {script : List Op} (h : NoMs script) : SatSpec.msCount script = 0 :=
  List.length_eq_zero_iff.2 (List.filter_eq_nil_iff.2 fun op hop => by simp [show SatSpec.isMs op = false from h op hop])

/-- a script without CHECKMULTISIG: whatever the witness, every successful run ends with
`ops = initial + number of non-push opcodes` (executed or not — Core's counting rule): the two bounds of
`SatSpec.run_post` meet -/
theorem run_ops {env : Env} (script : List Op) (s s' : State) (hm : NoMs script)
    (h : run env script s = .ok s') : s'.core.ops = s.core.ops + codeCount script := by
  have := (SatSpec.run_post env script s s' h).1
  rw [msCount_eq_zero hm] at this
  omega

mutual
def multiFree : Ms → Bool
  | .multi _ _ | .sortedMulti _ _ => false
  | .alt x | .swap x | .check x | .dupIf x | .verify x | .nonZero x | .zeroNotEqual x => multiFree x
  | .andV l r | .andB l r | .orB l r | .orD l r | .orC l r | .orI l r => multiFree l && multiFree r
  | .andOr a b c => multiFree a && multiFree b && multiFree c
  | .thresh _ xs => multiFrees xs
  | _ => true
def multiFrees : MsList → Bool
  | .nil => true
  | .cons x xs => multiFree x && multiFrees xs
end

theorem NoMs_pushVerify {s : List Op} (h : NoMs s) : NoMs (pushVerify s) := by
  have hd : NoMs s.dropLast := fun op hop => h op (List.dropLast_subset s hop)
  unfold pushVerify
  split
  case h_4 hl => exact absurd (h _ (List.mem_of_getLast? hl)) (by simp [isMultisig])
  all_goals simp [h, hd]

theorem NoMs_multiA (ke : KeyEnv) (ks : List Key) : NoMs (encodeMultiA ke ks) := by
  intro op h
  cases ks with
  | nil => simp [encodeMultiA] at h
  | cons k ks =>
    simp only [encodeMultiA, List.mem_append, List.mem_cons, List.mem_flatMap, List.not_mem_nil, or_false] at h
    rcases h with (rfl | rfl) | ⟨_, _, (rfl | rfl)⟩ <;> rfl

mutual
theorem encode_noMs (ke : KeyEnv) (ctx : Ctx) : (ms : Ms) → multiFree ms = true → NoMs (encode ke ctx ms)
  | .tru, _ | .fls, _ | .pkK _, _ | .pkH _, _ | .rawPkH _, _ | .after _, _ | .older _, _ => by
    simp [encode]
  | .hash kind _, _ => by cases kind <;> simp [encode, hashOpc]
  | .verify x, h => by
    simp only [encode]
    exact NoMs_pushVerify (encode_noMs ke ctx x h)
  | .alt x, h | .swap x, h | .check x, h | .zeroNotEqual x, h | .dupIf x, h | .nonZero x, h => by
    simp [encode, encode_noMs ke ctx x h]
  | .andV l r, h | .andB l r, h | .orB l r, h | .orD l r, h | .orC l r, h | .orI l r, h => by
    simp only [multiFree, Bool.and_eq_true] at h
    simp [encode, encode_noMs ke ctx l h.1, encode_noMs ke ctx r h.2]
  | .andOr a b c, h => by
    simp only [multiFree, Bool.and_eq_true] at h
    simp [encode, encode_noMs ke ctx a h.1.1, encode_noMs ke ctx b h.1.2, encode_noMs ke ctx c h.2]
  | .thresh k xs, h => by
    simp [encode, encodeThresh_noMs ke ctx xs h true]
  | .multiA k ks, _ | .sortedMultiA k ks, _ => by simp [encode, NoMs_multiA]
  | .multi _ _, h | .sortedMulti _ _, h => by simp [multiFree] at h
theorem encodeThresh_noMs (ke : KeyEnv) (ctx : Ctx) : (xs : MsList) → multiFrees xs = true →
    ∀ first : Bool, NoMs (encodeThresh ke ctx first xs)
  | .nil, _ => by intro first; simp [encodeThresh]
  | .cons x xs, h => by
    intro first
    simp only [multiFrees, Bool.and_eq_true] at h
    cases first <;> simp [encodeThresh, encode_noMs ke ctx x h.1, encodeThresh_noMs ke ctx xs h.2 false]
end

def withOpLimit (env : Env) : Env := { env with flags := { env.flags with opLimit := true } }

theorem countOp_opLimit (env : Env) (c : Core) (n : Nat) (h : c.ops + n ≤ 201) :
    countOp (withOpLimit env) c n = countOp env c n := by
  have hd : decide (c.ops + n > 201) = false := by simp; omega
  simp [countOp, withOpLimit, hd]

/-- only `countOp` reads the flag, and among the opcodes only CHECKMULTISIG calls it: the local action of the
others does not see it, nor does the push that ends them -/
theorem execOpc_opLimit (env : Env) (o : Opc) (c : Core)
    (ho : isMultisig (.code o) = false) :
    execOpc (withOpLimit env) o c = execOpc env o c := by
  induction o using Opc.multisig_or with
  | h1 => cases ho
  | h2 => cases ho
  | h hne =>
    rcases execOpc_cases hne c with hs | ⟨pre, rest, _, _, hl⟩
    · rw [hs, hs]
    · rw [hl, hl]; rfl

theorem step_opLimit (env : Env) (s : State) (op : Op) (hm : isMultisig op = false)
    (h : s.core.ops + (if isCode op then 1 else 0) ≤ 201) :
    step (withOpLimit env) s op = step env s op := by
  cases op with
  | bad b => rfl
  | small n => rfl
  | push bs => rfl
  | code o =>
    unfold step
    simp only [countOp_opLimit env s.core 1 (by simpa [isCode] using h)]
    cases countOp env s.core 1 with
    | error e => rfl
    | ok c =>
      -- the four conditional opcodes do not look at the flags; the rest go through `execOpc`
      simp only
      split
      · rfl
      · rfl
      · rfl
      · rfl
      · rw [execOpc_opLimit env _ c hm]

theorem run_opLimit (env : Env) : ∀ (script : List Op) (s : State),
    NoMs script → s.core.ops + codeCount script ≤ 201 →
    run (withOpLimit env) script s = run env script s := by
  intro script
  induction script with
  | nil => intro s _ _; rfl
  | cons op rest ih =>
    intro s hm hle
    rw [NoMs_cons] at hm
    rw [codeCount_cons_eq] at hle
    have hs := step_opLimit env s op hm.1 (by omega)
    rw [run_cons, run_cons, hs]
    cases hst : step env s op with
    | error e => rfl
    | ok s1 =>
      have h1 := (SatSpec.step_post env s s1 op hst).1.2
      rw [msCount_eq_zero (NoMs_cons.2 ⟨hm.1, NoMs_nil⟩), codeCount_cons_eq, codeCount_nil] at h1
      exact ih s1 hm.2 (by omega)

end MsVerif.C09
