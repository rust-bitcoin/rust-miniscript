/-
"The reported constraints are EXACTLY the checks the executed path performed": an instrumented
reading of the structured Script semantics (`checksOf`: which signature checks succeed with a
non-empty signature, which hash locks are opened, which lock values CLTV / CSV see — the Lean
mirror of the harness's instrumented executor behind `J constraints`), and the theorem that the
model interpreter's constraint list equals it, as LISTS (same order), up to `norm` (a key-hash
constraint is the signature check of `pk_h`; the `DUP HASH160 <h> EQUALVERIFY` in front of it is a
key-hash check, not a hash lock).

Proved for the fragments whose children run on a stack of the form `consumed ++ rest` (no element
inserted below the consumed part): everything except `s:`, `d:` (they need a frame lemma for
`checksOf`), `thresh`, `multi` (key walk under a one-directional oracle), `c:` over a compound
`K` fragment (`c:and_v(..)`, `c:or_i(..)`, `c:andor(..)`; `c:pk_k` / `c:pk_h` are covered) and the
`sortedmulti` / `sortedmulti_a` nodes, which the script decoder never produces (`CSup`).
-/
import MsVerif.Lemmas.InterpSound

namespace MsVerif.InterpChecks
open MsVerif Script Interp InterpSound

/-- the stack a step leaves (alt stack empty, counter 0: neither influences the checks) -/
def after (f : Core → Except Err Core) (st : List Bytes) : Option (List Bytes) :=
  match f ⟨st, [], 0⟩ with
  | .ok c => some c.stack
  | .error _ => none

/-- a successful CHECKSIG on (key, signature) on top of the stack -/
def sigCheck (env : Env) : Option (List Bytes) → List Constraint
  | some (pk :: sg :: _) => match checkSig env sg pk with | .ok true => [.pk pk sg] | _ => []
  | _ => []

/-- `multi_a`: key `i` is checked against stack element `i` -/
def maChecks (env : Env) : List Bytes → List Bytes → List Constraint
  | [], _ => []
  | _ :: _, [] => []
  | key :: keys, sg :: st =>
    (match checkSig env sg key with | .ok true => [Constraint.pk key sg] | _ => []) ++ maChecks env keys st

/-- the successful checks of running `ms` on `st` (meaningful when the run succeeds) -/
def checksOf (env : Env) (ke : KeyEnv) (ctx : Ctx) : Ms → List Bytes → List Constraint
  | .tru, _ | .fls, _ | .pkK _, _ | .pkH _, _ | .rawPkH _, _ => []
  | .after n, _ => [.after n]
  | .older n, _ => [.older n]
  | .hash kind h, st =>
    match st with
    | pre :: _ =>
      if env.hash (hkOp kind) pre = ke.hashVal kind h then [.hashLock kind (ke.hashVal kind h) pre] else []
    | [] => []
  | .check x, st => checksOf env ke ctx x st ++ sigCheck env (after (frag env ke ctx x) st)
  | .alt x, st => match st with | _ :: st' => checksOf env ke ctx x st' | [] => []
  | .verify x, st | .zeroNotEqual x, st => checksOf env ke ctx x st
  | .nonZero x, st => match st with | top :: _ => if top = [] then [] else checksOf env ke ctx x st | [] => []
  | .andV l r, st | .andB l r, st | .orB l r, st =>
    checksOf env ke ctx l st ++
      (match after (frag env ke ctx l) st with | some st1 => checksOf env ke ctx r st1 | none => [])
  | .andOr a b z, st =>
    checksOf env ke ctx a st ++
      (match after (frag env ke ctx a) st with
       | some (v :: st1) => if castToBool v then checksOf env ke ctx b st1 else checksOf env ke ctx z st1
       | _ => [])
  | .orC l r, st | .orD l r, st =>
    checksOf env ke ctx l st ++
      (match after (frag env ke ctx l) st with
       | some (v :: st1) => if castToBool v then [] else checksOf env ke ctx r st1
       | _ => [])
  | .orI l r, st =>
    match st with
    | v :: st1 => if castToBool v then checksOf env ke ctx l st1 else checksOf env ke ctx r st1
    | [] => []
  | .multiA _ ks, st => maChecks env (ks.map ke.ser) st
  -- outside the proved fragment set (see the header)
  | .swap _, _ | .dupIf _, _ | .thresh _ _, _ | .multi _ _, _ | .sortedMulti _ _, _ | .sortedMultiA _ _, _ => []

/-- a key-hash constraint is the signature check of `pk_h` -/
def norm : Constraint → Constraint
  | .pkh _ pk sg => .pk pk sg
  | c => c

/-- the fragment set of the completeness theorem -/
def CSup : Ms → Prop
  | .swap _ | .dupIf _ | .thresh _ _ | .multi _ _ | .sortedMulti _ _ | .sortedMultiA _ _ => False
  | .check (.pkK _) | .check (.pkH _) => True
  | .check _ => False
  | .alt x | .verify x | .nonZero x | .zeroNotEqual x => CSup x
  | .andV l r | .andB l r | .orB l r | .orC l r | .orD l r | .orI l r => CSup l ∧ CSup r
  | .andOr a b c => CSup a ∧ CSup b ∧ CSup c
  | _ => True

variable {env : Env} {ke : KeyEnv} {ie : IEnv} {ctx : Ctx}

attribute [local simp] Except.bind_ok

/-- what completeness means per base type -/
def CPost (env : Env) (ke : KeyEnv) (ctx : Ctx) (ms : Ms) (b : Base) (c : List Bytes)
    (cs : List Constraint) : Prop :=
  match b with
  | .B | .V => ∀ rest, checksOf env ke ctx ms (c ++ rest) = cs.map norm
  | .K => True
  | .W => ∀ t rest, checksOf env ke ctx ms (t :: (c ++ rest)) = cs.map norm

theorem after_eq {f : Core → Except Err Core} {st st' alt : List Bytes} {o : Nat}
    (h : f ⟨st, [], 0⟩ = .ok ⟨st', alt, o⟩) : after f st = some st' := by
  simp [after, h]

theorem after_top (h : NoLimits env) (ag : Agree env ie) {l : Ms} {tl : Ty} {st : AStack} {c : List Bytes} {x : Elem}
    {st1 : AStack} {cs1 : List Constraint} (htl : HasType l tl) (hbl : tl.corr.base = .B)
    (hs : Sup env ke l) (hc : st = absS c) (hA : SmallA st) (hl : interp ke ie l st = .ok (x :: st1, cs1)) :
    ∃ c1, st1 = absS c1 ∧ ∀ rest, ∃ v, after (frag env ke ctx l) (c ++ rest) = some (v :: (c1 ++ rest)) ∧
      (tl.corr.unit = true → castToBool v = decide (x = .sat)) := by
  subst hc
  have Sl := sound (ctx := ctx) h ag l tl htl.typeOf_eq hs c _ cs1 hA hl
  rw [hbl] at Sl
  obtain ⟨_, c1, ha, F⟩ := Sl
  cases ha
  refine ⟨c1, rfl, fun rest => ?_⟩
  obtain ⟨v, o, hf, hr⟩ := F rest [] 0
  refine ⟨v, after_eq hf, fun hu => ?_⟩
  rw [hu] at hr
  rcases hr.minimal with ⟨e1, e2⟩ | ⟨e1, e2⟩ <;> subst e1 <;> subst e2 <;> decide

theorem complete_sig (ag : Agree env ie) {pk : Bytes} (hk : pubkeyOk env pk = true)
    {mk : Bytes → Constraint} (hmk : ∀ sg, norm (mk sg) = .pk pk sg)
    {c : List Bytes} {a' : AStack} {cs : List Constraint}
    (hi : evalSig ie pk mk (absS c) = .ok (a', cs)) :
    ∃ sg c0, c = sg :: c0 ∧ ∀ rest, sigCheck env (some (pk :: sg :: (c0 ++ rest))) = cs.map norm := by
  rcases evalSig_ok hi with ⟨_, hst, _, rfl⟩ | ⟨_, _, hst, hv, _, rfl⟩
  · obtain ⟨c0, rfl, _⟩ := absS_eq_dissat hst.symm
    exact ⟨[], c0, rfl, fun _ => by simp [sigCheck, Script.checkSig_empty hk]⟩
  · obtain ⟨c0, rfl, _, hne⟩ := absS_eq_push hst
    have := checkSig_ok hk hne (ag.sig _ _ hv)
    exact ⟨_, c0, rfl, fun _ => by simp [sigCheck, this, hmk]⟩

theorem complete_check_pkK (h : NoLimits env) (ag : Agree env ie) {k : Key}
    (hk : pubkeyOk env (ke.ser k) = true) {c : List Bytes} {a' : AStack} {cs : List Constraint}
    (hi : evalSig ie (ke.ser k) (.pk (ke.ser k)) (absS c) = .ok (a', cs)) :
    CPost env ke ctx (.check (.pkK k)) .B c cs := by
  obtain ⟨sg, c0, rfl, hs⟩ := complete_sig ag hk (fun _ => rfl) hi
  intro rest
  have ha : after (frag env ke ctx (.pkK k)) (sg :: c0 ++ rest) = some (ke.ser k :: sg :: (c0 ++ rest)) := by
    obtain ⟨_, e⟩ := (SatSpec.frag_pkK (ke := ke) (ctx := ctx) h k (sg :: (c0 ++ rest))).eq [] 0
    exact after_eq e
  simp only [checksOf, List.nil_append, ha]
  exact hs rest

theorem complete_check_pkH (h : NoLimits env) (ag : Agree env ie) {k : Key}
    {c : List Bytes} {a' : AStack} {cs : List Constraint}
    (hi : evaluatePkh ie (ke.pkh k) (absS c) = .ok (a', cs)) :
    CPost env ke ctx (.check (.pkH k)) .B c cs := by
  obtain ⟨pk, st', hst, hh, hkp, hsig⟩ := evaluatePkh_ok hi
  obtain ⟨c1, rfl, rfl, _⟩ := absS_eq_push hst
  obtain ⟨sg, c0, rfl, hs⟩ := complete_sig ag (ag.key pk hkp) (mk := .pkh (ke.pkh k) pk) (fun _ => rfl) hsig
  intro rest
  have ha : after (frag env ke ctx (.pkH k)) (pk :: sg :: c0 ++ rest) = some (pk :: sg :: (c0 ++ rest)) := by
    obtain ⟨_, e⟩ := (SatSpec.frag_pkH (ke := ke) (ctx := ctx) h k pk (sg :: (c0 ++ rest)) (by rw [← ag.h160, hh])).eq [] 0
    exact after_eq e
  simp only [checksOf, List.nil_append, ha]
  exact hs rest

theorem complete_multiA (ag : Agree env ie) {k : Nat} :
    ∀ (keys : List Bytes) (nSat : Nat) (c : List Bytes) (a' : AStack) (cs : List Constraint),
      (∀ pk ∈ keys, pubkeyOk env pk = true) →
      Interp.multiALoop ie k keys nSat (absS c) = .ok (a', cs) →
      ∀ rest, maChecks env keys (c ++ rest) = cs.map norm := by
  intro keys nSat c a' cs hkeys hi
  refine multiALoop_induct
    (P := fun keys _ st _ cs => ∀ c, st = absS c → (∀ pk ∈ keys, pubkeyOk env pk = true) →
      ∀ rest, maChecks env keys (c ++ rest) = cs.map norm)
    (fun _ _ _ _ _ _ => by simp [maChecks]) ?_ ?_ _ _ _ _ _ hi c rfl hkeys
  · intro pk rest n sg st a cs hv _ ih c hc hkeys r
    obtain ⟨c1, rfl, rfl, hne⟩ := absS_eq_push hc.symm
    have := checkSig_ok (hkeys pk (by simp)) hne (ag.sig _ _ hv)
    simp [maChecks, this, norm, ih c1 rfl (fun q hq => hkeys q (by simp [hq])) r]
  · intro pk rest n st a cs _ ih c hc hkeys r
    obtain ⟨c1, rfl, rfl⟩ := absS_eq_dissat hc
    simp [maChecks, Script.checkSig_empty (hkeys pk (by simp)), ih c1 rfl (fun q hq => hkeys q (by simp [hq])) r]

def CompAt (env : Env) (ke : KeyEnv) (ctx : Ctx) (ms : Ms) (b : Base) (st : AStack)
    (cs : List Constraint) : Prop :=
  Sup env ke ms → CSup ms → ∀ c, st = absS c → SmallA st → CPost env ke ctx ms b c cs

/-- a wrapper that runs its child on the same stack and adds no check of its own -/
theorem CPost.same {ms x : Ms} {b b' : Base} {c : List Bytes} {cs : List Constraint}
    (hb : b = .B ∨ b = .V) (hb' : b' = .B ∨ b' = .V)
    (hck : ∀ st, checksOf env ke ctx ms st = checksOf env ke ctx x st)
    (P : CPost env ke ctx x b c cs) : CPost env ke ctx ms b' c cs := by
  rcases hb with rfl | rfl <;> rcases hb' with rfl | rfl <;> exact fun rest => (hck _).trans (P rest)

/-- a node of its child's base type (`and_v`, `andor`, `or_i`): nothing is claimed of a `K` node -/
theorem CPost.lift {ms x : Ms} {b : Base} {c c1 : List Bytes} {cs cs1 : List Constraint} (hb : b ≠ .W)
    (P : CPost env ke ctx x b c1 cs1)
    (H : (∀ rest, checksOf env ke ctx x (c1 ++ rest) = cs1.map norm) →
      ∀ rest, checksOf env ke ctx ms (c ++ rest) = cs.map norm) : CPost env ke ctx ms b c cs := by
  cases b with
  | B | V => exact H P
  | K => trivial
  | W => exact absurd rfl hb

theorem compRules (h : NoLimits env) (ag : Agree env ie) :
    TRules ke ie (fun ms b _ st _ cs => CompAt env ke ctx ms b st cs) (fun _ _ _ _ _ _ => True) where
  tru st := fun _ _ c _ _ rest => by simp [checksOf]
  fls st := fun _ _ c _ _ rest => by simp [checksOf]
  pkK k u st a cs _ := fun _ _ _ _ _ => trivial
  pkH k u st a cs _ := fun _ _ _ _ _ => trivial
  rawPkH k u st a cs _ := fun _ _ _ _ _ => trivial
  after n st a cs hi := fun _ _ c _ _ rest => by
    obtain ⟨_, rfl, _⟩ := evaluateAfter_ok hi
    simp [checksOf, norm]
  older n st a cs hi := fun _ _ c _ _ rest => by
    obtain ⟨_, rfl, _⟩ := evaluateOlder_ok hi
    simp [checksOf, norm]
  hash kind n st a cs hi := fun _ _ c hc _ rest => by
    obtain ⟨pre, st', hst, _, hcase⟩ := evaluateHash_ok hi
    subst hc
    obtain ⟨c1, rfl, _, _⟩ := absS_eq_push hst
    rw [ag.hash] at hcase
    rcases hcase with ⟨heq, _, rfl⟩ | ⟨hne, _, rfl⟩
    · simp [checksOf, heq, norm]
    · simp [checksOf, hne]
  alt x tx st a cs _ _ _ ih := fun hs hcs c hc hA t rest => by
    simpa [checksOf] using ih hs hcs c hc hA rest
  swap x tx st a cs _ _ _ _ _ := fun _ hcs => hcs.elim
  check x tx st a cs _ _ hx _ := fun hs hcs c hc _ => by
    subst hc
    cases x with
    | pkK k => exact complete_check_pkK h ag hs (by simpa only [interp, evaluatePk] using hx)
    | pkH k => exact complete_check_pkH h ag (by simpa only [interp] using hx)
    | _ => exact hcs.elim
  dupIf_dis x st := fun _ hcs => hcs.elim
  dupIf_sat x tx st a cs _ _ _ _ _ := fun _ hcs => hcs.elim
  verify x tx st a cs _ _ _ ih := fun hs hcs c hc hA =>
    (ih hs hcs c hc hA).same (.inl rfl) (.inr rfl) (fun _ => by simp only [checksOf])
  zne_dis x tx st a cs _ _ _ ih := fun hs hcs c hc hA =>
    (ih hs hcs c hc hA).same (.inl rfl) (.inl rfl) (fun _ => by simp only [checksOf])
  zne_sat x tx st e a cs _ _ _ _ ih := fun hs hcs c hc hA =>
    (ih hs hcs c hc hA).same (.inl rfl) (.inl rfl) (fun _ => by simp only [checksOf])
  nonZero_dis x u st := fun _ _ c hc _ rest => by
    obtain ⟨c1, rfl, _⟩ := absS_eq_dissat hc
    simp [checksOf]
  nonZero x tx e st a cs _ _ hne _ ih := fun hs hcs c hc hA rest => by
    obtain ⟨v, c1, rfl, he, _⟩ := absS_eq_cons hc.symm
    have hv : v ≠ [] := fun hv => hne (by rw [← he, hv]; rfl)
    simpa [checksOf, hv] using ih hs hcs _ hc hA rest
  andV l r tl tr st a1 cs1 a cs2 htl _ hbl hnw hl ihl _ ihr := fun hs hcs c hc hA => by
    subst hc
    have Sl := sound (ctx := ctx) h ag l tl htl.typeOf_eq hs.1 c a1 cs1 hA hl
    rw [hbl] at Sl
    obtain ⟨c1, rfl, Fl⟩ := Sl
    have Al : ∀ rest, after (frag env ke ctx l) (c ++ rest) = some (c1 ++ rest) := fun rest =>
      let ⟨_, hf⟩ := Fl rest [] 0; after_eq hf
    have Pl := ihl hs.1 hcs.1 c rfl hA
    exact (ihr hs.2 hcs.2 c1 rfl (hA.interp hl)).lift hnw fun Pr rest => by
      simp [checksOf, Pl rest, Al rest, Pr rest]
  andB l r tl tr st x st1 cs1 y st2 cs2 htl _ hbl _ _ hl ihl _ ihr := fun hs hcs c hc hA rest => by
    obtain ⟨c1, rfl, Al⟩ := after_top (ctx := ctx) h ag htl hbl hs.1 hc hA hl
    obtain ⟨vl, hal, _⟩ := Al rest
    simp [checksOf, ihl hs.1 hcs.1 c hc hA rest, hal, ihr hs.2 hcs.2 c1 rfl (hA.interp hl).tail vl rest]
  orB l r tl tr st x st1 cs1 y st2 cs2 htl _ hbl _ _ hl ihl _ ihr := fun hs hcs c hc hA rest => by
    obtain ⟨c1, rfl, Al⟩ := after_top (ctx := ctx) h ag htl hbl hs.1 hc hA hl
    obtain ⟨vl, hal, _⟩ := Al rest
    simp [checksOf, ihl hs.1 hcs.1 c hc hA rest, hal, ihr hs.2 hcs.2 c1 rfl (hA.interp hl).tail vl rest]
  andOr_sat x y z tx ty tz st st1 cs1 a cs2 htx _ _ hbx hux hnw hx ihx _ ihy := fun hs hcs c hc hA => by
    obtain ⟨c1, rfl, Ax⟩ := after_top (ctx := ctx) h ag htx hbx hs.1 hc hA hx
    have Px := ihx hs.1 hcs.1 c hc hA
    exact (ihy hs.2.1 hcs.2.1 c1 rfl (hA.interp hx).tail).lift hnw fun Py rest => by
      obtain ⟨vx, hax, hv⟩ := Ax rest
      simp [checksOf, Px rest, hax, hv hux, Py rest]
  andOr_dis x y z tx ty tz st st1 cs1 a cs2 htx _ _ hbx hux hnw hx ihx _ ihz := fun hs hcs c hc hA => by
    obtain ⟨c1, rfl, Ax⟩ := after_top (ctx := ctx) h ag htx hbx hs.1 hc hA hx
    have Px := ihx hs.1 hcs.1 c hc hA
    exact (ihz hs.2.2 hcs.2.2 c1 rfl (hA.interp hx).tail).lift hnw fun Pz rest => by
      obtain ⟨vx, hax, hv⟩ := Ax rest
      simp [checksOf, Px rest, hax, hv hux, Pz rest]
  orC_sat l r tl u st a cs htl hbl hul hl ih := fun hs hcs c hc hA rest => by
    obtain ⟨c1, rfl, Al⟩ := after_top (ctx := ctx) h ag htl hbl hs.1 hc hA hl
    obtain ⟨vl, hal, hv⟩ := Al rest
    simp [checksOf, ih hs.1 hcs.1 c hc hA rest, hal, hv hul]
  orC_dis l r tl tr u st st1 cs1 a cs2 htl _ hbl hul _ hl ihl _ ihr := fun hs hcs c hc hA rest => by
    obtain ⟨c1, rfl, Al⟩ := after_top (ctx := ctx) h ag htl hbl hs.1 hc hA hl
    obtain ⟨vl, hal, hv⟩ := Al rest
    simp [checksOf, ihl hs.1 hcs.1 c hc hA rest, hal, hv hul, ihr hs.2 hcs.2 c1 rfl (hA.interp hl).tail rest]
  orD_sat l r tl u st a cs htl hbl hul hl ih := fun hs hcs c hc hA rest => by
    obtain ⟨c1, rfl, Al⟩ := after_top (ctx := ctx) h ag htl hbl hs.1 hc hA hl
    obtain ⟨vl, hal, hv⟩ := Al rest
    simp [checksOf, ih hs.1 hcs.1 c hc hA rest, hal, hv hul]
  orD_dis l r tl tr st st1 cs1 a cs2 htl _ hbl hul _ hl ihl _ ihr := fun hs hcs c hc hA rest => by
    obtain ⟨c1, rfl, Al⟩ := after_top (ctx := ctx) h ag htl hbl hs.1 hc hA hl
    obtain ⟨vl, hal, hv⟩ := Al rest
    simp [checksOf, ihl hs.1 hcs.1 c hc hA rest, hal, hv hul, ihr hs.2 hcs.2 c1 rfl (hA.interp hl).tail rest]
  orI_left l r tl u st a cs _ hnw _ ih := fun hs hcs c hc hA => by
    obtain ⟨c1, rfl, rfl⟩ := absS_eq_sat hc
    exact (ih hs.1 hcs.1 c1 rfl hA.tail).lift hnw fun P rest => by
      simpa [checksOf, castToBool] using P rest
  orI_right l r tr u st a cs _ hnw _ ih := fun hs hcs c hc hA => by
    obtain ⟨c1, rfl, rfl⟩ := absS_eq_dissat hc
    exact (ih hs.2 hcs.2 c1 rfl hA.tail).lift hnw fun P rest => by
      simpa [checksOf, castToBool] using P rest
  thresh k x xs tx st st1 cs1 y st2 n cs2 _ _ _ _ _ _ := fun _ hcs => hcs.elim
  multi k ks st a cs _ := fun _ hcs => hcs.elim
  sortedMulti k ks st a cs _ := fun _ hcs => hcs.elim
  multiA k ks st a cs hi := fun hs _ c hc _ rest => by
    subst hc
    have hkeys : ∀ pk ∈ ks.map ke.ser, pubkeyOk env pk = true := fun pk hpk => by
      obtain ⟨q, hq, rfl⟩ := List.mem_map.mp hpk
      exact hs.2.2.2.2 q hq
    simpa [checksOf] using complete_multiA ag _ 0 c a cs hkeys hi rest
  sortedMultiA k ks st a cs _ := fun _ hcs => hcs.elim
  rest_nil _ _ := trivial
  rest_cons _ _ _ _ _ _ _ _ _ _ _ _ _ _ _ _ _ := trivial

theorem complete (h : NoLimits env) (ag : Agree env ie) :
    (ms : Ms) → (ty : Ty) → typeOf ms = some ty → Sup env ke ms → CSup ms →
    ∀ (c : List Bytes) (a' : AStack) (cs : List Constraint), SmallA (absS c) →
      interp ke ie ms (absS c) = .ok (a', cs) → CPost env ke ctx ms ty.corr.base c cs :=
  fun ms ty hty hs hcs c _ _ hA hi => (compRules h ag).interp ms ty hty _ _ _ hi hs hcs c rfl hA

end MsVerif.InterpChecks
