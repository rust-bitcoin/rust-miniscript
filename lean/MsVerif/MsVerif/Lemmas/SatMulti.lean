/-
The witnesses of `multi` and `multi_a` in the context where each is valid: `CoreSat`'s shapes
(`multiSD_stack`, `multiASD_stack`) with "the signature `Witness::signature` returns" spelled out —
an available ECDSA signature outside Tapscript (`multiSD_sat`), per slot the empty vector or an
available Schnorr signature in Tapscript (`SlotOk`, `multiASD_sat`).
-/
import MsVerif.Lemmas.SatModel

namespace MsVerif.SatSpec
open MsVerif Script

/-- the satisfaction of `multi(k, ks)`: the dummy followed by signatures for a length-`k`
sub-sequence of the keys, all of them available -/
theorem multiSD_sat {ctx : Ctx} (hctx : ctx ≠ .tap) (a : Assets) (k : Nat) (ks : List Key)
    {w : List Ph} (hw : (multiSD ctx a k ks).sat.stack = .stack w) :
    ∃ ss : List Key, ss.Sublist ks ∧ ss.length = k ∧ (∀ x ∈ ss, a.ecdsaSig x = true) ∧
      w = .pushZero :: ss.map Ph.ecdsaSig := by
  obtain ⟨ss, hsub, hlen, hss, rfl⟩ := multiSD_stack ctx a k ks hw
  have hq : ∀ q ∈ ss, a.ecdsaSig q.1 = true ∧ q.2 = .ecdsaSig q.1 := fun q hq => by
    have := hss q hq
    rcases sigWit_cases ctx a q.1 with e | ⟨_, hc, _, _⟩ | ⟨_, he, e⟩
    · rw [e] at this; cases this
    · cases ctx <;> first | exact absurd rfl hctx | cases hc
    · rw [e] at this; exact ⟨he, (List.head_eq_of_cons_eq (Wit.stack.inj this)).symm⟩
  refine ⟨ss.map (·.1), hsub, by simpa using hlen,
    fun x hx => by obtain ⟨q, hq', rfl⟩ := List.mem_map.mp hx; exact (hq q hq').1, ?_⟩
  rw [List.map_map]
  exact congrArg _ (List.map_congr_left fun q hq' => (hq q hq').2)

/-- what the satisfier puts at the position of key `pk`: the empty vector, or an available
Schnorr signature for that key -/
def SlotOk (a : Assets) (pk : Key) (s : List Ph) : Prop :=
  s = [.pushZero] ∨ ∃ sz, a.schnorrSig pk = some sz ∧ s = [.schnorrSig pk sz]

theorem isSigSlot_sig (pk : Key) (sz : Nat) : isSigSlot [.schnorrSig pk sz] = true := by
  simp [isSigSlot, bne_iff_ne]

theorem All2.reverse {α β : Type} {R : α → β → Prop} {l : List α} {m : List β}
    (h : All2 R l m) : All2 R l.reverse m.reverse := by
  induction h with
  | nil => exact .nil
  | cons hr _ ih => simp only [List.reverse_cons]; exact ih.append (.cons hr .nil)

/-- the satisfaction of `multi_a(k, ks)`: one slot per key (last key first = bottom of the
stack), each the empty vector or an available signature for that key, exactly `k` signatures -/
theorem multiASD_sat (a : Assets) (k : Nat) (ks : List Key) (hk : 1 ≤ k)
    {w : List Ph} (hw : (multiASD .tap a k ks).sat.stack = .stack w) :
    ∃ sigs', All2 (SlotOk a) ks.reverse sigs' ∧ sigSlots sigs' = k ∧ w = sigs'.flatten := by
  obtain ⟨sigs', hall, hcnt, rfl⟩ := multiASD_stack .tap a k ks hk hw
  refine ⟨sigs', ?_, hcnt, rfl⟩
  clear hcnt hw
  generalize ks.reverse = kr at hall
  induction hall with
  | nil => exact .nil
  | @cons pk s _ _ hs _ ih =>
    refine .cons (hs.imp id fun h => ?_) ih
    rcases sigWit_cases .tap a pk with e | ⟨sz, _, hsz, e⟩ | ⟨hc, _, _⟩
    · rw [e] at h; cases h
    · rw [e] at h; exact ⟨sz, hsz, (Wit.stack.inj h).symm⟩
    · cases hc

end MsVerif.SatSpec
