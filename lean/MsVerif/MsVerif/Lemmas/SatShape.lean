/-
Witness shapes: the (dis)satisfactions computed by the satisfier model have the shape that the
input modifier of the fragment's correctness type promises (`Shape`, Spec/SatSpec.lean):
`z` fragments consume nothing, `o` fragments exactly one element, and the top element of a
satisfaction of an `n` fragment is non-empty.  Proved by induction on the typing derivation: a lemma per leaf
and for `thresh`; the case of a composite fragment is its row of `satDissat` read with `Len` / `Top`.
-/
import MsVerif.Lemmas.SatCases
import MsVerif.Lemmas.SatMulti
import MsVerif.Lemmas.CoreHasType

namespace MsVerif.SatSpec
open MsVerif Script

variable {env : Env} {σ : Ph → Bytes} {cfg : SatCfg}

/-- `n` elements are compatible with input modifier `i` -/
def LenOk (i : Input) (n : Nat) : Prop :=
  (i = .zero → n = 0) ∧ ((i = .one ∨ i = .oneNonZero) → n = 1)

def Either (sd : SatDissat) (w : List Ph) : Prop :=
  sd.sat.stack = .stack w ∨ sd.dissat.stack = .stack w

theorem Shape.len {c : Corr} {sd : SatDissat} (sh : Shape σ c sd) {w : List Ph}
    (h : Either sd w) : LenOk c.input w.length :=
  ⟨fun hz => by rw [sh.zero hz w h]; rfl, fun ho => sh.one ho w h⟩

theorem Shape.mk' {c : Corr} {sd : SatDissat}
    (hlen : ∀ w, Either sd w → LenOk c.input w.length)
    (hnz : (c.input = .oneNonZero ∨ c.input = .anyNonZero) →
      ∀ w, sd.sat.stack = .stack w → ∃ w' p, w = w' ++ [p] ∧ σ p ≠ []) : Shape σ c sd where
  zero := fun hz w hw => List.eq_nil_of_length_eq_zero ((hlen w hw).1 hz)
  one := fun ho w hw => (hlen w hw).2 ho
  nonzero := hnz

theorem Shape.of_len {c : Corr} {sd : SatDissat}
    (hnz : c.input ≠ .oneNonZero ∧ c.input ≠ .anyNonZero)
    (hlen : ∀ w, Either sd w → LenOk c.input w.length) : Shape σ c sd :=
  .mk' hlen fun hn => (hn.elim hnz.1 hnz.2).elim

theorem Shape.of_any {c : Corr} {sd : SatDissat} (h : c.input = .any) : Shape σ c sd where
  zero := fun hz => by rw [h] at hz; cases hz
  one := fun ho => by rw [h] at ho; rcases ho with ho | ho <;> cases ho
  nonzero := fun hn => by rw [h] at hn; rcases hn with hn | hn <;> cases hn

theorem lenOk_iff {i : Input} {n : Nat} : LenOk i n ↔ (Corr.numArgs i ≤ 1 → n = Corr.numArgs i) := by
  cases i <;> simp [LenOk, Corr.numArgs]

theorem lenOk_of_numArgs {i : Input} {n : Nat} (h : LenOk i n) (hle : Corr.numArgs i ≤ 1) :
    n = Corr.numArgs i :=
  lenOk_iff.mp h hle

/-- counts add up under a combined modifier `i` that fixes a count only where `il`, `ir` do, and
then fixes the sum.  The hypothesis is a finite table for each combinator of the type system. -/
theorem LenOk.add {i il ir : Input} {nl nr : Nat}
    (h : Corr.numArgs i ≤ 1 → Corr.numArgs il + Corr.numArgs ir = Corr.numArgs i)
    (hl : LenOk il nl) (hr : LenOk ir nr) : LenOk i (nr + nl) := by
  rw [lenOk_iff] at *
  omega

theorem LenOk.of_le {i i' : Input} {n : Nat}
    (h : Corr.numArgs i ≤ 1 → Corr.numArgs i' = Corr.numArgs i) (hl : LenOk i' n) : LenOk i n := by
  rw [lenOk_iff] at *
  omega

theorem andInput_nz {il ir : Input}
    (h : Corr.andInput il ir = .oneNonZero ∨ Corr.andInput il ir = .anyNonZero) :
    (il = .oneNonZero ∨ il = .anyNonZero) ∨
      (il = .zero ∧ (ir = .oneNonZero ∨ ir = .anyNonZero)) := by
  cases il <;> cases ir <;> simp [Corr.andInput] at h ⊢

theorem orBInput_nz (il ir : Input) :
    Corr.orBInput il ir ≠ .oneNonZero ∧ Corr.orBInput il ir ≠ .anyNonZero := by
  cases il <;> cases ir <;> decide

theorem orDInput_nz (il ir : Input) :
    Corr.orDInput il ir ≠ .oneNonZero ∧ Corr.orDInput il ir ≠ .anyNonZero := by
  cases il <;> cases ir <;> decide

theorem orIInput_nz (il ir : Input) :
    Corr.orIInput il ir ≠ .oneNonZero ∧ Corr.orIInput il ir ≠ .anyNonZero := by
  cases il <;> cases ir <;> decide

theorem andOrInput_nz (ia ib iz : Input) :
    Corr.andOrInput ia ib iz ≠ .oneNonZero ∧ Corr.andOrInput ia ib iz ≠ .anyNonZero := by
  unfold Corr.andOrInput; split <;> exact ⟨nofun, nofun⟩

/-! ### one (dis)satisfaction at a time

`Len i s`: the stacks of `s` have the length that the input modifier `i` fixes, if it fixes one; `Top σ s`: their
top element is realised non-empty.  `satDissat` builds a node's results from the children's by `concatenateRev`,
`minFn` and one-item pushes, and `Len.concat` / `.min` / `.push`, `Top.concat_left` / `_right` follow it; what a
rule of the type system does to the input modifier enters as the table hypothesis of `Len.concat` / `Len.push`. -/

def Len (i : Input) (s : Sat) : Prop := ∀ w, s.stack = .stack w → LenOk i w.length

def Top (σ : Ph → Bytes) (s : Sat) : Prop := ∀ w, s.stack = .stack w → ∃ w' p, w = w' ++ [p] ∧ σ p ≠ []

def Input.nz (i : Input) : Prop := i = .oneNonZero ∨ i = .anyNonZero

namespace Shape
variable {c : Corr} {sd : SatDissat}

theorem S (sh : Shape σ c sd) : Len c.input sd.sat := fun _ h => sh.len (.inl h)
theorem D (sh : Shape σ c sd) : Len c.input sd.dissat := fun _ h => sh.len (.inr h)
theorem top (sh : Shape σ c sd) (hn : Input.nz c.input) : Top σ sd.sat := sh.nonzero hn

theorem of_alt (hS : Len c.input sd.sat) (hD : Len c.input sd.dissat)
    (hT : Input.nz c.input → Top σ sd.sat) : Shape σ c sd :=
  .mk' (fun w hw => hw.elim (hS w) (hD w)) hT

end Shape

namespace Len
variable {i il ir : Input} {a b s : Sat}

theorem impossible : Len i Sat.IMPOSSIBLE := fun _ h => nomatch h

theorem lit {w : List Ph} {hs : Bool} {ab rl : Option Nat} (h : LenOk i w.length) :
    Len i ⟨.stack w, hs, ab, rl⟩ := fun _ hw => Wit.stack.inj hw ▸ h

theorem of_le (h : Corr.numArgs i ≤ 1 → Corr.numArgs il = Corr.numArgs i) (ha : Len il a) : Len i a :=
  fun w hw => .of_le h (ha w hw)

theorem concat (h : Corr.numArgs i ≤ 1 → Corr.numArgs il + Corr.numArgs ir = Corr.numArgs i)
    (ha : Len il a) (hb : Len ir b) : Len i (a.concatenateRev b) := fun w hw => by
  obtain ⟨wa, wb, h1, h2, rfl⟩ := Sat.concatenateRev_stack hw
  rw [List.length_append]
  exact .add h (ha _ h1) (hb _ h2)

theorem min {cfg : SatCfg} (ha : Len i a) (hb : Len i b) : Len i (cfg.minFn a b) :=
  fun w hw => (SatCfg.minFn_stack hw).elim (ha w) (hb w)

theorem push {p : Ph} (h : Corr.numArgs i ≤ 1 → 1 + Corr.numArgs il = Corr.numArgs i) (hs : Len il s) :
    Len i { s with stack := Wit.combine s.stack (.stack [p]) } := fun w hw => by
  obtain ⟨w0, h0, rfl⟩ := withPush_stack hw
  rw [List.length_append]
  exact .add (il := .one) h (lenOk_iff.mpr fun _ => rfl) (hs _ h0)

end Len

namespace Top
variable {a b s : Sat}

/-- the top of a concatenation is the top of the part that `concatenate_rev` puts last … -/
theorem concat_left (ha : Top σ a) : Top σ (a.concatenateRev b) := fun w hw => by
  obtain ⟨wa, wb, h1, _, rfl⟩ := Sat.concatenateRev_stack hw
  obtain ⟨w', p, rfl, hp⟩ := ha wa h1
  exact ⟨wb ++ w', p, by simp, hp⟩

/-- … or, when that part is empty, of the other one -/
theorem concat_right (ha : Len .zero a) (hb : Top σ b) : Top σ (a.concatenateRev b) := fun w hw => by
  obtain ⟨wa, wb, h1, h2, rfl⟩ := Sat.concatenateRev_stack hw
  rw [List.eq_nil_of_length_eq_zero ((ha wa h1).1 rfl), List.append_nil]
  exact hb wb h2

theorem push {p : Ph} (hp : σ p ≠ []) : Top σ { s with stack := Wit.combine s.stack (.stack [p]) } :=
  fun w hw => by
    obtain ⟨w0, _, rfl⟩ := withPush_stack hw
    exact ⟨w0, p, rfl, hp⟩

end Top

theorem Shape.congr {c c' : Corr} {sd : SatDissat} (h : c'.input = c.input)
    (sh : Shape σ c sd) : Shape σ c' sd where
  zero := fun hz => sh.zero (h ▸ hz)
  one := fun ho => sh.one (h ▸ ho)
  nonzero := fun hn => sh.nonzero (h ▸ hn)

theorem pubkeyOk_ne {pk : Bytes} (h : pubkeyOk env pk = true) : pk ≠ [] := by
  rintro rfl
  unfold pubkeyOk at h
  split at h <;> simp at h

theorem Shape.of_nil {c : Corr} {sd : SatDissat} (hi : c.input = .zero)
    (h : ∀ w, Either sd w → w = []) : Shape σ c sd :=
  Shape.of_len (by rw [hi]; exact ⟨nofun, nofun⟩) fun w hw => by
    rw [h w hw, hi]
    exact ⟨fun _ => rfl, fun h => by rcases h with h | h <;> cases h⟩

theorem fls_shape : Shape σ Corr.FALSE (satDissat cfg .fls) :=
  Shape.of_nil rfl fun w hw => by
    rcases hw with h | h
    · cases h
    · exact (Wit.stack.inj h).symm

theorem tru_shape : Shape σ Corr.TRUE (satDissat cfg .tru) :=
  Shape.of_nil rfl fun w hw => by
    rcases hw with h | h
    · exact (Wit.stack.inj h).symm
    · cases h

theorem after_shape (n : Nat) : Shape σ Corr.time (satDissat cfg (.after n)) :=
  Shape.of_nil rfl fun w hw => by
    rcases hw with h | h
    · exact (satDissat_after_stack h).1
    · cases h

theorem older_shape (n : Nat) : Shape σ Corr.time (satDissat cfg (.older n)) :=
  Shape.of_nil rfl fun w hw => by
    rcases hw with h | h
    · exact (satDissat_older_stack h).1
    · cases h

theorem pkK_shape (hag : Agrees env cfg.env cfg.assets σ) (k : Key) :
    Shape σ Corr.pkK (satDissat cfg (.pkK k)) := by
  refine Shape.mk' (fun w hw => ?_) (fun _ w hw => ?_)
  · rcases hw with hw | hw
    · simp only [satDissat_pkK] at hw
      obtain ⟨p, rfl, _, _⟩ := sigWit_stack hag hw
      simp [LenOk, Corr.pkK]
    · simp only [satDissat_pkK, Sat.push0, Wit.stack.injEq] at hw
      subst hw
      simp [LenOk, Corr.pkK]
  · simp only [satDissat_pkK] at hw
    obtain ⟨p, rfl, hne, _⟩ := sigWit_stack hag hw
    exact ⟨[], p, rfl, hne⟩

theorem pkH_shape (hag : Agrees env cfg.env cfg.assets σ) (k : Key) :
    Shape σ Corr.pkH (satDissat cfg (.pkH k)) := by
  refine Shape.mk' (fun w _ => by simp [LenOk, Corr.pkH]) (fun _ w hw => ?_)
  simp only [satDissat_pkH] at hw
  obtain ⟨w0, _, rfl⟩ := withPush_stack hw
  refine ⟨w0, _, rfl, ?_⟩
  rw [hag.pubkey]
  exact pubkeyOk_ne (hag.keyShape k)

theorem rawPkH_shape (hag : Agrees env cfg.env cfg.assets σ) (h : Nat) :
    Shape σ Corr.pkH (satDissat cfg (.rawPkH h)) := by
  refine Shape.mk' (fun w _ => by simp [LenOk, Corr.pkH]) (fun _ w hw => ?_)
  rcases satDissat_rawPkH_sat hw with ⟨pk, sz, _, hsch, rfl⟩ | ⟨pk, _, hec, rfl⟩
  · have hk := hag.rawPk h (pkLen cfg.env cfg.ctx pk) (.inr (.inr (by simp [hsch])))
    exact ⟨[_], _, rfl, pubkeyOk_ne hk.2⟩
  · have hk := hag.rawPk h (pkLen cfg.env cfg.ctx pk) (.inr (.inl (by simp [hec])))
    exact ⟨[_], _, rfl, pubkeyOk_ne hk.2⟩

theorem hash_shape (hag : Agrees env cfg.env cfg.assets σ) (kind : HashKind) (h : Nat) :
    Shape σ Corr.hash (satDissat cfg (.hash kind h)) := by
  refine Shape.mk' (fun w hw => ?_) (fun _ w hw => ?_)
  · rcases hw with hw | hw
    · simp only [satDissat_hash] at hw
      split at hw
      · simp only [Wit.stack.injEq] at hw; subst hw; simp [LenOk, Corr.hash]
      · simp at hw
    · simp only [satDissat_hash, Wit.stack.injEq] at hw
      subst hw
      simp [LenOk, Corr.hash]
  · simp only [satDissat_hash] at hw
    split at hw
    · rename_i hp
      simp only [Wit.stack.injEq] at hw; subst hw
      refine ⟨[], _, rfl, ?_⟩
      have := (hag.preimage kind h hp).1
      intro h0
      rw [h0] at this
      simp at this
    · simp at hw

theorem multiSD_shape (hag : Agrees env cfg.env cfg.assets σ) (hctx : cfg.ctx ≠ .tap)
    (k : Nat) (hk : 1 ≤ k) (ks : List Key) {c : Corr} (hc : c.input = .anyNonZero) :
    Shape σ c (multiSD cfg.ctx cfg.assets k ks) := by
  refine Shape.mk' (fun w _ => by simp [LenOk, hc]) (fun _ w hw => ?_)
  obtain ⟨ss, _, hlen, hall, rfl⟩ := multiSD_sat hctx cfg.assets k ks hw
  rcases List.eq_nil_or_concat ss with rfl | ⟨ss', x, rfl⟩
  · simp at hlen; omega
  · refine ⟨.pushZero :: ss'.map Ph.ecdsaSig, .ecdsaSig x, by simp, ?_⟩
    exact (hag.ecdsa x (hall x (by simp))).1

theorem multi_shape (hag : Agrees env cfg.env cfg.assets σ) (k : Nat) (ks : List Key)
    (hwf : WF cfg.ctx (.multi k ks)) : Shape σ Corr.multi (satDissat cfg (.multi k ks)) := by
  simp only [WF] at hwf
  simp only [satDissat_multi]
  exact multiSD_shape hag hwf.1 k hwf.2.1 ks rfl

theorem sortedMulti_shape (hag : Agrees env cfg.env cfg.assets σ) (k : Nat) (ks : List Key)
    (hwf : WF cfg.ctx (.sortedMulti k ks)) :
    Shape σ Corr.sortedmulti (satDissat cfg (.sortedMulti k ks)) := by
  simp only [WF] at hwf
  simp only [satDissat_sortedMulti]
  exact multiSD_shape hag hwf.1 k hwf.2.1 _ rfl

def StackLen (s : Sat) (n : Nat) : Prop := ∀ w, s.stack = .stack w → w.length = n

theorem foldConcat_len {l : List Sat} {ns : List Nat} (h : All2 StackLen l ns) {w : List Ph}
    (hw : (foldConcat l).stack = .stack w) : w.length = ns.sum := by
  obtain ⟨ws, hws, rfl⟩ := foldConcat_split (G := fun s w => s.stack = .stack w)
    (fun _ _ _ => Sat.concatenateRev_stack) (fun _ h => (Wit.stack.inj h).symm) hw
  have hlen : (ws.map List.length).sum = ns.sum := by
    clear hw
    induction h generalizing ws with
    | nil => cases hws; rfl
    | cons hx _ ih =>
      cases hws with
      | cons hwx hws' => simp only [List.map_cons, List.sum_cons, hx _ hwx, ih _ hws']
  rw [List.length_flatten, List.map_reverse, List.sum_reverse, hlen]

theorem shapes_len : ∀ {ts : List Ty} {sds : List SatDissat},
    All2 (fun t sd => Shape σ t.corr sd) ts sds →
    (ts.map fun t => Corr.numArgs t.corr.input).sum ≤ 1 →
    All2 (fun sd n => ∀ w, Either sd w → w.length = n) sds
      (ts.map fun t => Corr.numArgs t.corr.input) := by
  intro ts sds h
  induction h with
  | nil => intro _; exact .nil
  | cons hr _ ih =>
    intro hs
    simp only [List.map_cons, List.sum_cons] at hs ⊢
    exact .cons (fun w hw => lenOk_of_numArgs (hr.len hw) (by omega)) (ih (by omega))

theorem pick_len {sds : List SatDissat} {ns : List Nat}
    (hQ : All2 (fun sd n => ∀ w, Either sd w → w.length = n) sds ns) :
    ∀ ch : List Bool, ch.length = sds.length → All2 StackLen (pick ch sds) ns := by
  induction hQ with
  | nil => intro ch _; cases ch <;> exact .nil
  | cons hr _ ih =>
    intro ch hch
    cases ch with
    | nil => cases hch
    | cons b ch =>
      refine .cons (fun w hw => hr w ?_) (ih ch (Nat.succ.inj hch))
      cases b
      · exact .inr hw
      · exact .inl hw

theorem thresh_shape {k : Nat} {xs : MsList} {ts : List Ty} {c : Corr} {n : Nat}
    (hi : c.input = match n with | 0 => .zero | 1 => .one | _ => .any)
    (hn : n = (ts.map fun t => Corr.numArgs t.corr.input).sum)
    (hsh : All2 (fun t sd => Shape σ t.corr sd) ts (satDissats cfg xs)) :
    Shape σ c (satDissat cfg (.thresh k xs)) := by
  have hkey : n ≤ 1 → ∀ w, Either (satDissat cfg (.thresh k xs)) w → w.length = n := by
    intro hle w hw
    have hQ := shapes_len hsh (hn ▸ hle)
    rw [hn]
    have hpick : ∀ ch : List Bool, ch.length = xs.length →
        (foldConcat (pick ch (satDissats cfg xs))).stack = .stack w →
        w.length = (ts.map fun t => Corr.numArgs t.corr.input).sum :=
      fun ch hch h =>
        foldConcat_len (pick_len hQ ch (hch.trans (satDissats_length cfg xs).symm)) h
    rcases hw with hw | hw
    · obtain ⟨ch, hch, -, h⟩ := thresh_sat_pick (P := fun s => s.stack = .stack w)
        (fun h => Wit.noConfusion h) (fun h => Wit.noConfusion h) cfg k xs hw
      exact hpick ch hch h
    · have hw : (foldConcat ((satDissats cfg xs).map (·.dissat))).stack = .stack w := hw
      rw [pick_false] at hw
      exact hpick _ (by simp [satDissats_length]) hw
  rcases n with _ | _ | n
  · refine Shape.of_len (by simp [hi]) fun w hw => ?_
    rw [hkey (by omega) w hw, hi]; simp [LenOk]
  · refine Shape.of_len (by simp [hi]) fun w hw => ?_
    rw [hkey (by omega) w hw, hi]; simp [LenOk]
  · exact Shape.of_any hi

theorem shapes_of {env : Env} {σ : Ph → Bytes} (cfg : SatCfg) (hag : Agrees env cfg.env cfg.assets σ)
    {xs : MsList} {ts : List Ty} (h : HasTypes xs ts) :
    WFs cfg.ctx xs → All2 (fun t sd => Shape σ t.corr sd) ts (satDissats cfg xs) := by
  induction h using HasTypes.rec (motive_1 := fun ms τ _ =>
    WF cfg.ctx ms → Shape σ τ.corr (satDissat cfg ms)) with
  | tru => exact tru_shape
  | fls => exact fls_shape
  | @pkK k => exact pkK_shape hag k
  | @pkH k => exact pkH_shape hag k
  | @rawPkH x => exact rawPkH_shape hag x
  | @after n => exact after_shape n
  | @older n => exact older_shape n
  | @hash kind x => exact hash_shape hag kind x
  | @multi k ks => exact multi_shape hag k ks ‹_›
  | @sortedMulti k ks => exact sortedMulti_shape hag k ks ‹_›
  | multiA | sortedMultiA | alt | swap => exact Shape.of_any rfl
  | check _ _ ih | zeroNotEqual _ _ ih =>
    rename_i hwf
    exact (ih hwf).congr (by rfl)
  | verify _ _ ih =>
    rename_i hwf
    exact .of_alt (ih hwf).S .impossible (ih hwf).top
  | nonZero _ _ hin ih =>
    rename_i hwf
    exact .of_alt (ih hwf).S (.lit (by rcases hin with h | h <;> simp [LenOk, h])) (ih hwf).top
  | dupIf _ _ hz ih =>
    rename_i hwf
    exact .of_alt (.push (by simp [Corr.numArgs, hz]) (ih hwf).S) (.lit ⟨nofun, fun _ => rfl⟩)
      fun _ => .push (by rw [hag.pushOne]; simp)
  | andV _ _ _ _ il ir =>
    rename_i hwf
    have L := il hwf.1
    have R := ir hwf.2
    exact .of_alt (L.S.concat (Corr.numArgs_andInput _ _) R.S) (L.S.concat (Corr.numArgs_andInput _ _) R.D) fun hn =>
      (andInput_nz hn).elim (fun h => (L.top h).concat_left) fun h => .concat_right (h.1 ▸ L.S) (R.top h.2)
  | andB _ _ _ _ il ir =>
    rename_i hwf
    have L := il hwf.1
    have R := ir hwf.2
    exact .of_alt (L.S.concat (Corr.numArgs_andInput _ _) R.S) (L.D.concat (Corr.numArgs_andInput _ _) R.D) fun hn =>
      (andInput_nz hn).elim (fun h => (L.top h).concat_left) fun h => .concat_right (h.1 ▸ L.S) (R.top h.2)
  | @orB _ _ a b _ _ _ _ _ _ il ir =>
    rename_i hwf
    have L := il hwf.1
    have R := ir hwf.2
    have t := Corr.numArgs_orBInput a.corr.input b.corr.input
    exact .of_alt (.min (L.D.concat t R.S) (L.S.concat t R.D)) (L.D.concat t R.D)
      fun hn => (hn.elim (orBInput_nz _ _).1 (orBInput_nz _ _).2).elim
  | @orD _ _ a b _ _ _ _ _ _ il ir =>
    rename_i hwf
    have L := il hwf.1
    have R := ir hwf.2
    have t := Corr.numArgs_orDInput a.corr.input b.corr.input
    exact .of_alt (.min (L.S.of_le (Corr.numArgs_orDInput_left _ _)) (L.D.concat t R.S)) (L.D.concat t R.D)
      fun hn => (hn.elim (orDInput_nz _ _).1 (orDInput_nz _ _).2).elim
  | orC _ _ _ _ _ _ il ir =>
    rename_i hwf
    have L := il hwf.1
    -- `Correctness::or_c` has the input rule of `or_d`
    exact .of_alt (.min (L.S.of_le (Corr.numArgs_orDInput_left _ _)) (L.D.concat (Corr.numArgs_orDInput _ _) (ir hwf.2).S))
      .impossible fun hn => (hn.elim (orDInput_nz _ _).1 (orDInput_nz _ _).2).elim
  | @orI _ _ a b _ _ _ _ il ir =>
    rename_i hwf
    have L := il hwf.1
    have R := ir hwf.2
    have t := Corr.numArgs_orIInput a.corr.input b.corr.input
    exact .of_alt (.min (.push (fun h => (t h).1) L.S) (.push (fun h => (t h).2) R.S))
      (.min (.push (fun h => (t h).1) L.D) (.push (fun h => (t h).2) R.D))
      fun hn => (hn.elim (orIInput_nz _ _).1 (orIInput_nz _ _).2).elim
  | @andOr _ _ _ a b c _ _ _ _ _ _ _ _ ia ib ic =>
    rename_i hwf
    have A := ia hwf.1
    have Z := ic hwf.2.2
    have t := Corr.numArgs_andOrInput a.corr.input b.corr.input c.corr.input
    exact .of_alt (.min (A.S.concat (fun h => (t h).1) (ib hwf.2.1).S) (A.D.concat (fun h => (t h).2) Z.S))
      (A.D.concat (fun h => (t h).2) Z.D)
      fun hn => (hn.elim (andOrInput_nz _ _ _).1 (andOrInput_nz _ _ _).2).elim
  | threshNil => exact thresh_shape (ts := []) (n := 0) rfl rfl .nil
  | thresh _ _ _ _ _ _ ix ixs =>
    rename_i hwf
    exact thresh_shape (by rfl) (by rfl) (.cons (ix hwf.2.2.2.1) (ixs hwf.2.2.2.2))
  | nil => exact fun _ => .nil
  | cons _ _ ix ixs => exact fun hwf => .cons (ix hwf.1) (ixs hwf.2)

theorem shape_of {env : Env} {σ : Ph → Bytes} (cfg : SatCfg) (hag : Agrees env cfg.env cfg.assets σ)
    {ms : Ms} {τ : Ty} (h : HasType ms τ) (hwf : WF cfg.ctx ms) : Shape σ τ.corr (satDissat cfg ms) :=
  match shapes_of cfg hag (.cons h .nil) ⟨hwf, trivial⟩ with
  | .cons h _ => h

theorem shape_sound {env : Env} {σ : Ph → Bytes} (cfg : SatCfg)
    (hag : Agrees env cfg.env cfg.assets σ) (ms : Ms) (τ : Ty)
    (hwf : WF cfg.ctx ms) (hty : typeOf ms = some τ) : Shape σ τ.corr (satDissat cfg ms) :=
  shape_of cfg hag (.of_typeOf ms hty) hwf

theorem shapes_sound {env : Env} {σ : Ph → Bytes} (cfg : SatCfg)
    (hag : Agrees env cfg.env cfg.assets σ) (xs : MsList) (ts : List Ty)
    (hwf : WFs cfg.ctx xs) (hts : typesOf xs = some ts) :
    All2 (fun t sd => Shape σ t.corr sd) ts (satDissats cfg xs) :=
  shapes_of cfg hag (.of_typesOf xs hts) hwf

end MsVerif.SatSpec
