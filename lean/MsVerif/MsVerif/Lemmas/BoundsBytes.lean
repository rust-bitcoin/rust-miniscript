/-
C09: from the library's placeholder size table (`Ph.size`, `ItemSize`) to BYTES.  Under `LenOk σ` (each real
element `σ p` no longer than the library assumes for its kind) the serialized element (`Spec/Bounds`:
CompactSize + bytes) is at most `Ph.size p` and its minimal scriptSig push at most `phSs p`.
-/
import MsVerif.Lemmas.BoundsBasic
import MsVerif.Spec.Bounds

namespace MsVerif.C09
open MsVerif MsVerif.Bounds

def elemSer (b : Bytes) : Nat := compactSizeLen b.length + b.length

def LenOk (σ : Ph → Bytes) (p : Ph) : Prop :=
  match p with
  | .pubkey _ s | .pubkeyHash _ s => (σ p).length + 1 ≤ s ∧ (σ p).length < 76
  | .ecdsaSig _ | .ecdsaSigPkh _ => (σ p).length ≤ 72
  | .schnorrSig _ s | .schnorrSigPkh _ s => (σ p).length ≤ s ∧ s < 76
  | .preimage _ _ | .hashDissat => (σ p).length ≤ 32
  | .pushOne => σ p = [1]
  | .pushZero => σ p = []

theorem compactSizeLen_small {n : Nat} (h : n < 253) : compactSizeLen n = 1 := by
  simp [compactSizeLen, h]

theorem minimalPushLen_le (b : Bytes) (h : b.length < 76) : minimalPushLen b ≤ 1 + b.length := by
  unfold minimalPushLen
  split
  · simp
  · split <;> simp
  · simp [Script.pushPrefix, h]

theorem elem_short {b : Bytes} (h : b.length < 76) :
    elemSer b = 1 + b.length ∧ minimalPushLen b ≤ 1 + b.length :=
  ⟨by rw [elemSer, compactSizeLen_small (by omega)], minimalPushLen_le b h⟩

theorem elem_le_table (σ : Ph → Bytes) (p : Ph) (h : LenOk σ p) :
    elemSer (σ p) ≤ Ph.size p ∧ minimalPushLen (σ p) ≤ phSs p := by
  cases p <;> simp only [LenOk] at h <;> simp only [Ph.size, phSs]
  case pushOne => rw [h]; decide
  case pushZero => rw [h]; decide
  all_goals
    generalize σ _ = b at h ⊢
    obtain ⟨e1, e2⟩ := elem_short (b := b) (by omega)
    omega

theorem witness_le_table (σ : Ph → Bytes) : ∀ (w : List Ph), (∀ p ∈ w, LenOk σ p) →
    itemsSize (w.map σ) ≤ wsz w ∧ scriptSigPushSize (w.map σ) ≤ wss w := by
  intro w
  induction w with
  | nil => intro _; simp [itemsSize, scriptSigPushSize]
  | cons p ps ih =>
    intro h
    obtain ⟨i1, i2⟩ := ih (fun q hq => h q (List.mem_cons_of_mem _ hq))
    obtain ⟨e1, e2⟩ := elem_le_table σ p (h p (List.mem_cons_self ..))
    simp only [itemsSize, scriptSigPushSize, List.map_cons, List.sum_cons, wsz_cons, wss_cons] at *
    simp only [elemSer] at e1
    omega

theorem bytes_of_table {od : Option SatData} {P : Prop} {w : List Ph} (σ : Ph → Bytes)
    (hlen : ∀ p ∈ w, LenOk σ p)
    (h : ∃ d, od = some d ∧ w.length ≤ d.wCount ∧ (w.map Ph.size).sum ≤ d.wSize
      ∧ (P → (w.map phSs).sum ≤ d.ssSize)) :
    ∃ d, od = some d ∧ (w.map σ).length ≤ d.wCount ∧ itemsSize (w.map σ) ≤ d.wSize
      ∧ (P → scriptSigPushSize (w.map σ) ≤ d.ssSize) := by
  obtain ⟨d, hd, c1, c2, c3⟩ := h
  obtain ⟨b1, b2⟩ := witness_le_table σ w hlen
  exact ⟨d, hd, by simpa using c1, Nat.le_trans b1 c2, fun hc => Nat.le_trans b2 (c3 hc)⟩

end MsVerif.C09
