/-
T3: the decoder run on the tokens of an encoded miniscript in decoder normal form returns
that miniscript.  Parser-state invariant per grammar position:

  E:  ⟨rev(tokens ms) ++ pre, Expression :: nt, term⟩            ⟶*  ⟨pre, nt, ms :: term⟩
  A:  ⟨rev(tokens ms) ++ pre, Expression :: MaybeAndV :: nt, …⟩  ⟶*  ⟨pre, nt, ms :: term⟩   (¬is_and_v pre)
  W:  ⟨rev(tokens ms) ++ pre, WExpression :: nt, term⟩           ⟶*  ⟨pre, nt, ms :: term⟩
  C:  and_v chains — with operands `rs` already parsed and |rs| `AndV`s pending, parsing `ms`
      ends with the left-nested chain `foldl and_v ms rs` on the terminal stack.
-/
import MsVerif.Lemmas.DecodeTrans
import MsVerif.Lemmas.CoreMisc

namespace MsVerif
namespace DecodeL

mutual
/-- every key / hash of `ms` is mapped back to its atom by `dec`, numbers are in range, and
`Miniscript::from_ast` accepts every inner node (type check, height, global validity) -/
def DecOk (dec : AtomDec) (env : KeyEnv) (ctx : Ctx) : Ms → Prop
  | .tru => True
  | .fls => True
  | .pkK k => parseKey dec ctx (env.ser k) = .ok k
  | .pkH _ => False
  | .rawPkH h => dec.rawPkh (env.rawPkh h) = some h
  | .after n => 1 ≤ n ∧ n ≤ 2147483647
  | .older n => 1 ≤ n ∧ n < 2147483648
  | .hash kind h => dec.hash kind (env.hashVal kind h) = some h
  | .multi k ks => (1 ≤ k ∧ k ≤ ks.length ∧ ks.length ≤ 20) ∧ ∀ x ∈ ks, FullKeyOk dec env ctx x
  | .sortedMulti _ _ => False
  | .multiA k ks => (1 ≤ k ∧ k ≤ ks.length ∧ ks.length ≤ 999) ∧ ∀ x ∈ ks, XKeyOk dec env ctx x
  | .sortedMultiA _ _ => False
  | .alt x => DecOk dec env ctx x ∧ fromAst env ctx (.alt x) = .ok (.alt x)
  | .swap x => DecOk dec env ctx x ∧ fromAst env ctx (.swap x) = .ok (.swap x)
  | .check x => DecOk dec env ctx x ∧ fromAst env ctx (.check x) = .ok (.check x)
  | .dupIf x => DecOk dec env ctx x ∧ fromAst env ctx (.dupIf x) = .ok (.dupIf x)
  | .verify x => DecOk dec env ctx x ∧ fromAst env ctx (.verify x) = .ok (.verify x)
  | .nonZero x => DecOk dec env ctx x ∧ fromAst env ctx (.nonZero x) = .ok (.nonZero x)
  | .zeroNotEqual x => DecOk dec env ctx x ∧ fromAst env ctx (.zeroNotEqual x) = .ok (.zeroNotEqual x)
  | .andV l r => DecOk dec env ctx l ∧ DecOk dec env ctx r ∧ fromAst env ctx (.andV l r) = .ok (.andV l r)
  | .andB l r => DecOk dec env ctx l ∧ DecOk dec env ctx r ∧ fromAst env ctx (.andB l r) = .ok (.andB l r)
  | .orB l r => DecOk dec env ctx l ∧ DecOk dec env ctx r ∧ fromAst env ctx (.orB l r) = .ok (.orB l r)
  | .orD l r => DecOk dec env ctx l ∧ DecOk dec env ctx r ∧ fromAst env ctx (.orD l r) = .ok (.orD l r)
  | .orC l r => DecOk dec env ctx l ∧ DecOk dec env ctx r ∧ fromAst env ctx (.orC l r) = .ok (.orC l r)
  | .orI l r => DecOk dec env ctx l ∧ DecOk dec env ctx r ∧ fromAst env ctx (.orI l r) = .ok (.orI l r)
  | .andOr a b c =>
    DecOk dec env ctx a ∧ DecOk dec env ctx b ∧ DecOk dec env ctx c ∧
      fromAst env ctx (.andOr a b c) = .ok (.andOr a b c)
  | .thresh k xs =>
    DecOkL dec env ctx xs ∧ (1 ≤ k ∧ k ≤ xs.length) ∧ fromAst env ctx (.thresh k xs) = .ok (.thresh k xs)
def DecOkL (dec : AtomDec) (env : KeyEnv) (ctx : Ctx) : MsList → Prop
  | .nil => True
  | .cons x xs => DecOk dec env ctx x ∧ DecOkL dec env ctx xs
end

variable {dec : AtomDec} {env : KeyEnv} {ctx : Ctx}

/-- the last token of a fragment: it makes `is_and_v` true and sends `ThreshW` and `EndIfNotIf` into their
catch-all arm -/
def okLast (t : Token) : Prop := (∀ ts, isAndV (t :: ts) = true) ∧ t ≠ .add ∧ t ≠ .ifDup

theorem keyTok_cases (bs : Bytes) :
    keyTok bs = .bytes33 bs ∨ keyTok bs = .bytes65 bs ∨ keyTok bs = .bytes32 bs := by
  unfold keyTok
  split
  · exact .inl rfl
  · split
    · exact .inr (.inl rfl)
    · exact .inr (.inr rfl)

macro "ok_last" : tactic => `(tactic| exact ⟨⟨fun _ => rfl, nofun, nofun⟩, fun _ _ _ => nofun⟩)

theorem cons_of_head? {α} (l : List α) (a : α) (h : l.head? = some a) : ∃ ts, l = a :: ts := by
  cases l with
  | nil => cases h
  | cons x xs => simp at h; exact ⟨xs, by rw [h]⟩

theorem lastTok' (env : KeyEnv) (ctx : Ctx) : (ms : Ms) →
    ∃ t, (tokens env ctx ms).reverse.head? = some t ∧ okLast t ∧
      ∀ p, p ≠ .W → form p ms = true → t ≠ .fromAlt
  | .pkK k => by
    refine ⟨keyTok (env.ser k), by simp [tokens], ?_⟩
    rcases keyTok_cases (env.ser k) with h | h | h <;> rw [h] <;> ok_last
  | .pkH k | .rawPkH k => ⟨.verify, by simp [tokens], by ok_last⟩
  | .after n => ⟨.cltv, by simp [tokens], by ok_last⟩
  | .older n => ⟨.csv, by simp [tokens], by ok_last⟩
  | .hash kind h => ⟨.equal, by simp [tokens], by ok_last⟩
  | .tru => ⟨.num 1, by simp [tokens], by ok_last⟩
  | .fls => ⟨.num 0, by simp [tokens], by ok_last⟩
  | .alt x => ⟨.fromAlt, by simp [tokens], ⟨fun _ => rfl, nofun, nofun⟩, fun p hp h => by
      simp only [form, Bool.and_eq_true, beq_iff_eq] at h; exact absurd h.1 hp⟩
  | .swap x => by
    obtain ⟨t, e, h, _⟩ := lastTok' env ctx x
    exact ⟨t, by simp [tokens, List.head?_append, e], h, fun p hp h => by
      simp only [form, Bool.and_eq_true, beq_iff_eq] at h; exact absurd h.1 hp⟩
  | .check x => ⟨.checkSig, by simp [tokens], by ok_last⟩
  | .dupIf x | .nonZero x => ⟨.endIf, by simp [tokens], by ok_last⟩
  | .verify x => ⟨.verify, by simp [tokens], by ok_last⟩
  | .zeroNotEqual x => ⟨.zeroNotEqual, by simp [tokens], by ok_last⟩
  | .andV l r => by
    obtain ⟨t, e, h, hw⟩ := lastTok' env ctx r
    exact ⟨t, by simp [tokens, List.head?_append, e], h, fun p _ hf => by
      simp only [form, Bool.and_eq_true] at hf; exact hw .E (by decide) hf.2⟩
  | .andB l r => ⟨.boolAnd, by simp [tokens], by ok_last⟩
  | .andOr a b c => ⟨.endIf, by simp [tokens], by ok_last⟩
  | .orB l r => ⟨.boolOr, by simp [tokens], by ok_last⟩
  | .orD l r | .orC l r | .orI l r => ⟨.endIf, by simp [tokens], by ok_last⟩
  | .thresh k xs => ⟨.equal, by simp [tokens], by ok_last⟩
  | .multi k ks | .sortedMulti k ks => ⟨.checkMultiSig, by simp [tokens], by ok_last⟩
  | .multiA k ks | .sortedMultiA k ks => ⟨.numEqual, by simp [tokens], by ok_last⟩

theorem lastTok (env : KeyEnv) (ctx : Ctx) (ms : Ms) :
    ∃ t ts, (tokens env ctx ms).reverse = t :: ts ∧ okLast t := by
  obtain ⟨t, e, h, _⟩ := lastTok' env ctx ms
  obtain ⟨ts, e'⟩ := cons_of_head? _ _ e
  exact ⟨t, ts, e', h⟩

theorem isAndV_rt (env : KeyEnv) (ctx : Ctx) (ms : Ms) (pre : List Token) :
    isAndV ((tokens env ctx ms).reverse ++ pre) = true := by
  obtain ⟨t, ts, e, h⟩ := lastTok env ctx ms
  rw [e]; exact h.1 _

theorem lastTok_notW (env : KeyEnv) (ctx : Ctx) (ms : Ms) (p : Pos) (hp : p ≠ .W) (h : form p ms = true) :
    ∃ t ts, (tokens env ctx ms).reverse = t :: ts ∧ t ≠ .fromAlt := by
  obtain ⟨t, e, _, ht⟩ := lastTok' env ctx ms
  obtain ⟨ts, e'⟩ := cons_of_head? _ _ e
  exact ⟨t, ts, e', ht p hp h⟩

section
variable (dec : AtomDec) (env : KeyEnv) (ctx : Ctx)

def EStmt (ms : Ms) : Prop := ∀ (pre : List Token) (nt : List NonTerm) (term : List Ms),
  Steps dec env ctx ⟨rt env ctx ms ++ pre, .expression :: nt, term⟩ ⟨pre, nt, ms :: term⟩

/-- `v:ms` in an `Expression` position (the `Tk::Verify` arm looks one token ahead) -/
def VEStmt (ms : Ms) : Prop := ∀ (pre : List Token) (nt : List NonTerm) (term : List Ms),
  Steps dec env ctx ⟨.verify :: (rt env ctx ms ++ pre), .expression :: nt, term⟩ ⟨pre, nt, .verify ms :: term⟩

def AStmt (ms : Ms) : Prop := ∀ (pre : List Token) (nt : List NonTerm) (term : List Ms),
  isAndV pre = false →
  Steps dec env ctx ⟨rt env ctx ms ++ pre, .expression :: .maybeAndV :: nt, term⟩ ⟨pre, nt, ms :: term⟩

def WStmt (ms : Ms) : Prop := ∀ (pre : List Token) (nt : List NonTerm) (term : List Ms),
  Steps dec env ctx ⟨rt env ctx ms ++ pre, .wExpression :: nt, term⟩ ⟨pre, nt, ms :: term⟩

def ChainOk : Ms → List Ms → Prop
  | _, [] => True
  | l, r :: rs => fromAst env ctx (.andV l r) = .ok (.andV l r) ∧ ChainOk (.andV l r) rs

def andVs (rs : List Ms) : List NonTerm := rs.map (fun _ => NonTerm.andV)

def CStmt (ms : Ms) : Prop := ∀ (pre : List Token) (nt : List NonTerm) (term : List Ms) (rs : List Ms),
  rs ≠ [] → ChainOk env ctx ms rs → isAndV pre = false →
  Steps dec env ctx ⟨rt env ctx ms ++ pre, .expression :: (andVs rs ++ nt), rs ++ term⟩
    ⟨pre, nt, rs.foldl Ms.andV ms :: term⟩

/-- the `W` children of a `thresh`, parsed from the last one to the first -/
def WLStmt (xs : MsList) : Prop := ∀ (pre : List Token) (nt : List NonTerm) (term : List Ms) (k n : Nat),
  Steps dec env ctx ⟨(threshTokens env ctx false xs).reverse ++ pre, .threshW k n :: nt, term⟩
    ⟨pre, .threshW k (n + xs.length) :: nt, xs.toList ++ term⟩

structure Main (ms : Ms) : Prop where
  e : form .E ms = true → DecOk dec env ctx ms → EStmt dec env ctx ms
  ve : form .E ms = true → DecOk dec env ctx ms →
    fromAst env ctx (.verify ms) = .ok (.verify ms) → VEStmt dec env ctx ms
  a : form .A ms = true → DecOk dec env ctx ms → AStmt dec env ctx ms
  c : form .A ms = true → DecOk dec env ctx ms → CStmt dec env ctx ms
  w : form .W ms = true → DecOk dec env ctx ms → WStmt dec env ctx ms
end

theorem reduce_chain {pre : List Token} (hpre : isAndV pre = false) :
    ∀ (rs : List Ms) (l : Ms) (nt : List NonTerm) (term : List Ms), ChainOk env ctx l rs →
    Steps dec env ctx ⟨pre, andVs rs ++ nt, l :: (rs ++ term)⟩ ⟨pre, nt, rs.foldl Ms.andV l :: term⟩ := by
  intro rs
  induction rs with
  | nil => intro l nt term _; exact .refl _
  | cons r rs ih =>
    intro l nt term h
    exact .head (Trans.andVNo hpre h.1).step (ih _ nt term h.2)

/-- generic `v:ms`: the token before `VERIFY` is not `EQUAL`, so the arm un-reads it -/
theorem ve_of_e {ms : Ms} {t : Token} (ht : (rt env ctx ms).head? = some t) (hne : t ≠ .equal)
    (he : EStmt dec env ctx ms) (hf : fromAst env ctx (.verify ms) = .ok (.verify ms)) :
    VEStmt dec env ctx ms := by
  intro pre nt term
  obtain ⟨ts, e⟩ := cons_of_head? _ _ ht
  have h1 : Step dec env ctx ⟨.verify :: (rt env ctx ms ++ pre), .expression :: nt, term⟩
      ⟨rt env ctx ms ++ pre, .expression :: .verify :: nt, term⟩ := by
    rw [e]; exact (EArm.verifyUn hne).step
  exact .head h1 ((he pre _ term).trans (.one (Trans.verify hf).step))

/-- fragments that are neither `and_v` nor a `W` wrapper: everything follows from `E` and `VE` -/
theorem Main.of_e {ms : Ms} (hA : form .A ms = form .E ms) (hW : form .W ms = false)
    (e : form .E ms = true → DecOk dec env ctx ms → EStmt dec env ctx ms)
    (ve : form .E ms = true → DecOk dec env ctx ms →
      fromAst env ctx (.verify ms) = .ok (.verify ms) → VEStmt dec env ctx ms) :
    Main dec env ctx ms :=
  ⟨e, ve, fun h d pre nt term hpre => (e (hA ▸ h) d pre _ term).trans (.one (Trans.maybeNo hpre).step),
    fun h d pre nt term rs _ hc hpre => (e (hA ▸ h) d pre _ _).trans (reduce_chain hpre rs ms nt term hc),
    fun h => by rw [hW] at h; cases h⟩

theorem Main.of_e' {ms : Ms} {t : Token} (hA : form .A ms = form .E ms) (hW : form .W ms = false)
    (ht : (rt env ctx ms).head? = some t) (hne : t ≠ .equal)
    (e : form .E ms = true → DecOk dec env ctx ms → EStmt dec env ctx ms) : Main dec env ctx ms :=
  Main.of_e hA hW e fun hf hd hv => ve_of_e ht hne (e hf hd) hv

theorem Main.vacuous {ms : Ms} (h : ∀ p, form p ms = false) : Main dec env ctx ms :=
  ⟨fun hf => by (rw [h] at hf; cases hf), fun hf => by (rw [h] at hf; cases hf),
   fun hf => by (rw [h] at hf; cases hf), fun hf => by (rw [h] at hf; cases hf),
   fun hf => by (rw [h] at hf; cases hf)⟩

/-- the `a:` and `s:` wrappers: only the `W` position is possible -/
theorem Main.of_w {ms : Ms} (h : ∀ p, p ≠ .W → form p ms = false)
    (w : form .W ms = true → DecOk dec env ctx ms → WStmt dec env ctx ms) : Main dec env ctx ms :=
  ⟨fun hf => by (rw [h _ (by decide)] at hf; cases hf), fun hf => by (rw [h _ (by decide)] at hf; cases hf),
   fun hf => by (rw [h _ (by decide)] at hf; cases hf), fun hf => by (rw [h _ (by decide)] at hf; cases hf), w⟩

theorem keyTok_ne_equal (bs : Bytes) : keyTok bs ≠ .equal := by
  rcases keyTok_cases bs with h | h | h <;> rw [h] <;> nofun

theorem popN_append (l t : List Ms) : popN l.length (l ++ t) = some (l, t) := by
  induction l with
  | nil => rfl
  | cons x l ih => simp [popN, ih]

/-- the common tail of `thresh` and `v:thresh`, after `EQUAL k` has been consumed -/
theorem thresh_tail {k : Nat} {x : Ms} {xs : MsList}
    (hx : EStmt dec env ctx x) (hxs : WLStmt dec env ctx xs)
    (hk : 1 ≤ k ∧ k ≤ (MsList.cons x xs).length)
    (hf : fromAst env ctx (.thresh k (.cons x xs)) = .ok (.thresh k (.cons x xs)))
    (pre : List Token) (nt : List NonTerm) (term : List Ms) :
    Steps dec env ctx
      ⟨(threshTokens env ctx false xs).reverse ++ (rt env ctx x ++ pre), .threshW k 0 :: nt, term⟩
      ⟨pre, nt, .thresh k (.cons x xs) :: term⟩ := by
  obtain ⟨t, ts, e, hok⟩ := lastTok env ctx x
  have h1 := hxs (rt env ctx x ++ pre) nt term k 0
  have h2 : Step dec env ctx ⟨rt env ctx x ++ pre, .threshW k (0 + xs.length) :: nt, xs.toList ++ term⟩
      ⟨rt env ctx x ++ pre, .expression :: .threshE k (0 + xs.length + 1) :: nt, xs.toList ++ term⟩ := by
    simp only [rt]; rw [e]; exact (Trans.threshWUn hok.2.1).step
  have h3 := hx pre (.threshE k (0 + xs.length + 1) :: nt) (xs.toList ++ term)
  have hp : popN (0 + xs.length + 1) (x :: (xs.toList ++ term)) = some (x :: xs.toList, term) := by
    have := popN_append (x :: xs.toList) term
    simpa [MsList.length_toList, Nat.add_comm] using this
  have hf' : fromAst env ctx (.thresh k (MsList.ofList (x :: xs.toList)))
      = .ok (.thresh k (MsList.ofList (x :: xs.toList))) := by
    simpa [MsList.ofList, MsList.ofList_toList] using hf
  have h4 := Trans.step (dec := dec) <| Trans.threshE (env := env) (ctx := ctx) (ts := pre) (nt := nt) hp
    (by simpa [MsList.length, MsList.length_toList] using hk) hf'
  have e4 : Ms.thresh k (MsList.ofList (x :: xs.toList)) = .thresh k (.cons x xs) := by
    simp [MsList.ofList, MsList.ofList_toList]
  rw [e4] at h4
  exact h1.trans (.head h2 (h3.trans (.one h4)))

@[simp] theorem posA_ne_W : (Pos.A != Pos.W) = true := by decide
@[simp] theorem posE_ne_W : (Pos.E != Pos.W) = true := by decide
@[simp] theorem posW_ne_W : (Pos.W != Pos.W) = false := by decide

mutual
theorem main (dec : AtomDec) (env : KeyEnv) (ctx : Ctx) : (ms : Ms) → Main dec env ctx ms
  | .tru => by
    have hE : EStmt dec env ctx .tru := fun pre nt term => .one EArm.tru.step
    exact Main.of_e' (t := .num 1) (by simp [form]) (by simp [form]) (by simp [rt, tokens]) (by simp)
      (fun _ _ => hE)
  | .fls => by
    have hE : EStmt dec env ctx .fls := fun pre nt term => .one EArm.fls.step
    exact Main.of_e' (t := .num 0) (by simp [form]) (by simp [form]) (by simp [rt, tokens]) (by simp)
      (fun _ _ => hE)
  | .pkK k => by
    have hE : DecOk dec env ctx (.pkK k) → EStmt dec env ctx (.pkK k) := fun hd pre nt term => by
      simp only [rt, tokens, List.reverse_cons, List.reverse_nil, List.nil_append, List.singleton_append]
      exact .one (EArm.key (keyTok_cases _) hd).step
    exact Main.of_e' (t := keyTok (env.ser k)) (by simp [form]) (by simp [form]) (by simp [rt, tokens]) (keyTok_ne_equal _)
      (fun _ hd => hE hd)
  | .pkH k => Main.vacuous (fun p => by simp [form])
  | .sortedMulti k ks => Main.vacuous (fun p => by simp [form])
  | .sortedMultiA k ks => Main.vacuous (fun p => by simp [form])
  | .rawPkH h => by
    have hE : DecOk dec env ctx (.rawPkH h) → EStmt dec env ctx (.rawPkH h) := fun hd pre nt term => by
      have e : rt env ctx (.rawPkH h) ++ pre
          = .verify :: .equal :: .hash20 (env.rawPkh h) :: .hash160 :: .dup :: pre := by simp [rt, tokens]
      rw [e]; exact .one (EArm.rawPkh hd).step
    exact Main.of_e' (t := .verify) (by simp [form]) (by simp [form]) (by simp [rt, tokens]) (by simp)
      (fun _ hd => hE hd)
  | .after n => by
    have hE : DecOk dec env ctx (.after n) → EStmt dec env ctx (.after n) := fun hd pre nt term => by
      have e : rt env ctx (.after n) ++ pre = .cltv :: .num n :: pre := by simp [rt, tokens]
      rw [e]; exact .one (EArm.after hd).step
    exact Main.of_e' (t := .cltv) (by simp [form]) (by simp [form]) (by simp [rt, tokens]) (by simp)
      (fun _ hd => hE hd)
  | .older n => by
    have hE : DecOk dec env ctx (.older n) → EStmt dec env ctx (.older n) := fun hd pre nt term => by
      have e : rt env ctx (.older n) ++ pre = .csv :: .num n :: pre := by simp [rt, tokens]
      rw [e]; exact .one (EArm.older hd).step
    exact Main.of_e' (t := .csv) (by simp [form]) (by simp [form]) (by simp [rt, tokens]) (by simp)
      (fun _ hd => hE hd)
  | .hash kind h => by
    have e : ∀ pre, rt env ctx (.hash kind h) ++ pre
        = .equal :: hashValTok kind (env.hashVal kind h) :: hashOpTok kind :: .verify :: .equal :: .num 32
            :: .size :: pre := by intro pre; simp [rt, tokens]
    refine Main.of_e (by simp [form]) (by simp [form]) ?_ ?_
    · intro _ hd pre nt term
      rw [e]; exact .one (EArm.hash false hd).step
    · intro _ hd hv pre nt term
      rw [e]; exact .head (EArm.hash true hd).step (.one (Trans.verify hv).step)
  | .multi k ks => by
    have hE : DecOk dec env ctx (.multi k ks) → EStmt dec env ctx (.multi k ks) := fun hd pre nt term => by
      have e : rt env ctx (.multi k ks) ++ pre
          = .checkMultiSig :: .num ks.length ::
              ((ks.map (fun pk => keyTok (env.ser pk))).reverse ++ .num k :: pre) := by simp [rt, tokens]
      rw [e]; exact .one (e_multi hd.1 hd.2)
    exact Main.of_e' (t := .checkMultiSig) (by simp [form]) (by simp [form]) (by simp [rt, tokens]) (by simp)
      (fun _ hd => hE hd)
  | .multiA k ks => by
    have hE : DecOk dec env ctx (.multiA k ks) → EStmt dec env ctx (.multiA k ks) := fun hd pre nt term => by
      have e : rt env ctx (.multiA k ks) ++ pre
          = .numEqual :: .num k :: ((multiATokens env ks).reverse ++ pre) := by simp [rt, tokens]
      rw [e]
      match ks, hd with
      | [], hd => exact absurd hd.1 (by simp; omega)
      | k1 :: ks', hd => exact .one (e_multiA hd.1 hd.2)
    exact Main.of_e' (t := .numEqual) (by simp [form]) (by simp [form]) (by simp [rt, tokens]) (by simp)
      (fun _ hd => hE hd)
  | .alt x => by
    have ih := main dec env ctx x
    refine Main.of_w (fun p hp => by cases p <;> simp [form] at hp ⊢) ?_
    intro hf hd pre nt term
    simp only [form, Bool.and_eq_true, beq_self_eq_true, true_and] at hf
    have e : rt env ctx (.alt x) ++ pre = .fromAlt :: (rt env ctx x ++ (.toAlt :: pre)) := by simp [rt, tokens]
    rw [e]
    exact .head Trans.wAlt.step ((ih.a hf hd.1 (.toAlt :: pre) _ term rfl).trans (.one (Trans.alt hd.2).step))
  | .swap x => by
    have ih := main dec env ctx x
    refine Main.of_w (fun p hp => by cases p <;> simp [form] at hp ⊢) ?_
    intro hf hd pre nt term
    simp only [form, Bool.and_eq_true, beq_self_eq_true, true_and] at hf
    have e : rt env ctx (.swap x) ++ pre = rt env ctx x ++ (.swap :: pre) := by simp [rt, tokens]
    rw [e]
    obtain ⟨t, ts, e2, hne⟩ := lastTok_notW env ctx x .A (by decide) hf
    have h1 : Step dec env ctx ⟨rt env ctx x ++ (.swap :: pre), .wExpression :: nt, term⟩
        ⟨rt env ctx x ++ (.swap :: pre), .expression :: .maybeAndV :: .swap :: nt, term⟩ := by
      simp only [rt]; rw [e2]; exact (Trans.wUn hne).step
    exact .head h1 ((ih.a hf hd.1 (.swap :: pre) _ term rfl).trans (.one (Trans.swap hd.2).step))
  | .check x => by
    have ih := main dec env ctx x
    have hE : form .E (.check x) = true → DecOk dec env ctx (.check x) → EStmt dec env ctx (.check x) := by
      intro hf hd pre nt term
      simp only [form, Bool.and_eq_true] at hf
      have e : rt env ctx (.check x) ++ pre = .checkSig :: (rt env ctx x ++ pre) := by simp [rt, tokens]
      rw [e]
      exact .head EArm.checkSig.step ((ih.e hf.2 hd.1 pre _ term).trans (.one (Trans.check hd.2).step))
    exact Main.of_e' (t := .checkSig) (by simp [form]) (by simp [form]) (by simp [rt, tokens]) (by simp)
      hE
  | .zeroNotEqual x => by
    have ih := main dec env ctx x
    have hE : form .E (.zeroNotEqual x) = true → DecOk dec env ctx (.zeroNotEqual x) →
        EStmt dec env ctx (.zeroNotEqual x) := by
      intro hf hd pre nt term
      simp only [form, Bool.and_eq_true] at hf
      have e : rt env ctx (.zeroNotEqual x) ++ pre = .zeroNotEqual :: (rt env ctx x ++ pre) := by
        simp [rt, tokens]
      rw [e]
      exact .head EArm.zeroNotEqual.step ((ih.e hf.2 hd.1 pre _ term).trans (.one (Trans.zeroNotEqual hd.2).step))
    exact Main.of_e' (t := .zeroNotEqual) (by simp [form]) (by simp [form]) (by simp [rt, tokens]) (by simp)
      hE
  | .verify x => by
    have ih := main dec env ctx x
    have hE : form .E (.verify x) = true → DecOk dec env ctx (.verify x) → EStmt dec env ctx (.verify x) := by
      intro hf hd pre nt term
      simp only [form, Bool.and_eq_true] at hf
      have e : rt env ctx (.verify x) ++ pre = .verify :: (rt env ctx x ++ pre) := by simp [rt, tokens]
      rw [e]
      exact ih.ve hf.2 hd.1 hd.2 pre nt term
    exact Main.of_e' (t := .verify) (by simp [form]) (by simp [form]) (by simp [rt, tokens]) (by simp)
      hE
  | .dupIf x => by
    have ih := main dec env ctx x
    have hE : form .E (.dupIf x) = true → DecOk dec env ctx (.dupIf x) → EStmt dec env ctx (.dupIf x) := by
      intro hf hd pre nt term
      simp only [form, Bool.and_eq_true] at hf
      have e : rt env ctx (.dupIf x) ++ pre = .endIf :: (rt env ctx x ++ (.if_ :: .dup :: pre)) := by
        simp [rt, tokens]
      rw [e]
      exact .head EArm.endIf.step ((ih.a hf.2 hd.1 (.if_ :: .dup :: pre) _ term rfl).trans
        (.head Trans.endIfDup.step (.one (Trans.dupIf hd.2).step)))
    exact Main.of_e' (t := .endIf) (by simp [form]) (by simp [form]) (by simp [rt, tokens]) (by simp)
      hE
  | .nonZero x => by
    have ih := main dec env ctx x
    have hE : form .E (.nonZero x) = true → DecOk dec env ctx (.nonZero x) → EStmt dec env ctx (.nonZero x) := by
      intro hf hd pre nt term
      simp only [form, Bool.and_eq_true] at hf
      have e : rt env ctx (.nonZero x) ++ pre
          = .endIf :: (rt env ctx x ++ (.if_ :: .zeroNotEqual :: .size :: pre)) := by simp [rt, tokens]
      rw [e]
      exact .head EArm.endIf.step ((ih.a hf.2 hd.1 (.if_ :: .zeroNotEqual :: .size :: pre) _ term rfl).trans
        (.head Trans.endIfNz.step (.one (Trans.nonZero hd.2).step)))
    exact Main.of_e' (t := .endIf) (by simp [form]) (by simp [form]) (by simp [rt, tokens]) (by simp)
      hE
  | .andV l r => by
    have ihl := main dec env ctx l
    have ihr := main dec env ctx r
    refine ⟨fun hf => by simp [form] at hf, fun hf => by simp [form] at hf, ?_, ?_,
      fun hf => by simp [form] at hf⟩
    · intro hf hd pre nt term hpre
      simp only [form, Bool.and_eq_true, beq_self_eq_true, true_and] at hf
      have e : rt env ctx (.andV l r) ++ pre = rt env ctx r ++ (rt env ctx l ++ pre) := by simp [rt, tokens]
      rw [e]
      refine (ihr.e hf.2 hd.2.1 (rt env ctx l ++ pre) _ term).trans ?_
      refine .head (Trans.maybeYes (isAndV_rt env ctx l pre)).step ?_
      exact ihl.c hf.1 hd.1 pre nt term [r] (by simp) ⟨hd.2.2, trivial⟩ hpre
    · intro hf hd pre nt term rs hrs hc hpre
      simp only [form, Bool.and_eq_true, beq_self_eq_true, true_and] at hf
      have e : rt env ctx (.andV l r) ++ pre = rt env ctx r ++ (rt env ctx l ++ pre) := by simp [rt, tokens]
      rw [e]
      refine (ihr.e hf.2 hd.2.1 (rt env ctx l ++ pre) _ (rs ++ term)).trans ?_
      match rs, hrs, hc with
      | r0 :: rs', _, hc =>
        have h1 : Step dec env ctx ⟨rt env ctx l ++ pre, andVs (r0 :: rs') ++ nt, r :: (r0 :: rs' ++ term)⟩
            ⟨rt env ctx l ++ pre, .maybeAndV :: .andV :: (andVs rs' ++ nt), r :: (r0 :: rs' ++ term)⟩ :=
          (Trans.andVYes (isAndV_rt env ctx l pre)).step
        have h2 : Step dec env ctx
            ⟨rt env ctx l ++ pre, .maybeAndV :: .andV :: (andVs rs' ++ nt), r :: (r0 :: rs' ++ term)⟩
            ⟨rt env ctx l ++ pre, .expression :: .andV :: .andV :: (andVs rs' ++ nt), r :: (r0 :: rs' ++ term)⟩ :=
          (Trans.maybeYes (isAndV_rt env ctx l pre)).step
        exact .head h1 (.head h2 (ihl.c hf.1 hd.1 pre nt term (r :: r0 :: rs') (by simp) ⟨hd.2.2, hc⟩ hpre))
  | .andB l r => by
    have ihl := main dec env ctx l
    have ihr := main dec env ctx r
    have hE : form .E (.andB l r) = true → DecOk dec env ctx (.andB l r) → EStmt dec env ctx (.andB l r) := by
      intro hf hd pre nt term
      simp only [form, Bool.and_eq_true] at hf
      have e : rt env ctx (.andB l r) ++ pre = .boolAnd :: (rt env ctx r ++ (rt env ctx l ++ pre)) := by
        simp [rt, tokens]
      rw [e]
      exact .head EArm.boolAnd.step ((ihr.w hf.2 hd.2.1 (rt env ctx l ++ pre) _ term).trans
        ((ihl.e hf.1.2 hd.1 pre _ _).trans (.one (Trans.andB hd.2.2).step)))
    exact Main.of_e' (t := .boolAnd) (by simp [form]) (by simp [form]) (by simp [rt, tokens]) (by simp)
      hE
  | .orB l r => by
    have ihl := main dec env ctx l
    have ihr := main dec env ctx r
    have hE : form .E (.orB l r) = true → DecOk dec env ctx (.orB l r) → EStmt dec env ctx (.orB l r) := by
      intro hf hd pre nt term
      simp only [form, Bool.and_eq_true] at hf
      have e : rt env ctx (.orB l r) ++ pre = .boolOr :: (rt env ctx r ++ (rt env ctx l ++ pre)) := by
        simp [rt, tokens]
      rw [e]
      exact .head EArm.boolOr.step ((ihr.w hf.2 hd.2.1 (rt env ctx l ++ pre) _ term).trans
        ((ihl.e hf.1.2 hd.1 pre _ _).trans (.one (Trans.orB hd.2.2).step)))
    exact Main.of_e' (t := .boolOr) (by simp [form]) (by simp [form]) (by simp [rt, tokens]) (by simp)
      hE
  | .andOr a b c => by
    have iha := main dec env ctx a
    have ihb := main dec env ctx b
    have ihc := main dec env ctx c
    have hE : form .E (.andOr a b c) = true → DecOk dec env ctx (.andOr a b c) →
        EStmt dec env ctx (.andOr a b c) := by
      intro hf hd pre nt term
      simp only [form, Bool.and_eq_true] at hf
      have e : rt env ctx (.andOr a b c) ++ pre
          = .endIf :: (rt env ctx b ++ (.else_ :: (rt env ctx c ++ (.notIf :: (rt env ctx a ++ pre))))) := by
        simp [rt, tokens]
      rw [e]
      refine .head EArm.endIf.step ((ihb.a hf.1.2 hd.2.1 _ _ term rfl).trans ?_)
      refine .head Trans.endIfElse.step ((ihc.a hf.2 hd.2.2.1 _ _ _ rfl).trans ?_)
      exact .head Trans.elseNotIf.step ((iha.e hf.1.1.2 hd.1 pre _ _).trans (.one (Trans.tern hd.2.2.2).step))
    exact Main.of_e' (t := .endIf) (by simp [form]) (by simp [form]) (by simp [rt, tokens]) (by simp)
      hE
  | .orD l r => by
    have ihl := main dec env ctx l
    have ihr := main dec env ctx r
    have hE : form .E (.orD l r) = true → DecOk dec env ctx (.orD l r) → EStmt dec env ctx (.orD l r) := by
      intro hf hd pre nt term
      simp only [form, Bool.and_eq_true] at hf
      have e : rt env ctx (.orD l r) ++ pre
          = .endIf :: (rt env ctx r ++ (.notIf :: .ifDup :: (rt env ctx l ++ pre))) := by simp [rt, tokens]
      rw [e]
      refine .head EArm.endIf.step ((ihr.a hf.2 hd.2.1 _ _ term rfl).trans ?_)
      exact .head Trans.endIfNotIf.step (.head Trans.notIfIfDup.step
        ((ihl.e hf.1.2 hd.1 pre _ _).trans (.one (Trans.orD hd.2.2).step)))
    exact Main.of_e' (t := .endIf) (by simp [form]) (by simp [form]) (by simp [rt, tokens]) (by simp)
      hE
  | .orC l r => by
    have ihl := main dec env ctx l
    have ihr := main dec env ctx r
    have hE : form .E (.orC l r) = true → DecOk dec env ctx (.orC l r) → EStmt dec env ctx (.orC l r) := by
      intro hf hd pre nt term
      simp only [form, Bool.and_eq_true] at hf
      have e : rt env ctx (.orC l r) ++ pre
          = .endIf :: (rt env ctx r ++ (.notIf :: (rt env ctx l ++ pre))) := by simp [rt, tokens]
      rw [e]
      refine .head EArm.endIf.step ((ihr.a hf.2 hd.2.1 _ _ term rfl).trans ?_)
      obtain ⟨t, ts, e2, hok⟩ := lastTok env ctx l
      have h1 : Step dec env ctx ⟨rt env ctx l ++ pre, .endIfNotIf :: nt, r :: term⟩
          ⟨rt env ctx l ++ pre, .expression :: .orC :: nt, r :: term⟩ := by
        simp only [rt]; rw [e2]; exact (Trans.notIfUn hok.2.2).step
      exact .head Trans.endIfNotIf.step (.head h1 ((ihl.e hf.1.2 hd.1 pre _ _).trans (.one (Trans.orC hd.2.2).step)))
    exact Main.of_e' (t := .endIf) (by simp [form]) (by simp [form]) (by simp [rt, tokens]) (by simp)
      hE
  | .orI l r => by
    have ihl := main dec env ctx l
    have ihr := main dec env ctx r
    have hE : form .E (.orI l r) = true → DecOk dec env ctx (.orI l r) → EStmt dec env ctx (.orI l r) := by
      intro hf hd pre nt term
      simp only [form, Bool.and_eq_true] at hf
      have e : rt env ctx (.orI l r) ++ pre
          = .endIf :: (rt env ctx r ++ (.else_ :: (rt env ctx l ++ (.if_ :: pre)))) := by simp [rt, tokens]
      rw [e]
      refine .head EArm.endIf.step ((ihr.a hf.2 hd.2.1 _ _ term rfl).trans ?_)
      exact .head Trans.endIfElse.step ((ihl.a hf.1.2 hd.1 _ _ _ rfl).trans (.one (Trans.elseIf hd.2.2).step))
    exact Main.of_e' (t := .endIf) (by simp [form]) (by simp [form]) (by simp [rt, tokens]) (by simp)
      hE
  | .thresh k .nil => Main.vacuous (fun p => by simp [form, formL])
  | .thresh k (.cons x xs) => by
    have ihx := main dec env ctx x
    have e : ∀ pre, rt env ctx (.thresh k (.cons x xs)) ++ pre
        = .equal :: .num k :: ((threshTokens env ctx false xs).reverse ++ (rt env ctx x ++ pre)) := by
      intro pre; simp [rt, tokens, threshTokens]
    refine Main.of_e (by simp [form]) (by simp [form]) ?_ ?_
    · intro hf hd pre nt term
      simp only [form, formL, Bool.and_eq_true, if_true] at hf
      rw [e]
      exact .head (EArm.thresh false).step (thresh_tail (ihx.e hf.2.1 hd.1.1) (mainL dec env ctx xs hf.2.2 hd.1.2)
        hd.2.1 hd.2.2 pre nt term)
    · intro hf hd hv pre nt term
      simp only [form, formL, Bool.and_eq_true, if_true] at hf
      rw [e]
      exact .head (EArm.thresh true).step ((thresh_tail (ihx.e hf.2.1 hd.1.1) (mainL dec env ctx xs hf.2.2 hd.1.2)
        hd.2.1 hd.2.2 pre _ term).trans (.one (Trans.verify hv).step))
theorem mainL (dec : AtomDec) (env : KeyEnv) (ctx : Ctx) : (xs : MsList) → formL false xs = true →
    DecOkL dec env ctx xs → WLStmt dec env ctx xs
  | .nil, _, _ => by
    intro pre nt term k n
    simp only [threshTokens, List.reverse_nil, List.nil_append, MsList.length, Nat.add_zero, MsList.toList]
    exact .refl _
  | .cons y ys, hf, hd => by
    intro pre nt term k n
    simp only [formL, Bool.and_eq_true, Bool.false_eq_true, if_false] at hf
    have e : (threshTokens env ctx false (.cons y ys)).reverse ++ pre
        = (threshTokens env ctx false ys).reverse ++ (.add :: (rt env ctx y ++ pre)) := by
      simp [rt, threshTokens]
    rw [e]
    have h1 := mainL dec env ctx ys hf.2 hd.2 (.add :: (rt env ctx y ++ pre)) nt term k n
    have h2 := (main dec env ctx y).w hf.1 hd.1 pre (.threshW k (n + ys.length + 1) :: nt) (ys.toList ++ term)
    have e3 : n + (MsList.cons y ys).length = n + ys.length + 1 := by simp [MsList.length]; omega
    rw [e3]
    exact h1.trans (.head Trans.threshWAdd.step h2)
end

end DecodeL
end MsVerif
