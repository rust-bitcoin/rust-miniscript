/-
For C05: the enumerations of `Corr` and `Mall` are complete (`mem_all`), so `∀ x : Corr, …` and `∀ x : Mall, …` are decidable
(`decForall`; the `decide +kernel` proofs of Thm/C05.lean run on these instances); the Rust type representation mapped to the
specification's letter sets (`toSpec`) and compared with them (`leC`, `eqC`); how a library rule written
as a guarded equation (`Corr.*_eq`, Lemmas/CoreTypes.lean) is compared with a guarded row of the specification
(`eqC_ite`), the input rules in the specification's letters, the reachable types (`Reach`), none of which is "K and z"
(`Corr.kz`, `Reach.K_not_zero`).  `ite_some`, `and_left`, `and_right` are general; ValidateTypes, ValidateSem, ValidateCtx use them.
-/
import MsVerif.Lemmas.CoreTypes
import MsVerif.Spec.MsSpecTypes

namespace MsVerif
open Spec

theorem Bool.mem_all' (b : Bool) : b ∈ Bool.all' := by cases b <;> decide
theorem Base.mem_all (b : Base) : b ∈ Base.all := by cases b <;> decide
theorem Input.mem_all (i : Input) : i ∈ Input.all := by cases i <;> decide
theorem Dissat.mem_all (d : Dissat) : d ∈ Dissat.all := by cases d <;> decide

theorem Corr.mem_all (c : Corr) : c ∈ Corr.all := by
  simp only [Corr.all, List.mem_flatMap, List.mem_map]
  exact ⟨_, c.base.mem_all, _, c.input.mem_all, _, Bool.mem_all' c.dissat, _, Bool.mem_all' c.unit,
    rfl⟩

theorem Mall.mem_all (m : Mall) : m ∈ Mall.all := by
  simp only [Mall.all, List.mem_flatMap, List.mem_map]
  exact ⟨_, m.dissat.mem_all, _, Bool.mem_all' m.signed, _, Bool.mem_all' m.nonMall, rfl⟩

instance Corr.decForall (P : Corr → Prop) [DecidablePred P] : Decidable (∀ c, P c) :=
  decidable_of_iff (∀ c ∈ Corr.all, P c) ⟨fun h c => h c (Corr.mem_all c), fun h c _ => h c⟩

instance Mall.decForall (P : Mall → Prop) [DecidablePred P] : Decidable (∀ m, P m) :=
  decidable_of_iff (∀ m ∈ Mall.all, P m) ⟨fun h m => h m (Mall.mem_all m), fun h m _ => h m⟩

def Base.toSpec : Base → SBase | .B => .B | .K => .K | .V => .V | .W => .W

def Input.z : Input → Bool | .zero => true | _ => false
def Input.o : Input → Bool | .one | .oneNonZero => true | _ => false
def Input.n : Input → Bool | .oneNonZero | .anyNonZero => true | _ => false

def Corr.toSpec (c : Corr) : SCorr :=
  ⟨c.base.toSpec, c.input.z, c.input.o, c.input.n, c.dissat, c.unit⟩

def Mall.toSpec (m : Mall) : SMall :=
  ⟨m.signed, m.dissat == .none, m.dissat == .unique, m.nonMall⟩

def Ty.toSpec (t : Ty) : STy := ⟨t.corr.toSpec, t.mall.toSpec⟩

/-- model result vs specification result: both reject, or both accept with the model's
letters a subset of the specification's -/
def leC : Option Corr → Option SCorr → Bool
  | none, none => true
  | some a, some b => a.toSpec.le b
  | _, _ => false

/-- both reject, or both accept with exactly the specification's letters -/
def eqC : Option Corr → Option SCorr → Bool
  | none, none => true
  | some a, some b => a.toSpec == b
  | _, _ => false

theorem eqC_imp_leC {a b} (h : eqC a b = true) : leC a b = true := by
  cases a <;> cases b <;> simp_all [eqC, leC]
  subst h
  simp [SCorr.le]


theorem ite_some {α} {c : Prop} [Decidable c] {v y : α}
    (h : (if c then some v else none) = some y) : c ∧ v = y := by
  split at h
  · exact ⟨‹c›, Option.some.inj h⟩
  · cases h

theorem and_left {a b : Bool} (h : (a && b) = true) : a = true := (Bool.and_eq_true_iff.1 h).1
theorem and_right {a b : Bool} (h : (a && b) = true) : b = true := (Bool.and_eq_true_iff.1 h).2


theorem eqC_ite {c c' : Prop} [Decidable c] [Decidable c'] {v : Corr} {s : SCorr} (hc : c ↔ c')
    (hv : c → v.toSpec = s) :
    eqC (if c then some v else none) (if c' then some s else none) = true := by
  by_cases h : c
  · rw [if_pos h, if_pos (hc.1 h)]; exact beq_iff_eq.2 (hv h)
  · rw [if_neg h, if_neg (mt hc.2 h)]; rfl

theorem Base.toSpec_inj {a b : Base} : a.toSpec = b.toSpec ↔ a = b := by
  cases a <;> cases b <;> decide

namespace Corr

theorem toSpec_base_B (x : Corr) : x.toSpec.base = .B ↔ x.base = .B := Base.toSpec_inj (b := .B)
theorem toSpec_base_V (x : Corr) : x.toSpec.base = .V ↔ x.base = .V := Base.toSpec_inj (b := .V)
theorem toSpec_base_W (x : Corr) : x.toSpec.base = .W ↔ x.base = .W := Base.toSpec_inj (b := .W)
theorem toSpec_base_eq (x y : Corr) : x.toSpec.base = y.toSpec.base ↔ x.base = y.base :=
  Base.toSpec_inj
theorem toSpec_d (x : Corr) : x.toSpec.d = x.dissat := rfl
theorem toSpec_u (x : Corr) : x.toSpec.u = x.unit := rfl

theorem toSpec_andInput (b : Base) (x y : Input) (d u : Bool) :
    toSpec ⟨b, andInput x y, d, u⟩ =
      ⟨b.toSpec, x.z && y.z, (x.z && y.o) || (y.z && x.o), x.n || (x.z && y.n), d, u⟩ := by
  cases x <;> cases y <;> rfl

theorem toSpec_orBInput (b : Base) (x y : Input) (d u : Bool) :
    toSpec ⟨b, orBInput x y, d, u⟩ =
      ⟨b.toSpec, x.z && y.z, (x.z && y.o) || (y.z && x.o), false, d, u⟩ := by
  cases x <;> cases y <;> rfl

theorem toSpec_orDInput (b : Base) (x y : Input) (d u : Bool) :
    toSpec ⟨b, orDInput x y, d, u⟩ = ⟨b.toSpec, x.z && y.z, x.o && y.z, false, d, u⟩ := by
  cases x <;> cases y <;> rfl

theorem toSpec_orIInput (b : Base) (x y : Input) (d u : Bool) :
    toSpec ⟨b, orIInput x y, d, u⟩ = ⟨b.toSpec, false, x.z && y.z, false, d, u⟩ := by
  cases x <;> cases y <;> rfl

theorem toSpec_andOrInput (b : Base) (x y z : Input) (d u : Bool) :
    toSpec ⟨b, andOrInput x y z, d, u⟩ =
      ⟨b.toSpec, x.z && y.z && z.z, (x.z && y.o && z.o) || (x.o && y.z && z.z), false, d, u⟩ := by
  cases x <;> cases y <;> cases z <;> rfl

end Corr

/-- Correctness types reachable from the leaf constants through the rules. -/
inductive Reach : Corr → Prop
  | tru : Reach Corr.TRUE
  | fls : Reach Corr.FALSE
  | pkK : Reach Corr.pkK
  | pkH : Reach Corr.pkH
  | multi : Reach Corr.multi
  | multiA : Reach Corr.multiA
  | hash : Reach Corr.hash
  | time : Reach Corr.time
  | alt {x y} : Reach x → Corr.castAlt x = some y → Reach y
  | swap {x y} : Reach x → Corr.castSwap x = some y → Reach y
  | check {x y} : Reach x → Corr.castCheck x = some y → Reach y
  | dupIf {x y} : Reach x → Corr.castDupIf x = some y → Reach y
  | verify {x y} : Reach x → Corr.castVerify x = some y → Reach y
  | nonZero {x y} : Reach x → Corr.castNonZero x = some y → Reach y
  | zeroNotEqual {x y} : Reach x → Corr.castZeroNotEqual x = some y → Reach y
  | tr {x y} : Reach x → Corr.castTrue x = some y → Reach y
  | orIFalse {x y} : Reach x → Corr.castOrIFalse x = some y → Reach y
  | andB {a b y} : Reach a → Reach b → Corr.andB a b = some y → Reach y
  | andV {a b y} : Reach a → Reach b → Corr.andV a b = some y → Reach y
  | orB {a b y} : Reach a → Reach b → Corr.orB a b = some y → Reach y
  | orC {a b y} : Reach a → Reach b → Corr.orC a b = some y → Reach y
  | orD {a b y} : Reach a → Reach b → Corr.orD a b = some y → Reach y
  | orI {a b y} : Reach a → Reach b → Corr.orI a b = some y → Reach y
  | andOr {a b c y} : Reach a → Reach b → Reach c → Corr.andOr a b c = some y → Reach y
  | thresh {k xs y} : (∀ x ∈ xs, Reach x) → Corr.threshold k xs = some y → Reach y

/-- "K and z": base `K` with no argument, the one child type on which `c:` deviates from the specification (C05
`corr_c`); a `Bool` so that the driver can evaluate it too -/
def Corr.kz (c : Corr) : Bool := c.base == .K && c.input == .zero

theorem Corr.kz_eq_false {c : Corr} : c.kz = false ↔ (c.base = .K → c.input ≠ .zero) := by
  simp [Corr.kz]

/-- A rule's result has base `K` only where a child has, and then it takes an argument whenever
that child does. -/
theorem Reach.K_not_zero {c : Corr} (h : Reach c) : c.kz = false := by
  induction h with
  | tru | fls | pkK | pkH | multi | multiA | hash | time => rfl
  | alt _ e _ => rw [Corr.castAlt_eq] at e; obtain ⟨_, rfl⟩ := ite_some e; rfl
  | swap _ e _ => rw [Corr.castSwap_eq] at e; obtain ⟨_, rfl⟩ := ite_some e; rfl
  | check _ e _ => rw [Corr.castCheck_eq] at e; obtain ⟨_, rfl⟩ := ite_some e; rfl
  | dupIf _ e _ => rw [Corr.castDupIf_eq] at e; obtain ⟨_, rfl⟩ := ite_some e; rfl
  | verify _ e _ => rw [Corr.castVerify_eq] at e; obtain ⟨_, rfl⟩ := ite_some e; rfl
  | nonZero _ e _ => rw [Corr.castNonZero_eq] at e; obtain ⟨_, rfl⟩ := ite_some e; rfl
  | zeroNotEqual _ e _ => rw [Corr.castZeroNotEqual_eq] at e; obtain ⟨_, rfl⟩ := ite_some e; rfl
  | tr _ e _ => rw [Corr.castTrue_eq] at e; obtain ⟨_, rfl⟩ := ite_some e; rfl
  | orIFalse _ e _ => rw [Corr.castOrIFalse_eq] at e; obtain ⟨_, rfl⟩ := ite_some e; rfl
  | andB _ _ e _ _ => rw [Corr.andB_eq] at e; obtain ⟨_, rfl⟩ := ite_some e; rfl
  | orB _ _ e _ _ => rw [Corr.orB_eq] at e; obtain ⟨_, rfl⟩ := ite_some e; rfl
  | orC _ _ e _ _ => rw [Corr.orC_eq] at e; obtain ⟨_, rfl⟩ := ite_some e; rfl
  | orD _ _ e _ _ => rw [Corr.orD_eq] at e; obtain ⟨_, rfl⟩ := ite_some e; rfl
  | andV _ _ e _ ihb =>
    rw [Corr.andV_eq] at e; obtain ⟨_, rfl⟩ := ite_some e
    exact Corr.kz_eq_false.2 fun hK hz => Corr.kz_eq_false.1 ihb hK (Corr.andInput_eq_zero.1 hz).2
  | orI _ _ e _ _ =>
    rw [Corr.orI_eq] at e; obtain ⟨_, rfl⟩ := ite_some e
    exact Corr.kz_eq_false.2 fun _ => Corr.orIInput_ne_zero _ _
  | andOr _ _ _ e _ _ ihc =>
    rw [Corr.andOr_eq] at e; obtain ⟨⟨_, _, _, hbc, _⟩, rfl⟩ := ite_some e
    exact Corr.kz_eq_false.2 fun hK hz =>
      Corr.kz_eq_false.1 ihc (hbc ▸ hK) (Corr.andOrInput_eq_zero.1 hz).2.2
  | thresh _ e _ =>
    exact Corr.kz_eq_false.2 fun hK => nomatch (Corr.threshold_base e).symm.trans hK
end MsVerif
