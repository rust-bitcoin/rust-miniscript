/-
One iteration of the decoder state machine (Model/Decode.lean) as a finite table read in both directions (`EArm`
for the arms of `Expression`, `Trans` for the other nonterminals), and that an error is `.panic` only on a terminal
stack that is too short.
-/
import MsVerif.Model.Decode
import MsVerif.Model.Tokens

namespace MsVerif
namespace DecodeL

theorem readMultiKeys_len {dec : AtomDec} {ctx : Ctx} {n : Nat} {ts : List Token} {acc ks : List Key}
    {ts' : List Token} (h : readMultiKeys dec ctx n ts acc = .ok (ks, ts')) :
    ts'.length ≤ ts.length := by
  induction n generalizing ts acc with
  | zero => simp [readMultiKeys] at h; obtain ⟨_, rfl⟩ := h; exact Nat.le_refl _
  | succ n ih =>
    cases ts with
    | nil => simp [readMultiKeys] at h
    | cons t ts =>
      cases t <;> simp only [readMultiKeys] at h <;> try (cases h)
      all_goals
        split at h
        · cases h
        · have := ih h; simp; omega

theorem readCsaKeys_len {dec : AtomDec} {ctx : Ctx} (ts : List Token) (acc : List Key) :
    ∀ (ks : List Key) (ts' : List Token),
      readCsaKeys dec ctx ts acc = .ok (ks, ts') → ts'.length ≤ ts.length := by
  fun_induction readCsaKeys dec ctx ts acc <;> intro ks ts' h
  · cases h
  · rename_i ih; have := ih _ _ h; simp; omega
  · cases h
  · cases h
  · simp at h; obtain ⟨_, rfl⟩ := h; exact Nat.le_refl _

def Good {α : Type} (P : α → Prop) : Except DecodeErr α → Prop
  | .ok a => P a
  | .error e => e ≠ .panic

theorem Good.error {α : Type} {P : α → Prop} {e : DecodeErr} (h : e ≠ .panic) :
    Good P (.error e) :=
  h

theorem Good.of_ok {α : Type} {P : α → Prop} {r : Except DecodeErr α} {a : α} (hg : Good P r)
    (h : r = .ok a) : P a := by
  subst h; exact hg

theorem Good.of_error {α : Type} {P : α → Prop} {r : Except DecodeErr α} {e : DecodeErr} (hg : Good P r)
    (h : r = .error e) : e ≠ .panic := by
  subst h; exact hg

theorem parseKey_np {dec : AtomDec} {ctx : Ctx} {bs : Bytes} {e : DecodeErr}
    (h : parseKey dec ctx bs = .error e) : e ≠ .panic := by
  unfold parseKey at h
  dsimp only at h
  split at h <;> cases h <;> decide

theorem lookupHash_np {dec : AtomDec} {k : HashKind} {bs : Bytes} {e : DecodeErr}
    (h : lookupHash dec k bs = .error e) : e ≠ .panic := by
  unfold lookupHash at h; split at h <;> cases h; decide

theorem lookupRawPkh_np {dec : AtomDec} {bs : Bytes} {e : DecodeErr}
    (h : lookupRawPkh dec bs = .error e) : e ≠ .panic := by
  unfold lookupRawPkh at h; split at h <;> cases h; decide

theorem expectSeq_np {es ts : List Token} {e : DecodeErr}
    (h : expectSeq es ts = .error e) : e ≠ .panic := by
  induction es generalizing ts with
  | nil => simp [expectSeq] at h
  | cons x es ih =>
    cases ts with
    | nil => simp [expectSeq] at h; subst h; decide
    | cons t ts =>
      simp only [expectSeq] at h
      split at h
      · exact ih h
      · cases h; decide

theorem readMultiKeys_np {dec : AtomDec} {ctx : Ctx} (n : Nat) (ts : List Token) (acc : List Key) :
    ∀ e, readMultiKeys dec ctx n ts acc = .error e → e ≠ .panic := by
  fun_induction readMultiKeys dec ctx n ts acc <;> intro e h
  · cases h
  · cases h; decide
  · cases h; exact parseKey_np (by assumption)
  · rename_i ih; exact ih e h
  · cases h; exact parseKey_np (by assumption)
  · rename_i ih; exact ih e h
  · cases h; decide

theorem readCsaKeys_np {dec : AtomDec} {ctx : Ctx} (ts : List Token) (acc : List Key) :
    ∀ e, readCsaKeys dec ctx ts acc = .error e → e ≠ .panic := by
  fun_induction readCsaKeys dec ctx ts acc <;> intro e h
  · cases h; exact parseKey_np (by assumption)
  · rename_i ih; exact ih e h
  · cases h; decide
  · cases h; decide
  · cases h

section
variable {dec : AtomDec} {ctx : Ctx}

theorem expectSeq_eq : ∀ (es ts ts' : List Token), expectSeq es ts = .ok ts' → ts = es ++ ts'
  | [], ts, ts', h => by simp [expectSeq] at h; simp [h]
  | e :: es, [], ts', h => by simp [expectSeq] at h
  | e :: es, t :: ts, ts', h => by
    simp only [expectSeq] at h
    split at h
    · rename_i he; rw [he, expectSeq_eq es ts ts' h]; rfl
    · cases h

theorem lookupHash_ok {kind : HashKind} {bs : Bytes} {a : Nat} (h : lookupHash dec kind bs = .ok a) :
    dec.hash kind bs = some a := by
  unfold lookupHash at h; split at h
  · rename_i h' hh; cases h; exact hh
  · cases h

theorem lookupRawPkh_ok {bs : Bytes} {a : Nat} (h : lookupRawPkh dec bs = .ok a) :
    dec.rawPkh bs = some a := by
  unfold lookupRawPkh at h; split at h
  · rename_i h' hh; cases h; exact hh
  · cases h

end

/-- what the entry through `Tk::Verify, Tk::Equal` adds: `vpre`, the token in front; `vnt`, the nonterminal pushed
(`nt'` of `exprAfterEqual`) -/
def vpre (v : Bool) : List Token := if v then [.verify] else []
def vnt (v : Bool) : List NonTerm := if v then [.verify] else []

/-- `EArm ts o`: one arm of the big `match_token!` of `Expression`, on tokens `ts`, answers `o`.
One constructor per arm that can succeed; the key loops of `multi`/`multi_a` stay opaque. -/
inductive EArm (dec : AtomDec) (ctx : Ctx) : List Token → ExprOut → Prop
  | key {tok : Token} {pk : Bytes} {k : Key} {ts}
    (ht : tok = .bytes33 pk ∨ tok = .bytes65 pk ∨ tok = .bytes32 pk) (hp : parseKey dec ctx pk = .ok k) :
    EArm dec ctx (tok :: ts) ⟨ts, [], [.pkK k]⟩
  | checkSig {ts} : EArm dec ctx (.checkSig :: ts) ⟨ts, [.expression, .check], []⟩
  | verifyUn {x : Token} {ts} (h : x ≠ .equal) :
    EArm dec ctx (.verify :: x :: ts) ⟨x :: ts, [.expression, .verify], []⟩
  | zeroNotEqual {ts} : EArm dec ctx (.zeroNotEqual :: ts) ⟨ts, [.expression, .zeroNotEqual], []⟩
  | older {n : Nat} {ts} (h : 1 ≤ n ∧ n < 2147483648) : EArm dec ctx (.csv :: .num n :: ts) ⟨ts, [], [.older n]⟩
  | after {n : Nat} {ts} (h : 1 ≤ n ∧ n ≤ 2147483647) : EArm dec ctx (.cltv :: .num n :: ts) ⟨ts, [], [.after n]⟩
  | fls {ts} : EArm dec ctx (.num 0 :: ts) ⟨ts, [], [.fls]⟩
  | tru {ts} : EArm dec ctx (.num 1 :: ts) ⟨ts, [], [.tru]⟩
  | endIf {ts} : EArm dec ctx (.endIf :: ts) ⟨ts, [.expression, .maybeAndV, .endIf], []⟩
  | boolAnd {ts} : EArm dec ctx (.boolAnd :: ts) ⟨ts, [.wExpression, .expression, .andB], []⟩
  | boolOr {ts} : EArm dec ctx (.boolOr :: ts) ⟨ts, [.wExpression, .expression, .orB], []⟩
  | hash (v : Bool) {kind : HashKind} {bs : Bytes} {a : Nat} {ts} (hl : dec.hash kind bs = some a) :
    EArm dec ctx (vpre v ++ .equal :: hashValTok kind bs :: hashOpTok kind :: (hashTail ++ ts))
      ⟨ts, vnt v, [.hash kind a]⟩
  | rawPkh {bs : Bytes} {a : Nat} {ts} (hl : dec.rawPkh bs = some a) :
    EArm dec ctx (.verify :: .equal :: .hash20 bs :: .hash160 :: .dup :: ts) ⟨ts, [], [.rawPkH a]⟩
  | thresh (v : Bool) {k : Nat} {ts} :
    EArm dec ctx (vpre v ++ .equal :: .num k :: ts) ⟨ts, .threshW k 0 :: vnt v, []⟩
  | multi {n k : Nat} {ts ts' : List Token} {keys : List Key} (hn : 1 ≤ n ∧ n ≤ 20)
    (hr : readMultiKeys dec ctx n ts [] = .ok (keys, .num k :: ts'))
    (hk : 1 ≤ k ∧ k ≤ keys.length ∧ keys.length ≤ 20) :
    EArm dec ctx (.checkMultiSig :: .num n :: ts) ⟨ts', [], [.multi k keys.reverse]⟩
  | multiA {k : Nat} {ts ts' : List Token} {keys : List Key} {pk : Bytes} {key : Key} (hk0 : 1 ≤ k ∧ k ≤ 999)
    (hr : readCsaKeys dec ctx ts [] = .ok (keys, .checkSig :: .bytes32 pk :: ts'))
    (hp : parseKey dec ctx pk = .ok key) (hk : k ≤ keys.length + 1 ∧ keys.length + 1 ≤ 999) :
    EArm dec ctx (.numEqual :: .num k :: ts) ⟨ts', [], [.multiA k (keys ++ [key]).reverse]⟩

section
variable {dec : AtomDec} {ctx : Ctx}

theorem lookupHash_eq {kind : HashKind} {bs : Bytes} {a : Nat} (h : dec.hash kind bs = some a) :
    lookupHash dec kind bs = .ok a := by
  simp [lookupHash, h]

theorem EArm.ok {ts : List Token} {o : ExprOut} (h : EArm dec ctx ts o) : stepExpr dec ctx ts = .ok o := by
  cases h with
  | key ht hp => rcases ht with rfl | rfl | rfl <;> simp [stepExpr, hp]
  | @older n _ h =>
    have : ¬ (n = 0 ∨ n ≥ 2147483648) := by omega
    simp [stepExpr, this]
  | @after n _ h =>
    have : ¬ (n = 0 ∨ n > 2147483647) := by omega
    simp [stepExpr, this]
  | @hash v kind _ _ _ hl =>
    cases v <;> cases kind <;>
      simp [vpre, vnt, stepExpr, exprAfterEqual, hashValTok, hashOpTok, hashTail, expectSeq, lookupHash_eq hl]
  | rawPkh hl => simp [stepExpr, exprAfterEqual, lookupRawPkh, hl]
  | thresh v => cases v <;> rfl
  | @multi n k _ _ keys hn hr hk =>
    have h1 : ¬ (n = 0 ∨ n > 20) := by omega
    have h2 : ¬ (k = 0 ∨ k > keys.reverse.length ∨ keys.reverse.length > 20) := by
      rw [List.length_reverse]; omega
    simp only [stepExpr, exprMulti, if_neg h1, hr, if_neg h2]
  | @multiA k _ _ keys _ key hk0 hr hp hk =>
    have h1 : ¬ (k = 0 ∨ k > 999) := by omega
    have h2 : ¬ (k = 0 ∨ k > (keys ++ [key]).reverse.length ∨ (keys ++ [key]).reverse.length > 999) := by
      rw [List.length_reverse, List.length_append]; simp only [List.length_singleton]; omega
    simp only [stepExpr, exprMultiA, if_neg h1, hr, hp, if_neg h2]
  | verifyUn h => simp only [stepExpr]
  | _ => rfl

theorem EArm.hash' (v : Bool) {kind : HashKind} {bs : Bytes} {a : Nat} {ts0 ts : List Token}
    (he : expectSeq hashTail ts0 = .ok ts) (hl : lookupHash dec kind bs = .ok a) :
    EArm dec ctx (vpre v ++ .equal :: hashValTok kind bs :: hashOpTok kind :: ts0) ⟨ts, vnt v, [.hash kind a]⟩ := by
  rw [expectSeq_eq _ _ _ he]; exact .hash v (lookupHash_ok hl)

theorem exprAfterEqual_arm {v : Bool} {ts : List Token} :
    Good (EArm dec ctx (vpre v ++ .equal :: ts)) (exprAfterEqual dec v ts) := by
  unfold exprAfterEqual
  dsimp only
  split
  · exact Good.error (by decide)
  · split
    · exact Good.error (by decide)
    · cases v
      · rw [if_neg Bool.false_ne_true]
        split
        · exact Good.error (expectSeq_np ‹_›)
        · split
          · exact Good.error (lookupHash_np ‹_›)
          · exact EArm.hash' false (kind := .hash160) ‹_› ‹_›
      · rw [if_pos rfl]
        split
        · exact Good.error (by decide)
        · split
          · exact Good.error (lookupRawPkh_np ‹_›)
          · exact EArm.rawPkh (lookupRawPkh_ok ‹_›)
        · split
          · exact Good.error (expectSeq_np ‹_›)
          · split
            · exact Good.error (lookupHash_np ‹_›)
            · exact EArm.hash' true (kind := .hash160)
                (by simpa [hashTail, expectSeq] using ‹expectSeq _ _ = _›) ‹_›
        · exact Good.error (by decide)
    · split
      · exact Good.error (expectSeq_np ‹_›)
      · split
        · exact Good.error (lookupHash_np ‹_›)
        · exact EArm.hash' v (kind := .ripemd160) ‹_› ‹_›
    · exact Good.error (by decide)
  · split
    · exact Good.error (by decide)
    · split
      · exact Good.error (expectSeq_np ‹_›)
      · split
        · exact Good.error (lookupHash_np ‹_›)
        · exact EArm.hash' v (kind := .sha256) ‹_› ‹_›
    · split
      · exact Good.error (expectSeq_np ‹_›)
      · split
        · exact Good.error (lookupHash_np ‹_›)
        · exact EArm.hash' v (kind := .hash256) ‹_› ‹_›
    · exact Good.error (by decide)
  · exact EArm.thresh v
  · exact Good.error (by decide)

theorem exprMulti_arm {ts : List Token} : Good (EArm dec ctx (.checkMultiSig :: ts)) (exprMulti dec ctx ts) := by
  unfold exprMulti
  split
  · exact Good.error (by decide)
  · split
    · exact Good.error (by decide)
    · split
      · exact Good.error (readMultiKeys_np _ _ _ _ ‹_›)
      · rename_i hn _ keys _ hr
        split
        · exact Good.error (by decide)
        · dsimp only
          split
          · exact Good.error (by decide)
          · rename_i hk
            rw [List.length_reverse] at hk
            exact EArm.multi (by omega) hr (by omega)
        · exact Good.error (by decide)
  · exact Good.error (by decide)

theorem exprMultiA_arm {ts : List Token} : Good (EArm dec ctx (.numEqual :: ts)) (exprMultiA dec ctx ts) := by
  unfold exprMultiA
  split
  · exact Good.error (by decide)
  · split
    · exact Good.error (by decide)
    · split
      · exact Good.error (readCsaKeys_np _ _ _ ‹_›)
      · rename_i hk0 _ keys _ hr
        split
        · exact Good.error (by decide)
        · split
          · exact Good.error (by decide)
          · split
            · exact Good.error (parseKey_np ‹_›)
            · dsimp only
              split
              · exact Good.error (by decide)
              · rename_i hk
                rw [List.length_reverse, List.length_append, List.length_singleton] at hk
                exact EArm.multiA (by omega) hr ‹_› (by omega)
          · exact Good.error (by decide)
        · exact Good.error (by decide)
  · exact Good.error (by decide)

theorem stepExpr_arm {ts : List Token} : Good (EArm dec ctx ts) (stepExpr dec ctx ts) := by
  unfold stepExpr
  split
  · exact Good.error (by decide)
  · split
    · exact Good.error (parseKey_np ‹_›)
    · exact EArm.key (.inl rfl) ‹_›
  · split
    · exact Good.error (parseKey_np ‹_›)
    · exact EArm.key (.inr (.inl rfl)) ‹_›
  · split
    · exact Good.error (parseKey_np ‹_›)
    · exact EArm.key (.inr (.inr rfl)) ‹_›
  · exact EArm.checkSig
  · split
    · exact Good.error (by decide)
    · exact exprAfterEqual_arm (v := true)
    · exact EArm.verifyUn ‹_›
  · exact EArm.zeroNotEqual
  · split
    · exact Good.error (by decide)
    · split
      · exact Good.error (by decide)
      · exact EArm.older (by omega)
    · exact Good.error (by decide)
  · split
    · exact Good.error (by decide)
    · split
      · exact Good.error (by decide)
      · exact EArm.after (by omega)
    · exact Good.error (by decide)
  · exact exprAfterEqual_arm (v := false)
  · exact EArm.fls
  · exact EArm.tru
  · exact EArm.endIf
  · exact EArm.boolAnd
  · exact EArm.boolOr
  · exact exprMulti_arm
  · exact exprMultiA_arm
  · exact Good.error (by decide)

inductive ExprShape : List NonTerm → Nat → Prop
  | leaf : ExprShape [] 1
  | vleaf : ExprShape [.verify] 1
  | check : ExprShape [.expression, .check] 0
  | verify : ExprShape [.expression, .verify] 0
  | zeroNotEqual : ExprShape [.expression, .zeroNotEqual] 0
  | thresh (k : Nat) : ExprShape [.threshW k 0] 0
  | vthresh (k : Nat) : ExprShape [.threshW k 0, .verify] 0
  | endIf : ExprShape [.expression, .maybeAndV, .endIf] 0
  | andB : ExprShape [.wExpression, .expression, .andB] 0
  | orB : ExprShape [.wExpression, .expression, .orB] 0

def ArmOk (n : Nat) (o : ExprOut) : Prop := ExprShape o.pushNt o.pushTerm.length ∧ o.toks.length < n

theorem EArm.armOk {ts : List Token} {o : ExprOut} (h : EArm dec ctx ts o) : ArmOk ts.length o := by
  cases h with
  | hash v => cases v <;> exact ⟨by constructor, by simp [vpre, hashTail]; omega⟩
  | thresh v => cases v <;> exact ⟨by constructor, by simp [vpre]; omega⟩
  | multi _ hr _ => exact ⟨.leaf, by have := readMultiKeys_len hr; simp at this ⊢; omega⟩
  | multiA _ hr _ _ => exact ⟨.leaf, by have := readCsaKeys_len _ _ _ _ hr; simp at this ⊢; omega⟩
  | _ => exact ⟨by constructor, by simp only [List.length_cons]; omega⟩

end

theorem fromAst_np {env : KeyEnv} {ctx : Ctx} {ms : Ms} {e : DecodeErr}
    (h : fromAst env ctx ms = .error e) : e ≠ .panic := by
  unfold fromAst at h
  repeat' split at h
  all_goals first
    | (cases h; done)
    | (cases h; decide)

theorem fromAst_ok {env : KeyEnv} {ctx : Ctx} {ms m : Ms}
    (h : fromAst env ctx ms = .ok m) : m = ms := by
  unfold fromAst at h
  repeat' split at h
  all_goals (cases h)
  rfl

theorem popN_spec : ∀ (n : Nat) (term a r : List Ms), popN n term = some (a, r) →
    n ≤ term.length ∧ a = term.take n ∧ r = term.drop n
  | 0, term, a, r, h => by simp [popN] at h; obtain ⟨rfl, rfl⟩ := h; simp
  | n + 1, [], a, r, h => by simp [popN] at h
  | n + 1, x :: t, a, r, h => by
    simp only [popN, Option.map_eq_some_iff] at h
    obtain ⟨⟨a', r'⟩, h1, h2⟩ := h
    obtain ⟨h3, rfl, rfl⟩ := popN_spec n t a' r' h1
    simp only [Prod.mk.injEq] at h2
    obtain ⟨rfl, rfl⟩ := h2
    simp; omega

theorem popN_none : ∀ (n : Nat) (t : List Ms), popN n t = none → t.length < n
  | 0, _, h => by cases h
  | n + 1, [], _ => Nat.succ_pos n
  | n + 1, _ :: t, h => by
    simp only [popN, Option.map_eq_none_iff] at h
    exact Nat.succ_lt_succ (popN_none n t h)

/-! ### the transition table

`Trans top s s'`: with `top` popped, one iteration of the loop takes `s` to `s'`.  One constructor
per arm of `stepNT` that can succeed; the arms of `Expression` are those of `EArm`. -/

inductive Trans (dec : AtomDec) (env : KeyEnv) (ctx : Ctx) : NonTerm → DState → DState → Prop
  | expr {ts nt term} {o : ExprOut} (h : EArm dec ctx ts o) :
    Trans dec env ctx .expression ⟨ts, nt, term⟩ ⟨o.toks, o.pushNt ++ nt, o.pushTerm ++ term⟩
  | maybeYes {ts nt term} (h : isAndV ts = true) :
    Trans dec env ctx .maybeAndV ⟨ts, nt, term⟩ ⟨ts, .expression :: .andV :: nt, term⟩
  | maybeNo {ts nt term} (h : isAndV ts = false) : Trans dec env ctx .maybeAndV ⟨ts, nt, term⟩ ⟨ts, nt, term⟩
  | andVYes {ts nt term} (h : isAndV ts = true) :
    Trans dec env ctx .andV ⟨ts, nt, term⟩ ⟨ts, .maybeAndV :: .andV :: nt, term⟩
  | andVNo {ts nt term} {l r : Ms} (h : isAndV ts = false) (hf : fromAst env ctx (.andV l r) = .ok (.andV l r)) :
    Trans dec env ctx .andV ⟨ts, nt, l :: r :: term⟩ ⟨ts, nt, .andV l r :: term⟩
  | check {ts nt term} {x : Ms} (hf : fromAst env ctx (.check x) = .ok (.check x)) :
    Trans dec env ctx .check ⟨ts, nt, x :: term⟩ ⟨ts, nt, .check x :: term⟩
  | dupIf {ts nt term} {x : Ms} (hf : fromAst env ctx (.dupIf x) = .ok (.dupIf x)) :
    Trans dec env ctx .dupIf ⟨ts, nt, x :: term⟩ ⟨ts, nt, .dupIf x :: term⟩
  | verify {ts nt term} {x : Ms} (hf : fromAst env ctx (.verify x) = .ok (.verify x)) :
    Trans dec env ctx .verify ⟨ts, nt, x :: term⟩ ⟨ts, nt, .verify x :: term⟩
  | nonZero {ts nt term} {x : Ms} (hf : fromAst env ctx (.nonZero x) = .ok (.nonZero x)) :
    Trans dec env ctx .nonZero ⟨ts, nt, x :: term⟩ ⟨ts, nt, .nonZero x :: term⟩
  | zeroNotEqual {ts nt term} {x : Ms} (hf : fromAst env ctx (.zeroNotEqual x) = .ok (.zeroNotEqual x)) :
    Trans dec env ctx .zeroNotEqual ⟨ts, nt, x :: term⟩ ⟨ts, nt, .zeroNotEqual x :: term⟩
  | swap {ts nt term} {x : Ms} (hf : fromAst env ctx (.swap x) = .ok (.swap x)) :
    Trans dec env ctx .swap ⟨.swap :: ts, nt, x :: term⟩ ⟨ts, nt, .swap x :: term⟩
  | alt {ts nt term} {x : Ms} (hf : fromAst env ctx (.alt x) = .ok (.alt x)) :
    Trans dec env ctx .alt ⟨.toAlt :: ts, nt, x :: term⟩ ⟨ts, nt, .alt x :: term⟩
  | andB {ts nt term} {l r : Ms} (hf : fromAst env ctx (.andB l r) = .ok (.andB l r)) :
    Trans dec env ctx .andB ⟨ts, nt, l :: r :: term⟩ ⟨ts, nt, .andB l r :: term⟩
  | orB {ts nt term} {l r : Ms} (hf : fromAst env ctx (.orB l r) = .ok (.orB l r)) :
    Trans dec env ctx .orB ⟨ts, nt, l :: r :: term⟩ ⟨ts, nt, .orB l r :: term⟩
  | orC {ts nt term} {l r : Ms} (hf : fromAst env ctx (.orC l r) = .ok (.orC l r)) :
    Trans dec env ctx .orC ⟨ts, nt, l :: r :: term⟩ ⟨ts, nt, .orC l r :: term⟩
  | orD {ts nt term} {l r : Ms} (hf : fromAst env ctx (.orD l r) = .ok (.orD l r)) :
    Trans dec env ctx .orD ⟨ts, nt, l :: r :: term⟩ ⟨ts, nt, .orD l r :: term⟩
  | tern {ts nt term} {a b c : Ms} (hf : fromAst env ctx (.andOr a b c) = .ok (.andOr a b c)) :
    Trans dec env ctx .tern ⟨ts, nt, a :: c :: b :: term⟩ ⟨ts, nt, .andOr a b c :: term⟩
  | threshWAdd {ts nt term} {k n : Nat} :
    Trans dec env ctx (.threshW k n) ⟨.add :: ts, nt, term⟩ ⟨ts, .wExpression :: .threshW k (n + 1) :: nt, term⟩
  | threshWUn {ts nt term} {k n : Nat} {x : Token} (h : x ≠ .add) :
    Trans dec env ctx (.threshW k n) ⟨x :: ts, nt, term⟩ ⟨x :: ts, .expression :: .threshE k (n + 1) :: nt, term⟩
  | threshE {ts nt term} {k n : Nat} {subs t : List Ms} (hp : popN n term = some (subs, t))
    (hk : 1 ≤ k ∧ k ≤ subs.length)
    (hf : fromAst env ctx (.thresh k (MsList.ofList subs)) = .ok (.thresh k (MsList.ofList subs))) :
    Trans dec env ctx (.threshE k n) ⟨ts, nt, term⟩ ⟨ts, nt, .thresh k (MsList.ofList subs) :: t⟩
  | endIfElse {ts nt term} :
    Trans dec env ctx .endIf ⟨.else_ :: ts, nt, term⟩ ⟨ts, .expression :: .maybeAndV :: .endIfElse :: nt, term⟩
  | endIfDup {ts nt term} : Trans dec env ctx .endIf ⟨.if_ :: .dup :: ts, nt, term⟩ ⟨ts, .dupIf :: nt, term⟩
  | endIfNz {ts nt term} :
    Trans dec env ctx .endIf ⟨.if_ :: .zeroNotEqual :: .size :: ts, nt, term⟩ ⟨ts, .nonZero :: nt, term⟩
  | endIfNotIf {ts nt term} : Trans dec env ctx .endIf ⟨.notIf :: ts, nt, term⟩ ⟨ts, .endIfNotIf :: nt, term⟩
  | notIfIfDup {ts nt term} :
    Trans dec env ctx .endIfNotIf ⟨.ifDup :: ts, nt, term⟩ ⟨ts, .expression :: .orD :: nt, term⟩
  | notIfUn {ts nt term} {x : Token} (h : x ≠ .ifDup) :
    Trans dec env ctx .endIfNotIf ⟨x :: ts, nt, term⟩ ⟨x :: ts, .expression :: .orC :: nt, term⟩
  | elseIf {ts nt term} {l r : Ms} (hf : fromAst env ctx (.orI l r) = .ok (.orI l r)) :
    Trans dec env ctx .endIfElse ⟨.if_ :: ts, nt, l :: r :: term⟩ ⟨ts, nt, .orI l r :: term⟩
  | elseNotIf {ts nt term} :
    Trans dec env ctx .endIfElse ⟨.notIf :: ts, nt, term⟩ ⟨ts, .expression :: .tern :: nt, term⟩
  | wAlt {ts nt term} :
    Trans dec env ctx .wExpression ⟨.fromAlt :: ts, nt, term⟩ ⟨ts, .expression :: .maybeAndV :: .alt :: nt, term⟩
  | wUn {ts nt term} {x : Token} (h : x ≠ .fromAlt) :
    Trans dec env ctx .wExpression ⟨x :: ts, nt, term⟩ ⟨x :: ts, .expression :: .maybeAndV :: .swap :: nt, term⟩

variable {dec : AtomDec} {env : KeyEnv} {ctx : Ctx}

/-- the catch-all arms are found by `simp` from the equation of `stepNT` with the side condition
`x ≠ …`, which it takes from the context -/
theorem Trans.ok {top : NonTerm} {s s' : DState} (h : Trans dec env ctx top s s') :
    stepNT dec env ctx top s = .ok s' := by
  cases h
  case expr h => simp only [stepNT, h.ok]
  case threshE k _ subs _ hp hk hf =>
    have : ¬ (k = 0 ∨ k > subs.length) := by omega
    simp [stepNT, hp, this, hf]
  all_goals simp [stepNT, reduce1, reduce2, *]

/-- height of the terminal stack that a nonterminal needs when it is popped -/
def need : NonTerm → Nat
  | .expression | .wExpression => 0
  | .maybeAndV | .swap | .alt | .check | .dupIf | .verify | .nonZero | .zeroNotEqual
  | .endIf | .endIfNotIf => 1
  | .andV | .andB | .orB | .orC | .orD | .endIfElse => 2
  | .tern => 3
  | .threshW _ n | .threshE _ n => n

/-- what `stepNT` answers: an arm of `Trans`, or an error that is `.panic` only below `need top` -/
def Outcome (dec : AtomDec) (env : KeyEnv) (ctx : Ctx) (top : NonTerm) (s : DState) : Except DecodeErr DState → Prop
  | .ok s' => Trans dec env ctx top s s'
  | .error e => e = .panic → s.term.length < need top

theorem Outcome.err {top : NonTerm} {s : DState} {e : DecodeErr} (h : e ≠ .panic) :
    Outcome dec env ctx top s (.error e) :=
  show e = .panic → _ from fun he => absurd he h

theorem reduce1_outcome {Y : NonTerm} {wrap : Ms → Ms} {ts0 ts : List Token} {nt : List NonTerm}
    {term : List Ms} (hneed : need Y = 1)
    (mk : ∀ x t, fromAst env ctx (wrap x) = .ok (wrap x) →
      Trans dec env ctx Y ⟨ts0, nt, x :: t⟩ ⟨ts, nt, wrap x :: t⟩) :
    Outcome dec env ctx Y ⟨ts0, nt, term⟩ (reduce1 env ctx wrap ⟨ts, nt, term⟩) := by
  unfold reduce1
  cases term with
  | nil => intro _; rw [hneed]; exact Nat.one_pos
  | cons x t =>
    dsimp only
    cases hf : fromAst env ctx (wrap x) with
    | error e => exact .err (fromAst_np hf)
    | ok m => cases fromAst_ok hf; exact mk x t hf

theorem reduce2_outcome {Y : NonTerm} {wrap : Ms → Ms → Ms} {ts0 ts : List Token} {nt : List NonTerm}
    {term : List Ms} (hneed : need Y = 2)
    (mk : ∀ l r t, fromAst env ctx (wrap l r) = .ok (wrap l r) →
      Trans dec env ctx Y ⟨ts0, nt, l :: r :: t⟩ ⟨ts, nt, wrap l r :: t⟩) :
    Outcome dec env ctx Y ⟨ts0, nt, term⟩ (reduce2 env ctx wrap ⟨ts, nt, term⟩) := by
  unfold reduce2
  match term with
  | [] => intro _; rw [hneed]; exact Nat.succ_pos 1
  | [_] => intro _; rw [hneed]; exact Nat.lt_succ_self 1
  | l :: r :: t =>
    dsimp only
    cases hf : fromAst env ctx (wrap l r) with
    | error e => exact .err (fromAst_np hf)
    | ok m => cases fromAst_ok hf; exact mk l r t hf

theorem stepNT_outcome {top : NonTerm} {toks : List Token}
    {nt : List NonTerm} {term : List Ms} :
    Outcome dec env ctx top ⟨toks, nt, term⟩ (stepNT dec env ctx top ⟨toks, nt, term⟩) := by
  cases top
  case expression =>
    simp only [stepNT]
    have hg := stepExpr_arm (dec := dec) (ctx := ctx) (ts := toks)
    split
    · exact .err (hg.of_error ‹_›)
    · exact Trans.expr (hg.of_ok ‹_›)
  case maybeAndV =>
    simp only [stepNT]
    split
    · exact Trans.maybeYes ‹_›
    · exact Trans.maybeNo (Bool.eq_false_iff.mpr ‹_›)
  case andV =>
    simp only [stepNT]
    split
    · exact Trans.andVYes ‹_›
    · exact reduce2_outcome rfl fun l r t hf => .andVNo (Bool.eq_false_iff.mpr ‹_›) hf
  case check => exact reduce1_outcome rfl fun x t hf => .check hf
  case dupIf => exact reduce1_outcome rfl fun x t hf => .dupIf hf
  case verify => exact reduce1_outcome rfl fun x t hf => .verify hf
  case nonZero => exact reduce1_outcome rfl fun x t hf => .nonZero hf
  case zeroNotEqual => exact reduce1_outcome rfl fun x t hf => .zeroNotEqual hf
  case andB => exact reduce2_outcome rfl fun l r t hf => .andB hf
  case orB => exact reduce2_outcome rfl fun l r t hf => .orB hf
  case orC => exact reduce2_outcome rfl fun l r t hf => .orC hf
  case orD => exact reduce2_outcome rfl fun l r t hf => .orD hf
  case swap =>
    simp only [stepNT]
    split
    · exact .err (by decide)
    · exact reduce1_outcome rfl fun x t hf => .swap hf
    · exact .err (by decide)
  case alt =>
    simp only [stepNT]
    split
    · exact .err (by decide)
    · exact reduce1_outcome rfl fun x t hf => .alt hf
    · exact .err (by decide)
  case tern =>
    simp only [stepNT]
    match term with
    | [] | [_] | [_, _] => intro _; simp [need]
    | a :: b :: c :: t =>
      dsimp only
      cases hf : fromAst env ctx (.andOr a c b) with
      | error e => exact .err (fromAst_np hf)
      | ok m => cases fromAst_ok hf; exact Trans.tern hf
  case threshW k n =>
    simp only [stepNT]
    split
    · exact .err (by decide)
    · exact Trans.threshWAdd
    · rename_i x ts hne
      exact Trans.threshWUn hne
  case threshE k n =>
    simp only [stepNT]
    split
    · rename_i hp
      intro _
      exact popN_none n term hp
    · rename_i subs t hp
      split
      · exact .err (by decide)
      · split
        · exact .err (fromAst_np ‹_›)
        · rename_i m hm
          cases fromAst_ok hm
          exact Trans.threshE hp (by omega) hm
  case endIf =>
    simp only [stepNT]
    split
    · exact .err (by decide)
    · exact Trans.endIfElse
    · split
      · exact .err (by decide)
      · exact Trans.endIfDup
      · split
        · exact .err (by decide)
        · exact Trans.endIfNz
        · exact .err (by decide)
      · exact .err (by decide)
    · exact Trans.endIfNotIf
    · exact .err (by decide)
  case endIfNotIf =>
    simp only [stepNT]
    split
    · exact .err (by decide)
    · exact Trans.notIfIfDup
    · rename_i x ts hne
      exact Trans.notIfUn hne
  case endIfElse =>
    simp only [stepNT]
    split
    · exact .err (by decide)
    · exact reduce2_outcome rfl fun l r t hf => .elseIf hf
    · exact Trans.elseNotIf
    · exact .err (by decide)
  case wExpression =>
    simp only [stepNT]
    split
    · exact .err (by decide)
    · exact Trans.wAlt
    · rename_i x ts hne
      exact Trans.wUn hne

theorem stepNT_trans {top : NonTerm} {toks : List Token}
    {nt : List NonTerm} {term : List Ms} {s' : DState}
    (h : stepNT dec env ctx top ⟨toks, nt, term⟩ = .ok s') : Trans dec env ctx top ⟨toks, nt, term⟩ s' := by
  have := stepNT_outcome (dec := dec) (env := env) (ctx := ctx) (top := top) (toks := toks) (nt := nt) (term := term)
  rwa [h] at this

theorem stepNT_panic {top : NonTerm} {toks : List Token} {nt : List NonTerm} {term : List Ms}
    (h : stepNT dec env ctx top ⟨toks, nt, term⟩ = .error .panic) : term.length < need top := by
  have := stepNT_outcome (dec := dec) (env := env) (ctx := ctx) (top := top) (toks := toks) (nt := nt) (term := term)
  rw [h] at this
  exact this rfl

theorem decodeLoop_ok {f : Nat} {top : NonTerm} {toks : List Token} {nt : List NonTerm} {term : List Ms}
    {s' : DState} (h : stepNT dec env ctx top ⟨toks, nt, term⟩ = .ok s') :
    decodeLoop dec env ctx (f + 1) ⟨toks, top :: nt, term⟩ = decodeLoop dec env ctx f s' := by
  simp only [decodeLoop, h]

theorem decodeLoop_error {f : Nat} {top : NonTerm} {toks : List Token} {nt : List NonTerm} {term : List Ms}
    {e : DecodeErr} (h : stepNT dec env ctx top ⟨toks, nt, term⟩ = .error e) :
    decodeLoop dec env ctx (f + 1) ⟨toks, top :: nt, term⟩ = some (.error e) := by
  simp only [decodeLoop, h]

end DecodeL
end MsVerif
