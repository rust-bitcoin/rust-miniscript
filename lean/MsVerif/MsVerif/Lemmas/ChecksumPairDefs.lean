import MsVerif.Lemmas.ChecksumLpow

namespace MsVerif.Checksum

def basisN (d : Nat) : List Nat := [LNpow d 1, LNpow d 2, LNpow d 4, LNpow d 8, LNpow d 16]

theorem basisN_succ (d : Nat) : (basisN d).map LN = basisN (d + 1) := rfl

end MsVerif.Checksum
