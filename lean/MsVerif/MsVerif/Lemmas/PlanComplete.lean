/-
An invariant of every stack the satisfier model can return.

For any predicate `P` on placeholder lists that holds of `[]`, is closed under `++` and holds of
the stacks the LEAVES produce from the assets (`LeafOk`), every stack of `satDissat` — sat and
dissat half, every fragment, both modes — satisfies `P`.  The instance C17 needs is at the end of the file:
`TryOk`, "`Placeholder::satisfy_all` (`try_completing`, `Plan::satisfy`) succeeds on it" (`tryOk_closed`, `leafOk_try`, `satDissat_tryOk`).
-/
import MsVerif.Model.Plan
import MsVerif.Lemmas.CoreSat

namespace MsVerif.PlanComplete
open MsVerif MsVerif.Sat

structure Closed (P : List Ph → Prop) : Prop where
  nil : P []
  app : ∀ a b, P a → P b → P (a ++ b)

def SInv (P : List Ph → Prop) (s : Sat) : Prop := ∀ l, s.stack = .stack l → P l

/-- the stacks produced by the leaves, from what the assets offer -/
structure LeafOk (P : List Ph → Prop) (ke : KeyEnv) (ctx : Ctx) (a : Assets) : Prop where
  ecdsa : ∀ k, a.ecdsaSig k = true → P [.ecdsaSig k]
  schnorr : ∀ k sz, a.schnorrSig k = some sz → P [.schnorrSig k sz]
  pubkey : ∀ k n, P [.pubkey k n]
  rawPk : ∀ h pk, a.rawPkhPk h = some pk → P [.pubkeyHash h (pkLen ke ctx pk)]
  rawEcdsa : ∀ h pk, a.rawPkhEcdsa h = some pk → P [.ecdsaSigPkh h, .pubkeyHash h (pkLen ke ctx pk)]
  rawSchnorr : ∀ h pk sz, a.rawPkhSchnorr h = some (pk, sz) →
    P [.schnorrSigPkh h sz, .pubkeyHash h (pkLen ke ctx pk)]
  pre : ∀ kind h, a.preimage kind h = true → P [.preimage kind h]
  hashDissat : P [.hashDissat]
  pushOne : P [.pushOne]
  pushZero : P [.pushZero]

variable {P : List Ph → Prop}

theorem wit_stack {l : List Ph} (h : P l) : ∀ l', Wit.stack l = .stack l' → P l' :=
  fun _ e => Wit.stack.inj e ▸ h

theorem wit_sinv (hP : Closed P) {a b : Wit} (ha : ∀ l, a = .stack l → P l)
    (hb : ∀ l, b = .stack l → P l) : ∀ l, Wit.combine a b = .stack l → P l := by
  intro l h
  obtain ⟨la, lb, ea, eb, rfl⟩ := Wit.combine_stack h
  exact hP.app _ _ (ha _ ea) (hb _ eb)

theorem sinv_stack {l : List Ph} {hs : Bool} {ab rl : Option Nat} (h : P l) :
    SInv P ⟨.stack l, hs, ab, rl⟩ := wit_stack h

theorem sinv_impossible : SInv P Sat.IMPOSSIBLE := fun _ h => nomatch h
theorem sinv_unavailable : SInv P Sat.UNAVAILABLE := fun _ h => nomatch h

theorem concat_sinv (hP : Closed P) {a b : Sat} (ha : SInv P a) (hb : SInv P b) :
    SInv P (a.concatenateRev b) := by
  intro l h
  obtain ⟨wa, wb, ea, eb, rfl⟩ := concatenateRev_stack h
  exact hP.app _ _ (hb _ eb) (ha _ ea)

theorem minFn_sinv (c : SatCfg) {a b : Sat} (ha : SInv P a) (hb : SInv P b) :
    SInv P (c.minFn a b) :=
  fun l h => (SatCfg.minFn_stack h).elim (ha l) (hb l)

theorem withPush_sinv (hP : Closed P) {s : Sat} {p : Ph} (hs : SInv P s) (hp : P [p]) :
    SInv P { s with stack := Wit.combine s.stack (.stack [p]) } :=
  wit_sinv hP hs (wit_stack hp)

section leaves
variable {ke : KeyEnv} {ctx : Ctx} {a : Assets}

theorem sigWit_sinv (hL : LeafOk P ke ctx a) (k : Key) : ∀ l, sigWit ctx a k = .stack l → P l := by
  rcases sigWit_cases ctx a k with h | ⟨sz, _, hs, h⟩ | ⟨_, he, h⟩ <;> rw [h]
  · exact fun _ e => nomatch e
  · exact wit_stack (hL.schnorr k sz hs)
  · exact wit_stack (hL.ecdsa k he)

theorem flatten_all (hP : Closed P) : ∀ L : List (List Ph), (∀ s ∈ L, P s) → P L.flatten
  | [], _ => hP.nil
  | s :: L, h => hP.app _ _ (h s List.mem_cons_self) (flatten_all hP L fun t ht => h t (List.mem_cons_of_mem _ ht))

theorem of_singletons (hP : Closed P) : ∀ l : List Ph, (∀ p ∈ l, P [p]) → P l
  | [], _ => hP.nil
  | p :: l, h => hP.app [p] l (h p List.mem_cons_self) (of_singletons hP l fun q hq => h q (List.mem_cons_of_mem _ hq))

theorem replicate_zero (hP : Closed P) (hL : LeafOk P ke ctx a) (n : Nat) :
    P (List.replicate n .pushZero) :=
  of_singletons hP _ fun _ hp => List.eq_of_mem_replicate hp ▸ hL.pushZero

open MsVerif.SatSpec in
theorem multiSD_sinv (hP : Closed P) (hL : LeafOk P ke ctx a) (k : Nat) (ks : List Key) :
    SInv P (multiSD ctx a k ks).dissat ∧ SInv P (multiSD ctx a k ks).sat := by
  refine ⟨multiSD_dis ctx a k ks ▸ sinv_stack (replicate_zero hP hL _), fun w hw => ?_⟩
  obtain ⟨ss, _, _, hss, rfl⟩ := multiSD_stack ctx a k ks hw
  refine hP.app [_] _ hL.pushZero (of_singletons hP _ fun p hp => ?_)
  obtain ⟨q, hq, rfl⟩ := List.mem_map.mp hp
  exact sigWit_sinv hL q.1 _ (hss q hq)

open MsVerif.SatSpec in
theorem multiASD_sinv (hP : Closed P) (hL : LeafOk P ke ctx a) (k : Nat) (ks : List Key) :
    SInv P (multiASD ctx a k ks).dissat ∧ SInv P (multiASD ctx a k ks).sat := by
  refine ⟨multiASD_dis ctx a k ks ▸ sinv_stack (replicate_zero hP hL _), fun w hw => ?_⟩
  obtain ⟨sigs', hall, rfl, _⟩ := multiASD_slots ctx a k ks hw
  refine flatten_all hP sigs' fun s hs => ?_
  obtain ⟨pk, _, h | h⟩ := hall.of_mem_right hs
  · exact h ▸ hL.pushZero
  · exact sigWit_sinv hL pk _ h

end leaves

section main
variable (hP : Closed P) (c : SatCfg) (hL : LeafOk P c.env c.ctx c.assets)
include hP hL

theorem sinv_stack_nil (hs : Bool) (ab rl : Option Nat) : SInv P ⟨.stack [], hs, ab, rl⟩ :=
  sinv_stack hP.nil

theorem sinv_closed : SatClosed c (SInv P) where
  impossible := sinv_impossible
  unavailable := sinv_unavailable
  empty := sinv_stack hP.nil
  push0 := sinv_stack hL.pushZero
  push hp hs := withPush_sinv hP hs (hp.elim (· ▸ hL.pushOne) (· ▸ hL.pushZero))
  concat := concat_sinv hP
  min := minFn_sinv c

theorem satDissat_sinv (ms : Ms) : SInv P (satDissat c ms).dissat ∧ SInv P (satDissat c ms).sat := by
  refine (sinv_closed hP c hL).satDissat (G := fun _ => True) (fun _ _ _ _ => trivial)
    (fun m hm _ => ?_) ms trivial
  cases m with
  | fls => exact ⟨sinv_stack hP.nil, sinv_impossible⟩
  | tru => exact ⟨sinv_impossible, sinv_stack hP.nil⟩
  | pkK k => exact ⟨sinv_stack hL.pushZero, sigWit_sinv hL k⟩
  | pkH k =>
    exact ⟨wit_sinv hP (wit_stack hL.pushZero) (wit_stack (hL.pubkey _ _)),
      wit_sinv hP (sigWit_sinv hL k) (wit_stack (hL.pubkey _ _))⟩
  | rawPkH x =>
    refine ⟨fun l h => ?_, fun l h => ?_⟩
    · obtain ⟨pk, hpk, rfl⟩ := satDissat_rawPkH_dis h
      exact wit_sinv hP (wit_stack hL.pushZero) (wit_stack (hL.rawPk _ _ hpk)) _ rfl
    · rcases satDissat_rawPkH_sat h with ⟨pk, sz, _, hpk, rfl⟩ | ⟨pk, _, hpk, rfl⟩
      · exact hL.rawSchnorr _ _ _ hpk
      · exact hL.rawEcdsa _ _ hpk
  | multi k ks | sortedMulti k ks => exact multiSD_sinv hP hL k _
  | multiA k ks | sortedMultiA k ks => exact multiASD_sinv hP hL k _
  | after n => exact ⟨sinv_impossible, fun l h => (satDissat_after_stack h).1 ▸ hP.nil⟩
  | older n => exact ⟨sinv_impossible, fun l h => (satDissat_older_stack h).1 ▸ hP.nil⟩
  | hash kind x =>
    simp only [satDissat_hash]
    refine ⟨sinv_stack hL.hashDissat, fun l h => ?_⟩
    split at h
    · rename_i hp
      exact wit_stack (hL.pre _ _ hp) l h
    · cases h
  | _ => cases hm

theorem satDissats_sinv : (xs : MsList) →
    ∀ sd ∈ satDissats c xs, SInv P sd.dissat ∧ SInv P sd.sat
  | .nil => fun _ h => nomatch h
  | .cons x xs => by
    simp only [satDissats, List.forall_mem_cons]
    exact ⟨satDissat_sinv hP c hL x, satDissats_sinv xs⟩

end main

section completion
open MsVerif.Plan
variable {r : Ph → Option Script.Bytes} {fb : Nat → Option Script.Bytes}

/-- `try_completing` succeeds in every left context -/
def TryOk (r : Ph → Option Script.Bytes) (fb : Nat → Option Script.Bytes) (l : List Ph) : Prop :=
  ∀ prev, (tryCompleting r fb prev l).isSome

theorem try_cons_some {prev : Option Ph} {p : Ph} {ps : List Ph}
    (h : (tryCompleting r fb prev (p :: ps)).isSome) : (tryCompleting r fb (some p) ps).isSome := by
  simp only [tryCompleting] at h
  split at h
  · rename_i b bs hb hbs; simp [hbs]
  · simp at h

theorem try_append {a b : List Ph} (hb : TryOk r fb b) : ∀ prev,
    (tryCompleting r fb prev a).isSome → (tryCompleting r fb prev (a ++ b)).isSome := by
  induction a with
  | nil => intro prev _; exact hb prev
  | cons p ps ih =>
    intro prev h
    have h2 := ih (some p) (try_cons_some h)
    simp only [List.cons_append, tryCompleting] at h ⊢
    split at h
    · rename_i x xs hx hxs
      obtain ⟨ys, hys⟩ := Option.isSome_iff_exists.mp h2
      simp [hx, hys]
    · simp at h

theorem tryOk_closed : Closed (TryOk r fb) where
  nil := fun _ => rfl
  app := fun _ _ ha hb prev => try_append hb prev (ha prev)

theorem tryOk_single {p : Ph} (h : (r p).isSome) : TryOk r fb [p] := by
  intro prev
  obtain ⟨b, hb⟩ := Option.isSome_iff_exists.mp h
  simp [tryCompleting, hb]

/-- `[SchnorrSigPkHash h, PubkeyHash h]`: the key may come from the fallback -/
theorem tryOk_rawSchnorr {h sz n : Nat} (hs : (r (.schnorrSigPkh h sz)).isSome)
    (hk : (r (.pubkeyHash h n)).isSome ∨ (fb h).isSome) :
    TryOk r fb [.schnorrSigPkh h sz, .pubkeyHash h n] := by
  intro prev
  obtain ⟨b, hb⟩ := Option.isSome_iff_exists.mp hs
  cases hr : r (.pubkeyHash h n) with
  | some k => simp [tryCompleting, hb, hr]
  | none =>
    rcases hk with hk | hk
    · simp [hr] at hk
    · obtain ⟨k, hk⟩ := Option.isSome_iff_exists.mp hk
      simp [tryCompleting, hb, hr, hk]

end completion

section stfr
open MsVerif.Plan

theorem pkLen_tap (ke : KeyEnv) (k : Key) : pkLen ke .tap k = 33 := rfl
theorem pkLen_ne_33 (ke : KeyEnv) (ctx : Ctx) (k : Key) (h : ctx ≠ .tap) : pkLen ke ctx k ≠ 33 := by
  unfold pkLen
  cases ctx <;> simp at h ⊢ <;> split <;> omega

theorem leafOk_try (S : Stfr) (ke : KeyEnv) (ctx : Ctx) :
    LeafOk (TryOk S.realise S.fallback) ke ctx (S.assets ctx) where
  ecdsa k h := tryOk_single (by simpa [Stfr.assets, Stfr.realise] using h)
  schnorr k sz h := tryOk_single (by
    simp only [Stfr.assets, Option.map_eq_some_iff] at h
    obtain ⟨b, hb, _⟩ := h
    simp [Stfr.realise, hb])
  pubkey k n := tryOk_single (by simp [Stfr.realise])
  rawPk h pk hp := tryOk_single (by
    simp only [Stfr.assets] at hp
    by_cases ht : ctx = .tap
    · subst ht
      simp only [if_true, Option.map_eq_some_iff] at hp
      obtain ⟨q, hq, _⟩ := hp
      simp [Stfr.realise, pkLen_tap, hq]
    · simp only [ht, if_false, Option.map_eq_some_iff] at hp
      obtain ⟨q, hq, _⟩ := hp
      simp [Stfr.realise, pkLen_ne_33 ke ctx pk ht, hq])
  rawEcdsa h pk hp := by
    simp only [Stfr.assets] at hp
    by_cases ht : ctx = .tap
    · simp [ht] at hp
    · simp only [ht, if_false, Option.map_eq_some_iff] at hp
      obtain ⟨q, hq, _⟩ := hp
      refine tryOk_closed.app [_] [_] (tryOk_single (by simp [Stfr.realise, hq])) (tryOk_single ?_)
      simp only [Stfr.realise, pkLen_ne_33 ke ctx pk ht, if_false]
      cases S.rawPk h <;> simp [hq]
  rawSchnorr h pk sz hp := by
    simp only [Stfr.assets] at hp
    by_cases ht : ctx = .tap
    · simp only [ht, if_true, Option.map_eq_some_iff] at hp
      obtain ⟨q, hq, _⟩ := hp
      exact tryOk_rawSchnorr (by simp [Stfr.realise, hq]) (.inr (by simp [Stfr.fallback, hq]))
    · simp [ht] at hp
  pre kind h hp := tryOk_single (by simpa [Stfr.assets, Stfr.realise] using hp)
  hashDissat := tryOk_single (by simp [Stfr.realise])
  pushOne := tryOk_single (by simp [Stfr.realise])
  pushZero := tryOk_single (by simp [Stfr.realise])

theorem satDissat_tryOk (S : Stfr) (c : SatCfg) (hc : c.assets = S.assets c.ctx) (ms : Ms) :
    SInv (TryOk S.realise S.fallback) (satDissat c ms).dissat ∧
    SInv (TryOk S.realise S.fallback) (satDissat c ms).sat :=
  satDissat_sinv tryOk_closed c (hc ▸ leafOk_try S c.env c.ctx) ms

end stfr

end MsVerif.PlanComplete
