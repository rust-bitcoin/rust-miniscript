/-
C03 (uniqueness): the invariant `AltInv` that ties ONE alternative of the satisfier
(a `Sat`) to the list `A` of table (dis)satisfactions it stands for, relative to an adversary
`adv` and the keys `K` the alternative may use — and its preservation by `concatenate_rev`,
`minimum` and pushes, the keys of the two operands being disjoint (`Disj`).  `minimum` goes through `AltInv.absorb` /
`altInv_pick`: the alternative kept also stands for the rows of the one dropped.

  i1  the model says IMPOSSIBLE                        ⇒ the adversary's table list is empty
  i2  the model flags `has_sig`, adversary has no
      signature for any key of `K`                     ⇒ empty
  i3  the model returns the stack `w`, every adversary
      signature for a key of `K` is visible in `w`     ⇒ every table entry equals `w`
  kin every signature item of `w` names a key of `K`
  nos an unflagged stack contains no signature item
-/
import MsVerif.Lemmas.UniqKeys
import MsVerif.Lemmas.CompleteNonMall
import MsVerif.Spec.SatAll


namespace MsVerif.Uniq
open MsVerif Sat SatTable SatAll MalleLattice Complete

structure AltInv (adv : Avail) (K : List Key) (A : List (List Item)) (s : Sat) : Prop where
  i1 : s.stack = .impossible → A = []
  i2 : s.hasSig = true → (∀ k ∈ K, adv.sig k = false) → A = []
  i3 : ∀ w, s.stack = .stack w → (∀ k ∈ K, adv.sig k = true → Item.sig k ∈ items w) →
         ∀ t ∈ A, t = items w
  kin : ∀ w, s.stack = .stack w → ∀ k, Item.sig k ∈ items w → k ∈ K
  nos : s.hasSig = false → ∀ w, s.stack = .stack w → ∀ k, Item.sig k ∉ items w

variable {adv : Avail}

theorem AltInv.congr {K K' : List Key} {A A' : List (List Item)} {s : Sat} (h : AltInv adv K A s)
    (hK : ∀ k, k ∈ K ↔ k ∈ K') (hA : ∀ t, t ∈ A' → t ∈ A) : AltInv adv K' A' s :=
  have hA0 : A = [] → A' = [] := fun h0 =>
    List.eq_nil_iff_forall_not_mem.mpr fun t ht => by have := hA t ht; rw [h0] at this; cases this
  ⟨fun hi => hA0 (h.i1 hi),
   fun hs hn => hA0 (h.i2 hs (fun k hk => hn k ((hK k).mp hk))),
   fun w hw hv t ht => h.i3 w hw (fun k hk => hv k ((hK k).mp hk)) t (hA t ht),
   fun w hw k hk => (hK k).mp (h.kin w hw k hk),
   h.nos⟩

theorem AltInv.congrA {K : List Key} {A A' : List (List Item)} {s : Sat} (h : AltInv adv K A s)
    (hA : ∀ t, t ∈ A' ↔ t ∈ A) : AltInv adv K A' s :=
  h.congr (fun _ => Iff.rfl) (fun t ht => (hA t).mp ht)

theorem altInv_imp (K : List Key) {s : Sat} (hs : s.stack = .impossible) :
    AltInv adv K [] s := by
  refine ⟨fun _ => rfl, fun _ _ => rfl, ?_, ?_, ?_⟩
  · intro _ _ _ t ht; cases ht
  · intro w hw; rw [hs] at hw; cases hw
  · intro _ w hw; rw [hs] at hw; cases hw

theorem altInv_lit (K : List Key) (w : List Ph) (hw : ∀ k, Item.sig k ∉ items w) (a r : Option Nat) :
    AltInv adv K [items w] ⟨.stack w, false, a, r⟩ := by
  refine ⟨?_, ?_, ?_, ?_, ?_⟩
  · intro h; cases h
  · intro h; cases h
  · intro w' hw' _ t ht; cases hw'; simpa using ht
  · intro w' hw' k hk; cases hw'; exact absurd hk (hw k)
  · intro _ w' hw' k; cases hw'; exact hw k

/-- a literal stack that the table does not offer to this adversary -/
theorem altInv_lit_nil (K : List Key) (w : List Ph) (hw : ∀ k, Item.sig k ∉ items w) (a r : Option Nat) :
    AltInv adv K [] ⟨.stack w, false, a, r⟩ :=
  (altInv_lit K w hw a r).congr (fun _ => Iff.rfl) (fun _ ht => by cases ht)

def Disj (K1 K2 : List Key) : Prop := ∀ k, k ∈ K1 → k ∈ K2 → False

theorem disj_of_nodup {K1 K2 : List Key} (h : (K1 ++ K2).Nodup) : Disj K1 K2 :=
  fun k h1 h2 => (List.nodup_append.mp h).2.2 k h1 k h2 rfl

theorem disj_nil_left (K : List Key) : Disj [] K := fun _ h _ => by cases h
theorem disj_nil_right (K : List Key) : Disj K [] := fun _ _ h => by cases h

/-- a result whose stack is the combination of two alternatives (`s2` below `s1`) with disjoint
keys stands for the product of their tables -/
theorem altInv_combine {K1 K2 : List Key} {A1 A2 : List (List Item)} {s1 s2 s : Sat}
    (h1 : AltInv adv K1 A1 s1) (h2 : AltInv adv K2 A2 s2) (hd : Disj K1 K2)
    (hst : s.stack = Wit.combine s2.stack s1.stack)
    (hsig : s.stack ≠ .impossible → s.hasSig = (s1.hasSig || s2.hasSig)) :
    AltInv adv (K1 ++ K2) (cat A2 A1) s := by
  have himp : s.stack = .impossible → cat A2 A1 = [] := by
    intro hi
    rw [hst] at hi
    rcases Wit.combine_eq_impossible.mp hi with e2 | e1
    · rw [h2.i1 e2]; rfl
    · rw [h1.i1 e1]; exact cat_nil_right _
  refine ⟨himp, ?_, ?_, ?_, ?_⟩
  · intro hs hno
    by_cases hi : s.stack = .impossible
    · exact himp hi
    · rw [hsig hi] at hs
      rcases (Bool.or_eq_true _ _).mp hs with h | h
      · rw [h1.i2 h (fun k hk => hno k (by simp [hk]))]; exact cat_nil_right _
      · rw [h2.i2 h (fun k hk => hno k (by simp [hk]))]; rfl
  · intro w hw hv t ht
    rw [hst] at hw
    obtain ⟨w2, w1, e2, e1, rfl⟩ := Wit.combine_stack hw
    obtain ⟨t2, ht2, t1, ht1, rfl⟩ := mem_cat.mp ht
    have hv1 : ∀ k ∈ K1, adv.sig k = true → Item.sig k ∈ items w1 := by
      intro k hk hs
      have := hv k (by simp [hk]) hs
      rw [items_append, List.mem_append] at this
      rcases this with h | h
      · exact absurd (h2.kin w2 e2 k h) (fun hk2 => hd k hk hk2)
      · exact h
    have hv2 : ∀ k ∈ K2, adv.sig k = true → Item.sig k ∈ items w2 := by
      intro k hk hs
      have := hv k (by simp [hk]) hs
      rw [items_append, List.mem_append] at this
      rcases this with h | h
      · exact h
      · exact absurd (h1.kin w1 e1 k h) (fun hk1 => hd k hk1 hk)
    rw [h1.i3 w1 e1 hv1 t1 ht1, h2.i3 w2 e2 hv2 t2 ht2, items_append]
  · intro w hw k hk
    rw [hst] at hw
    obtain ⟨w2, w1, e2, e1, rfl⟩ := Wit.combine_stack hw
    rw [items_append, List.mem_append] at hk
    rcases hk with h | h
    · simp [h2.kin w2 e2 k h]
    · simp [h1.kin w1 e1 k h]
  · intro hf w hw k hk
    have hi : s.stack ≠ .impossible := by rw [hw]; simp
    rw [hsig hi, Bool.or_eq_false_iff] at hf
    rw [hst] at hw
    obtain ⟨w2, w1, e2, e1, rfl⟩ := Wit.combine_stack hw
    rw [items_append, List.mem_append] at hk
    rcases hk with h | h
    · exact h2.nos hf.2 w2 e2 k h
    · exact h1.nos hf.1 w1 e1 k h

theorem altInv_concat {ua ur : Bool} {K1 K2 : List Key} {A1 A2 : List (List Item)} {s1 s2 : Sat}
    (h1 : AltInv adv K1 A1 s1) (h2 : AltInv adv K2 A2 s2)
    (l1 : LockOK ua ur s1) (l2 : LockOK ua ur s2) (hd : Disj K1 K2) :
    AltInv adv (K1 ++ K2) (cat A2 A1) (s1.concatenateRev s2) :=
  altInv_combine h1 h2 hd (concat_stack l1 l2) concat_hasSig

theorem altInv_push {K : List Key} {A : List (List Item)} {s : Sat} (h : AltInv adv K A s)
    (p : Ph) (hp : ∀ k, phItem p ≠ .sig k) :
    AltInv adv K (cat A [[phItem p]]) { s with stack := Wit.combine s.stack (.stack [p]) } :=
  altInv_combine (altInv_lit [] [p] (fun k hk => hp k (List.mem_singleton.mp hk).symm) none none) h
    (disj_nil_left K) rfl (fun _ => rfl)

/-- The returned alternative also stands for every table row that, for an adversary
without signatures for the keys `K2` (disjoint from its own), is one of its own rows: any other row
needs a signature that would be visible in the returned stack under a key of `K1`. -/
theorem AltInv.absorb {K1 K2 : List Key} {A1 A : List (List Item)} {s : Sat}
    (h1 : AltInv adv K1 A1 s) (hd : Disj K1 K2) (himp : s.stack = .impossible → A = [])
    (hA : (∀ k ∈ K2, adv.sig k = false) → ∀ t ∈ A, t ∈ A1) : AltInv adv (K1 ++ K2) A s := by
  refine ⟨himp, fun f hn => ?_, fun w hw hv t ht => ?_,
    fun w hw k hk => List.mem_append_left _ (h1.kin w hw k hk), h1.nos⟩
  · have h0 := h1.i2 f fun k hk => hn k (List.mem_append_left _ hk)
    exact List.eq_nil_iff_forall_not_mem.mpr fun t ht => by
      have := hA (fun k hk => hn k (List.mem_append_right _ hk)) t ht
      rw [h0] at this; cases this
  · -- a signature for a key of `K2` visible in `w` would name a key of `K1`
    have hno2 : ∀ k ∈ K2, adv.sig k = false := fun k hk => by
      cases hs : adv.sig k with
      | false => rfl
      | true =>
        exact absurd (h1.kin w hw k (hv k (List.mem_append_right _ hk) hs)) (fun hk1 => hd k hk1 hk)
    exact h1.i3 w hw (fun k hk => hv k (List.mem_append_left _ hk)) t (hA hno2 t ht)

theorem altInv_unavailable (K : List Key) (A : List (List Item)) : AltInv adv K A Sat.UNAVAILABLE := by
  refine ⟨?_, ?_, ?_, ?_, ?_⟩
  · intro h; cases h
  · intro h; cases h
  · intro w hw; cases hw
  · intro w hw; cases hw
  · intro _ w hw; cases hw

/-- the alternative `s1` also stands for the table rows of an alternative that is impossible or
needs a signature for a key disjoint from those of `s1` -/
theorem altInv_pick {K1 K2 : List Key} {A1 A2 : List (List Item)} {s1 s2 : Sat}
    (h1 : AltInv adv K1 A1 s1) (h2 : AltInv adv K2 A2 s2) (hd : Disj K1 K2)
    (c2 : s2.stack = .impossible ∨ (s1.stack ≠ .impossible ∧ s2.hasSig = true)) :
    AltInv adv (K1 ++ K2) (A1 ++ A2) s1 := by
  refine h1.absorb hd (fun e1 => ?_) (fun hno t ht => ?_)
  · rcases c2 with e2 | ⟨n1, _⟩
    · rw [h1.i1 e1, h2.i1 e2]; rfl
    · exact absurd e1 n1
  · have hA2 : A2 = [] := c2.elim h2.i1 fun c => h2.i2 c.2 hno
    rwa [hA2, List.append_nil] at ht

theorem altInv_min {K1 K2 : List Key} {A1 A2 : List (List Item)} {s1 s2 : Sat}
    (h1 : AltInv adv K1 A1 s1) (h2 : AltInv adv K2 A2 s2) (hd : Disj K1 K2) :
    AltInv adv (K1 ++ K2) (A1 ++ A2) (minimum s1 s2) := by
  rcases minimum_pick s1 s2 with ⟨e, c⟩ | ⟨e, c⟩ | ⟨e, -⟩ <;> rw [e]
  · exact altInv_pick h1 h2 hd c
  · refine (altInv_pick h2 h1 (fun k hk2 hk1 => hd k hk1 hk2) c).congr
      (fun k => by rw [List.mem_append, List.mem_append, or_comm])
      (fun t ht => by rwa [List.mem_append, or_comm, ← List.mem_append] at ht)
  · exact altInv_unavailable _ _

end MsVerif.Uniq
