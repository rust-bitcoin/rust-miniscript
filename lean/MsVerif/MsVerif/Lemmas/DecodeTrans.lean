/-
The arms of the tables `EArm` and `Trans` as steps (`EArm.step`, `Trans.step`), `multi`/`multi_a` on the tokens of
their keys: what Lemmas/DecodeEncode.lean replays the decoder with on `tokens ms`.
-/
import MsVerif.Lemmas.DecodeSteps
import MsVerif.Model.Tokens

namespace MsVerif
namespace DecodeL

variable {dec : AtomDec} {env : KeyEnv} {ctx : Ctx}
variable {ts : List Token} {nt : List NonTerm} {term : List Ms}

theorem Trans.step {top : NonTerm} {s' : DState} (h : Trans dec env ctx top ⟨ts, nt, term⟩ s') :
    Step dec env ctx ⟨ts, top :: nt, term⟩ s' :=
  step_mk h.ok

theorem EArm.step {ts : List Token} {o : ExprOut} {nt : List NonTerm} {term : List Ms} (h : EArm dec ctx ts o) :
    Step dec env ctx ⟨ts, .expression :: nt, term⟩ ⟨o.toks, o.pushNt ++ nt, o.pushTerm ++ term⟩ :=
  (Trans.expr h).step

/-- reversed token list (the order in which `TokenIter` yields them) -/
abbrev rt (env : KeyEnv) (ctx : Ctx) (ms : Ms) : List Token := (tokens env ctx ms).reverse

/-- keys whose token is `Bytes33`/`Bytes65` and which parse back to themselves -/
def FullKeyOk (dec : AtomDec) (env : KeyEnv) (ctx : Ctx) (x : Key) : Prop :=
  parseKey dec ctx (env.ser x) = .ok x ∧ ((env.ser x).length = 33 ∨ (env.ser x).length = 65)

/-- keys whose token is `Bytes32` and which parse back to themselves -/
def XKeyOk (dec : AtomDec) (env : KeyEnv) (ctx : Ctx) (x : Key) : Prop :=
  parseKey dec ctx (env.ser x) = .ok x ∧ keyTok (env.ser x) = .bytes32 (env.ser x)

theorem readMultiKeys_rev (rks : List Key) : ∀ (acc : List Key) (rest : List Token),
    (∀ x ∈ rks, FullKeyOk dec env ctx x) →
    readMultiKeys dec ctx rks.length (rks.map (fun pk => keyTok (env.ser pk)) ++ rest) acc
      = .ok (acc ++ rks, rest) := by
  induction rks with
  | nil => intro acc rest _; simp [readMultiKeys]
  | cons k rks ih =>
    intro acc rest h
    obtain ⟨hp, hl⟩ := h k (by simp)
    have ih' := ih (acc ++ [k]) rest (fun x hx => h x (by simp [hx]))
    simp only [List.map_cons, List.cons_append, List.length_cons]
    rcases hl with hl | hl
    · have : keyTok (env.ser k) = .bytes33 (env.ser k) := by simp [keyTok, hl]
      rw [this]; simp only [readMultiKeys, hp]; rw [ih']; simp
    · have : keyTok (env.ser k) = .bytes65 (env.ser k) := by simp [keyTok, hl]
      rw [this]; simp only [readMultiKeys, hp]; rw [ih']; simp

theorem e_multi {k : Nat} {ks : List Key}
    (hk : 1 ≤ k ∧ k ≤ ks.length ∧ ks.length ≤ 20) (hks : ∀ x ∈ ks, FullKeyOk dec env ctx x) :
    Step dec env ctx
      ⟨.checkMultiSig :: .num ks.length :: ((ks.map (fun pk => keyTok (env.ser pk))).reverse ++ .num k :: ts),
        .expression :: nt, term⟩ ⟨ts, nt, .multi k ks :: term⟩ := by
  have hr := readMultiKeys_rev (dec := dec) (env := env) (ctx := ctx) ks.reverse [] (.num k :: ts)
    (fun x hx => hks x (by simpa using hx))
  simp only [List.length_reverse, List.map_reverse, List.nil_append] at hr
  simpa using (EArm.multi (by omega) hr (by simpa using hk)).step (nt := nt) (term := term)

theorem readCsaKeys_rev (rks : List Key) : ∀ (acc : List Key) (rest : List Token),
    (∀ x ∈ rks, XKeyOk dec env ctx x) → (∀ r, rest ≠ .checkSigAdd :: r) →
    readCsaKeys dec ctx (rks.flatMap (fun pk => [.checkSigAdd, keyTok (env.ser pk)]) ++ rest) acc
      = .ok (acc ++ rks, rest) := by
  induction rks with
  | nil =>
    intro acc rest _ hr
    simp only [List.flatMap_nil, List.nil_append, List.append_nil]
    unfold readCsaKeys
    split
    · exact absurd rfl (hr _)
    · exact absurd rfl (hr _)
    · exact absurd rfl (hr _)
    · rfl
  | cons k rks ih =>
    intro acc rest h hr
    obtain ⟨hp, ht⟩ := h k (by simp)
    have ih' := ih (acc ++ [k]) rest (fun x hx => h x (by simp [hx])) hr
    simp only [List.flatMap_cons, List.cons_append, List.nil_append, ht]
    simp only [readCsaKeys, hp]
    rw [ih']; simp

theorem multiATokens_rev (env : KeyEnv) (k : Key) (ks : List Key) :
    (multiATokens env (k :: ks)).reverse =
      ks.reverse.flatMap (fun pk => [.checkSigAdd, keyTok (env.ser pk)]) ++ [.checkSig, keyTok (env.ser k)] := by
  simp only [multiATokens, List.reverse_append, List.reverse_cons, List.reverse_nil, List.nil_append,
    List.singleton_append]
  congr 1
  induction ks with
  | nil => rfl
  | cons x ks ih =>
    simp only [List.flatMap_cons, List.reverse_append, List.reverse_cons, List.reverse_nil,
      List.nil_append, List.flatMap_append, List.flatMap_nil, List.append_nil, ih]
    simp

theorem e_multiA {k : Nat} {k1 : Key} {ks : List Key}
    (hk : 1 ≤ k ∧ k ≤ (k1 :: ks).length ∧ (k1 :: ks).length ≤ 999)
    (hks : ∀ x ∈ k1 :: ks, XKeyOk dec env ctx x) :
    Step dec env ctx
      ⟨.numEqual :: .num k :: ((multiATokens env (k1 :: ks)).reverse ++ ts), .expression :: nt, term⟩
      ⟨ts, nt, .multiA k (k1 :: ks) :: term⟩ := by
  obtain ⟨hp1, ht1⟩ := hks k1 (by simp)
  have hr := readCsaKeys_rev (dec := dec) (env := env) (ctx := ctx) ks.reverse []
    (.checkSig :: keyTok (env.ser k1) :: ts) (fun x hx => hks x (by simp at hx; simp [hx]))
    (by intro r h; cases h)
  rw [List.nil_append, ht1] at hr
  rw [multiATokens_rev, List.append_assoc, ht1]
  simp only [List.length_cons] at hk
  simpa using (EArm.multiA (k := k) (by omega) hr hp1 (by simp; omega)).step (env := env) (nt := nt) (term := term)

end DecodeL
end MsVerif
