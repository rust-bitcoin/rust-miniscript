/-
The stable insertion sorts of `Model/Satisfy`: `sortIdx`, the `sort_by_key` of child indices in
`Satisfaction::thresh`/`thresh_mall`, with its order `SortKey.le`; and `sortKeys'`, the satisfier's BIP67 sort of
`sortedmulti`/`sortedmulti_a`, which is the `sortKeys` of `Model/Encode`.
-/
import MsVerif.Model.Satisfy
import MsVerif.Lemmas.CoreEncode

namespace MsVerif

namespace SortKey

theorem le_iff (a b : SortKey) : a.le b = true ↔
    a.imp.toNat < b.imp.toNat ∨ a.imp.toNat = b.imp.toNat ∧
      (a.sig.toNat < b.sig.toNat ∨ a.sig.toNat = b.sig.toNat ∧ a.w ≤ b.w) := by
  obtain ⟨ai, as, aw⟩ := a
  obtain ⟨bi, bs, bw⟩ := b
  cases ai <;> cases bi <;> cases as <;> cases bs <;> simp [SortKey.le]

theorem le_total (a b : SortKey) : a.le b = true ∨ b.le a = true := by
  simp only [le_iff]
  omega

theorem le_trans {a b c : SortKey} (h1 : a.le b = true) (h2 : b.le c = true) : a.le c = true := by
  simp only [le_iff] at *
  omega

end SortKey

theorem insertIdx_perm (key : Nat → SortKey) (i : Nat) (l : List Nat) :
    (insertIdx key i l).Perm (i :: l) :=
  InsertSort.ins_perm (fun a b => (key a).le (key b)) (insertIdx key) (fun _ => rfl) (fun _ _ _ => rfl) i l

theorem insertIdx_sorted (key : Nat → SortKey) (i : Nat) (l : List Nat)
    (h : l.Pairwise (fun a b => (key a).le (key b) = true)) :
    (insertIdx key i l).Pairwise (fun a b => (key a).le (key b) = true) :=
  InsertSort.ins_sorted (fun a b => (key a).le (key b)) (insertIdx key) (fun _ => rfl) (fun _ _ _ => rfl)
    (fun _ _ => SortKey.le_total _ _) (fun _ _ _ => SortKey.le_trans) i l h

theorem sortIdx_perm (key : Nat → SortKey) (n : Nat) : (sortIdx key n).Perm (List.range n) := by
  simpa [sortIdx] using InsertSort.foldl_ins_perm (fun a b => (key a).le (key b)) (insertIdx key)
    (fun _ => rfl) (fun _ _ _ => rfl) (List.range n) []

theorem sortIdx_sorted (key : Nat → SortKey) (n : Nat) :
    (sortIdx key n).Pairwise (fun a b => (key a).le (key b) = true) :=
  InsertSort.foldl_ins_sorted (fun a b => (key a).le (key b)) (insertIdx key) (fun _ => rfl) (fun _ _ _ => rfl)
    (fun _ _ => SortKey.le_total _ _) (fun _ _ _ => SortKey.le_trans) _ _ .nil

theorem sortIdx_length (key : Nat → SortKey) (n : Nat) : (sortIdx key n).length = n := by
  rw [(sortIdx_perm key n).length_eq, List.length_range]

theorem sortIdx_nodup (key : Nat → SortKey) (n : Nat) : (sortIdx key n).Nodup :=
  (sortIdx_perm key n).nodup_iff.mpr List.nodup_range

theorem mem_sortIdx (key : Nat → SortKey) (n i : Nat) : i ∈ sortIdx key n ↔ i < n := by
  rw [(sortIdx_perm key n).mem_iff, List.mem_range]

theorem not_mem_take_of_mem_drop {α : Type} {l : List α} (hnd : l.Nodup) {k : Nat} {i : α}
    (hd : i ∈ l.drop k) : i ∉ l.take k := by
  rw [← List.take_append_drop k l] at hnd
  exact fun ht => (List.nodup_append.mp hnd).2.2 i ht i hd rfl

theorem not_take_of_mem_drop (key : Nat → SortKey) (n k i : Nat)
    (hd : i ∈ (sortIdx key n).drop k) : i ∉ (sortIdx key n).take k :=
  not_mem_take_of_mem_drop (sortIdx_nodup key n) hd

/-- The mask of the first `k` entries of a permutation of `0..n` marks `min k n` positions; for
`idx = sortIdx key n` these are the children `swapped` takes the satisfaction of. -/
theorem chosen_count {idx : List Nat} {n : Nat} (hp : idx.Perm (List.range n)) (k : Nat) :
    ((List.range n).map (fun i => (idx.take k).contains i)).count true = min k n := by
  have hnd : idx.Nodup := hp.nodup_iff.mpr List.nodup_range
  have e : ((· == true) ∘ fun i => (idx.take k).contains i) = fun i => (idx.take k).contains i := by
    funext i
    simp
  rw [List.count_eq_countP, List.countP_map, e, ← hp.countP_eq, ← List.take_append_drop k idx,
    List.countP_append, List.take_append_drop,
    List.countP_eq_length.mpr (fun a ha => List.contains_iff_mem.mpr ha),
    List.countP_eq_zero.mpr (fun a ha hc =>
      not_mem_take_of_mem_drop hnd ha (List.contains_iff_mem.mp hc)),
    List.length_take, hp.length_eq, List.length_range, Nat.add_zero]

theorem bytesLe'_eq : ∀ a b, bytesLe' a b = bytesLe a b
  | [], _ => rfl
  | _ :: _, [] => rfl
  | x :: xs, y :: ys => by simp [bytesLe', bytesLe, bytesLe'_eq xs ys]

theorem insertKey'_eq (env : KeyEnv) (k : Key) : ∀ l, insertKey' env k l = insertByKey env k l
  | [] => rfl
  | x :: xs => by simp [insertKey', insertByKey, bytesLe'_eq, insertKey'_eq env k xs]

theorem sortKeys'_eq (env : KeyEnv) (ks : List Key) : sortKeys' env ks = sortKeys env ks := by
  unfold sortKeys' sortKeys
  congr 1
  funext acc k
  exact insertKey'_eq env k acc

theorem sortKeys'_perm (env : KeyEnv) (ks : List Key) : (sortKeys' env ks).Perm ks :=
  sortKeys'_eq env ks ▸ sortKeys_perm env ks

theorem sortKeys'_length (env : KeyEnv) (ks : List Key) : (sortKeys' env ks).length = ks.length :=
  (sortKeys'_perm env ks).length_eq

theorem sortKeys'_filter (env : KeyEnv) (ks : List Key) (p : Key → Bool) :
    ((sortKeys' env ks).filter p).length = (ks.filter p).length :=
  ((sortKeys'_perm env ks).filter p).length_eq

end MsVerif
