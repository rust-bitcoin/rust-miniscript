/-
Lemmas for C20 (policies): the stack-based rebuilds of `Concrete::translate_pk`,
`Semantic::translate_pk` and `translate_unsatisfiable_pk` equal the structural maps; the key
visitors walk the pre-order.
-/
import MsVerif.Lemmas.TranslateLemmas
import MsVerif.Model.TranslatePolicy

namespace MsVerif.TranslatePolicy
open MsVerif MsVerif.TreeWalk MsVerif.TranslateLemmas

variable {σ ε : Type}

theorem PPolList.pre_eq : (xs : PPolList) → xs.pre = xs.toList.flatMap PPol.pre
  | .nil => rfl
  | .cons _ x xs => by simp [PPolList.pre, PPolList.toList, PPolList.pre_eq xs]

theorem PPol.pre_eq (x : PPol) : x.pre = x :: x.asNode.children.flatMap PPol.pre := by
  cases x <;> simp [PPol.pre, PPol.asNode, Tree.children, PPolList.pre_eq]

theorem PPolList.rtlPost_eq : (xs : PPolList) → xs.rtlPost = xs.toList.reverse.flatMap PPol.rtlPost
  | .nil => rfl
  | .cons _ x xs => by simp [PPolList.rtlPost, PPolList.toList, PPolList.rtlPost_eq xs]

theorem PPol.rtlPost_eq (x : PPol) :
    x.rtlPost = x.asNode.rtl.children.flatMap PPol.rtlPost ++ [x] := by
  cases x <;> simp [PPol.rtlPost, PPol.asNode, Tree.rtl, Tree.children, PPolList.rtlPost_eq]

theorem PPolList.nodes_eq : (xs : PPolList) → xs.nodes = (xs.toList.map PPol.nodes).sum
  | .nil => rfl
  | .cons _ x xs => by simp [PPolList.nodes, PPolList.toList, PPolList.nodes_eq xs]

theorem PPol.nodes_rtl (x : PPol) : x.nodes = 1 + (x.asNode.rtl.children.map PPol.nodes).sum := by
  cases x <;> simp [PPol.nodes, PPol.asNode, Tree.rtl, Tree.children, PPolList.nodes_eq,
    List.sum_reverse] <;> omega

mutual
theorem PPol.pre_length : (x : PPol) → x.pre.length = x.nodes
  | .unsat | .trivial | .key _ | .after _ | .older _ | .hash _ _ => by simp [PPol.pre, PPol.nodes]
  | .and xs | .or xs | .thresh _ xs => by simp [PPol.pre, PPol.nodes, PPolList.pre_length xs]
theorem PPolList.pre_length : (xs : PPolList) → xs.pre.length = xs.nodes
  | .nil => rfl
  | .cons _ x xs => by simp [PPolList.pre, PPolList.nodes, PPol.pre_length x, PPolList.pre_length xs]
end

theorem preOrder_eq (p : PPol) : p.preOrder = p.pre :=
  preOrderIter_eq PPol.asNode PPol.pre PPol.pre_eq _ p (Nat.le_of_eq (PPol.pre_length p))

theorem rtlPostOrder_eq (p : PPol) : p.rtlPostOrder = p.rtlPost :=
  rtlPostOrderIter_eq PPol.asNode PPol.rtlPost PPol.nodes PPol.rtlPost_eq PPol.nodes_rtl p

theorem ppopEach_eq : ∀ (xs ys : PPolList) (st : List PPol), ys.weights = xs.weights →
    ppopEach xs (ys.toList ++ st) = some (ys, st)
  | .nil, .nil, st, _ => rfl
  | .nil, .cons _ _ _, _, h => by simp [PPolList.weights] at h
  | .cons _ _ _, .nil, _, h => by simp [PPolList.weights] at h
  | .cons w x xs, .cons w' y ys, st, h => by
    simp only [PPolList.weights, List.cons.injEq] at h
    simp [ppopEach, PPolList.toList, ppopEach_eq xs ys st h.2, h.1]

theorem ppopEachM_eq (xs ys : PPolList) (st : List PPol) (h : ys.weights = xs.weights) :
    (ppopEachM xs (ys.toList ++ st) : TrM σ ε (PPolList × List PPol)) = pure (ys, st) := by
  simp only [ppopEachM, ppopEach_eq xs ys st h]

/-- continuations after `xs.trRtl` only matter on child lists with the same weights -/
theorem trRtl_list_congr {β : Type} (t : Translator σ ε) :
    (xs : PPolList) → ∀ (f g : PPolList → TrM σ ε β), (∀ ys, ys.weights = xs.weights → f ys = g ys) →
      (xs.trRtl t >>= f) = (xs.trRtl t >>= g)
  | .nil, f, g, h => by simp [PPolList.trRtl, h .nil rfl]
  | .cons w x xs, f, g, h => by
    simp only [PPolList.trRtl, bind_assoc, pure_bind]
    apply trRtl_list_congr t xs
    intro ys hy
    congr 1; funext x'
    exact h _ (by simp only [PPolList.weights, hy])

mutual
theorem polLoop_pol (t : Translator σ ε) : (p : PPol) → ∀ (rest st : List PPol),
    polLoop t (p.rtlPost ++ rest) st = (p.trRtl t >>= fun p' => polLoop t rest (p' :: st))
  | .unsat, _, _ | .trivial, _, _ | .after _, _, _ | .older _, _, _ | .key _, _, _ | .hash _ _, _, _ => by
    simp [PPol.rtlPost, polLoop, polStep, PPol.trRtl]
  | .and xs, rest, st | .or xs, rest, st | .thresh _ xs, rest, st => by
    simp only [PPol.rtlPost, List.append_assoc, polLoop_list t xs, PPol.trRtl, bind_assoc]
    apply trRtl_list_congr t xs
    intro ys hy
    simp [polLoop, polStep, ppopEachM_eq xs ys st hy]
theorem polLoop_list (t : Translator σ ε) : (xs : PPolList) → ∀ (rest st : List PPol),
    polLoop t (xs.rtlPost ++ rest) st = (xs.trRtl t >>= fun ys => polLoop t rest (ys.toList ++ st))
  | .nil, _, _ => by simp [PPolList.rtlPost, PPolList.trRtl, PPolList.toList]
  | .cons w x xs, rest, st => by
    simp [PPolList.rtlPost, List.append_assoc, polLoop_list t xs, polLoop_pol t x, PPolList.trRtl,
      PPolList.toList]
end

mutual
theorem trRtl_pure (f : Key → Key) (g : HashKind → Nat → Nat) : (p : PPol) →
    p.trRtl (pureT (σ := σ) (ε := ε) f g) = pure (p.mapKeys f g)
  | .unsat | .trivial | .after _ | .older _ => by simp only [PPol.trRtl, PPol.mapKeys]
  | .key _ | .hash _ _ => by simp [PPol.trRtl, PPol.mapKeys, pureT]
  | .and xs | .or xs | .thresh _ xs => by simp [PPol.trRtl, PPol.mapKeys, trRtl_pure_list f g xs]
theorem trRtl_pure_list (f : Key → Key) (g : HashKind → Nat → Nat) : (xs : PPolList) →
    xs.trRtl (pureT (σ := σ) (ε := ε) f g) = pure (xs.mapKeys f g)
  | .nil => by simp only [PPolList.trRtl, PPolList.mapKeys]
  | .cons _ x xs => by simp [PPolList.trRtl, PPolList.mapKeys, trRtl_pure f g x, trRtl_pure_list f g xs]
end

mutual
theorem trRtl_stateless (f : Key → Except ε Key) (g : HashKind → Nat → Except ε Nat) : (p : PPol) →
    p.trRtl (statelessT (σ := σ) f g) = outE f g p.atomsRtl (p.mapKeys (fOr f) (gOr g))
  | .unsat | .trivial | .after _ | .older _ => by
    simp [PPol.trRtl, PPol.atomsRtl, PPol.rtlPost, PPol.nodeAtoms, outE_nil, PPol.mapKeys]
  | .key k => by
    simp only [PPol.trRtl, statelessT, liftE_bind_pure f g (.key k) (f k) rfl k]
    simp [PPol.atomsRtl, PPol.rtlPost, PPol.nodeAtoms, PPol.mapKeys]
  | .hash kind x => by
    simp only [PPol.trRtl, statelessT, liftE_bind_pure f g (.hash kind x) (g kind x) rfl x]
    simp [PPol.atomsRtl, PPol.rtlPost, PPol.nodeAtoms, PPol.mapKeys]
  | .and xs | .or xs | .thresh _ xs => by
    simp only [PPol.trRtl, trRtl_stateless_list f g xs, outE_bind_pure]
    simp [PPol.atomsRtl, PPol.rtlPost, PPol.nodeAtoms, PPol.mapKeys, List.flatMap_append]
theorem trRtl_stateless_list (f : Key → Except ε Key) (g : HashKind → Nat → Except ε Nat) : (xs : PPolList) →
    xs.trRtl (statelessT (σ := σ) f g)
      = outE f g (xs.rtlPost.flatMap PPol.nodeAtoms) (xs.mapKeys (fOr f) (gOr g))
  | .nil => by simp [PPolList.trRtl, PPolList.rtlPost, outE_nil, PPolList.mapKeys]
  | .cons w x xs => by
    simp only [PPolList.trRtl, trRtl_stateless_list f g xs, trRtl_stateless f g x, outE_bind_pure,
      outE_bind]
    simp only [PPolList.rtlPost, PPolList.mapKeys, List.flatMap_append, PPol.atomsRtl]
end

mutual
theorem mapKeys_id : (p : PPol) → p.mapKeys id (fun _ h => h) = p
  | .unsat | .trivial | .after _ | .older _ | .key _ | .hash _ _ => by simp [PPol.mapKeys]
  | .and xs | .or xs | .thresh _ xs => by simp only [PPol.mapKeys, mapKeys_id_list xs]
theorem mapKeys_id_list : (xs : PPolList) → xs.mapKeys id (fun _ h => h) = xs
  | .nil => rfl
  | .cons _ x xs => by simp only [PPolList.mapKeys, mapKeys_id x, mapKeys_id_list xs]
end

mutual
theorem mapKeys_comp (f f' : Key → Key) (g g' : HashKind → Nat → Nat) : (p : PPol) →
    (p.mapKeys f g).mapKeys f' g' = p.mapKeys (f' ∘ f) (fun kind h => g' kind (g kind h))
  | .unsat | .trivial | .after _ | .older _ | .key _ | .hash _ _ => by simp [PPol.mapKeys]
  | .and xs | .or xs | .thresh _ xs => by simp only [PPol.mapKeys, mapKeys_comp_list f f' g g' xs]
theorem mapKeys_comp_list (f f' : Key → Key) (g g' : HashKind → Nat → Nat) : (xs : PPolList) →
    (xs.mapKeys f g).mapKeys f' g' = xs.mapKeys (f' ∘ f) (fun kind h => g' kind (g kind h))
  | .nil => rfl
  | .cons _ x xs => by simp only [PPolList.mapKeys, mapKeys_comp f f' g g' x, mapKeys_comp_list f f' g g' xs]
end

mutual
theorem keysPre_mapKeys (f : Key → Key) (g : HashKind → Nat → Nat) : (p : PPol) →
    (p.mapKeys f g).pre.flatMap PPol.keysAt = (p.pre.flatMap PPol.keysAt).map f
  | .unsat | .trivial | .after _ | .older _ | .key _ | .hash _ _ => by
    simp [PPol.mapKeys, PPol.pre, PPol.keysAt]
  | .and xs | .or xs | .thresh _ xs => by
    simp [PPol.mapKeys, PPol.pre, PPol.keysAt, keysPre_mapKeys_list f g xs]
theorem keysPre_mapKeys_list (f : Key → Key) (g : HashKind → Nat → Nat) : (xs : PPolList) →
    (xs.mapKeys f g).pre.flatMap PPol.keysAt = (xs.pre.flatMap PPol.keysAt).map f
  | .nil => rfl
  | .cons _ x xs => by
    simp [PPolList.mapKeys, PPolList.pre, List.flatMap_append, keysPre_mapKeys f g x,
      keysPre_mapKeys_list f g xs]
end

mutual
theorem isSemantic_mapKeys (f : Key → Key) (g : HashKind → Nat → Nat) : (p : PPol) →
    (p.mapKeys f g).isSemantic = p.isSemantic
  | .unsat | .trivial | .after _ | .older _ | .key _ | .hash _ _ => by simp only [PPol.mapKeys, PPol.isSemantic]
  | .and _ | .or _ => by simp only [PPol.mapKeys, PPol.isSemantic]
  | .thresh _ xs => by simp only [PPol.mapKeys, PPol.isSemantic, isSemantic_mapKeys_list f g xs]
theorem isSemantic_mapKeys_list (f : Key → Key) (g : HashKind → Nat → Nat) : (xs : PPolList) →
    (xs.mapKeys f g).isSemantic = xs.isSemantic
  | .nil => rfl
  | .cons _ x xs => by
    simp only [PPolList.mapKeys, PPolList.isSemantic, isSemantic_mapKeys f g x, isSemantic_mapKeys_list f g xs]
end

theorem PPolList.replaceKey_weights (key : Key) : (xs : PPolList) →
    (xs.replaceKey key).weights = xs.weights
  | .nil => rfl
  | .cons _ _ xs => by simp only [PPolList.replaceKey, PPolList.weights, PPolList.replaceKey_weights key xs]

theorem PPolList.replaceKey_toList (key : Key) : (xs : PPolList) →
    (xs.replaceKey key).toList = xs.toList.map (PPol.replaceKey key)
  | .nil => rfl
  | .cons _ x xs => by simp [PPolList.replaceKey, PPolList.toList, PPolList.replaceKey_toList key xs]

theorem unsatStep_children (key : Key) (p : PPol) (st : List PPol) :
    unsatStep key (p.asNode.children.map (PPol.replaceKey key) ++ st) p
      = some (p.replaceKey key :: st) := by
  cases p
  case key k => by_cases h : k = key <;> simp [unsatStep, PPol.replaceKey, PPol.asNode, Tree.children, h]
  case and xs | or xs | thresh xs =>
    simp [unsatStep, PPol.replaceKey, PPol.asNode, Tree.children, ← PPolList.replaceKey_toList,
      ppopEach_eq xs _ st (PPolList.replaceKey_weights key xs)]
  all_goals simp [unsatStep, PPol.replaceKey, PPol.asNode, Tree.children]

theorem unsatLoop_forest (key : Key) (xs rest st : List PPol) :
    unsatLoop key (xs.reverse.flatMap PPol.rtlPost ++ rest) st
      = unsatLoop key rest (xs.map (PPol.replaceKey key) ++ st) :=
  stackFold PPol.asNode PPol.rtlPost PPol.nodes _ (unsatStep key) (unsatLoop key) PPol.rtlPost_eq
    PPol.nodes_rtl (fun _ _ _ _ h => by rw [unsatLoop, h]) (unsatStep_children key) xs
    rest st

theorem unsatLoop_list (key : Key) : (xs : PPolList) → ∀ (rest st : List PPol),
    unsatLoop key (xs.rtlPost ++ rest) st = unsatLoop key rest ((xs.replaceKey key).toList ++ st) :=
  fun xs rest st => by
    rw [PPolList.rtlPost_eq, PPolList.replaceKey_toList]
    exact unsatLoop_forest key xs.toList rest st

theorem polAllLoop_eq (pred : Key → Bool) : (l : List PPol) →
    polAllLoop pred l = allVisit pred (l.flatMap PPol.keysAt)
  | [] => rfl
  | x :: xs => by
    cases x <;> simp [polAllLoop, PPol.keysAt, allVisit, polAllLoop_eq pred xs]

end MsVerif.TranslatePolicy
