/-
The polymod step of the checksum engine as an XOR-linear map `L` on 40-bit words (`shiftPart` plus the
feedback word `G` of the top symbol), and the eight 5-bit symbols of a word (`unpack`): one
characterisation by bits, `testBit_unpack`, from which most other facts about symbols follow.
-/
import MsVerif.Model.Checksum

namespace MsVerif.Checksum

theorem xor_eq_zero_iff {e f : Nat} : e ^^^ f = 0 ↔ e = f := by
  constructor
  · intro hz
    have := congrArg (· ^^^ f) hz
    simpa [Nat.xor_assoc] using this
  · intro h; rw [h, Nat.xor_self]

theorem xor_ne_zero {e f : Nat} (h : e ≠ f) : e ^^^ f ≠ 0 :=
  fun hz => h (xor_eq_zero_iff.mp hz)

theorem xor_lt32 {e f : Nat} (he : e < 32) (hf : f < 32) : e ^^^ f < 32 :=
  Nat.xor_lt_two_pow (n := 5) he hf

def G (xn : W) : W :=
  sel (xn.getLsbD 0) GEN0 ^^^ sel (xn.getLsbD 1) GEN1 ^^^ sel (xn.getLsbD 2) GEN2
    ^^^ sel (xn.getLsbD 3) GEN3 ^^^ sel (xn.getLsbD 4) GEN4
def shiftPart (r : W) : W := (r &&& ~~~(0x1f#40 <<< 35)) <<< 5
def L (c : W) : W := shiftPart c ^^^ G (c >>> 35)

theorem mask_eq : ~~~(0x1f#40 <<< 35) = 0x7ffffffff#40 := by decide

theorem shiftPart_getLsbD (r : W) (i : Nat) :
    (shiftPart r).getLsbD i = (decide (5 ≤ i) && decide (i < 40) && r.getLsbD (i - 5)) := by
  unfold shiftPart
  rw [mask_eq]
  simp only [BitVec.getLsbD_shiftLeft, BitVec.getLsbD_and]
  by_cases h5 : i < 5
  · simp [h5]; omega
  · by_cases h40 : i < 40
    · have : (0x7ffffffff#40).getLsbD (i - 5) = true := by
        have : i - 5 < 35 := by omega
        generalize i - 5 = j at this
        revert j; decide
      simp [h5, h40, this]; omega
    · simp [h40]

theorem or_ofNat (r : W) (e : Nat) (he : e < 32) :
    shiftPart r ||| BitVec.ofNat 40 e = shiftPart r ^^^ BitVec.ofNat 40 e := by
  ext i hi
  simp only [BitVec.getElem_or, BitVec.getElem_xor]
  have h1 := shiftPart_getLsbD r i
  rw [BitVec.getLsbD_eq_getElem hi] at h1
  by_cases h5 : i < 5
  · have : (shiftPart r)[i] = false := by rw [h1]; simp; omega
    simp [this]
  · have : (BitVec.ofNat 40 e)[i] = false := by
      rw [← BitVec.getLsbD_eq_getElem, BitVec.getLsbD_ofNat]; simp only [hi, decide_true, Bool.true_and]
      apply Nat.testBit_lt_two_pow
      calc e < 32 := he
        _ = 2^5 := rfl
        _ ≤ 2^i := Nat.pow_le_pow_right (by decide) (by omega)
    simp [this]

theorem inputFe_eq (r : W) (e : Nat) (he : e < 32) :
    inputFe r e = L r ^^^ BitVec.ofNat 40 e := by
  have h := or_ofNat r e he
  unfold shiftPart at h
  unfold inputFe L G shiftPart
  simp only [h]
  ac_rfl

theorem sel_xor (a b : Bool) (g : W) : sel (a ^^ b) g = sel a g ^^^ sel b g := by
  cases a <;> cases b <;> simp [sel]

theorem G_xor (a b : W) : G (a ^^^ b) = G a ^^^ G b := by
  simp only [G, BitVec.getLsbD_xor, sel_xor]
  ac_rfl

theorem shiftPart_xor (a b : W) : shiftPart (a ^^^ b) = shiftPart a ^^^ shiftPart b := by
  unfold shiftPart
  rw [← BitVec.shiftLeft_xor_distrib]
  congr 1
  ext i; simp [Bool.and_xor_distrib_right]

theorem L_xor (a b : W) : L (a ^^^ b) = L a ^^^ L b := by
  simp only [L, G_xor, BitVec.ushiftRight_xor_distrib, shiftPart_xor]
  ac_rfl

theorem L_zero : L 0 = 0 := by decide

theorem unpack_lt (r : W) (n : Nat) : unpack r n < 32 := Nat.mod_lt _ (by decide)

theorem unpack_eq (r : W) (n : Nat) : unpack r n = r.toNat / 2 ^ (n * 5) % 32 := by
  unfold unpack
  rw [BitVec.toNat_ushiftRight, Nat.shiftRight_eq_div_pow]

theorem testBit_unpack (r : W) (n j : Nat) :
    (unpack r n).testBit j = (decide (j < 5) && r.getLsbD (n * 5 + j)) := by
  unfold unpack
  rw [show (32 : Nat) = 2 ^ 5 from rfl, Nat.testBit_mod_two_pow, BitVec.toNat_ushiftRight,
    Nat.testBit_shiftRight]
  rfl

theorem getLsbD_eq_unpack (r : W) (i : Nat) : r.getLsbD i = (unpack r (i / 5)).testBit (i % 5) := by
  rw [testBit_unpack, Nat.div_add_mod' i 5]
  simp [Nat.mod_lt i (show 0 < 5 by decide)]

theorem ext_digits {x y : W} (h : ∀ n, n < 8 → unpack x n = unpack y n) : x = y := by
  apply BitVec.eq_of_getLsbD_eq
  intro i hi
  rw [getLsbD_eq_unpack, getLsbD_eq_unpack, h _ (by omega)]

theorem unpack_xor (x y : W) (n : Nat) : unpack (x ^^^ y) n = unpack x n ^^^ unpack y n := by
  apply Nat.eq_of_testBit_eq
  intro j
  simp only [testBit_unpack, Nat.testBit_xor, BitVec.getLsbD_xor]
  cases decide (j < 5) <;> rfl

theorem unpack_ge (r : W) {n : Nat} (h : 8 ≤ n) : unpack r n = 0 := by
  apply Nat.eq_of_testBit_eq
  intro j
  rw [testBit_unpack, BitVec.getLsbD_of_ge _ _ (by omega), Bool.and_false, Nat.zero_testBit]

theorem unpack_ushiftRight (v : W) (k n : Nat) : unpack (v >>> (5 * k)) n = unpack v (n + k) := by
  unfold unpack
  rw [BitVec.toNat_ushiftRight, BitVec.toNat_ushiftRight, BitVec.toNat_ushiftRight,
    ← Nat.shiftRight_add, show 5 * k + n * 5 = (n + k) * 5 by omega]

theorem unpack_shl : ∀ e, e < 32 → ∀ k, k < 8 → ∀ n, n < 8 →
    unpack (BitVec.ofNat 40 e <<< (5 * k)) n = if n = k then e else 0 := by decide +kernel

theorem unpack_ofNat {e : Nat} (he : e < 32) {n : Nat} (hn : n < 8) :
    unpack (BitVec.ofNat 40 e) n = if n = 0 then e else 0 := by
  simpa using unpack_shl e he 0 (by omega) n hn

theorem single_digit {D : W} {k : Nat} (h : ∀ n, n < 8 → n ≠ k → unpack D n = 0) :
    D = BitVec.ofNat 40 (unpack D k) <<< (5 * k) := by
  apply BitVec.eq_of_getLsbD_eq
  intro i hi
  rw [BitVec.getLsbD_shiftLeft, BitVec.getLsbD_ofNat, getLsbD_eq_unpack]
  by_cases hk : i / 5 = k
  · have : i - 5 * k = i % 5 := by omega
    have h1 : ¬ i < 5 * k := by omega
    have h2 : i % 5 < 40 := by omega
    simp [hk, this, hi, h1, h2]
  · rw [h _ (by omega) hk, Nat.zero_testBit]
    by_cases hlt : i < 5 * k
    · simp [hlt]
    · have : unpack D k < 2 ^ (i - 5 * k) :=
        Nat.lt_of_lt_of_le (unpack_lt D k) (Nat.pow_le_pow_right (show 0 < 2 by decide) (show 5 ≤ i - 5 * k by omega))
      simp [Nat.testBit_lt_two_pow this]
theorem top_eq (c : W) : c >>> 35 = BitVec.ofNat 40 (unpack c 7) := by
  apply BitVec.eq_of_toNat_eq
  rw [BitVec.toNat_ushiftRight, BitVec.toNat_ofNat, unpack_eq, Nat.shiftRight_eq_div_pow]
  have := c.isLt
  simp only [Nat.reducePow, Nat.reduceMul] at this ⊢
  omega

theorem unpack_shiftPart (c : W) (n : Nat) (hn : n < 8) :
    unpack (shiftPart c) n = if n = 0 then 0 else unpack c (n - 1) := by
  apply Nat.eq_of_testBit_eq
  intro j
  rw [testBit_unpack, shiftPart_getLsbD]
  split
  · subst n
    simp only [Nat.zero_testBit, Nat.zero_mul, Nat.zero_add]
    cases hj : decide (j < 5)
    · rfl
    · have : ¬ 5 ≤ j := by simp at hj; omega
      simp [this]
  · rw [testBit_unpack]
    by_cases hj : j < 5
    · have e : n * 5 + j - 5 = (n - 1) * 5 + j := by omega
      have h5 : 5 ≤ n * 5 + j := by omega
      have h40 : n * 5 + j < 40 := by omega
      simp [hj, e, h5, h40]
    · simp [hj]

theorem unpack_zero (n : Nat) : unpack (0 : W) n = 0 := by
  simp [unpack]

/-- the low symbol of the feedback word determines the top symbol -/
theorem G_low : ∀ t, t < 32 → unpack (G (BitVec.ofNat 40 t)) 0 = 0 → t = 0 := by decide

theorem L_eq_zero (a : W) (h : L a = 0) : a = 0 := by
  have hd : ∀ n, n < 8 →
      unpack (shiftPart a) n ^^^ unpack (G (BitVec.ofNat 40 (unpack a 7))) n = 0 := by
    intro n _
    rw [← top_eq, ← unpack_xor, ← L, h, unpack_zero]
  -- symbol 0 of `shiftPart a` is 0, so the feedback word, hence the top symbol, vanishes
  have h7 : unpack a 7 = 0 := by
    have := hd 0 (by decide)
    rw [unpack_shiftPart a 0 (by decide), if_pos rfl, Nat.zero_xor] at this
    exact G_low _ (unpack_lt a 7) this
  have hG : G (BitVec.ofNat 40 (unpack a 7)) = 0 := by rw [h7]; decide
  apply ext_digits
  intro n hn
  rw [unpack_zero]
  by_cases hn7 : n = 7
  · rw [hn7, h7]
  · have := hd (n + 1) (by omega)
    rw [hG, unpack_zero, Nat.xor_zero, unpack_shiftPart a (n + 1) (by omega), if_neg (by omega)] at this
    exact this

theorem L_inj (a b : W) (h : L a = L b) : a = b := by
  have : L (a ^^^ b) = 0 := by rw [L_xor, h]; simp
  have := L_eq_zero _ this
  exact BitVec.xor_eq_zero_iff.mp this

theorem L_small (a : W) (h : a.toNat < 2 ^ 35) : (L a).toNat = a.toNat * 32 := by
  have ht : a >>> 35 = 0 := by
    apply BitVec.eq_of_toNat_eq
    simp [BitVec.toNat_ushiftRight, Nat.shiftRight_eq_div_pow]
    omega
  have hs : shiftPart a = a <<< 5 := by
    unfold shiftPart; rw [mask_eq]
    congr 1
    apply BitVec.eq_of_toNat_eq
    rw [BitVec.toNat_and]
    have : (0x7ffffffff#40).toNat = 2 ^ 35 - 1 := by decide
    rw [this, Nat.and_two_pow_sub_one_eq_mod]
    exact Nat.mod_eq_of_lt h
  rw [L, ht, hs]
  have : G 0 = 0#40 := by decide
  rw [this, BitVec.xor_zero, BitVec.toNat_shiftLeft, Nat.shiftLeft_eq]
  have : a.toNat * 2 ^ 5 < 2 ^ 40 := by omega
  rw [Nat.mod_eq_of_lt this]

end MsVerif.Checksum
