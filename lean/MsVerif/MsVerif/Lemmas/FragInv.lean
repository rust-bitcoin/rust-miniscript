/-
What a SUCCESSFUL run of each Miniscript fragment was: one lemma `frag_X_inv` per fragment (the `multi` family: `TypeSoundShape`), on machine
states written out (`⟨s, al, n⟩ ↦ ⟨s', al', n'⟩`), giving the form of the stacks, the runs of the children
(as `frag` equations, so that every other fact about `frag` applies to them) and what the opcodes in
between checked.  A conditional gives one alternative per branch.  No hypothesis on the flags.
Every equation is between variables: `obtain ⟨a, r, b, r', m, m', rfl, rfl, hX⟩ := frag_alt_inv hr`.
-/
import MsVerif.Lemmas.TypeSoundOps
import MsVerif.Spec.SatSpec

namespace MsVerif.TypeSound
open MsVerif MsVerif.Script

variable {env : Env} {ke : KeyEnv} {ctx : Ctx} {s al s' al' : List Bytes} {n n' : Nat}

theorem verifyTail_inv {fused : Bool} {c c' : Core} (h : verifyTail env fused c = .ok c') :
    ∃ a, c.stack = a :: c'.stack ∧ castToBool a = true ∧ c'.alt = c.alt := by
  cases fused
  · exact verify_ok h
  · simp only [verifyTail, if_true] at h
    split at h
    · rename_i a r hs
      split at h
      · rename_i hb; cases h; exact ⟨a, hs, hb, rfl⟩
      · cases h
    · cases h

theorem ifThen_inv {nf : Bool} {X : List Op} {f : Core → Except Err Core}
    (h : ifThen env nf X f ⟨s, al, n⟩ = .ok ⟨s', al', n'⟩) :
    ∃ a r m, s = a :: r ∧
      ((condFlag nf a = true ∧ ∃ m', f ⟨r, al, m⟩ = .ok ⟨s', al', m'⟩) ∨ (condFlag nf a = false ∧ s' = r ∧ al' = al)) := by
  rw [ifThen_eq] at h
  obtain ⟨⟨v, r, al1, m⟩, hp, h⟩ := bind_ok h
  obtain ⟨a, e, ea, rfl⟩ := cnd_inv hp
  cases (show s = a :: r from e)
  cases (show al1 = al from ea)
  obtain ⟨⟨s2, al2, m'⟩, h2, h3⟩ := bind_ok h
  obtain ⟨rfl, rfl⟩ : s' = s2 ∧ al' = al2 := countOp_stack h3
  refine ⟨a, r, m, rfl, ?_⟩
  cases hv : condFlag nf a with
  | true => rw [hv] at h2; exact .inl ⟨rfl, m', h2⟩
  | false =>
    rw [hv] at h2
    exact .inr ⟨rfl, (skipCount_stack h2).1, (skipCount_stack h2).2⟩

theorem ifElse_inv {nf : Bool} {X Y : List Op} {f g : Core → Except Err Core}
    (h : ifElse env nf X Y f g ⟨s, al, n⟩ = .ok ⟨s', al', n'⟩) :
    ∃ a r m m', s = a :: r ∧
      ((condFlag nf a = true ∧ f ⟨r, al, m⟩ = .ok ⟨s', al', m'⟩) ∨
       (condFlag nf a = false ∧ g ⟨r, al, m⟩ = .ok ⟨s', al', m'⟩)) := by
  rw [ifElse_eq] at h
  obtain ⟨⟨v, r, al1, m⟩, hp, h⟩ := bind_ok h
  obtain ⟨a, e, ea, rfl⟩ := cnd_inv hp
  cases (show s = a :: r from e)
  cases (show al1 = al from ea)
  obtain ⟨⟨s2, al2, m2⟩, h2, h⟩ := bind_ok h
  obtain ⟨⟨s3, al3, m3⟩, h3, h⟩ := bind_ok h
  obtain ⟨⟨s4, al4, m4⟩, h4, h5⟩ := bind_ok h
  obtain ⟨rfl, rfl⟩ : s3 = s2 ∧ al3 = al2 := countOp_stack h3
  obtain ⟨rfl, rfl⟩ : s' = s4 ∧ al' = al4 := countOp_stack h5
  cases hv : condFlag nf a with
  | true =>
    rw [hv] at h2 h4
    obtain ⟨rfl, rfl⟩ : s' = _ ∧ al' = _ := skipCount_stack h4
    exact ⟨a, r, m, _, rfl, .inl ⟨hv, h2⟩⟩
  | false =>
    rw [hv] at h2 h4
    obtain ⟨rfl, rfl⟩ : _ = r ∧ _ = al := skipCount_stack h2
    exact ⟨a, _, _, _, rfl, .inr ⟨hv, h4⟩⟩

theorem frag_tru_inv (h : frag env ke ctx .tru ⟨s, al, n⟩ = .ok ⟨s', al', n'⟩) : s' = [1] :: s ∧ al' = al := by
  rw [frag_tru] at h; exact pushElem_stack h

theorem frag_fls_inv (h : frag env ke ctx .fls ⟨s, al, n⟩ = .ok ⟨s', al', n'⟩) : s' = [] :: s ∧ al' = al := by
  rw [frag_fls] at h; exact pushElem_stack h

theorem frag_pkK_inv {k : Key} (h : frag env ke ctx (.pkK k) ⟨s, al, n⟩ = .ok ⟨s', al', n'⟩) :
    s' = ke.ser k :: s ∧ al' = al := by
  rw [frag_pkK] at h; exact psh_stack h

theorem hashop_inv {k : HashKind} (h : opc env (hashOpc k) ⟨s, al, n⟩ = .ok ⟨s', al', n'⟩) :
    ∃ a r, s = a :: r ∧ s' = env.hash (SatSpec.hashOpOf k) a :: r ∧ al' = al := by
  obtain ⟨pre, rest, out, p, rfl, hlen, hact, rfl⟩ := opc_inv_act (by cases k <;> decide) h
  cases k <;> obtain ⟨a, rfl⟩ := len1 hlen <;> cases hact <;> exact ⟨a, rest, rfl, rfl, rfl⟩

theorem pkh_inv {hh : Bytes}
    (h : seqOps env [.code .dup, .code .hash160, .push hh, .code .equalverify] ⟨s, al, n⟩ = .ok ⟨s', al', n'⟩) :
    ∃ a r, s = a :: r ∧ s' = a :: r ∧ env.hash .hash160 a = hh ∧ al' = al := by
  obtain ⟨⟨s1, al1, n1⟩, h1, h⟩ := seqOps_cons_ok h
  obtain ⟨⟨s2, al2, n2⟩, h2, h⟩ := seqOps_cons_ok h
  obtain ⟨⟨s3, al3, n3⟩, h3, h⟩ := seqOps_cons_ok h
  obtain ⟨⟨s4, al4, n4⟩, h4, h⟩ := seqOps_cons_ok h
  cases seqOps_nil_ok h
  obtain ⟨a, r, rfl, rfl, rfl⟩ := dup_inv h1
  obtain ⟨_, _, e2, rfl, rfl⟩ := hashop_inv (k := .hash160) h2
  cases e2
  obtain ⟨rfl, rfl⟩ : s3 = hh :: env.hash .hash160 a :: a :: r ∧ al3 = _ := pushData_ok h3
  obtain ⟨_, e4, rfl⟩ := equalverify_inv h4
  cases e4
  exact ⟨a, r, rfl, rfl, rfl, rfl⟩

theorem frag_pkH_inv {k : Key} (h : frag env ke ctx (.pkH k) ⟨s, al, n⟩ = .ok ⟨s', al', n'⟩) :
    ∃ a r, s = a :: r ∧ s' = a :: r ∧ env.hash .hash160 a = ke.pkh k ∧ al' = al := by
  rw [frag_pkH] at h; exact pkh_inv h

theorem frag_rawPkH_inv {k : Nat} (h : frag env ke ctx (.rawPkH k) ⟨s, al, n⟩ = .ok ⟨s', al', n'⟩) :
    ∃ a r, s = a :: r ∧ s' = a :: r ∧ env.hash .hash160 a = ke.rawPkh k ∧ al' = al := by
  rw [frag_rawPkH] at h; exact pkh_inv h

theorem frag_after_inv {k : Nat} (h : frag env ke ctx (.after k) ⟨s, al, n⟩ = .ok ⟨s', al', n'⟩) :
    s' = numEncode (k : Int) :: s ∧ al' = al ∧ ∃ v, numDecode env.flags.minimalNum 5 (numEncode (k : Int)) = some v ∧
      ¬ v < 0 ∧ checkLockTime env v.toNat = true := by
  rw [frag_after] at h
  obtain ⟨⟨s1, al1, n1⟩, h1, h⟩ := seqOps_cons_ok h
  obtain ⟨⟨s2, al2, n2⟩, h2, h⟩ := seqOps_cons_ok h
  cases seqOps_nil_ok h
  obtain ⟨rfl, rfl⟩ := pushInt_inv h1
  obtain ⟨a, r, v, e, rfl, rfl, hv, hneg, hc⟩ := cltv_inv h2
  cases e
  exact ⟨rfl, rfl, v, hv, hneg, hc⟩

theorem frag_older_inv {k : Nat} (h : frag env ke ctx (.older k) ⟨s, al, n⟩ = .ok ⟨s', al', n'⟩) :
    s' = numEncode (k : Int) :: s ∧ al' = al ∧ ∃ v, numDecode env.flags.minimalNum 5 (numEncode (k : Int)) = some v ∧
      ¬ v < 0 ∧ (((v.toNat / SEQ_DISABLE) % 2 == 1) = true ∨ checkSequence env v.toNat = true) := by
  rw [frag_older] at h
  obtain ⟨⟨s1, al1, n1⟩, h1, h⟩ := seqOps_cons_ok h
  obtain ⟨⟨s2, al2, n2⟩, h2, h⟩ := seqOps_cons_ok h
  cases seqOps_nil_ok h
  obtain ⟨rfl, rfl⟩ := pushInt_inv h1
  obtain ⟨a, r, v, e, rfl, rfl, hv, hneg, hc⟩ := csv_inv h2
  cases e
  exact ⟨rfl, rfl, v, hv, hneg, hc⟩

theorem frag_hash_inv {kind : HashKind} {hh : Nat}
    (h : frag env ke ctx (.hash kind hh) ⟨s, al, n⟩ = .ok ⟨s', al', n'⟩) :
    ∃ a r, s = a :: r ∧ numEncode (a.length : Int) = numEncode ((32 : Nat) : Int) ∧ al' = al ∧
      s' = boolBytes (ke.hashVal kind hh == env.hash (SatSpec.hashOpOf kind) a) :: r := by
  rw [frag_hash] at h
  obtain ⟨⟨s1, al1, n1⟩, h1, h⟩ := seqOps_cons_ok h
  obtain ⟨⟨s2, al2, n2⟩, h2, h⟩ := seqOps_cons_ok h
  obtain ⟨⟨s3, al3, n3⟩, h3, h⟩ := seqOps_cons_ok h
  obtain ⟨⟨s4, al4, n4⟩, h4, h⟩ := seqOps_cons_ok h
  obtain ⟨⟨s5, al5, n5⟩, h5, h⟩ := seqOps_cons_ok h
  obtain ⟨⟨s6, al6, n6⟩, h6, h⟩ := seqOps_cons_ok h
  cases seqOps_nil_ok h
  obtain ⟨a, r, rfl, rfl, rfl⟩ := size_inv h1
  obtain ⟨rfl, rfl⟩ := pushInt_inv h2
  obtain ⟨_, e3, rfl⟩ := equalverify_inv h3
  simp only [List.cons.injEq] at e3
  obtain ⟨rfl, e3, rfl⟩ := e3
  obtain ⟨_, _, e4, rfl, rfl⟩ := hashop_inv h4
  cases e4
  obtain ⟨rfl, rfl⟩ : s5 = ke.hashVal kind hh :: _ ∧ al5 = _ := pushData_ok h5
  obtain ⟨_, _, _, e6, rfl, rfl⟩ := equal_inv h6
  cases e6
  exact ⟨_, _, rfl, e3, rfl, rfl⟩

theorem frag_alt_inv {x : Ms} (h : frag env ke ctx (.alt x) ⟨s, al, n⟩ = .ok ⟨s', al', n'⟩) :
    ∃ a r b r' m m', s = a :: r ∧ s' = b :: r' ∧ frag env ke ctx x ⟨r, a :: al, m⟩ = .ok ⟨r', b :: al', m'⟩ := by
  rw [frag_alt] at h
  obtain ⟨⟨s1, al1, n1⟩, h1, h⟩ := bind_ok h
  obtain ⟨⟨s2, al2, n2⟩, h2, h3⟩ := bind_ok h
  obtain ⟨a, rfl, rfl⟩ := toalt_inv h1
  obtain ⟨b, rfl, rfl⟩ := fromalt_inv h3
  exact ⟨_, _, _, _, _, _, rfl, rfl, h2⟩

theorem frag_swap_inv {x : Ms} (h : frag env ke ctx (.swap x) ⟨s, al, n⟩ = .ok ⟨s', al', n'⟩) :
    ∃ a b r m, s = a :: b :: r ∧ frag env ke ctx x ⟨b :: a :: r, al, m⟩ = .ok ⟨s', al', n'⟩ := by
  rw [frag_swap] at h
  obtain ⟨⟨s1, al1, n1⟩, h1, h2⟩ := bind_ok h
  obtain ⟨a, b, r, rfl, rfl, rfl⟩ := swap_inv h1
  exact ⟨_, _, _, _, rfl, h2⟩

/-- the CHECKSIG step is also given as a run, for statements about `X` that speak of it -/
theorem frag_check_inv {x : Ms} (h : frag env ke ctx (.check x) ⟨s, al, n⟩ = .ok ⟨s', al', n'⟩) :
    ∃ pk sg r b m, frag env ke ctx x ⟨s, al, n⟩ = .ok ⟨pk :: sg :: r, al', m⟩ ∧ checkSig env sg pk = .ok b ∧
      s' = boolBytes b :: r ∧ opc env .checksig ⟨pk :: sg :: r, al', m⟩ = .ok ⟨s', al', n'⟩ := by
  rw [frag_check] at h
  obtain ⟨⟨s1, al1, n1⟩, h1, h2⟩ := bind_ok h
  obtain ⟨pk, sg, r, b, rfl, hc, rfl, rfl⟩ := checksig_inv h2
  exact ⟨_, _, _, _, _, h1, hc, rfl, h2⟩

theorem frag_dupIf_inv {x : Ms} (h : frag env ke ctx (.dupIf x) ⟨s, al, n⟩ = .ok ⟨s', al', n'⟩) :
    ∃ a r, s = a :: r ∧ ((castToBool a = true ∧ ∃ m m', frag env ke ctx x ⟨a :: r, al, m⟩ = .ok ⟨s', al', m'⟩) ∨
      (castToBool a = false ∧ s' = a :: r ∧ al' = al)) := by
  rw [frag_dupIf] at h
  obtain ⟨⟨s1, al1, n1⟩, h1, h2⟩ := bind_ok h
  obtain ⟨a, r, rfl, rfl, rfl⟩ := dup_inv h1
  obtain ⟨_, _, m, e, hc⟩ := ifThen_inv h2
  cases e
  exact ⟨_, _, rfl, hc.imp (fun ⟨hf, m', h3⟩ => ⟨hf, m, m', h3⟩) id⟩

theorem frag_verify_inv {x : Ms} (h : frag env ke ctx (.verify x) ⟨s, al, n⟩ = .ok ⟨s', al', n'⟩) :
    ∃ v m, frag env ke ctx x ⟨s, al, n⟩ = .ok ⟨v :: s', al', m⟩ ∧ castToBool v = true := by
  rw [frag_verify] at h
  obtain ⟨⟨s1, al1, n1⟩, h1, h2⟩ := bind_ok h
  obtain ⟨v, rfl, hv, rfl⟩ := verifyTail_inv h2
  exact ⟨_, _, h1, hv⟩

theorem frag_nonZero_inv {x : Ms} (h : frag env ke ctx (.nonZero x) ⟨s, al, n⟩ = .ok ⟨s', al', n'⟩) :
    ∃ a r, s = a :: r ∧ ((a = [] ∧ s' = [] :: r ∧ al' = al) ∨
      ∃ m m', frag env ke ctx x ⟨a :: r, al, m⟩ = .ok ⟨s', al', m'⟩) := by
  rw [frag_nonZero] at h
  obtain ⟨⟨s1, al1, n1⟩, h1, h⟩ := bind_ok h
  obtain ⟨⟨s2, al2, n2⟩, h2, h3⟩ := bind_ok h
  obtain ⟨a, r, rfl, rfl, rfl⟩ := size_inv h1
  obtain ⟨_, _, z, e, hz, rfl, rfl⟩ := zeronotequal_inv h2
  cases e
  obtain ⟨_, _, m, e, hc⟩ := ifThen_inv h3
  cases e
  refine ⟨a, r, rfl, ?_⟩
  rcases hc with ⟨_, m', h4⟩ | ⟨hf, rfl, rfl⟩
  · exact .inr ⟨m, m', h4⟩
  · -- the flag is `boolBytes (z != 0)`: `z = 0`, and only the size of `[]` decodes to 0
    have hz0 : z = 0 := by
      cases hb : (z != 0)
      · simpa using hb
      · rw [hb] at hf; cases hf
    subst hz0
    have := numDecode_numEncode_inv (num4_ok hz)
    cases List.eq_nil_of_length_eq_zero (l := a) (by omega)
    exact .inl ⟨rfl, rfl, rfl⟩

theorem frag_zeroNotEqual_inv {x : Ms} (h : frag env ke ctx (.zeroNotEqual x) ⟨s, al, n⟩ = .ok ⟨s', al', n'⟩) :
    ∃ v r m, frag env ke ctx x ⟨s, al, n⟩ = .ok ⟨v :: r, al', m⟩ ∧ s' = boolBytes (castToBool v) :: r := by
  rw [frag_zeroNotEqual] at h
  obtain ⟨⟨s1, al1, n1⟩, h1, h2⟩ := bind_ok h
  obtain ⟨v, r, z, rfl, hz, rfl, rfl⟩ := zeronotequal_inv h2
  refine ⟨v, r, _, h1, ?_⟩
  cases hv : castToBool v with
  | false => cases falsy_decodes_zero hv (num4_ok hz); rfl
  | true =>
    have : (z != 0) = true := by simpa using truthy_decodes_nonzero hv (num4_ok hz)
    rw [this]

theorem frag_andV_inv {l r : Ms} (h : frag env ke ctx (.andV l r) ⟨s, al, n⟩ = .ok ⟨s', al', n'⟩) :
    ∃ s1 al1 m, frag env ke ctx l ⟨s, al, n⟩ = .ok ⟨s1, al1, m⟩ ∧ frag env ke ctx r ⟨s1, al1, m⟩ = .ok ⟨s', al', n'⟩ := by
  rw [frag_andV] at h
  obtain ⟨⟨s1, al1, m⟩, h1, h2⟩ := bind_ok h
  exact ⟨_, _, _, h1, h2⟩

theorem frag_andB_inv {l r : Ms} (h : frag env ke ctx (.andB l r) ⟨s, al, n⟩ = .ok ⟨s', al', n'⟩) :
    ∃ s1 al1 m a b r' x y m', frag env ke ctx l ⟨s, al, n⟩ = .ok ⟨s1, al1, m⟩ ∧
      frag env ke ctx r ⟨s1, al1, m⟩ = .ok ⟨a :: b :: r', al', m'⟩ ∧ num4 env a = .ok x ∧ num4 env b = .ok y ∧
      s' = boolBytes (x != 0 && y != 0) :: r' := by
  rw [frag_andB] at h
  obtain ⟨⟨s1, al1, m⟩, h1, h⟩ := bind_ok h
  obtain ⟨⟨s2, al2, m'⟩, h2, h3⟩ := bind_ok h
  obtain ⟨a, b, r', x, y, rfl, hx, hy, rfl, rfl⟩ := booland_inv h3
  exact ⟨_, _, _, _, _, _, _, _, _, h1, h2, hx, hy, rfl⟩

theorem frag_orB_inv {l r : Ms} (h : frag env ke ctx (.orB l r) ⟨s, al, n⟩ = .ok ⟨s', al', n'⟩) :
    ∃ s1 al1 m a b r' x y m', frag env ke ctx l ⟨s, al, n⟩ = .ok ⟨s1, al1, m⟩ ∧
      frag env ke ctx r ⟨s1, al1, m⟩ = .ok ⟨a :: b :: r', al', m'⟩ ∧ num4 env a = .ok x ∧ num4 env b = .ok y ∧
      s' = boolBytes (x != 0 || y != 0) :: r' := by
  rw [frag_orB] at h
  obtain ⟨⟨s1, al1, m⟩, h1, h⟩ := bind_ok h
  obtain ⟨⟨s2, al2, m'⟩, h2, h3⟩ := bind_ok h
  obtain ⟨a, b, r', x, y, rfl, hx, hy, rfl, rfl⟩ := boolor_inv h3
  exact ⟨_, _, _, _, _, _, _, _, _, h1, h2, hx, hy, rfl⟩

theorem frag_andOr_inv {x y z : Ms} (h : frag env ke ctx (.andOr x y z) ⟨s, al, n⟩ = .ok ⟨s', al', n'⟩) :
    ∃ v s1 al1 m m1 m2, frag env ke ctx x ⟨s, al, n⟩ = .ok ⟨v :: s1, al1, m⟩ ∧
      ((castToBool v = true ∧ frag env ke ctx y ⟨s1, al1, m1⟩ = .ok ⟨s', al', m2⟩) ∨
       (castToBool v = false ∧ frag env ke ctx z ⟨s1, al1, m1⟩ = .ok ⟨s', al', m2⟩)) := by
  rw [frag_andOr] at h
  obtain ⟨⟨s1, al1, m⟩, h1, h2⟩ := bind_ok h
  obtain ⟨v, r, m1, m2, rfl, hc⟩ := ifElse_inv h2
  refine ⟨v, r, al1, m, m1, m2, h1, ?_⟩
  rcases hc with ⟨hf, h3⟩ | ⟨hf, h3⟩
  · exact .inr ⟨by simpa [condFlag] using hf, h3⟩
  · exact .inl ⟨by simpa [condFlag] using hf, h3⟩

theorem frag_orD_inv {l r : Ms} (h : frag env ke ctx (.orD l r) ⟨s, al, n⟩ = .ok ⟨s', al', n'⟩) :
    ∃ v s1 al1 m, frag env ke ctx l ⟨s, al, n⟩ = .ok ⟨v :: s1, al1, m⟩ ∧
      ((castToBool v = true ∧ s' = v :: s1 ∧ al' = al1) ∨
       (castToBool v = false ∧ ∃ m1 m2, frag env ke ctx r ⟨s1, al1, m1⟩ = .ok ⟨s', al', m2⟩)) := by
  rw [frag_orD] at h
  obtain ⟨⟨s1, al1, m⟩, h1, h⟩ := bind_ok h
  obtain ⟨⟨s2, al2, m'⟩, h2, h3⟩ := bind_ok h
  obtain ⟨v, r', rfl, rfl, rfl⟩ := ifdup_inv h2
  obtain ⟨a, r1, m1, e, hc⟩ := ifThen_inv h3
  refine ⟨v, r', al2, m, h1, ?_⟩
  cases hv : castToBool v with
  | true =>
    rw [hv, if_pos rfl] at e
    cases e
    rcases hc with ⟨hf, _⟩ | ⟨_, e1, e2⟩
    · simp [condFlag, hv] at hf
    · exact .inl ⟨rfl, e1, e2⟩
  | false =>
    rw [hv, if_neg (by simp)] at e
    cases e
    rcases hc with ⟨_, m2, h4⟩ | ⟨hf, _⟩
    · exact .inr ⟨rfl, m1, m2, h4⟩
    · simp [condFlag, hv] at hf

theorem frag_orC_inv {l r : Ms} (h : frag env ke ctx (.orC l r) ⟨s, al, n⟩ = .ok ⟨s', al', n'⟩) :
    ∃ v s1 al1 m, frag env ke ctx l ⟨s, al, n⟩ = .ok ⟨v :: s1, al1, m⟩ ∧
      ((castToBool v = true ∧ s' = s1 ∧ al' = al1) ∨
       (castToBool v = false ∧ ∃ m1 m2, frag env ke ctx r ⟨s1, al1, m1⟩ = .ok ⟨s', al', m2⟩)) := by
  rw [frag_orC] at h
  obtain ⟨⟨s1, al1, m⟩, h1, h2⟩ := bind_ok h
  obtain ⟨v, r1, m1, rfl, hc⟩ := ifThen_inv h2
  refine ⟨v, r1, al1, m, h1, ?_⟩
  rcases hc with ⟨hf, m2, h4⟩ | ⟨hf, e1, e2⟩
  · exact .inr ⟨by simpa [condFlag] using hf, m1, m2, h4⟩
  · exact .inl ⟨by simpa [condFlag] using hf, e1, e2⟩

theorem frag_orI_inv {l r : Ms} (h : frag env ke ctx (.orI l r) ⟨s, al, n⟩ = .ok ⟨s', al', n'⟩) :
    ∃ v s1 m m', s = v :: s1 ∧
      ((castToBool v = true ∧ frag env ke ctx l ⟨s1, al, m⟩ = .ok ⟨s', al', m'⟩) ∨
       (castToBool v = false ∧ frag env ke ctx r ⟨s1, al, m⟩ = .ok ⟨s', al', m'⟩)) := by
  rw [frag_orI] at h
  exact ifElse_inv h

theorem frag_thresh_inv {k : Nat} {xs : MsList} (h : frag env ke ctx (.thresh k xs) ⟨s, al, n⟩ = .ok ⟨s', al', n'⟩) :
    ∃ v r m, fragThresh env ke ctx true xs ⟨s, al, n⟩ = .ok ⟨v :: r, al', m⟩ ∧
      s' = boolBytes (numEncode (k : Int) == v) :: r := by
  rw [frag_thresh] at h
  obtain ⟨⟨s1, al1, m⟩, h1, h⟩ := bind_ok h
  obtain ⟨⟨s2, al2, n2⟩, h2, h⟩ := seqOps_cons_ok h
  obtain ⟨⟨s3, al3, n3⟩, h3, h⟩ := seqOps_cons_ok h
  cases seqOps_nil_ok h
  obtain ⟨rfl, rfl⟩ := pushInt_inv h2
  obtain ⟨_, v, r, e, rfl, rfl⟩ := equal_inv h3
  cases e
  exact ⟨v, r, m, h1, rfl⟩

theorem fragThresh_nil_inv {first : Bool} (h : fragThresh env ke ctx first .nil ⟨s, al, n⟩ = .ok ⟨s', al', n'⟩) :
    s' = s ∧ al' = al := by
  cases h; exact ⟨rfl, rfl⟩

theorem fragThresh_first_inv {x : Ms} {xs : MsList}
    (h : fragThresh env ke ctx true (.cons x xs) ⟨s, al, n⟩ = .ok ⟨s', al', n'⟩) :
    ∃ s1 al1 m, frag env ke ctx x ⟨s, al, n⟩ = .ok ⟨s1, al1, m⟩ ∧
      fragThresh env ke ctx false xs ⟨s1, al1, m⟩ = .ok ⟨s', al', n'⟩ := by
  rw [fragThresh_cons] at h
  obtain ⟨⟨s1, al1, m⟩, h1, h⟩ := bind_ok h
  obtain ⟨c2, h2, h3⟩ := bind_ok h
  cases h2
  exact ⟨_, _, _, h1, h3⟩

theorem fragThresh_add_inv {x : Ms} {xs : MsList}
    (h : fragThresh env ke ctx false (.cons x xs) ⟨s, al, n⟩ = .ok ⟨s', al', n'⟩) :
    ∃ a b r al1 m p q m1, frag env ke ctx x ⟨s, al, n⟩ = .ok ⟨a :: b :: r, al1, m⟩ ∧ num4 env a = .ok p ∧
      num4 env b = .ok q ∧ fragThresh env ke ctx false xs ⟨numEncode (q + p) :: r, al1, m1⟩ = .ok ⟨s', al', n'⟩ := by
  rw [fragThresh_cons] at h
  obtain ⟨⟨s1, al1, m⟩, h1, h⟩ := bind_ok h
  obtain ⟨⟨s2, al2, m1⟩, h2, h3⟩ := bind_ok h
  obtain ⟨a, b, r, p, q, rfl, hp, hq, rfl, rfl⟩ := add_inv h2
  exact ⟨_, _, _, _, _, _, _, _, h1, hp, hq, h3⟩

theorem multiA_tail_inv {k : Nat} {chain : List Op}
    (h : seqOps env (chain ++ [pushInt k, .code .numequal]) ⟨s, al, n⟩ = .ok ⟨s', al', n'⟩) :
    ∃ v r m x y, seqOps env chain ⟨s, al, n⟩ = .ok ⟨v :: r, al', m⟩ ∧ num4 env (numEncode (k : Int)) = .ok x ∧
      num4 env v = .ok y ∧ s' = boolBytes (x == y) :: r := by
  obtain ⟨⟨s1, al1, m⟩, h1, h⟩ := seqOps_append_ok h
  obtain ⟨⟨s2, al2, n2⟩, h2, h⟩ := seqOps_cons_ok h
  obtain ⟨⟨s3, al3, n3⟩, h3, h⟩ := seqOps_cons_ok h
  cases seqOps_nil_ok h
  obtain ⟨rfl, rfl⟩ := pushInt_inv h2
  obtain ⟨_, v, r, x, y, e, hx, hy, rfl, rfl⟩ := numequal_inv h3
  cases e
  exact ⟨v, r, m, x, y, h1, hx, hy, rfl⟩

theorem multiA_head_inv {k : Key} {ks : List Key} {c' : Core}
    (h : seqOps env (encodeMultiA ke (k :: ks)) ⟨s, al, n⟩ = .ok c') :
    ∃ sg r b m, s = sg :: r ∧ checkSig env sg (ke.ser k) = .ok b ∧
      seqOps env (ks.flatMap fun pk => [Op.push (ke.ser pk), .code .checksigadd]) ⟨boolBytes b :: r, al, m⟩ = .ok c' := by
  obtain ⟨⟨s1, al1, n1⟩, h1, h⟩ := seqOps_cons_ok (show seqOps env (Op.push (ke.ser k) :: .code .checksig ::
    ks.flatMap fun pk => [Op.push (ke.ser pk), .code .checksigadd]) ⟨s, al, n⟩ = .ok c' from h)
  obtain ⟨⟨s2, al2, m⟩, h2, h3⟩ := seqOps_cons_ok h
  obtain ⟨rfl, rfl⟩ : s1 = ke.ser k :: s ∧ al1 = al := pushData_ok h1
  obtain ⟨_, sg, r, b, e, hc, rfl, rfl⟩ := checksig_inv h2
  cases e
  exact ⟨sg, r, b, m, rfl, hc, h3⟩

theorem csa_step_inv {k : Key} {ks : List Key} {c' : Core}
    (h : seqOps env ((k :: ks).flatMap fun pk => [Op.push (ke.ser pk), .code .checksigadd]) ⟨s, al, n⟩ = .ok c') :
    ∃ acc sg r v b m, s = acc :: sg :: r ∧ num4 env acc = .ok v ∧ checkSig env sg (ke.ser k) = .ok b ∧
      seqOps env (ks.flatMap fun pk => [Op.push (ke.ser pk), .code .checksigadd])
        ⟨numEncode (v + (if b then 1 else 0)) :: r, al, m⟩ = .ok c' := by
  obtain ⟨⟨s1, al1, n1⟩, h1, h⟩ := seqOps_cons_ok (show seqOps env (Op.push (ke.ser k) :: .code .checksigadd ::
    ks.flatMap fun pk => [Op.push (ke.ser pk), .code .checksigadd]) ⟨s, al, n⟩ = .ok c' from h)
  obtain ⟨⟨s2, al2, m⟩, h2, h3⟩ := seqOps_cons_ok h
  obtain ⟨rfl, rfl⟩ : s1 = ke.ser k :: s ∧ al1 = al := pushData_ok h1
  obtain ⟨_, acc, sg, r, v, b, e, hv, hc, rfl, rfl⟩ := checksigadd_inv h2
  cases e
  exact ⟨acc, sg, r, v, b, m, rfl, hv, hc, h3⟩

end MsVerif.TypeSound
