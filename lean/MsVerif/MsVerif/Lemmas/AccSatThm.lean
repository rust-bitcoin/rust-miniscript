/-
C02 T2: if a typed fragment (no raw pkh) runs to completion and is SATISFIED
(B/W: leaves a true value, V: completes, K: the following CHECKSIG verifies), in an environment
that accepts only what the caller's assets allow (`EnvOK`), then the specification's table has a
satisfaction from those assets (`satEx`).  It is the field `sat` of `TypeSound.Sound`, proved by `TypeSound.sound_frag`; `soundTail`: the same for the further children of `thresh` (`TypeSound.soundTail_of` at `sound_frag`: the counter grows by at most `countCanSat`).  Stack limits off.
-/
import MsVerif.Lemmas.AccSatOps
import MsVerif.Lemmas.TypeSoundMain


namespace MsVerif.AccSat
open MsVerif MsVerif.Script MsVerif.TypeSound MsVerif.SatTable MsVerif.Complete

section
variable {env : Env} {ke : KeyEnv} {av : Avail}

theorem sound (hlim : env.flags.stackLimits = false) (henv : EnvOK env ke av) (ctx : Ctx) :
    (ms : Ms) → WF ms → ∀ (τ : Ty), typeOf ms = some τ →
      ∀ (c c' : Core), frag env ke ctx ms c = .ok c' →
        SatS env (satEx av ms = true) τ.corr.base c.stack c' :=
  fun ms hw τ h c c' hr => (sound_frag hlim ke ctx ms hw.w τ h c c' hr).sat av henv hw

theorem soundTail (hlim : env.flags.stackLimits = false) (henv : EnvOK env ke av) (ctx : Ctx) :
    (xs : MsList) → WFL xs → ∀ (ts : List Ty), typesOf xs = some ts →
      ∀ (i acc n : Nat), i ≠ 0 → Corr.threshLoop i acc (ts.map (·.corr)) = some n →
        ∀ (c c' : Core) (a : Bytes) (tl : List Bytes), fragThresh env ke ctx false xs c = .ok c' →
          c.stack = a :: tl → (∀ y, num4 env a = .ok y → 0 ≤ y) →
          (xs = .nil ∧ c' = c) ∨
          (∃ (y t : Int) (r : List Bytes), num4 env a = .ok y ∧ 0 ≤ t ∧ t ≤ (countCanSat av xs : Int) ∧
            c'.stack = numEncode (y + t) :: r) :=
  fun xs hw ts hts i acc n hi hl c c' a tl hr hst ha => by
    obtain ⟨s, al, m⟩ := c
    cases (show s = a :: tl from hst)
    exact soundTail_of henv ctx xs (fun x _ hw τ h _ _ _ _ _ _ hr => sound_frag hlim ke ctx x hw τ h _ _ hr)
      hw ts hts i acc n hi hl _ _ _ _ _ _ _ hr ha

end

end MsVerif.AccSat

