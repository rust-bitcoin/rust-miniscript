/-
Every well-typed, well-formed fragment is `Sound`: induction on the typing derivation; the case of a rule
is the constructor's lemma of SatCases / SatCasesN / SatThresh or, where the row of `satDissat` is a plain
composition, that composition in terms of `To`.
-/
import MsVerif.Lemmas.SatThresh
import MsVerif.Lemmas.SatShape

namespace MsVerif.SatSpec
open MsVerif Script

variable {env : Env} {σ : Ph → Bytes} {cfg : SatCfg}

theorem match2_some {α β : Type} {o1 o2 : Option α} {f : α → α → Option β} {b : β}
    (h : (match o1, o2 with | some a, some b => f a b | _, _ => none) = some b) :
    ∃ a1 a2, o1 = some a1 ∧ o2 = some a2 ∧ f a1 a2 = some b := by
  cases o1 <;> cases o2 <;> simp at h; exact ⟨_, _, rfl, rfl, h⟩

theorem match3_some {α β : Type} {o1 o2 o3 : Option α} {f : α → α → α → Option β} {b : β}
    (h : (match o1, o2, o3 with | some a, some b, some c => f a b c | _, _, _ => none) = some b) :
    ∃ a1 a2 a3, o1 = some a1 ∧ o2 = some a2 ∧ o3 = some a3 ∧ f a1 a2 a3 = some b := by
  cases o1 <;> cases o2 <;> cases o3 <;> simp at h; exact ⟨_, _, _, rfl, rfl, rfl, h⟩

theorem sounds_of (h : EnvOk env cfg.ctx) (hag : Agrees env cfg.env cfg.assets σ) {xs : MsList}
    {ts : List Ty} (d : HasTypes xs ts) :
    WFs cfg.ctx xs → SoundList env σ cfg xs (ts.map (·.corr)) := by
  induction d using HasTypes.rec (motive_1 := fun ms τ _ =>
    WF cfg.ctx ms → Sound env cfg.env cfg.ctx σ τ.corr ms (satDissat cfg ms)) with
  | fls => exact fls_case h
  | tru => exact tru_case h
  | @pkK k => exact pkK_case h hag k
  | @pkH k => exact pkH_case h hag k (pkLen cfg.env cfg.ctx k)
  | @rawPkH x => exact rawPkH_case h hag x
  | @after n => exact after_case h n ‹_›
  | @older n => exact older_case h n ‹_›
  | @hash kind x => exact hash_case h hag kind x
  | @multi k ks => exact multi_case h hag k ks ‹_›
  | @sortedMulti k ks => exact sortedMulti_case h hag k ks ‹_›
  | @multiA k ks => exact multiA_case h hag k ks ‹_›
  | @sortedMultiA k ks => exact sortedMultiA_case h hag k ks ‹_›
  | alt _ hB ih =>
    rename_i hwf
    exact alt_case h ⟨hB, rfl, rfl⟩ (ih hwf)
  | swap hx hB hin ih =>
    rename_i hwf
    exact swap_case h ⟨hB, rfl, rfl, hin⟩ (ih hwf) (shape_of cfg hag hx hwf)
  | check _ hK ih =>
    rename_i hwf
    refine .of_to nofun (((ih hwf).satTo (ne_W_of_eq hK)).via fun e hf => ?_)
      (((ih hwf).disTo (ne_W_of_eq hK)).via fun e hf => ?_)
    · obtain ⟨pk, sig, rfl, hs⟩ := (SatPost.K hK).1 e
      exact ⟨_, frag_check h.nl hf hs, .one rfl⟩
    · obtain ⟨pk, rfl, hpk⟩ := (DisPost.K hK).1 e
      exact ⟨_, frag_check h.nl hf (checkSig_empty hpk), .nil rfl⟩
  | dupIf hx hV hz ih =>
    rename_i hwf
    exact dupIf_case h hag ⟨hV, hz, rfl⟩ (ih hwf) (shape_of cfg hag hx hwf)
  | verify _ hB ih =>
    rename_i hwf
    refine .of_to nofun (((ih hwf).satTo (ne_W_of_eq hB)).via fun e hf => ?_) .impossible
    obtain ⟨v, rfl, hv, _⟩ := (SatPost.B hB).1 e
    exact ⟨_, frag_verify h.nl hf hv.1, (SatPost.V rfl).2 rfl⟩
  | nonZero hx hB hin ih =>
    rename_i hwf
    exact nonZero_case h hag ⟨hB, rfl, rfl, hin⟩ (ih hwf) (shape_of cfg hag hx hwf)
  | zeroNotEqual _ hB ih =>
    rename_i hwf
    refine .of_to nofun (((ih hwf).satTo (ne_W_of_eq hB)).via fun e hf => ?_)
      (((ih hwf).disTo (ne_W_of_eq hB)).via fun e hf => ?_)
    · obtain ⟨v, rfl, ⟨_, n, hn, hn0⟩, _⟩ := (SatPost.B hB).1 e
      exact ⟨_, by simpa [hn0, boolBytes] using frag_zeroNotEqual h.nl hf hn, .one rfl⟩
    · cases (DisPost.B hB).1 e
      exact ⟨_, by simpa [boolBytes] using frag_zeroNotEqual h.nl hf (num4_nil env), .nil rfl⟩
  | andV _ _ hV hW il ir =>
    rename_i hwf
    have L := (il hwf.1).satTo (ne_W_of_eq hV)
    exact .of_to hW ((L.concatV hV ((ir hwf.2).satTo hW) frag_andV).monoSat rfl id)
      ((L.concatV hV ((ir hwf.2).disTo hW) frag_andV).monoDis rfl)
  | andB _ _ hB hW il ir =>
    rename_i hwf
    exact andB_case h ⟨hB, hW, rfl⟩ (il hwf.1) (ir hwf.2)
  | orB _ _ hB hW _ _ il ir =>
    rename_i hwf
    exact orB_case h ⟨hB, hW, rfl⟩ (il hwf.1) (ir hwf.2)
  | orD _ _ hlB hrB _ hu il ir =>
    rename_i hwf
    have Lf := (il hwf.1).disTo (ne_W_of_eq hlB)
    have hrW := ne_W_of_eq hrB
    exact .of_to nofun
      (.min (((il hwf.1).satTo (ne_W_of_eq hlB)).viaT hlB hu fun hf => ⟨_, frag_orD_left h.nl hf, .one rfl⟩)
        ((Lf.concatF hlB ((ir hwf.2).satTo hrW) (frag_orD_right h.nl)).monoSat hrB.symm id))
      ((Lf.concatF hlB ((ir hwf.2).disTo hrW) (frag_orD_right h.nl)).monoDis hrB.symm)
  | orC _ _ hlB hrV _ hu il ir =>
    rename_i hwf
    exact .of_to nofun
      (.min (((il hwf.1).satTo (ne_W_of_eq hlB)).viaT hlB hu fun hf =>
          ⟨_, frag_orC_left h.nl hf, (SatPost.V rfl).2 rfl⟩)
        ((((il hwf.1).disTo (ne_W_of_eq hlB)).concatF hlB ((ir hwf.2).satTo (ne_W_of_eq hrV))
          (frag_orC_right h.nl)).mono fun _ _ hp => (SatPost.V rfl).2 ((SatPost.V hrV).1 hp)))
      .impossible
  | @orI l r _ _ _ _ hab hW il ir =>
    rename_i hwf
    have hrW := hab ▸ hW
    have gl {s out} (hf : Runs (frag env cfg.env cfg.ctx l) s out) :
        Runs (frag env cfg.env cfg.ctx (.orI l r)) (σ .pushOne :: s) out :=
      hag.pushOne ▸ frag_orI_left h.nl hf
    have gr {s out} (hf : Runs (frag env cfg.env cfg.ctx r) s out) :
        Runs (frag env cfg.env cfg.ctx (.orI l r)) (σ .pushZero :: s) out :=
      hag.pushZero ▸ frag_orI_right h.nl hf
    exact .of_to hW
      (.min ((((il hwf.1).satTo hW).push gl).monoSat rfl fun hu => ((Bool.and_eq_true _ _).mp hu).1)
        ((((ir hwf.2).satTo hrW).push gr).monoSat hab fun hu => ((Bool.and_eq_true _ _).mp hu).2))
      (.min ((((il hwf.1).disTo hW).push gl).monoDis rfl) ((((ir hwf.2).disTo hrW).push gr).monoDis hab))
  | andOr _ _ _ hB _ hu hbc hW ia ib ic =>
    rename_i hwf
    have Lt := (ia hwf.1).satTo (ne_W_of_eq hB)
    have Lf := (ia hwf.1).disTo (ne_W_of_eq hB)
    have hzW := hbc ▸ hW
    exact .of_to hW
      (.min ((Lt.concatT hB hu ((ib hwf.2.1).satTo hW) (frag_andOr_true h.nl)).monoSat rfl fun hu =>
          ((Bool.and_eq_true _ _).mp hu).1)
        ((Lf.concatF hB ((ic hwf.2.2).satTo hzW) (frag_andOr_false h.nl)).monoSat hbc fun hu =>
          ((Bool.and_eq_true _ _).mp hu).2))
      ((Lf.concatF hB ((ic hwf.2.2).disTo hzW) (frag_andOr_false h.nl)).monoDis hbc)
  | threshNil =>
    rename_i hwf
    exact absurd (Nat.le_trans hwf.1 hwf.2.1) (by simp [MsList.length])
  | thresh _ _ hB hu _ hrest ix ixs =>
    rename_i hwf
    refine thresh_case h _ _ _ _ _ _ hwf rfl ⟨hB, hu⟩ (fun c hc => ?_) ⟨ix hwf.2.2.2.1, ixs hwf.2.2.2.2⟩
    obtain ⟨s, hs, rfl⟩ := List.mem_map.mp hc
    exact ⟨(hrest s hs).1, (hrest s hs).2.1⟩
  | nil => exact fun _ => trivial
  | cons _ _ ix ixs => exact fun hwf => ⟨ix hwf.1, ixs hwf.2⟩

theorem sound_of (h : EnvOk env cfg.ctx) (hag : Agrees env cfg.env cfg.assets σ) {ms : Ms} {τ : Ty}
    (d : HasType ms τ) (hwf : WF cfg.ctx ms) : Sound env cfg.env cfg.ctx σ τ.corr ms (satDissat cfg ms) :=
  (sounds_of h hag (.cons d .nil) ⟨hwf, trivial⟩).1

theorem sound_all (h : EnvOk env cfg.ctx) (hag : Agrees env cfg.env cfg.assets σ) (ms : Ms) (τ : Ty)
    (hwf : WF cfg.ctx ms) (hty : typeOf ms = some τ) :
    Sound env cfg.env cfg.ctx σ τ.corr ms (satDissat cfg ms) :=
  sound_of h hag (.of_typeOf ms hty) hwf

end MsVerif.SatSpec
