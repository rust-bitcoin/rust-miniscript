/-
`NumOk n` for every `n < 2^31`, from the round trip of script numbers (Lemmas/CoreNum.lean).
-/
import MsVerif.Lemmas.SatNumDef
import MsVerif.Lemmas.CoreNum
namespace MsVerif.SatSpec
open MsVerif Script

theorem numOk_of_lt (n : Nat) (h : n < 2147483648) : NumOk n :=
  ⟨numDecode_numEncode h, fun h0 => castToBool_numEncode h0 h⟩

end MsVerif.SatSpec
