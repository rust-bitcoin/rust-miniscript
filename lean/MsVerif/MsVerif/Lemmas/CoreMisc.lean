import MsVerif.Model.Ast

theorem List.all_and {α} (l : List α) (p q : α → Bool) :
    l.all (fun a => p a && q a) = (l.all p && l.all q) := by
  induction l with
  | nil => rfl
  | cons a l ih => simp only [List.all_cons, ih]; cases p a <;> cases q a <;> simp

theorem List.eq_dropLast_append_of_getLast? {α} (l : List α) (a : α) (h : l.getLast? = some a) :
    l = l.dropLast ++ [a] := by
  obtain ⟨ys, rfl⟩ := List.getLast?_eq_some_iff.mp h
  rw [List.dropLast_concat]

theorem Except.bind_ok {ε α β} (f : α → Except ε β) (a : α) :
    ((Except.ok a : Except ε α) >>= f) = f a := rfl

theorem Except.bind_error {ε α β} (f : α → Except ε β) (e : ε) :
    ((Except.error e : Except ε α) >>= f) = .error e := rfl

namespace MsVerif

theorem MsList.ofList_toList : (xs : MsList) → MsList.ofList xs.toList = xs
  | .nil => rfl
  | .cons x xs => by simp [MsList.toList, MsList.ofList, MsList.ofList_toList xs]

end MsVerif
