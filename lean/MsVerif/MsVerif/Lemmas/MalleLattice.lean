/-
The selection lattice of the satisfier model (`Model/Satisfy.lean`), for C03.  Every invariant of
results that C03 needs is preserved by the same few operations (`concatenate_rev`, `minimum`, a
constant pushed on top, the threshold folds): `Closed` names that for properties of signature
placeholders (it is a `SatClosed`, whose induction over the fragments it uses), and an invariant only
supplies its closure proof and what it says about the signature-bearing leaves.
-/
import MsVerif.Lemmas.CoreSat

namespace MsVerif.MalleLattice
open MsVerif Sat

def isSig : Ph → Bool
  | .ecdsaSig _ | .ecdsaSigPkh _ | .schnorrSig _ _ | .schnorrSigPkh _ _ => true
  | _ => false

def hasSigPh (l : List Ph) : Bool := l.any isSig

def Wit.hasSigPh : Wit → Bool
  | .stack l => MalleLattice.hasSigPh l
  | _ => false

theorem hasSigPh_append (a b : List Ph) : hasSigPh (a ++ b) = (hasSigPh a || hasSigPh b) := by
  simp [hasSigPh, List.any_append]

theorem hasSigPh_of_mem {l : List Ph} {p : Ph} (hp : p ∈ l) (hs : isSig p = true) :
    hasSigPh l = true :=
  List.any_eq_true.mpr ⟨p, hp, hs⟩

theorem hasSigPh_replicate_pushZero (n : Nat) : hasSigPh (List.replicate n Ph.pushZero) = false := by
  induction n with
  | zero => rfl
  | succ m ih => simp [hasSigPh, List.replicate_succ, isSig]

theorem sigWit_isSig (ctx : Ctx) (a : Assets) (k : Key) :
    sigWit ctx a k = .impossible ∨ ∃ p, isSig p = true ∧ sigWit ctx a k = .stack [p] := by
  rcases sigWit_cases ctx a k with h | ⟨sz, _, _, h⟩ | ⟨_, _, h⟩
  · exact .inl h
  · exact .inr ⟨_, rfl, h⟩
  · exact .inr ⟨_, rfl, h⟩

/-- `P` survives the operations by which `satDissat c` builds results from those of the
sub-fragments, and holds of every result that is not a stack and of every stack that is not flagged and has no
signature placeholder -/
structure Closed (c : SatCfg) (P : Sat → Prop) : Prop where
  notStack : ∀ {s : Sat}, (∀ l, s.stack ≠ .stack l) → P s
  unflagged : ∀ {l : List Ph} (a r : Option Nat), hasSigPh l = false → P ⟨.stack l, false, a, r⟩
  concat : ∀ {s o : Sat}, P s → P o → P (s.concatenateRev o)
  min : ∀ {s1 s2 : Sat}, P s1 → P s2 → P (c.minFn s1 s2)
  push : ∀ {s : Sat} {l : List Ph}, hasSigPh l = false → P s →
    P { s with stack := Wit.combine s.stack (.stack l) }

/-- what `P` has to say about the satisfactions of the leaves that carry signatures, below
nodes satisfying `G` -/
structure Leaves (c : SatCfg) (P : Sat → Prop) (G : Ms → Prop) : Prop where
  pkK : ∀ k, G (.pkK k) → P (satDissat c (.pkK k)).sat
  pkH : ∀ k, G (.pkH k) → P (satDissat c (.pkH k)).sat
  rawPkH : ∀ h, P (satDissat c (.rawPkH h)).sat
  multi : ∀ k ks, G (.multi k ks) → P (multiSD c.ctx c.assets k ks).sat
  sortedMulti : ∀ k ks, G (.sortedMulti k ks) → P (multiSD c.ctx c.assets k (sortKeys' c.env ks)).sat
  multiA : ∀ k ks, G (.multiA k ks) → P (multiASD c.ctx c.assets k ks).sat
  sortedMultiA : ∀ k ks, G (.sortedMultiA k ks) → P (multiASD c.ctx c.assets k (sortKeys' c.env ks)).sat

namespace Closed
variable {c : SatCfg} {P : Sat → Prop} (hC : Closed c P)
include hC

theorem impossible : P Sat.IMPOSSIBLE := hC.notStack (fun _ h => by cases h)
theorem unavailable : P Sat.UNAVAILABLE := hC.notStack (fun _ h => by cases h)

theorem unflaggedWit {w : Wit} (a r : Option Nat) (h : ∀ l, w = .stack l → hasSigPh l = false) :
    P ⟨w, false, a, r⟩ := by
  cases w with
  | stack l => exact hC.unflagged a r (h l rfl)
  | impossible => exact hC.notStack (fun _ h => by cases h)
  | unavailable => exact hC.notStack (fun _ h => by cases h)

theorem toSat : SatClosed c P where
  impossible := hC.impossible
  unavailable := hC.unavailable
  empty := hC.unflagged none none rfl
  push0 := hC.unflagged none none rfl
  push hp h := hC.push (by rcases hp with rfl | rfl <;> rfl) h
  concat := hC.concat
  min := hC.min

theorem atoms {G : Ms → Prop} (hL : Leaves c P G) (m : Ms) (hm : m.atom = true) (h : G m) :
    P (MsVerif.satDissat c m).dissat ∧ P (MsVerif.satDissat c m).sat := by
  have zeros n : P ⟨.stack (List.replicate n .pushZero), false, none, none⟩ :=
    hC.unflagged _ _ (hasSigPh_replicate_pushZero n)
  cases m with
  | fls => exact ⟨hC.unflagged _ _ rfl, hC.impossible⟩
  | tru => exact ⟨hC.impossible, hC.unflagged _ _ rfl⟩
  | pkK k => exact ⟨hC.unflagged _ _ rfl, hL.pkK k h⟩
  | pkH k => exact ⟨hC.unflagged _ _ rfl, hL.pkH k h⟩
  | rawPkH x =>
    refine ⟨?_, hL.rawPkH x⟩
    simp only [satDissat_rawPkH]
    refine hC.unflaggedWit _ _ (fun l hl => ?_)
    split at hl
    · cases hl; rfl
    · cases hl
  | multi k ks => exact ⟨multiSD_dis .. ▸ zeros _, hL.multi k ks h⟩
  | sortedMulti k ks => exact ⟨multiSD_dis .. ▸ zeros _, hL.sortedMulti k ks h⟩
  | multiA k ks => exact ⟨multiASD_dis .. ▸ zeros _, hL.multiA k ks h⟩
  | sortedMultiA k ks => exact ⟨multiASD_dis .. ▸ zeros _, hL.sortedMultiA k ks h⟩
  | after n | older n =>
    simp only [satDissat_after, satDissat_older]
    refine ⟨hC.impossible, hC.unflaggedWit _ _ (fun l hl => ?_)⟩
    split at hl
    · cases hl; rfl
    · split at hl <;> cases hl
  | hash kind x =>
    simp only [satDissat_hash]
    refine ⟨hC.unflagged _ _ rfl, hC.unflaggedWit _ _ (fun l hl => ?_)⟩
    split at hl
    · cases hl; rfl
    · cases hl
  | _ => cases hm

theorem satDissat {G : Ms → Prop}
    (hG : ∀ m, G m → ∀ x ∈ kids m, G x) (hL : Leaves c P G) (ms : Ms) (h : G ms) :
    P (MsVerif.satDissat c ms).sat ∧ P (MsVerif.satDissat c ms).dissat :=
  (hC.toSat.satDissat hG (hC.atoms hL) ms h).symm

theorem satDissats {G : Ms → Prop}
    (hG : ∀ m, G m → ∀ x ∈ kids m, G x) (hL : Leaves c P G) (xs : MsList)
    (h : ∀ x ∈ xs.toList, G x) : ∀ sd ∈ MsVerif.satDissats c xs, P sd.sat ∧ P sd.dissat :=
  fun sd hsd => (hC.toSat.satDissats hG (hC.atoms hL) xs h sd hsd).symm

end Closed

def SigInv (s : Sat) : Prop := s.hasSig = true → ∀ l, s.stack = .stack l → hasSigPh l = true

theorem sigInv_of_noSig {s : Sat} (h : s.hasSig = false) : SigInv s := by
  intro h'; rw [h] at h'; cases h'

theorem sigInv_minimumMall {s1 s2 : Sat} (h1 : SigInv s1) (h2 : SigInv s2) :
    SigInv (minimumMall s1 s2) := by
  rcases minimumMall_cases s1 s2 with ⟨_, e⟩ | ⟨_, _, e⟩ | ⟨_, _, e | e⟩ <;> rw [e]
  · exact h2
  · exact h1
  · exact fun hsig l hl => h1 (Bool.and_eq_true_iff.mp hsig).1 l hl
  · exact fun hsig l hl => h2 (Bool.and_eq_true_iff.mp hsig).2 l hl

theorem sigInv_closed (c : SatCfg) : Closed c SigInv where
  notStack h := fun _ l hl => absurd hl (h l)
  unflagged _ _ _ := sigInv_of_noSig rfl
  concat {s o} hs ho := by
    rcases concatenateRev_cases s o with e | ⟨abs, rel, -, -, e⟩ <;> rw [e]
    · exact sigInv_of_noSig rfl
    · intro hsig l hl
      obtain ⟨lo, ls, ho', hs', rfl⟩ := Wit.combine_stack hl
      rw [hasSigPh_append]
      rcases (Bool.or_eq_true _ _).mp hsig with h | h
      · rw [hs h ls hs']; simp
      · rw [ho h lo ho']; simp
  min {s1 s2} h1 h2 := by
    cases hm : c.mall with
    | true => rw [c.minFn_mall hm]; exact sigInv_minimumMall h1 h2
    | false =>
      rw [c.minFn_nonmall hm]
      rcases minimum_mem s1 s2 with e | e | e <;> rw [e]
      · exact h1
      · exact h2
      · exact sigInv_of_noSig rfl
  push {s l} _ h := by
    intro hsig l' hl
    obtain ⟨la, lb, h1, _, rfl⟩ := Wit.combine_stack hl
    rw [hasSigPh_append, h hsig la h1]; rfl

/-- `k ≥ 1` signatures of the keys follow the dummy -/
theorem sigInv_multiSD (ctx : Ctx) (a : Assets) (k : Nat) (ks : List Key) (hk : 1 ≤ k) :
    SigInv (multiSD ctx a k ks).sat := by
  intro _ l hl
  obtain ⟨ss, -, hlen, hss, rfl⟩ := SatSpec.multiSD_stack ctx a k ks hl
  obtain ⟨q, hq⟩ := List.exists_mem_of_length_pos (l := ss) (by omega)
  rcases sigWit_isSig ctx a q.1 with h | ⟨p, hp, h⟩ <;> rw [hss q hq] at h
  · cases h
  · exact hasSigPh_of_mem (List.mem_cons_of_mem _ (List.mem_map_of_mem hq))
      (List.head_eq_of_cons_eq (Wit.stack.inj h) ▸ hp)

/-- one of the `k ≥ 1` signature slots holds the signature of its key -/
theorem sigInv_multiASD (ctx : Ctx) (a : Assets) (k : Nat) (ks : List Key) (hk : 1 ≤ k) :
    SigInv (multiASD ctx a k ks).sat := by
  intro _ l hl
  obtain ⟨sigs, hall, hcnt, rfl⟩ := SatSpec.multiASD_stack ctx a k ks hk hl
  obtain ⟨e, he⟩ := List.exists_mem_of_length_pos (l := sigs.filter SatSpec.isSigSlot)
    (by rw [← SatSpec.sigSlots, hcnt]; exact hk)
  obtain ⟨he, hs⟩ := List.mem_filter.mp he
  obtain ⟨pk, -, rfl | hw⟩ := hall.of_mem_right he
  · cases hs
  · rcases sigWit_isSig ctx a pk with h | ⟨p, hp, h⟩ <;> rw [hw] at h
    · cases h
    · cases Wit.stack.inj h
      exact hasSigPh_of_mem (List.mem_flatten.mpr ⟨[p], he, List.mem_singleton.mpr rfl⟩) hp

mutual
/-- thresholds of the multisig fragments are at least 1 (`Threshold::new` guarantees it) -/
def kPos : Ms → Bool
  | .multi k _ | .sortedMulti k _ | .multiA k _ | .sortedMultiA k _ => decide (1 ≤ k)
  | .alt x | .swap x | .check x | .dupIf x | .verify x | .nonZero x | .zeroNotEqual x => kPos x
  | .andV l r | .andB l r | .orB l r | .orD l r | .orC l r | .orI l r => kPos l && kPos r
  | .andOr a b c => kPos a && kPos b && kPos c
  | .thresh _ xs => kPosL xs
  | _ => true
def kPosL : MsList → Bool
  | .nil => true
  | .cons x xs => kPos x && kPosL xs
end

theorem kPosL_mem {x : Ms} : (xs : MsList) → kPosL xs = true → x ∈ xs.toList → kPos x = true
  | .nil, _, h => by cases h
  | .cons y ys, hk, h => by
    simp only [kPosL, Bool.and_eq_true] at hk
    rcases List.mem_cons.mp h with rfl | h
    · exact hk.1
    · exact kPosL_mem ys hk.2 h

theorem kPos_kids : ∀ m : Ms, kPos m = true → ∀ x ∈ kids m, kPos x = true
  | .alt y | .swap y | .check y | .dupIf y | .verify y | .nonZero y | .zeroNotEqual y => by
    intro h x hx
    rw [List.mem_singleton.mp hx]; simpa only [kPos] using h
  | .andV l r | .andB l r | .orB l r | .orD l r | .orC l r | .orI l r => by
    intro h x hx
    simp only [kPos, Bool.and_eq_true] at h
    rcases List.mem_cons.mp hx with rfl | hx
    · exact h.1
    · rw [List.mem_singleton.mp hx]; exact h.2
  | .andOr a b c => by
    intro h x hx
    simp only [kPos, Bool.and_eq_true] at h
    rcases List.mem_cons.mp hx with rfl | hx
    · exact h.1.1
    · rcases List.mem_cons.mp hx with rfl | hx
      · exact h.1.2
      · rw [List.mem_singleton.mp hx]; exact h.2
  | .thresh k xs => fun h x hx => kPosL_mem xs (by simpa only [kPos] using h) hx
  | .fls | .tru | .pkK _ | .pkH _ | .rawPkH _ | .multi _ _ | .sortedMulti _ _ | .multiA _ _
  | .sortedMultiA _ _ | .after _ | .older _ | .hash _ _ => by
    intro _ _ hx; cases hx

theorem sigInv_leaves (c : SatCfg) : Leaves c SigInv (kPos · = true) where
  pkK k _ := by
    intro _ l hl
    simp only [satDissat_pkK] at hl
    rcases sigWit_isSig c.ctx c.assets k with h | ⟨p, hp, h⟩
    · rw [h] at hl; cases hl
    · rw [h] at hl; cases hl
      exact hasSigPh_of_mem (by simp) hp
  pkH k _ := by
    intro _ l hl
    obtain ⟨la, lb, h1, _, rfl⟩ := Wit.combine_stack hl
    rcases sigWit_isSig c.ctx c.assets k with h | ⟨p, hp, h⟩
    · rw [h] at h1; cases h1
    · rw [h] at h1; cases h1
      exact hasSigPh_of_mem (by simp) hp
  rawPkH h := by
    intro _ l hl
    simp only [satDissat_rawPkH] at hl
    split at hl
    · split at hl
      · cases hl; rfl
      · cases hl
    · split at hl
      · cases hl; rfl
      · cases hl
  multi k ks h := sigInv_multiSD _ _ k ks (by simpa [kPos] using h)
  sortedMulti k ks h := sigInv_multiSD _ _ k _ (by simpa [kPos] using h)
  multiA k ks h := sigInv_multiASD _ _ k ks (by simpa [kPos] using h)
  sortedMultiA k ks h := sigInv_multiASD _ _ k _ (by simpa [kPos] using h)

theorem sigInv_satDissat (c : SatCfg) (ms : Ms) (h : kPos ms = true) :
    SigInv (satDissat c ms).sat ∧ SigInv (satDissat c ms).dissat :=
  (sigInv_closed c).satDissat kPos_kids (sigInv_leaves c) ms h

def NoSigInv (s : Sat) : Prop := s.hasSig = false → ∀ l, s.stack = .stack l → hasSigPh l = false

theorem noSigInv_of_hasSig {s : Sat} (h : s.hasSig = true) : NoSigInv s := by
  intro h'; rw [h] at h'; cases h'

theorem noSigInv_closed (c : SatCfg) (hc : c.mall = false) : Closed c NoSigInv where
  notStack h := fun _ l hl => absurd hl (h l)
  unflagged _ _ h := by intro _ l' hl; cases hl; exact h
  concat {s o} hs ho := by
    rcases concatenateRev_cases s o with e | ⟨abs, rel, -, -, e⟩ <;> rw [e]
    · intro _ l hl; cases hl
    · intro hsig l hl
      simp only [Bool.or_eq_false_iff] at hsig
      obtain ⟨lo, ls, ho', hs', rfl⟩ := Wit.combine_stack hl
      rw [hasSigPh_append, hs hsig.1 ls hs', ho hsig.2 lo ho']; rfl
  min {s1 s2} h1 h2 := by
    rw [c.minFn_nonmall hc]
    rcases minimum_mem s1 s2 with e | e | e <;> rw [e]
    · exact h1
    · exact h2
    · intro _ l hl; cases hl
  push {s l} he h := by
    intro hsig l' hl
    obtain ⟨la, lb, h1, h2, rfl⟩ := Wit.combine_stack hl
    cases h2
    rw [hasSigPh_append, h hsig la h1, he]; rfl

theorem noSigInv_multiSD (ctx : Ctx) (a : Assets) (k : Nat) (ks : List Key) :
    NoSigInv (multiSD ctx a k ks).sat := by
  rcases multiSD_sat_cases ctx a k ks with e | ⟨w, e⟩ <;> rw [e]
  · exact fun _ l hl => by cases hl
  · exact noSigInv_of_hasSig rfl

theorem noSigInv_multiASD (ctx : Ctx) (a : Assets) (k : Nat) (ks : List Key) :
    NoSigInv (multiASD ctx a k ks).sat := by
  rcases multiASD_sat_cases ctx a k ks with e | ⟨w, e⟩ <;> rw [e]
  · exact fun _ l hl => by cases hl
  · exact noSigInv_of_hasSig rfl

theorem noSigInv_leaves (c : SatCfg) : Leaves c NoSigInv (fun _ => True) where
  pkK _ _ := noSigInv_of_hasSig rfl
  pkH _ _ := noSigInv_of_hasSig rfl
  rawPkH _ := noSigInv_of_hasSig rfl
  multi _ _ _ := noSigInv_multiSD _ _ _ _
  sortedMulti _ _ _ := noSigInv_multiSD _ _ _ _
  multiA _ _ _ := noSigInv_multiASD _ _ _ _
  sortedMultiA _ _ _ := noSigInv_multiASD _ _ _ _

theorem noSigInv_satDissat (c : SatCfg) (hc : c.mall = false) (ms : Ms) :
    NoSigInv (satDissat c ms).sat ∧ NoSigInv (satDissat c ms).dissat :=
  (noSigInv_closed c hc).satDissat (fun _ _ _ _ => trivial) (noSigInv_leaves c) ms trivial

theorem noSigInv_satDissats (c : SatCfg) (hc : c.mall = false) :
    ∀ xs : MsList, ∀ sd ∈ satDissats c xs, NoSigInv sd.sat ∧ NoSigInv sd.dissat :=
  fun xs => (noSigInv_closed c hc).satDissats (fun _ _ _ _ => trivial) (noSigInv_leaves c) xs
    (fun _ _ => trivial)

end MsVerif.MalleLattice
