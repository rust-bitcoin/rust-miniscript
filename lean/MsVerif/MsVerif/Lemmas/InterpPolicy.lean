/-
"The satisfied constraints the interpreter reports satisfy the spending condition": for the model
interpreter, typed by the library's type rules (which say where a fragment leaves its result).
The spending condition is `Spec/MsSem.sem` (the trusted reading of a miniscript as a policy, C07),
evaluated in ANY world that covers the reported constraints: it can sign for the keys a signature
was reported for, knows the preimages reported, and has the transaction's nLockTime / nSequence.
-/
import MsVerif.Lemmas.InterpTyping
import MsVerif.Lemmas.InterpRules
import MsVerif.Lemmas.CoreLocks
import MsVerif.Spec.MsSem

namespace MsVerif.InterpPolicy
open MsVerif Interp InterpSound MsSem

variable {ke : KeyEnv} {ie : IEnv}

def Covers (ke : KeyEnv) (W : Pol.World) : Constraint → Prop
  | .pk pk _ => ∀ k, ke.ser k = pk → W.canSign k = true
  | .pkh _ pk _ => ∀ k, ke.ser k = pk → W.canSign k = true
  | .hashLock kind hv _ => ∀ h, ke.hashVal kind h = hv → W.preimage (polHash kind) h = true
  | .after _ | .older _ => True

structure WLe (ke : KeyEnv) (ie : IEnv) (cs : List Constraint) (W : Pol.World) : Prop where
  lt : W.nLockTime = ie.lockTime
  sq : W.nSequence = ie.sequence
  cov : ∀ c ∈ cs, Covers ke W c

theorem WLe.left {a b : List Constraint} {W : Pol.World} (h : WLe ke ie (a ++ b) W) : WLe ke ie a W :=
  ⟨h.lt, h.sq, fun c hc => h.cov c (List.mem_append_left _ hc)⟩
theorem WLe.right {a b : List Constraint} {W : Pol.World} (h : WLe ke ie (a ++ b) W) : WLe ke ie b W :=
  ⟨h.lt, h.sq, fun c hc => h.cov c (List.mem_append_right _ hc)⟩
theorem WLe.tail {a : Constraint} {b : List Constraint} {W : Pol.World} (h : WLe ke ie (a :: b) W) :
    WLe ke ie b W := ⟨h.lt, h.sq, fun c hc => h.cov c (List.mem_cons_of_mem _ hc)⟩

/-- a key hash identifies its key among the keys of the script (collision freeness of HASH160 on
the keys involved; `pk_h(K)` commits to `hash160 (ser K)`) -/
def KeyHashFaithful (ke : KeyEnv) (ie : IEnv) : Prop :=
  ∀ k pk, ie.hash160 pk = ke.pkh k → pk = ke.ser k

/-- what the claim means per base type: a `V` fragment that completes has its condition satisfied;
any other fragment leaves a boolean result on top, and `Satisfied` means the condition holds -/
def PolPost (W : Pol.World) (ms : Ms) (b : Base) (a' : AStack) : Prop :=
  match b with
  | .V => sem W ms = true
  | _ => ∃ r st', a' = r :: st' ∧ (r = .sat ∨ r = .dissat) ∧ (r = .sat → sem W ms = true)

theorem PolPost.nonV_iff {W : Pol.World} {ms : Ms} {b : Base} {a' : AStack} (hb : b ≠ .V) :
    PolPost W ms b a' ↔
      ∃ r st', a' = r :: st' ∧ (r = .sat ∨ r = .dissat) ∧ (r = .sat → sem W ms = true) := by
  cases b with
  | V => exact absurd rfl hb
  | _ => exact Iff.rfl

/-- the condition only depends on the node's children's conditions: transport between nodes with
the same `sem` -/
theorem PolPost.congr {W : Pol.World} {ms ms' : Ms} {b : Base} {a' : AStack}
    (e : sem W ms = true → sem W ms' = true) (h : PolPost W ms b a') : PolPost W ms' b a' := by
  cases b with
  | V => exact e h
  | B => obtain ⟨r, st', h1, h2, h3⟩ := h; exact ⟨r, st', h1, h2, fun x => e (h3 x)⟩
  | K => obtain ⟨r, st', h1, h2, h3⟩ := h; exact ⟨r, st', h1, h2, fun x => e (h3 x)⟩
  | W => obtain ⟨r, st', h1, h2, h3⟩ := h; exact ⟨r, st', h1, h2, fun x => e (h3 x)⟩

theorem PolPost.top {W : Pol.World} {ms : Ms} {b : Base} {r : Elem} {st : AStack} (hb : b ≠ .V)
    (h : PolPost W ms b (r :: st)) : (r = .sat ∨ r = .dissat) ∧ (r = .sat → sem W ms = true) := by
  obtain ⟨_, _, e, hr, hs⟩ := (PolPost.nonV_iff hb).1 h
  cases e
  exact ⟨hr, hs⟩

theorem PolPost.mk {W : Pol.World} {ms : Ms} {b : Base} {r : Elem} {st : AStack} (hb : b ≠ .V)
    (hr : r = .sat ∨ r = .dissat) (hs : r = .sat → sem W ms = true) : PolPost W ms b (r :: st) :=
  (PolPost.nonV_iff hb).2 ⟨r, st, rfl, hr, hs⟩

theorem ite_sat_or_dissat (c : Prop) [Decidable c] :
    (if c then Elem.sat else Elem.dissat) = .sat ∨ (if c then Elem.sat else Elem.dissat) = .dissat := by
  by_cases hc : c <;> simp [hc]

theorem PolPost.wrap {W : Pol.World} {ms ms' : Ms} {b b' : Base} {a' : AStack} (hb : b ≠ .V) (hb' : b' ≠ .V)
    (e : sem W ms = true → sem W ms' = true) (h : PolPost W ms b a') : PolPost W ms' b' a' :=
  ((PolPost.nonV_iff hb').2 ((PolPost.nonV_iff hb).1 h)).congr e

theorem afterOk {n : Nat} {st a' : AStack} {cs : List Constraint}
    (h : evaluateAfter ie n st = .ok (a', cs)) :
    a' = .sat :: st ∧ Pol.cltvOk ie.lockTime n = true := by
  obtain ⟨ha, _, _, h1, h2⟩ := evaluateAfter_ok h
  exact ⟨ha, (Sat.cltvOk_iff _ _).mpr ⟨by simp only [Interp.LOCKTIME_THRESHOLD] at h1; omega, h2⟩⟩

theorem olderOk {n : Nat} {st a' : AStack} {cs : List Constraint} (hseq : ie.sequence < 2 ^ 32)
    (h : evaluateOlder ie n st = .ok (a', cs)) :
    a' = .sat :: st ∧ Pol.csvOk ie.sequence n = true := by
  obtain ⟨ha, _, h0, h1, h2⟩ := evaluateOlder_ok h
  exact ⟨ha, (Sat.csvOk_iff _ _).mpr ⟨(Sat.seqEnabled_iff hseq).mp h0,
    (Sat.relIsTime_eq_iff _ _).mpr h1.symm, h2⟩⟩

theorem multiLoop_pol {W : Pol.World} {k : Nat} : ∀ (ids : List Key) (nSat : Nat) (st a' : AStack)
    (cs : List Constraint), multiLoop ie k (ids.map ke.ser) nSat st = .ok (a', cs) →
    (∀ c ∈ cs, Covers ke W c) →
    (∃ st', a' = .sat :: st') ∧ k ≤ nSat + (ids.filter W.canSign).length := by
  intro ids nSat st a' cs h
  refine multiLoop_induct
    (P := fun keys n _ a cs => ∀ ids, keys = ids.map ke.ser → (∀ c ∈ cs, Covers ke W c) →
      (∃ st', a = .sat :: st') ∧ k ≤ n + (ids.filter W.canSign).length)
    (fun _ _ _ _ _ => ⟨⟨_, rfl⟩, by omega⟩) ?_ ?_ _ _ _ _ _ h ids rfl
  · intro pk rest n sg st a cs _ _ _ ih ids hids hc
    obtain ⟨id, ids', rfl, rfl, rfl⟩ := List.map_eq_cons_iff.mp hids.symm
    have hcan : W.canSign id = true := hc (.pk (ke.ser id) sg) (by simp) id rfl
    obtain ⟨hs, hcount⟩ := ih ids' rfl (fun c hcm => hc c (List.mem_cons_of_mem _ hcm))
    refine ⟨hs, ?_⟩
    simp only [List.filter_cons, hcan, if_true, List.length_cons]
    omega
  · intro pk rest n sg st a cs _ _ _ ih ids hids hc
    obtain ⟨id, ids', rfl, rfl, rfl⟩ := List.map_eq_cons_iff.mp hids.symm
    obtain ⟨hs, hcount⟩ := ih ids' rfl hc
    refine ⟨hs, ?_⟩
    by_cases hcs : W.canSign id = true <;> simp [hcs] <;> omega

theorem evalMulti_pol {W : Pol.World} {k : Nat} {ids : List Key} {st a' : AStack} {cs : List Constraint}
    (h : evalMulti ie k (ids.map ke.ser) st = .ok (a', cs)) (hc : ∀ c ∈ cs, Covers ke W c) :
    ∃ r st', a' = r :: st' ∧ (r = .sat ∨ r = .dissat) ∧
      (r = .sat → decide (k ≤ (ids.filter W.canSign).length) = true) := by
  obtain ⟨_, ⟨_, _, _, rfl, _⟩ | ⟨_, hm⟩⟩ := evalMulti_ok h
  · exact ⟨.dissat, _, rfl, Or.inr rfl, nofun⟩
  · rw [← List.map_reverse] at hm
    obtain ⟨⟨st', hs⟩, hcount⟩ := multiLoop_pol (W := W) ids.reverse 0 _ a' cs hm hc
    refine ⟨.sat, st', hs, Or.inl rfl, fun _ => ?_⟩
    rw [List.filter_reverse, List.length_reverse] at hcount
    simp only [decide_eq_true_eq]
    omega

theorem multiALoop_pol {W : Pol.World} {k : Nat} : ∀ (ids : List Key) (nSat : Nat) (st a' : AStack)
    (cs : List Constraint), Interp.multiALoop ie k (ids.map ke.ser) nSat st = .ok (a', cs) →
    (∀ c ∈ cs, Covers ke W c) →
    ∃ nT st', a' = (if nT == k then Elem.sat else Elem.dissat) :: st'
      ∧ nT ≤ nSat + (ids.filter W.canSign).length := by
  intro ids nSat st a' cs h
  refine multiALoop_induct
    (P := fun keys n _ a cs => ∀ ids, keys = ids.map ke.ser → (∀ c ∈ cs, Covers ke W c) →
      ∃ nT st', a = (if nT == k then Elem.sat else Elem.dissat) :: st'
        ∧ nT ≤ n + (ids.filter W.canSign).length)
    (fun n st ids _ _ => ⟨n, st, rfl, by omega⟩) ?_ ?_ _ _ _ _ _ h ids rfl
  · intro pk rest n sg st a cs _ _ ih ids hids hc
    obtain ⟨id, ids', rfl, rfl, rfl⟩ := List.map_eq_cons_iff.mp hids.symm
    have hcan : W.canSign id = true := hc (.pk (ke.ser id) sg) (by simp) id rfl
    obtain ⟨nT, st', ha, hle⟩ := ih ids' rfl (fun c hcm => hc c (List.mem_cons_of_mem _ hcm))
    refine ⟨nT, st', ha, ?_⟩
    simp only [List.filter_cons, hcan, if_true, List.length_cons]
    omega
  · intro pk rest n st a cs _ ih ids hids hc
    obtain ⟨id, ids', rfl, rfl, rfl⟩ := List.map_eq_cons_iff.mp hids.symm
    obtain ⟨nT, st', ha, hle⟩ := ih ids' rfl hc
    refine ⟨nT, st', ha, ?_⟩
    by_cases hcs : W.canSign id = true <;> simp [hcs] <;> omega

/-- `multi` and `sortedmulti` have the same evaluation and the same condition -/
theorem pol_multi {W : Pol.World} {k : Nat} {ks : List Key} {ms : Ms} {st a : AStack} {cs : List Constraint}
    (hs : sem W ms = decide (k ≤ (ks.filter W.canSign).length))
    (hi : evalMulti ie k (ks.map ke.ser) st = .ok (a, cs)) (hc : ∀ c ∈ cs, Covers ke W c) :
    PolPost W ms .B a := by
  obtain ⟨r, st', rfl, h2, h3⟩ := evalMulti_pol (W := W) hi hc
  exact .mk (by decide) h2 (fun e => by rw [hs]; exact h3 e)

theorem pol_multiA {W : Pol.World} {k : Nat} {ks : List Key} {ms : Ms} {st a : AStack} {cs : List Constraint}
    (hs : sem W ms = decide (k ≤ (ks.filter W.canSign).length))
    (hi : Interp.multiALoop ie k (ks.map ke.ser) 0 st = .ok (a, cs)) (hc : ∀ c ∈ cs, Covers ke W c) :
    PolPost W ms .B a := by
  obtain ⟨nT, st', rfl, hle⟩ := multiALoop_pol (W := W) ks 0 st a cs hi hc
  refine .mk (by decide) (ite_sat_or_dissat _) (fun hs' => ?_)
  have : nT = k := Decidable.byContradiction fun hne => by simp [hne] at hs'
  rw [hs, decide_eq_true_eq]
  omega

mutual
/-- raw key hashes name no key of the world (`sem (.rawPkH _) = false`): the claim is about the
descriptor's AST, where `pk_h` carries its key -/
def NoRaw : Ms → Prop
  | .rawPkH _ => False
  | .alt x | .swap x | .check x | .dupIf x | .verify x | .nonZero x | .zeroNotEqual x => NoRaw x
  | .andV l r | .andB l r | .orB l r | .orC l r | .orD l r | .orI l r => NoRaw l ∧ NoRaw r
  | .andOr a b c => NoRaw a ∧ NoRaw b ∧ NoRaw c
  | .thresh _ xs => NoRawL xs
  | _ => True
def NoRawL : MsList → Prop
  | .nil => True
  | .cons x xs => NoRaw x ∧ NoRawL xs
end

def bit (r : Elem) : Nat := if r = .sat then 1 else 0

def PolAt (ke : KeyEnv) (ie : IEnv) (ms : Ms) (b : Base) (a' : AStack) (cs : List Constraint) : Prop :=
  NoRaw ms → ∀ W, WLe ke ie cs W → PolPost W ms b a'

/-- children 2…n of `thresh`: the count never exceeds the number of children whose condition holds -/
def PolRestAt (ke : KeyEnv) (ie : IEnv) (xs : MsList) (nS : Nat) (st st' : AStack) (nS' : Nat)
    (cs : List Constraint) : Prop :=
  NoRawL xs →
    ∀ rPrev st0, st = rPrev :: st0 → (rPrev = .sat ∨ rPrev = .dissat) → ∀ W, WLe ke ie cs W →
      ∃ rL st'', st' = rL :: st'' ∧ (rL = .sat ∨ rL = .dissat)
        ∧ nS' + bit rL ≤ nS + bit rPrev + semCount W xs

theorem polRules (hf : KeyHashFaithful ke ie) (hseq : ie.sequence < 2 ^ 32) :
    TRules ke ie (fun ms b _ _ a cs => PolAt ke ie ms b a cs)
      (fun xs n st a n' cs => PolRestAt ke ie xs n st a n' cs) where
  tru st := fun _ W _ => .mk (by decide) (.inl rfl) (fun _ => by simp [sem])
  fls st := fun _ W _ => .mk (by decide) (.inr rfl) nofun
  pkK k u st a cs hi := fun _ W hw => by
    rcases evalSig_ok hi with ⟨_, _, rfl, _⟩ | ⟨sg, _, _, _, rfl, rfl⟩
    · exact .mk (by decide) (.inr rfl) nofun
    · exact .mk (by decide) (.inl rfl) (fun _ => by
        simpa [sem] using hw.cov (.pk (ke.ser k) sg) (by simp) k rfl)
  pkH k u st a cs hi := fun _ W hw => by
    obtain ⟨pk, _, _, hh, _, hs⟩ := evaluatePkh_ok hi
    rcases evalSig_ok hs with ⟨_, _, rfl, _⟩ | ⟨sg, _, _, _, rfl, rfl⟩
    · exact .mk (by decide) (.inr rfl) nofun
    · exact .mk (by decide) (.inl rfl) (fun _ => by
        simpa [sem] using hw.cov (.pkh (ke.pkh k) pk sg) (by simp) k (hf k pk hh).symm)
  rawPkH k u st a cs _ := fun hn => hn.elim
  after n st a cs hi := fun _ W hw => by
    obtain ⟨rfl, hok⟩ := afterOk hi
    exact .mk (by decide) (.inl rfl) (fun _ => by simp [sem, hw.lt, hok])
  older n st a cs hi := fun _ W hw => by
    obtain ⟨rfl, hok⟩ := olderOk hseq hi
    exact .mk (by decide) (.inl rfl) (fun _ => by simp [sem, hw.sq, hok])
  hash kind n st a cs hi := fun _ W hw => by
    obtain ⟨pre, st', _, _, ⟨_, rfl, rfl⟩ | ⟨_, rfl, _⟩⟩ := evaluateHash_ok hi
    · exact .mk (by decide) (.inl rfl) (fun _ => by
        simpa [sem] using hw.cov _ (List.mem_singleton.mpr rfl) n rfl)
    · exact .mk (by decide) (.inr rfl) nofun
  alt x tx st a cs _ _ _ ih := fun hn W hw =>
    (ih hn W hw).wrap (by decide) (by decide) (fun e => by simpa [sem] using e)
  swap x tx st a cs _ _ _ _ ih := fun hn W hw =>
    (ih hn W hw).wrap (by decide) (by decide) (fun e => by simpa [sem] using e)
  check x tx st a cs _ _ _ ih := fun hn W hw =>
    (ih hn W hw).wrap (by decide) (by decide) (fun e => by simpa [sem] using e)
  dupIf_dis x st := fun _ W _ => .mk (by decide) (.inr rfl) nofun
  dupIf_sat x tx st a cs _ _ _ _ ih := fun hn W hw =>
    .mk (by decide) (.inl rfl) (fun _ => by simpa [sem, PolPost] using ih hn W hw)
  verify x tx st a cs _ _ _ ih := fun hn W hw => by
    simpa [sem, PolPost] using ((ih hn W hw).top (by decide)).2 rfl
  zne_dis x tx st a cs _ _ _ ih := fun _ W _ => .mk (by decide) (.inr rfl) nofun
  zne_sat x tx st e a cs _ _ hne _ ih := fun hn W hw => by
    obtain ⟨he, hs⟩ := (ih hn W hw).top (by decide)
    rcases he with rfl | rfl
    · exact .mk (by decide) (.inl rfl) (fun _ => by simpa [sem] using hs rfl)
    · exact absurd rfl hne
  nonZero_dis x u st := fun _ W _ => .mk (by decide) (.inr rfl) nofun
  nonZero x tx e st a cs _ _ _ _ ih := fun hn W hw =>
    (ih hn W hw).congr (fun e => by simpa [sem] using e)
  andV l r tl tr st a1 cs1 a cs2 _ _ _ _ _ ihl _ ihr := fun hn W hw => by
    have hsl : sem W l = true := ihl hn.1 W hw.left
    exact (ihr hn.2 W hw.right).congr (fun e => by simp [sem, hsl, e])
  andB l r tl tr st x st1 cs1 y st2 cs2 _ _ _ _ _ _ ihl _ ihr := fun hn W hw => by
    have sl := ((ihl hn.1 W hw.left).top (by decide)).2
    have sr := ((ihr hn.2 W hw.right).top (by decide)).2
    refine .mk (by decide) (ite_sat_or_dissat _) (fun hs => ?_)
    by_cases hc : (y == Elem.sat && x == Elem.sat) = true
    · simp only [Bool.and_eq_true, beq_iff_eq] at hc
      simp [sem, sl hc.2, sr hc.1]
    · simp [hc] at hs
  orB l r tl tr st x st1 cs1 y st2 cs2 _ _ _ _ hx _ ihl _ ihr := fun hn W hw => by
    have sl := ((ihl hn.1 W hw.left).top (by decide)).2
    obtain ⟨hy, sr⟩ := (ihr hn.2 W hw.right).top (by decide)
    refine .mk (by decide) (by split <;> simp) (fun hs => ?_)
    rcases hx with rfl | rfl <;> rcases hy with rfl | rfl <;> simp at hs
    · simp [sem, sl rfl]
    · simp [sem, sl rfl]
    · simp [sem, sr rfl]
  andOr_sat x y z tx ty tz st st1 cs1 a cs2 _ _ _ _ _ _ _ ihx _ ihy := fun hn W hw => by
    have hsx := ((ihx hn.1 W hw.left).top (by decide)).2 rfl
    exact (ihy hn.2.1 W hw.right).congr (fun e => by simp [sem, hsx, e])
  andOr_dis x y z tx ty tz st st1 cs1 a cs2 _ _ _ _ _ _ _ _ _ ihz := fun hn W hw =>
    (ihz hn.2.2 W hw.right).congr (fun e => by simp [sem, e])
  orC_sat l r tl u st a cs _ _ _ _ ih := fun hn W hw => by
    show sem W (.orC l r) = true
    simp [sem, ((ih hn.1 W hw).top (by decide)).2 rfl]
  orC_dis l r tl tr u st st1 cs1 a cs2 _ _ _ _ _ _ _ _ ihr := fun hn W hw => by
    have : sem W r = true := ihr hn.2 W hw.right
    show sem W (.orC l r) = true
    simp [sem, this]
  orD_sat l r tl u st a cs _ _ _ _ ih := fun hn W hw =>
    .mk (by decide) (.inl rfl) (fun _ => by simp [sem, ((ih hn.1 W hw).top (by decide)).2 rfl])
  orD_dis l r tl tr st st1 cs1 a cs2 _ _ _ _ _ _ _ _ ihr := fun hn W hw =>
    (ihr hn.2 W hw.right).congr (fun e => by simp [sem, e])
  orI_left l r tl u st a cs _ _ _ ih := fun hn W hw =>
    (ih hn.1 W hw).congr (fun e => by simp [sem, e])
  orI_right l r tr u st a cs _ _ _ ih := fun hn W hw =>
    (ih hn.2 W hw).congr (fun e => by simp [sem, e])
  thresh k x xs tx st st1 cs1 y st2 n cs2 _ _ _ ihx _ ihr := fun hn W hw => by
    obtain ⟨r1, st1', rfl, b1, s1⟩ := ihx hn.1 W hw.left
    obtain ⟨rL, st2', e2, bL, hcount⟩ := ihr hn.2 r1 st1' rfl b1 W hw.right
    cases e2
    have hx1 : bit r1 ≤ (if sem W x = true then 1 else 0) := by
      rcases b1 with rfl | rfl <;> simp [bit, s1]
    refine .mk (by decide) (ite_sat_or_dissat _) (fun hs => ?_)
    have hnk : n = (if y = .sat then k - 1 else k) := Decidable.byContradiction fun hne => by simp [hne] at hs
    simp only [sem, semCount]
    rcases bL with rfl | rfl
    · rw [show bit Elem.sat = 1 from rfl] at hcount
      rw [if_pos rfl] at hnk
      exact decide_eq_true (by omega)
    · rw [show bit Elem.dissat = 0 from rfl] at hcount
      rw [if_neg (by decide)] at hnk
      exact decide_eq_true (by omega)
  multi k ks st a cs hi := fun _ W hw => pol_multi (by simp [sem]) hi hw.cov
  sortedMulti k ks st a cs hi := fun _ W hw => pol_multi (by simp [sem]) hi hw.cov
  multiA k ks st a cs hi := fun _ W hw => pol_multiA (by simp [sem]) hi hw.cov
  sortedMultiA k ks st a cs hi := fun _ W hw => pol_multiA (by simp [sem]) hi hw.cov
  rest_nil n st := fun _ rPrev st0 hst hrp W _ => ⟨rPrev, st0, hst, hrp, by simp [semCount]⟩
  rest_cons x xs tx nS y st st1 cs1 a n' cs2 _ _ _ ihx _ ihr := fun hn rPrev st0 hst hrp W hw => by
    cases hst
    obtain ⟨r1, st1', rfl, b1, s1⟩ := ihx hn.1 W hw.left
    have e : (if y == .sat then nS + 1 else nS) = nS + bit y := by rcases hrp with rfl | rfl <;> rfl
    rw [e] at ihr
    obtain ⟨rL, st'', e2, bL, hcount⟩ := ihr hn.2 r1 st1' rfl b1 W hw.right
    refine ⟨rL, st'', e2, bL, ?_⟩
    have hx1 : bit r1 ≤ (if sem W x = true then 1 else 0) := by
      rcases b1 with rfl | rfl <;> simp [bit, s1]
    simp only [semCount]
    omega

theorem policy (hf : KeyHashFaithful ke ie) (hseq : ie.sequence < 2 ^ 32) :
    (ms : Ms) → (ty : Ty) → typeOf ms = some ty → NoRaw ms →
    ∀ (st a' : AStack) (cs : List Constraint) (W : Pol.World), interp ke ie ms st = .ok (a', cs) →
      WLe ke ie cs W → PolPost W ms ty.corr.base a' :=
  fun ms ty hty hn _ _ _ W hi hw => (polRules hf hseq).interp ms ty hty _ _ _ hi hn W hw

theorem policyRest (hf : KeyHashFaithful ke ie) (hseq : ie.sequence < 2 ^ 32) :
    (xs : MsList) → (ts : List Ty) → typesOf xs = some ts →
    ∀ (i acc n : Nat), i ≠ 0 → Corr.threshLoop i acc (ts.map (·.corr)) = some n → NoRawL xs →
    ∀ (nS : Nat) (rPrev : Elem) (st st' : AStack) (nS' : Nat) (cs : List Constraint) (W : Pol.World),
      (rPrev = .sat ∨ rPrev = .dissat) →
      interpRest ke ie xs nS (rPrev :: st) = .ok (st', nS', cs) → WLe ke ie cs W →
      ∃ rL st'', st' = rL :: st'' ∧ (rL = .sat ∨ rL = .dissat)
        ∧ nS' + bit rL ≤ nS + bit rPrev + semCount W xs :=
  fun xs ts hts i acc n hi0 hloop hn _ rPrev st _ _ _ W hrp hi hw =>
    (polRules hf hseq).interpRest xs ts hts i acc n hi0 hloop _ _ _ _ _ hi hn rPrev st rfl hrp W hw

end MsVerif.InterpPolicy
