/- What `FromTree for Miniscript` does on the pieces `Display` prints, up to one node of the printed tree
whatever printed its children. -/
import MsVerif.Model.Display
import MsVerif.Lemmas.ExprPrint
import MsVerif.Lemmas.CoreMisc

namespace MsVerif.Display
open MsVerif.Expr

theorem digit_spec (k : Nat) (h : k < 10) :
    ('0' ≤ digit k ∧ digit k ≤ '9') ∧ (digit k).toNat - 48 = k
      ∧ (1 ≤ k → '1' ≤ digit k ∧ digit k ≠ '0') := by
  revert k
  decide

theorem showNat_lt (n : Nat) (h : n < 10) : showNat n = [digit n] := by
  rw [showNat]; simp [h]

theorem showNat_ge (n : Nat) (h : ¬ n < 10) : showNat n = showNat (n / 10) ++ [digit (n % 10)] := by
  rw [showNat]; simp [h]

theorem showNat_ne_nil (n : Nat) : showNat n ≠ [] := by
  by_cases h : n < 10
  · rw [showNat_lt n h]; simp
  · rw [showNat_ge n h]; simp

theorem go_append (xs ys : List Char) (acc : Nat) :
    u32FromStr.go (xs ++ ys) acc =
      (match u32FromStr.go xs acc with
       | .ok a => u32FromStr.go ys a
       | .error e => .error e) := by
  induction xs generalizing acc with
  | nil => simp [u32FromStr.go, pure, Except.pure]
  | cons c cs ih =>
    simp only [List.cons_append, u32FromStr.go]
    by_cases hd : '0' ≤ c ∧ c ≤ '9'
    · simp only [hd, and_self, if_true]
      by_cases ho : acc * 10 + (c.toNat - 48) > 4294967295
      · simp [ho, throw, throwThe, MonadExceptOf.throw]
      · simp only [ho, if_false]; exact ih _
    · simp [hd, throw, throwThe, MonadExceptOf.throw]

theorem go_showNat : ∀ (n : Nat), n ≤ 4294967295 → u32FromStr.go (showNat n) 0 = .ok n := by
  intro n
  induction n using Nat.strongRecOn with
  | _ n ih =>
    intro hn
    by_cases h : n < 10
    · rw [showNat_lt n h]
      have hd := digit_spec n h
      simp only [u32FromStr.go, hd.1, and_self, if_true, hd.2.1]
      simp [pure, Except.pure]; omega
    · rw [showNat_ge n h, go_append, ih (n / 10) (by omega) (by omega)]
      have hd := digit_spec (n % 10) (by omega)
      simp only [u32FromStr.go, hd.1, and_self, if_true, hd.2.1]
      have e : n / 10 * 10 + n % 10 = n := by omega
      rw [e]
      simp [pure, Except.pure]; omega

theorem showNat_head (n : Nat) (h1 : 1 ≤ n) :
    ∃ d rest, showNat n = d :: rest ∧ '1' ≤ d ∧ d ≤ '9' ∧ d ≠ '0' := by
  induction n using Nat.strongRecOn with
  | _ n ih =>
    by_cases h : n < 10
    · rw [showNat_lt n h]
      have hd := digit_spec n h
      exact ⟨digit n, [], rfl, (hd.2.2 h1).1, hd.1.2, (hd.2.2 h1).2⟩
    · rw [showNat_ge n h]
      obtain ⟨d, rest, e, hd⟩ := ih (n / 10) (by omega) (by omega)
      rw [e]
      exact ⟨d, rest ++ [digit (n % 10)], rfl, hd⟩

theorem parseNum_showNat (n : Nat) (hn : n ≤ 4294967295) : parseNum (showNat n) = .ok n := by
  by_cases h0 : n = 0
  · subst h0; rw [showNat_lt 0 (by omega)]; rfl
  · obtain ⟨d, rest, e, h1, h9, hz⟩ := showNat_head n (by omega)
    have hgo := go_showNat n hn
    rw [e] at hgo
    unfold parseNum
    rw [e]
    have hne : ¬ (d :: rest = ['0']) := by
      intro h; injection h with ha _; exact hz ha
    simp only [hne, if_false, List.head?_cons, h1, h9, and_self, if_true]
    unfold u32FromStr
    simp only [List.isEmpty_cons, Bool.false_eq_true, if_false]
    exact hgo

theorem readDec_showNat (n : Nat) (hn : n ≤ 4294967295) : readDec (showNat n) = some n := by
  unfold readDec; rw [parseNum_showNat n hn]

theorem mem_parseable (f : Frag) : f ∈ Frag.parseable := by cases f <;> decide

theorem parseable_table : Frag.parseable.all (fun f =>
    Frag.ofName f.name == some f && !f.name.contains ':' && f.name.all charOkB) = true := by
  decide +kernel

theorem frag_table (f : Frag) :
    Frag.ofName f.name = some f ∧ f.name.contains ':' = false ∧ f.name.all charOkB = true := by
  have h := List.all_eq_true.mp parseable_table f (mem_parseable f)
  simp only [Bool.and_eq_true, beq_iff_eq, Bool.not_eq_true'] at h
  exact ⟨h.1.1, h.1.2, h.2⟩

theorem ofName_name (f : Frag) : Frag.ofName f.name = some f := (frag_table f).1

theorem colon_not_mem (f : Frag) : ':' ∉ f.name := by
  simpa using (frag_table f).2.1

theorem splitFirst_none (l : List Char) (h : ∀ x ∈ l, x ≠ ':') : splitFirst ':' l = (l, none) := by
  induction l with
  | nil => rfl
  | cons x xs ih =>
    rw [splitFirst, if_neg (h x List.mem_cons_self), ih (fun y hy => h y (List.mem_cons_of_mem _ hy))]

theorem nameSeparated_name (f : Frag) : nameSeparated f.name = some (none, f.name) := by
  rw [nameSeparated, splitFirst_none _ (fun x hx e => colon_not_mem f (e ▸ hx))]

theorem splitFirst_append (pre rest : List Char) (h : ∀ x ∈ pre, x ≠ ':') :
    splitFirst ':' (pre ++ ':' :: rest) = (pre, some rest) := by
  induction pre with
  | nil => simp [splitFirst]
  | cons x xs ih =>
    have hx : x ≠ ':' := h x (by simp)
    have ih' := ih (fun y hy => h y (by simp [hy]))
    simp [splitFirst, hx, ih']

theorem nameSeparated_join (pre : List Char) (f : Frag) (h : ∀ x ∈ pre, x ≠ ':') (hne : pre ≠ []) :
    nameSeparated (joinName pre f.name) = some (some pre, f.name) := by
  have he : pre.isEmpty = false := by cases pre <;> simp_all
  simp [joinName, he, nameSeparated, splitFirst_append pre f.name h, colon_not_mem f]

inductive W | a | s | c | d | v | j | n | t | u | l
deriving DecidableEq, Repr

def W.char : W → Char
  | .a => 'a' | .s => 's' | .c => 'c' | .d => 'd' | .v => 'v' | .j => 'j' | .n => 'n'
  | .t => 't' | .u => 'u' | .l => 'l'

def W.apply : W → Ms → Ms
  | .a, x => .alt x | .s, x => .swap x | .c, x => .check x | .d, x => .dupIf x
  | .v, x => .verify x | .j, x => .nonZero x | .n, x => .zeroNotEqual x
  | .t, x => .andV x .tru | .u, x => .orI x .fls | .l, x => .orI .fls x

theorem wrapTerm_char (w : W) (x : Ms) : wrapTerm w.char x = some (w.apply x) := by
  cases w <;> simp [wrapTerm, W.char, W.apply]

theorem W.char_ne_colon (w : W) : w.char ≠ ':' := by cases w <;> decide

theorem chars_no_colon (ws : List W) : ∀ x ∈ ws.map W.char, x ≠ ':' := by
  intro x hx
  simp only [List.mem_map] at hx
  obtain ⟨w, _, rfl⟩ := hx
  exact W.char_ne_colon w

/-- what the wrapper loop computes for the prefix `ws` (leftmost wrapper outermost) -/
def wrapAll (c : Codec) (ws : List W) (r : R Ms) : R Ms :=
  ws.foldr (fun w acc => match acc with | .ok x => mk c (w.apply x) | .error e => .error e) r

theorem wrapAll_error (c : Codec) (ws : List W) (e : DErr) : wrapAll c ws (.error e) = .error e := by
  induction ws with
  | nil => rfl
  | cons w ws ih => simp [wrapAll] at ih ⊢; rw [ih]

theorem wrapAll_snoc (c : Codec) (ws : List W) (w : W) (r : R Ms) :
    wrapAll c (ws ++ [w]) r =
      wrapAll c ws (match r with | .ok x => mk c (w.apply x) | .error e => .error e) := by
  simp [wrapAll, List.foldr_append]

theorem applyWrappers_eq (c : Codec) (rs : List W) (m : Ms) :
    applyWrappers c (rs.map W.char) m = wrapAll c rs.reverse (.ok m) := by
  induction rs generalizing m with
  | nil => rfl
  | cons w rs ih =>
    simp only [List.map_cons, applyWrappers, wrapTerm_char, List.reverse_cons, wrapAll_snoc]
    cases hmk : mk c (w.apply m) with
    | error e => simp [wrapAll_error]
    | ok m' => simp [ih]

theorem fromTreeI_core (c : Codec) (ws : List W) (f : Frag) (cs : List Tree) (m : Ms)
    (hcore : parseCore c f cs (fromTreeL c cs) = .ok m) :
    fromTreeI c (core (ws.map W.char) f cs) = wrapAll c ws (.ok m) := by
  unfold core
  rw [fromTreeI]
  unfold parseNode
  cases ws with
  | nil =>
    simp only [List.map_nil, joinName, List.isEmpty_nil, if_true, nameSeparated_name, ofName_name f, hcore]
    rfl
  | cons w ws =>
    have hne : (w :: ws).map W.char ≠ [] := by simp
    rw [nameSeparated_join _ f (chars_no_colon _) hne]
    simp only [ofName_name f, hcore]
    have he : ((w :: ws).map W.char).isEmpty = false := by simp
    simp only [he, Bool.false_eq_true, if_false]
    rw [← List.map_reverse, applyWrappers_eq, List.reverse_reverse]

/-- the key type's `FromStr` inverts its `Display` (keys, the four hash types, raw key hashes) -/
structure CodecOk (c : Codec) : Prop where
  key : ∀ k, c.readKey (c.showKey k) = some k
  hash : ∀ kind h, c.readHash kind (c.showHash kind h) = some h
  raw : ∀ h, c.readRaw (c.showRaw h) = some h

/-- invariants of the Rust TYPES at one node (`AbsLockTime`, `RelLockTime`, `Threshold<_, MAX>`) -/
def localOk : Ms → Bool
  | .after n => decide (1 ≤ n ∧ n ≤ 2147483647)
  | .older n => decide (1 ≤ n ∧ n ≤ 2147483647)
  | .thresh k xs => decide (1 ≤ k ∧ k ≤ xs.length ∧ k ≤ 4294967295)
  | .multi k ks => decide (1 ≤ k ∧ k ≤ ks.length ∧ ks.length ≤ 20)
  | .sortedMulti k ks => decide (1 ≤ k ∧ k ≤ ks.length ∧ ks.length ≤ 20)
  | .multiA k ks => decide (1 ≤ k ∧ k ≤ ks.length ∧ ks.length ≤ 999)
  | .sortedMultiA k ks => decide (1 ≤ k ∧ k ≤ ks.length ∧ ks.length ≤ 999)
  | _ => true

/-- the atoms occurring AT this node are read back from their printed form -/
def atomsOk (c : Codec) : Ms → Bool
  | .pkK k => c.readKey (c.showKey k) == some k
  | .pkH k => c.readKey (c.showKey k) == some k
  | .rawPkH h => c.readRaw (c.showRaw h) == some h
  | .hash kind h => c.readHash kind (c.showHash kind h) == some h
  | .multi _ ks => ks.all (fun k => c.readKey (c.showKey k) == some k)
  | .sortedMulti _ ks => ks.all (fun k => c.readKey (c.showKey k) == some k)
  | .multiA _ ks => ks.all (fun k => c.readKey (c.showKey k) == some k)
  | .sortedMultiA _ ks => ks.all (fun k => c.readKey (c.showKey k) == some k)
  | _ => true

/-- what `Miniscript::from_ast` guarantees for a node, plus `localOk` and `atomsOk` -/
def nodeOk (c : Codec) (m : Ms) : Bool :=
  (typeOf m).isSome && decide (height m ≤ MAX_RECURSION_DEPTH) && c.gv m && localOk m && atomsOk c m

theorem nodeOk_iff (c : Codec) (m : Ms) :
    nodeOk c m = true ↔
      (typeOf m).isSome = true ∧ height m ≤ MAX_RECURSION_DEPTH ∧ c.gv m = true ∧ localOk m = true
        ∧ atomsOk c m = true := by
  simp [nodeOk, and_assoc]

theorem mk_ok (c : Codec) (m : Ms) (h : nodeOk c m = true) : mk c m = .ok m := by
  obtain ⟨ht, hh, hg, _, _⟩ := (nodeOk_iff c m).1 h
  unfold mk
  cases hty : typeOf m with
  | none => rw [hty] at ht; cases ht
  | some _ =>
    have : ¬ height m > MAX_RECURSION_DEPTH := by omega
    simp [this, hg]

theorem nodeOk_local {c : Codec} {m : Ms} (h : nodeOk c m = true) : localOk m = true :=
  ((nodeOk_iff c m).1 h).2.2.2.1

theorem nodeOk_atoms {c : Codec} {m : Ms} (h : nodeOk c m = true) : atomsOk c m = true :=
  ((nodeOk_iff c m).1 h).2.2.2.2

/-- `Ms.all p m` starts with `p m`; how deep it sits in the conjunction depends on the number of
sub-fragments -/
theorem root_of_all (p : Ms → Bool) : ∀ m : Ms, Ms.all p m = true → p m = true
  | .alt _ | .swap _ | .check _ | .dupIf _ | .verify _ | .nonZero _ | .zeroNotEqual _ | .thresh _ _ => by
    intro h
    simp only [Ms.all, Bool.and_eq_true] at h
    exact h.1
  | .andV _ _ | .andB _ _ | .orB _ _ | .orD _ _ | .orC _ _ | .orI _ _ => by
    intro h
    simp only [Ms.all, Bool.and_eq_true] at h
    exact h.1.1
  | .andOr _ _ _ => by
    intro h
    simp only [Ms.all, Bool.and_eq_true] at h
    exact h.1.1.1
  | .fls | .tru | .pkK _ | .pkH _ | .rawPkH _ | .multi _ _ | .sortedMulti _ _ | .multiA _ _
  | .sortedMultiA _ _ | .after _ | .older _ | .hash _ _ => by
    intro h
    simpa only [Ms.all] using h

mutual
theorem all_mono (p q : Ms → Bool) (hpq : ∀ m, p m = true → q m = true) :
    ∀ m : Ms, Ms.all p m = true → Ms.all q m = true
  | .alt x | .swap x | .check x | .dupIf x | .verify x | .nonZero x | .zeroNotEqual x => by
    simp only [Ms.all, Bool.and_eq_true]; intro h; exact ⟨hpq _ h.1, all_mono p q hpq x h.2⟩
  | .andV l r | .andB l r | .orB l r | .orD l r | .orC l r | .orI l r => by
    simp only [Ms.all, Bool.and_eq_true]; intro h
    exact ⟨⟨hpq _ h.1.1, all_mono p q hpq l h.1.2⟩, all_mono p q hpq r h.2⟩
  | .andOr a b z => by
    simp only [Ms.all, Bool.and_eq_true]; intro h
    exact ⟨⟨⟨hpq _ h.1.1.1, all_mono p q hpq a h.1.1.2⟩, all_mono p q hpq b h.1.2⟩, all_mono p q hpq z h.2⟩
  | .thresh k xs => by
    simp only [Ms.all, Bool.and_eq_true]; intro h; exact ⟨hpq _ h.1, allList_mono p q hpq xs h.2⟩
  | .tru | .fls | .pkK _ | .pkH _ | .rawPkH _ | .after _ | .older _ | .hash _ _
  | .multi _ _ | .sortedMulti _ _ | .multiA _ _ | .sortedMultiA _ _ => by
    simp only [Ms.all]; exact hpq _
theorem allList_mono (p q : Ms → Bool) (hpq : ∀ m, p m = true → q m = true) :
    ∀ xs : MsList, MsList.all p xs = true → MsList.all q xs = true
  | .nil => fun _ => rfl
  | .cons x xs => by
    simp only [MsList.all, Bool.and_eq_true]; intro h
    exact ⟨all_mono p q hpq x h.1, allList_mono p q hpq xs h.2⟩
end

theorem atomsOk_of_codecOk (c : Codec) (hc : CodecOk c) (m : Ms) : atomsOk c m = true := by
  cases m <;> simp [atomsOk, hc.key, hc.hash, hc.raw]

theorem termParent_leaf (s : List Char) (read : List Char → Option Nat) (f : Nat → Ms) (a : Nat)
    (h : read s = some a) : termParent [leaf s] read f = .ok (f a) := by
  simp [termParent, leaf, leafName, h]

theorem lockParent_leaf (n : Nat) (f : Nat → Ms) (h : 1 ≤ n ∧ n ≤ 2147483647) :
    lockParent [leaf (showNat n)] f = .ok (f n) := by
  simp [lockParent, leaf, leafName, parseNum_showNat n (by omega), h]

theorem threshK_ok (max k : Nat) (rest : List Tree)
    (h1 : 1 ≤ k) (h2 : k ≤ rest.length) (h3 : k ≤ 4294967295) (h4 : max = 0 ∨ rest.length ≤ max) :
    threshK max (leaf (showNat k) :: rest) = .ok k := by
  have hc : ¬ (k = 0 ∨ k > rest.length ∨ (max > 0 ∧ rest.length > max)) := by omega
  simp only [threshK, leaf, leafName, parseNum_showNat k h3]
  simp [hc]

theorem readKeys_map (c : Codec) (ks : List Nat)
    (hc : ks.all (fun k => c.readKey (c.showKey k) == some k) = true) :
    readKeys c (ks.map (fun k => leaf (c.showKey k))) = .ok ks := by
  induction ks with
  | nil => rfl
  | cons k ks ih =>
    simp only [List.all_cons, Bool.and_eq_true, beq_iff_eq] at hc
    have ih' := ih hc.2
    simp only [List.map_cons, readKeys, leaf, leafName, hc.1] at ih' ⊢
    rw [ih']

theorem collect_map_ok (l : List Ms) : collect (l.map Except.ok) = .ok l := by
  induction l with
  | nil => rfl
  | cons m ms ih => simp [collect, ih]

theorem toTreeList_length (c : Codec) : ∀ xs : MsList, (toTreeList c xs).length = xs.length
  | .nil => rfl
  | .cons _ xs => by simp [toTreeList, MsList.length, toTreeList_length c xs]

theorem keysThresh_ok (c : Codec) (max k : Nat) (ks : List Nat) (f : Nat → List Nat → Ms)
    (h1 : 1 ≤ k) (h2 : k ≤ ks.length) (h4 : ks.length ≤ max) (h5 : max ≤ 999)
    (hc : ks.all (fun k => c.readKey (c.showKey k) == some k) = true) (hmk : mk c (f k ks) = .ok (f k ks)) :
    keysThresh c max (leaf (showNat k) :: ks.map (fun k => leaf (c.showKey k))) f = .ok (f k ks) := by
  unfold keysThresh
  rw [threshK_ok max k _ h1 (by simpa using h2) (by omega) (Or.inr (by simpa using h4))]
  simp only [List.tail_cons, readKeys_map c ks hc, hmk]

theorem binary_ok (c : Codec) (x y : Ms) (f : Ms → Ms → Ms) (hmk : mk c (f x y) = .ok (f x y)) :
    binary c [.ok x, .ok y] f = .ok (f x y) := by
  simp [binary, hmk]

theorem sugarCheck_cases (c : Codec) (x : Ms) :
    sugarCheck c x = none ∨ (∃ k, x = .pkK k) ∨ (∃ k, x = .pkH k) := by
  cases x <;> simp [sugarCheck]

theorem fromTreeL_two (c : Codec) (a b : Tree) :
    fromTreeL c [a, b] = [fromTreeI c a, fromTreeI c b] := by simp [fromTreeL]

theorem fromTreeL_three (c : Codec) (a b z : Tree) :
    fromTreeL c [a, b, z] = [fromTreeI c a, fromTreeI c b, fromTreeI c z] := by simp [fromTreeL]

theorem core_binary (c : Codec) (ws : List W) (f : Frag) (g : Ms → Ms → Ms)
    (hf : ∀ cs kids, parseCore c f cs kids = binary c kids g) {tl tr : Tree} {l r : Ms}
    (hl : fromTreeI c tl = .ok l) (hr : fromTreeI c tr = .ok r) (hn : nodeOk c (g l r) = true) :
    fromTreeI c (core (ws.map W.char) f [tl, tr]) = wrapAll c ws (.ok (g l r)) :=
  fromTreeI_core c ws f _ _ (by rw [hf, fromTreeL_two, hl, hr]; exact binary_ok c l r g (mk_ok c _ hn))

theorem core_andor (c : Codec) (ws : List W) {ta tb tz : Tree} {a b z : Ms}
    (ha : fromTreeI c ta = .ok a) (hb : fromTreeI c tb = .ok b) (hz : fromTreeI c tz = .ok z)
    (hn : nodeOk c (.andOr a b z) = true) :
    fromTreeI c (core (ws.map W.char) .andor [ta, tb, tz]) = wrapAll c ws (.ok (.andOr a b z)) :=
  fromTreeI_core c ws .andor _ _ (by
    simp only [parseCore, fromTreeL_three, ha, hb, hz]; exact mk_ok c _ hn)

theorem core_thresh (c : Codec) (ws : List W) (k : Nat) {cs : List Tree} {xs : MsList}
    (hcs : fromTreeL c cs = xs.toList.map Except.ok) (hlen : cs.length = xs.length)
    (hn : nodeOk c (.thresh k xs) = true) :
    fromTreeI c (core (ws.map W.char) .thresh (leaf (showNat k) :: cs))
      = wrapAll c ws (.ok (.thresh k xs)) := by
  have hloc : 1 ≤ k ∧ k ≤ xs.length ∧ k ≤ 4294967295 := of_decide_eq_true (nodeOk_local hn)
  refine fromTreeI_core c ws .thresh _ _ ?_
  simp only [parseCore]
  rw [threshK_ok 0 k _ hloc.1 (hlen ▸ hloc.2.1) hloc.2.2 (Or.inl rfl)]
  simp only [fromTreeL, List.tail_cons, hcs, collect_map_ok, MsList.ofList_toList]
  exact mk_ok c _ hn

theorem core_keys (c : Codec) (ws : List W) (f : Frag) (g : Nat → List Nat → Ms) (max k : Nat)
    (ks : List Nat) (hf : ∀ cs kids, parseCore c f cs kids = keysThresh c max cs g)
    (hmax : max ≤ 999) (hloc : 1 ≤ k ∧ k ≤ ks.length ∧ ks.length ≤ max)
    (hn : nodeOk c (g k ks) = true)
    (hat : ks.all (fun k => c.readKey (c.showKey k) == some k) = true) :
    fromTreeI c (core (ws.map W.char) f (leaf (showNat k) :: ks.map (fun k => leaf (c.showKey k))))
      = wrapAll c ws (.ok (g k ks)) :=
  fromTreeI_core c ws f _ _ (by
    rw [hf]; exact keysThresh_ok c max k ks g hloc.1 hloc.2.1 hloc.2.2 hmax hat (mk_ok c _ hn))

end MsVerif.Display
