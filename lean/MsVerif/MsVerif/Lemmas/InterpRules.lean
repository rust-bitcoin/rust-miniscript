/-
The interpreter (`Model/Interp`) as a set of big-step rules: what a successful run of each
evaluator looked like.  Inductions over accepted evaluations go through these rules instead of
unfolding the evaluators.
-/
import MsVerif.Model.Interp

namespace MsVerif.Interp
open MsVerif

variable {ke : KeyEnv} {ie : IEnv}

theorem Elem.bool_of_not_push {x : Elem} (h : ∀ b, x = .push b → False) : x = .sat ∨ x = .dissat := by
  cases x with
  | sat => exact .inl rfl
  | dissat => exact .inr rfl
  | push b => exact (h b rfl).elim

theorem evalSig_ok {pk : Bytes} {mk : Bytes → Constraint} {st a : AStack} {cs : List Constraint}
    (h : evalSig ie pk mk st = .ok (a, cs)) :
    (∃ st', st = .dissat :: st' ∧ a = .dissat :: st' ∧ cs = []) ∨
    (∃ sg st', st = .push sg :: st' ∧ ie.verifySig pk sg = true ∧ a = .sat :: st' ∧ cs = [mk sg]) := by
  unfold evalSig at h
  split at h
  · cases h; exact .inl ⟨_, rfl, rfl, rfl⟩
  · split at h
    · next hv => cases h; exact .inr ⟨_, _, rfl, hv, rfl, rfl⟩
    · cases h
  · cases h
  · cases h

theorem evaluatePkh_ok {hh : Bytes} {st a : AStack} {cs : List Constraint}
    (h : evaluatePkh ie hh st = .ok (a, cs)) :
    ∃ pk st', st = .push pk :: st' ∧ ie.hash160 pk = hh ∧ ie.keyParse pk = true
      ∧ evalSig ie pk (.pkh hh pk) st' = .ok (a, cs) := by
  unfold evaluatePkh at h
  split at h
  · split at h
    · cases h
    · next hne =>
      split at h
      · cases h
      · next hkp => exact ⟨_, _, rfl, by simpa using hne, by simpa using hkp, h⟩
  · cases h

theorem evaluateAfter_ok {n : Nat} {st a : AStack} {cs : List Constraint}
    (h : evaluateAfter ie n st = .ok (a, cs)) :
    a = .sat :: st ∧ cs = [.after n] ∧ ie.sequence ≠ SEQ_FINAL
      ∧ ((n < LOCKTIME_THRESHOLD ∧ ie.lockTime < LOCKTIME_THRESHOLD)
        ∨ (n ≥ LOCKTIME_THRESHOLD ∧ ie.lockTime ≥ LOCKTIME_THRESHOLD)) ∧ n ≤ ie.lockTime := by
  unfold evaluateAfter at h
  split at h
  · cases h
  · next h0 =>
    split at h
    · next h1 =>
      split at h
      · next h2 =>
        cases h
        refine ⟨rfl, rfl, by simpa using h0, ?_, h2⟩
        simpa only [Bool.and_eq_true, Bool.or_eq_true, decide_eq_true_eq] using h1
      · cases h
    · cases h

theorem evaluateOlder_ok {n : Nat} {st a : AStack} {cs : List Constraint}
    (h : evaluateOlder ie n st = .ok (a, cs)) :
    a = .sat :: st ∧ cs = [.older n] ∧ (ie.sequence / SEQ_DISABLE) % 2 = 0
      ∧ ((ie.sequence / SEQ_TYPE) % 2 = 1 ↔ (n / SEQ_TYPE) % 2 = 1)
      ∧ n % 65536 ≤ ie.sequence % 65536 := by
  unfold evaluateOlder at h
  split at h
  · cases h
  · next h0 =>
    dsimp only at h
    split at h
    · next h1 =>
      cases h
      simp only [Bool.and_eq_true, decide_eq_true_eq, beq_iff_eq] at h1
      have h0' : (ie.sequence / SEQ_DISABLE) % 2 ≠ 1 := by simpa using h0
      refine ⟨rfl, rfl, by omega, ?_, h1.2⟩
      have := h1.1
      constructor <;> intro hh <;> simpa [hh] using this
    · cases h

theorem evaluateHash_ok {k : HashKind} {hh : Bytes} {st a : AStack} {cs : List Constraint}
    (h : evaluateHash ie k hh st = .ok (a, cs)) :
    ∃ pre st', st = .push pre :: st' ∧ pre.length = 32 ∧
      ((ie.hash k pre = hh ∧ a = .sat :: st' ∧ cs = [.hashLock k hh pre])
        ∨ (ie.hash k pre ≠ hh ∧ a = .dissat :: st' ∧ cs = [])) := by
  unfold evaluateHash at h
  split at h
  · split at h
    · cases h
    · next hl =>
      refine ⟨_, _, rfl, by simpa using hl, ?_⟩
      split at h
      · next he => cases h; exact .inl ⟨by simpa using he, rfl, rfl⟩
      · next he => cases h; exact .inr ⟨by simpa using he, rfl, rfl⟩
  · cases h

theorem evaluateMulti_ok {pk : Bytes} {st st1 : AStack} {c : Option Constraint}
    (h : evaluateMulti ie pk st = .ok (st1, c)) :
    ∃ sg st', st = .push sg :: st' ∧
      ((ie.verifySig pk sg = true ∧ st1 = st' ∧ c = some (.pk pk sg))
        ∨ (ie.verifySig pk sg = false ∧ st1 = st ∧ c = none)) := by
  unfold evaluateMulti at h
  split at h
  · refine ⟨_, _, rfl, ?_⟩
    split at h
    · next hv => cases h; exact .inl ⟨hv, rfl, rfl⟩
    · next hv => cases h; exact .inr ⟨by simpa using hv, rfl, rfl⟩
  · cases h
  · cases h

theorem multiLoop_induct {k : Nat} {P : List Bytes → Nat → AStack → AStack → List Constraint → Prop}
    (done : ∀ keys st, P keys k (.dissat :: st) (.sat :: st) [])
    (hit : ∀ pk rest n sg st a cs, n ≠ k → ie.verifySig pk sg = true →
      multiLoop ie k rest (n + 1) st = .ok (a, cs) → P rest (n + 1) st a cs →
      P (pk :: rest) n (.push sg :: st) a (.pk pk sg :: cs))
    (miss : ∀ pk rest n sg st a cs, n ≠ k → ie.verifySig pk sg = false →
      multiLoop ie k rest n (.push sg :: st) = .ok (a, cs) → P rest n (.push sg :: st) a cs →
      P (pk :: rest) n (.push sg :: st) a cs) :
    ∀ (keys : List Bytes) (n : Nat) (st a : AStack) (cs : List Constraint),
      multiLoop ie k keys n st = .ok (a, cs) → P keys n st a cs
  | [], n, st, a, cs, h => by
    unfold multiLoop at h
    split at h
    · next hk =>
      cases (show n = k by simpa using hk)
      split at h
      · cases h; exact done _ _
      · cases h
    · cases h
  | pk :: rest, n, st, a, cs, h => by
    unfold multiLoop at h
    split at h
    · next hk =>
      cases (show n = k by simpa using hk)
      split at h
      · cases h; exact done _ _
      · cases h
    · next hk =>
      have hk : n ≠ k := by simpa using hk
      simp only at h
      split at h
      · cases h
      · next hm =>
        obtain ⟨sg, st', rfl, ⟨hv, rfl, hc⟩ | ⟨_, _, hc⟩⟩ := evaluateMulti_ok hm
        · cases hc
          split at h
          · next hr => cases h; exact hit _ _ _ _ _ _ _ hk hv hr (multiLoop_induct done hit miss _ _ _ _ _ hr)
          · cases h
        · cases hc
      · next hm =>
        obtain ⟨sg, st', rfl, ⟨_, _, hc⟩ | ⟨hv, rfl, _⟩⟩ := evaluateMulti_ok hm
        · cases hc
        · exact miss _ _ _ _ _ _ _ hk hv h (multiLoop_induct done hit miss _ _ _ _ _ h)

theorem evalMulti_ok {k : Nat} {keys : List Bytes} {st a : AStack} {cs : List Constraint}
    (h : evalMulti ie k keys st = .ok (a, cs)) :
    k + 1 ≤ st.length ∧
    ((∃ st', st = .dissat :: st' ∧ (st.take (k + 1)).all (· == .dissat) = true
        ∧ a = .dissat :: st.drop (k + 1) ∧ cs = [])
      ∨ ((∀ st', st ≠ .dissat :: st') ∧ multiLoop ie k keys.reverse 0 st = .ok (a, cs))) := by
  unfold evalMulti at h
  split at h
  · cases h
  · next hlen =>
    refine ⟨by omega, ?_⟩
    split at h
    · split at h
      · next hall => cases h; exact .inl ⟨_, rfl, hall, rfl, rfl⟩
      · cases h
    · cases h
    · next _ hnd _ => exact .inr ⟨fun st' e => hnd st' e, h⟩

theorem multiALoop_cons_ok {k : Nat} {pk : Bytes} {rest : List Bytes} {n : Nat} {st a : AStack}
    {cs : List Constraint} (h : multiALoop ie k (pk :: rest) n st = .ok (a, cs)) :
    (∃ sg st' cs', st = .push sg :: st' ∧ ie.verifySig pk sg = true ∧ cs = .pk pk sg :: cs'
        ∧ multiALoop ie k rest (n + 1) st' = .ok (a, cs'))
      ∨ (∃ st', st = .dissat :: st' ∧ multiALoop ie k rest n st' = .ok (a, cs)) := by
  unfold multiALoop at h
  split at h
  · cases h
  · next hp =>
    rcases evalSig_ok hp with ⟨_, _, _, hc⟩ | ⟨sg, st', rfl, hv, rfl, hc⟩
    · cases hc
    · cases hc
      simp only at h
      split at h
      · next hr => cases h; exact .inl ⟨_, _, _, rfl, hv, rfl, hr⟩
      · cases h
  · next hp =>
    rcases evalSig_ok hp with ⟨st', rfl, rfl, _⟩ | ⟨_, _, _, _, _, hc⟩
    · exact .inr ⟨_, rfl, h⟩
    · cases hc

theorem multiALoop_induct {k : Nat} {P : List Bytes → Nat → AStack → AStack → List Constraint → Prop}
    (nil : ∀ n st, P [] n st ((if n == k then .sat else .dissat) :: st) [])
    (hit : ∀ pk rest n sg st a cs, ie.verifySig pk sg = true →
      multiALoop ie k rest (n + 1) st = .ok (a, cs) → P rest (n + 1) st a cs →
      P (pk :: rest) n (.push sg :: st) a (.pk pk sg :: cs))
    (miss : ∀ pk rest n st a cs, multiALoop ie k rest n st = .ok (a, cs) → P rest n st a cs →
      P (pk :: rest) n (.dissat :: st) a cs) :
    ∀ (keys : List Bytes) (n : Nat) (st a : AStack) (cs : List Constraint),
      multiALoop ie k keys n st = .ok (a, cs) → P keys n st a cs
  | [], n, st, a, cs, h => by
    simp only [multiALoop] at h
    cases h
    exact nil _ _
  | pk :: rest, n, st, a, cs, h => by
    rcases multiALoop_cons_ok h with ⟨_, _, _, rfl, hv, rfl, hr⟩ | ⟨_, rfl, hr⟩
    · exact hit _ _ _ _ _ _ _ hv hr (multiALoop_induct nil hit miss _ _ _ _ _ hr)
    · exact miss _ _ _ _ _ _ hr (multiALoop_induct nil hit miss _ _ _ _ _ hr)

/-- `P ms st a cs`: "`ms` on stack `st` gave stack `a` and constraints `cs`" (`Q` likewise for
`interpRest`); one field per accepting arm of `Model/Interp.interp`. -/
structure Rules (ke : KeyEnv) (ie : IEnv) (P : Ms → AStack → AStack → List Constraint → Prop)
    (Q : MsList → Nat → AStack → AStack → Nat → List Constraint → Prop) : Prop where
  tru : ∀ st, P .tru st (.sat :: st) []
  fls : ∀ st, P .fls st (.dissat :: st) []
  pkK : ∀ k st a cs, evalSig ie (ke.ser k) (.pk (ke.ser k)) st = .ok (a, cs) → P (.pkK k) st a cs
  pkH : ∀ k st a cs, evaluatePkh ie (ke.pkh k) st = .ok (a, cs) → P (.pkH k) st a cs
  rawPkH : ∀ k st a cs, evaluatePkh ie (ke.rawPkh k) st = .ok (a, cs) → P (.rawPkH k) st a cs
  after : ∀ n st a cs, evaluateAfter ie n st = .ok (a, cs) → P (.after n) st a cs
  older : ∀ n st a cs, evaluateOlder ie n st = .ok (a, cs) → P (.older n) st a cs
  hash : ∀ kind n st a cs, evaluateHash ie kind (ke.hashVal kind n) st = .ok (a, cs) →
    P (.hash kind n) st a cs
  alt : ∀ x st a cs, interp ke ie x st = .ok (a, cs) → P x st a cs → P (.alt x) st a cs
  swap : ∀ x st a cs, interp ke ie x st = .ok (a, cs) → P x st a cs → P (.swap x) st a cs
  check : ∀ x st a cs, interp ke ie x st = .ok (a, cs) → P x st a cs → P (.check x) st a cs
  dupIf_dis : ∀ x st, P (.dupIf x) (.dissat :: st) (.dissat :: st) []
  dupIf_sat : ∀ x st a cs, interp ke ie x st = .ok (a, cs) → P x st a cs →
    P (.dupIf x) (.sat :: st) (.sat :: a) cs
  verify : ∀ x st a cs, interp ke ie x st = .ok (.sat :: a, cs) → P x st (.sat :: a) cs →
    P (.verify x) st a cs
  zne_dis : ∀ x st a cs, interp ke ie x st = .ok (.dissat :: a, cs) → P x st (.dissat :: a) cs →
    P (.zeroNotEqual x) st (.dissat :: a) cs
  zne_sat : ∀ x st e a cs, e ≠ .dissat → interp ke ie x st = .ok (e :: a, cs) → P x st (e :: a) cs →
    P (.zeroNotEqual x) st (.sat :: a) cs
  nonZero_dis : ∀ x st, P (.nonZero x) (.dissat :: st) (.dissat :: st) []
  nonZero : ∀ x e st a cs, e ≠ .dissat → interp ke ie x (e :: st) = .ok (a, cs) → P x (e :: st) a cs →
    P (.nonZero x) (e :: st) a cs
  andV : ∀ l r st a1 cs1 a cs2, interp ke ie l st = .ok (a1, cs1) → P l st a1 cs1 →
    interp ke ie r a1 = .ok (a, cs2) → P r a1 a cs2 → P (.andV l r) st a (cs1 ++ cs2)
  andB : ∀ l r st x st1 cs1 y st2 cs2, (x = .sat ∨ x = .dissat) →
    interp ke ie l st = .ok (x :: st1, cs1) → P l st (x :: st1) cs1 →
    interp ke ie r st1 = .ok (y :: st2, cs2) → P r st1 (y :: st2) cs2 →
    P (.andB l r) st ((if y == .sat && x == .sat then .sat else .dissat) :: st2) (cs1 ++ cs2)
  orB : ∀ l r st x st1 cs1 y st2 cs2, (x = .sat ∨ x = .dissat) →
    interp ke ie l st = .ok (x :: st1, cs1) → P l st (x :: st1) cs1 →
    interp ke ie r st1 = .ok (y :: st2, cs2) → P r st1 (y :: st2) cs2 →
    P (.orB l r) st ((if y == .dissat && x == .dissat then .dissat else .sat) :: st2) (cs1 ++ cs2)
  andOr_sat : ∀ x y z st st1 cs1 a cs2, interp ke ie x st = .ok (.sat :: st1, cs1) →
    P x st (.sat :: st1) cs1 → interp ke ie y st1 = .ok (a, cs2) → P y st1 a cs2 →
    P (.andOr x y z) st a (cs1 ++ cs2)
  andOr_dis : ∀ x y z st st1 cs1 a cs2, interp ke ie x st = .ok (.dissat :: st1, cs1) →
    P x st (.dissat :: st1) cs1 → interp ke ie z st1 = .ok (a, cs2) → P z st1 a cs2 →
    P (.andOr x y z) st a (cs1 ++ cs2)
  orC_sat : ∀ l r st a cs, interp ke ie l st = .ok (.sat :: a, cs) → P l st (.sat :: a) cs →
    P (.orC l r) st a cs
  orC_dis : ∀ l r st st1 cs1 a cs2, interp ke ie l st = .ok (.dissat :: st1, cs1) →
    P l st (.dissat :: st1) cs1 → interp ke ie r st1 = .ok (a, cs2) → P r st1 a cs2 →
    P (.orC l r) st a (cs1 ++ cs2)
  orD_sat : ∀ l r st a cs, interp ke ie l st = .ok (.sat :: a, cs) → P l st (.sat :: a) cs →
    P (.orD l r) st (.sat :: a) cs
  orD_dis : ∀ l r st st1 cs1 a cs2, interp ke ie l st = .ok (.dissat :: st1, cs1) →
    P l st (.dissat :: st1) cs1 → interp ke ie r st1 = .ok (a, cs2) → P r st1 a cs2 →
    P (.orD l r) st a (cs1 ++ cs2)
  orI_left : ∀ l r st a cs, interp ke ie l st = .ok (a, cs) → P l st a cs →
    P (.orI l r) (.sat :: st) a cs
  orI_right : ∀ l r st a cs, interp ke ie r st = .ok (a, cs) → P r st a cs →
    P (.orI l r) (.dissat :: st) a cs
  /-- the count `n` excludes the last child's result `y`, which is still on the stack -/
  thresh : ∀ k x xs st st1 cs1 y st2 n cs2, (y = .sat ∨ y = .dissat) →
    interp ke ie x st = .ok (st1, cs1) → P x st st1 cs1 →
    interpRest ke ie xs 0 st1 = .ok (y :: st2, n, cs2) → Q xs 0 st1 (y :: st2) n cs2 →
    P (.thresh k (.cons x xs)) st
      ((if n == (if y = .sat then k - 1 else k) then .sat else .dissat) :: st2) (cs1 ++ cs2)
  multi : ∀ k ks st a cs, evalMulti ie k (ks.map ke.ser) st = .ok (a, cs) → P (.multi k ks) st a cs
  sortedMulti : ∀ k ks st a cs, evalMulti ie k (ks.map ke.ser) st = .ok (a, cs) →
    P (.sortedMulti k ks) st a cs
  multiA : ∀ k ks st a cs, multiALoop ie k (ks.map ke.ser) 0 st = .ok (a, cs) → P (.multiA k ks) st a cs
  sortedMultiA : ∀ k ks st a cs, multiALoop ie k (ks.map ke.ser) 0 st = .ok (a, cs) →
    P (.sortedMultiA k ks) st a cs
  rest_nil : ∀ n st, Q .nil n st st n []
  rest_cons : ∀ x xs n y st st1 cs1 a n' cs2, (y = .sat ∨ y = .dissat) →
    interp ke ie x st = .ok (st1, cs1) → P x st st1 cs1 →
    interpRest ke ie xs (if y == .sat then n + 1 else n) st1 = .ok (a, n', cs2) →
    Q xs (if y == .sat then n + 1 else n) st1 a n' cs2 →
    Q (.cons x xs) n (y :: st) a n' (cs1 ++ cs2)

variable {P : Ms → AStack → AStack → List Constraint → Prop}
  {Q : MsList → Nat → AStack → AStack → Nat → List Constraint → Prop}

mutual
theorem Rules.interp (R : Rules ke ie P Q) : (ms : Ms) → ∀ (st a : AStack) (cs : List Constraint),
    interp ke ie ms st = .ok (a, cs) → P ms st a cs
  | .tru, st, a, cs, h => by cases h; exact R.tru _
  | .fls, st, a, cs, h => by cases h; exact R.fls _
  | .pkK k, st, a, cs, h => R.pkK _ _ _ _ h
  | .pkH k, st, a, cs, h => R.pkH _ _ _ _ (by simpa only [Interp.interp] using h)
  | .rawPkH k, st, a, cs, h => R.rawPkH _ _ _ _ (by simpa only [Interp.interp] using h)
  | .after n, st, a, cs, h => R.after _ _ _ _ (by simpa only [Interp.interp] using h)
  | .older n, st, a, cs, h => R.older _ _ _ _ (by simpa only [Interp.interp] using h)
  | .hash kind n, st, a, cs, h => R.hash _ _ _ _ _ (by simpa only [Interp.interp] using h)
  | .alt x, st, a, cs, h => by
    simp only [Interp.interp] at h; exact R.alt _ _ _ _ h (R.interp x _ _ _ h)
  | .swap x, st, a, cs, h => by
    simp only [Interp.interp] at h; exact R.swap _ _ _ _ h (R.interp x _ _ _ h)
  | .check x, st, a, cs, h => by
    simp only [Interp.interp] at h; exact R.check _ _ _ _ h (R.interp x _ _ _ h)
  | .dupIf x, st, a, cs, h => by
    simp only [Interp.interp] at h
    split at h
    · cases h; exact R.dupIf_dis _ _
    · split at h
      · next hx => cases h; exact R.dupIf_sat _ _ _ _ hx (R.interp x _ _ _ hx)
      · cases h
    · cases h
    · cases h
  | .verify x, st, a, cs, h => by
    simp only [Interp.interp] at h
    split at h
    · next hx => cases h; exact R.verify _ _ _ _ hx (R.interp x _ _ _ hx)
    all_goals cases h
  | .zeroNotEqual x, st, a, cs, h => by
    simp only [Interp.interp] at h
    split at h
    · next hx => cases h; exact R.zne_dis _ _ _ _ hx (R.interp x _ _ _ hx)
    · next _ e _ _ hne hx => cases h; exact R.zne_sat _ _ _ _ _ hne hx (R.interp x _ _ _ hx)
    all_goals cases h
  | .nonZero x, st, a, cs, h => by
    simp only [Interp.interp] at h
    split at h
    · cases h; exact R.nonZero_dis _ _
    · next _ e _ hne => exact R.nonZero _ _ _ _ _ hne h (R.interp x _ _ _ h)
    · cases h
  | .andV l r, st, a, cs, h => by
    simp only [Interp.interp] at h
    split at h
    · next hl =>
      split at h
      · next hr => cases h; exact R.andV _ _ _ _ _ _ _ hl (R.interp l _ _ _ hl) hr (R.interp r _ _ _ hr)
      · cases h
    · cases h
  | .andB l r, st, a, cs, h => by
    simp only [Interp.interp] at h
    split at h
    · cases h
    · cases h
    · next _ x _ _ hnp hl =>
      split at h
      · next hr =>
        cases h
        exact R.andB _ _ _ _ _ _ _ _ _ (Elem.bool_of_not_push hnp) hl (R.interp l _ _ _ hl) hr (R.interp r _ _ _ hr)
      · cases h
      · cases h
    · cases h
  | .orB l r, st, a, cs, h => by
    simp only [Interp.interp] at h
    split at h
    · cases h
    · cases h
    · next _ x _ _ hnp hl =>
      split at h
      · next hr =>
        cases h
        exact R.orB _ _ _ _ _ _ _ _ _ (Elem.bool_of_not_push hnp) hl (R.interp l _ _ _ hl) hr (R.interp r _ _ _ hr)
      · cases h
      · cases h
    · cases h
  | .andOr x y z, st, a, cs, h => by
    simp only [Interp.interp] at h
    split at h
    · next hx =>
      split at h
      · next hy => cases h; exact R.andOr_sat _ _ _ _ _ _ _ _ hx (R.interp x _ _ _ hx) hy (R.interp y _ _ _ hy)
      · cases h
    · next hx =>
      split at h
      · next hz => cases h; exact R.andOr_dis _ _ _ _ _ _ _ _ hx (R.interp x _ _ _ hx) hz (R.interp z _ _ _ hz)
      · cases h
    all_goals cases h
  | .orC l r, st, a, cs, h => by
    simp only [Interp.interp] at h
    split at h
    · next hl => cases h; exact R.orC_sat _ _ _ _ _ hl (R.interp l _ _ _ hl)
    · next hl =>
      split at h
      · next hr => cases h; exact R.orC_dis _ _ _ _ _ _ _ hl (R.interp l _ _ _ hl) hr (R.interp r _ _ _ hr)
      · cases h
    all_goals cases h
  | .orD l r, st, a, cs, h => by
    simp only [Interp.interp] at h
    split at h
    · next hl => cases h; exact R.orD_sat _ _ _ _ _ hl (R.interp l _ _ _ hl)
    · next hl =>
      split at h
      · next hr => cases h; exact R.orD_dis _ _ _ _ _ _ _ hl (R.interp l _ _ _ hl) hr (R.interp r _ _ _ hr)
      · cases h
    all_goals cases h
  | .orI l r, st, a, cs, h => by
    simp only [Interp.interp] at h
    split at h
    · exact R.orI_left _ _ _ _ _ h (R.interp l _ _ _ h)
    · exact R.orI_right _ _ _ _ _ h (R.interp r _ _ _ h)
    all_goals cases h
  | .thresh k .nil, st, a, cs, h => by cases h
  | .thresh k (.cons x xs), st, a, cs, h => by
    simp only [Interp.interp] at h
    split at h
    · cases h
    · next hx =>
      split at h
      · cases h
      · next hr =>
        split at h
        · cases h
          simpa using R.thresh k _ _ _ _ _ _ _ _ _ (.inr rfl) hx (R.interp x _ _ _ hx) hr (R.interpRest xs _ _ _ _ _ hr)
        · cases h
          simpa using R.thresh k _ _ _ _ _ _ _ _ _ (.inl rfl) hx (R.interp x _ _ _ hx) hr (R.interpRest xs _ _ _ _ _ hr)
        · cases h
        · cases h
  | .multi k ks, st, a, cs, h => R.multi _ _ _ _ _ (by simpa only [Interp.interp] using h)
  | .sortedMulti k ks, st, a, cs, h => R.sortedMulti _ _ _ _ _ (by simpa only [Interp.interp] using h)
  | .multiA k ks, st, a, cs, h => R.multiA _ _ _ _ _ (by simpa only [Interp.interp] using h)
  | .sortedMultiA k ks, st, a, cs, h => R.sortedMultiA _ _ _ _ _ (by simpa only [Interp.interp] using h)
theorem Rules.interpRest (R : Rules ke ie P Q) : (xs : MsList) →
    ∀ (n : Nat) (st a : AStack) (n' : Nat) (cs : List Constraint),
    interpRest ke ie xs n st = .ok (a, n', cs) → Q xs n st a n' cs
  | .nil, n, st, a, n', cs, h => by cases h; exact R.rest_nil _ _
  | .cons x xs, n, st, a, n', cs, h => by
    simp only [Interp.interpRest] at h
    split at h
    · cases h
    · cases h
    · next _ y st0 hnp =>
      have hy := Elem.bool_of_not_push hnp
      split at h
      · cases h
      · next hx =>
        split at h
        · cases h
        · next hr =>
          cases h
          exact R.rest_cons _ _ _ _ _ _ _ _ _ _ hy hx (R.interp x _ _ _ hx) hr (R.interpRest xs _ _ _ _ _ hr)
end

theorem interpTop_ok {ms : Ms} {st : AStack} {cs : List Constraint}
    (h : interpTop ke ie ms st = .ok cs) : interp ke ie ms st = .ok ([.sat], cs) := by
  unfold interpTop at h
  split at h
  · cases h
  · next hx => cases h; exact hx
  · cases h

end MsVerif.Interp
