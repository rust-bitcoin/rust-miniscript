/-
C10: substitutions located in two strings (`hamming`), and what one wrong checksum character means
for the residue.
-/
import MsVerif.Lemmas.ChecksumStream
import MsVerif.Spec.Bch

namespace MsVerif.Checksum
open MsVerif.Spec.Bch

theorem hamming_zero {α} [DecidableEq α] : ∀ {s t : List α}, s.length = t.length →
    hamming s t = 0 → s = t
  | [], [], _, _ => rfl
  | [], _ :: _, hl, _ => by simp at hl
  | _ :: _, [], hl, _ => by simp at hl
  | a :: as, b :: bs, hl, h => by
    simp only [hamming] at h
    by_cases e : a = b
    · simp only [e, if_true, Nat.zero_add] at h
      rw [e, hamming_zero (by simpa using hl) h]
    · simp only [e, if_false] at h; omega

theorem hamming_append {α} [DecidableEq α] : ∀ (a b c d : List α), a.length = c.length →
    hamming (a ++ b) (c ++ d) = hamming a c + hamming b d
  | [], _, [], _, _ => by simp [hamming]
  | [], _, _ :: _, _, h => by simp at h
  | _ :: _, _, [], _, h => by simp at h
  | x :: a, b, y :: c, d, h => by
    simp only [List.cons_append, hamming]
    rw [hamming_append a b c d (by simpa using h)]; omega

/-- the first differing position: `n + 1` substitutions are a common prefix, one substituted
character, and `n` substitutions in the rest -/
theorem hamming_succ_split {α} [DecidableEq α] : ∀ {s t : List α} {n : Nat}, s.length = t.length →
    hamming s t = n + 1 → ∃ pre x y s' t', s = pre ++ x :: s' ∧ t = pre ++ y :: t' ∧ x ≠ y ∧
      s'.length = t'.length ∧ hamming s' t' = n
  | [], [], _, _, h => by simp [hamming] at h
  | [], _ :: _, _, hl, _ => by simp at hl
  | _ :: _, [], _, hl, _ => by simp at hl
  | a :: as, b :: bs, n, hl, h => by
    have hl' : as.length = bs.length := by simpa using hl
    simp only [hamming] at h
    by_cases e : a = b
    · subst e
      simp only [if_true, Nat.zero_add] at h
      obtain ⟨pre, x, y, s', t', rfl, rfl, hne, hl2, hh⟩ := hamming_succ_split hl' h
      exact ⟨a :: pre, x, y, s', t', rfl, rfl, hne, hl2, hh⟩
    · simp only [e, if_false] at h
      exact ⟨[], a, b, as, bs, rfl, rfl, e, hl', by omega⟩

theorem hamming_one {α} [DecidableEq α] {s t : List α} (hl : s.length = t.length)
    (h : hamming s t = 1) : ∃ i, ∃ hi : i < s.length, ∃ c, s[i] ≠ c ∧ t = s.set i c := by
  obtain ⟨pre, x, y, s', t', rfl, rfl, hne, hl2, hh⟩ := hamming_succ_split hl h
  cases hamming_zero hl2 hh
  exact ⟨pre.length, by simp, y, by simpa using hne, by simp⟩

theorem hamming_self {α} [DecidableEq α] : ∀ s : List α, hamming s s = 0
  | [] => rfl
  | a :: as => by simp [hamming, hamming_self as]

/-- two lists of equal length that agree at the place of `c` split there alike, and the substitutions
are those of the two parts -/
theorem hamming_split_at {α} [DecidableEq α] {a b t : List α} {c : α}
    (hl : (a ++ c :: b).length = t.length) (hsep : (a ++ c :: b)[a.length]? = t[a.length]?) :
    ∃ t1 t2, t = t1 ++ c :: t2 ∧ a.length = t1.length ∧ b.length = t2.length ∧
      hamming (a ++ c :: b) t = hamming a t1 + hamming b t2 := by
  simp only [List.length_append, List.length_cons] at hl
  have hlt : a.length < t.length := by omega
  have hc : t[a.length] = c := by
    rw [List.getElem?_append_right (Nat.le_refl _), Nat.sub_self, List.getElem?_cons_zero,
      List.getElem?_eq_getElem hlt] at hsep
    exact (Option.some.inj hsep).symm
  have hl1 : a.length = (t.take a.length).length := by rw [List.length_take]; omega
  refine ⟨t.take a.length, t.drop (a.length + 1), ?_, hl1, by rw [List.length_drop]; omega, ?_⟩
  · rw [← hc, List.getElem_cons_drop, List.take_append_drop]
  · have et : t = t.take a.length ++ c :: t.drop (a.length + 1) := by
      rw [← hc, List.getElem_cons_drop, List.take_append_drop]
    conv => lhs; rw [et]
    rw [hamming_append a _ _ _ hl1]
    simp [hamming]

/-- the form in which the `checksum_differs*` lemmas are used: the checksum of `s` is not that of `t` -/
theorem checksumOf_ne_of_differs {s t cs : List Char} (h : checksumOf s = some cs)
    (hd : ∃ c1 c2, checksumOf s = some c1 ∧ checksumOf t = some c2 ∧ c1 ≠ c2) :
    checksumOf t ≠ some cs := by
  obtain ⟨c1, c2, h1, h2, hc⟩ := hd
  rw [h] at h1
  rw [h2, Option.some.inj h1]
  exact fun e => hc (Option.some.inj e).symm

theorem one_digit {ra rb : W} {j0 : Nat} (hj0 : j0 < 8)
    (h : ∀ j, j < 8 → j ≠ j0 → (residueChars ra)[j]? = (residueChars rb)[j]?) :
    ∃ e, e < 32 ∧ ra ^^^ rb = BitVec.ofNat 40 e <<< (5 * (7 - j0)) := by
  refine ⟨_, unpack_lt _ (7 - j0), single_digit fun n hn hne => ?_⟩
  have := h (7 - n) (by omega) (by omega)
  rw [residueChars_get _ _ (by omega), residueChars_get _ _ (by omega),
    show 7 - (7 - n) = n by omega] at this
  rw [unpack_xor, charsLower_inj _ (unpack_lt ra n) _ (unpack_lt rb n) (Option.some.inj this),
    Nat.xor_self]

/-- one substituted body character and any change of one checksum character (or none): the corrupted
checksum is not the checksum of the corrupted body.  `hK`: the pattern of the body character lies at
most `|post| + |post| / 3 + 1` symbols before the end of the stream and the checksum eight more
(`checksum_one`'s `M`), within the 1040 of the table: at most 773 characters after the substituted one -/
theorem body_and_checksum {pre post cs : List Char} {x y : Char}
    (hs : AllValid (pre ++ x :: post)) (ht : AllValid (pre ++ y :: post)) (hne : x ≠ y)
    (hcs : checksumOf (pre ++ x :: post) = some cs) {j : Nat} (hj : j < 8) {c : Char}
    (hK : post.length + post.length / 3 + 9 ≤ 1040) :
    checksumOf (pre ++ y :: post) ≠ some (cs.set j c) := by
  obtain ⟨ra, rb, M, δ, lo, bs, h1, h2, hp, hx, h8, hM⟩ := checksum_one hs ht hne
  rw [hcs] at h1
  have hcs' : cs = residueChars ra := Option.some.inj h1
  subst hcs'
  intro e
  rw [h2] at e
  have e' : residueChars rb = (residueChars ra).set j c := Option.some.inj e
  have hdig : ∀ i, i < 8 → i ≠ j → (residueChars ra)[i]? = (residueChars rb)[i]? := by
    intro i _ hne
    rw [e', List.getElem?_set]
    simp [Ne.symm hne]
  obtain ⟨ev, hev, hD⟩ := one_digit hj hdig
  rw [hx] at hD
  -- peel `k = 7 - j` steps off both sides
  have hk : 7 - j ≤ 7 := by omega
  rw [← Lpow_ofNat ev hev (7 - j) hk] at hD
  have hM' : M = (7 - j) + (M - (7 - j)) := by omega
  rw [hM', Lpow_add] at hD
  have hD' := Lpow_inj _ hD
  have hpat0 : pat 1 0 ev = BitVec.ofNat 40 ev := by unfold pat; simp
  by_cases hg : 2 ≤ M - (7 - j)
  · rw [← hpat0] at hD'
    exact no_clash hp ⟨by omega, by omega⟩ (by omega) hev (by omega) (by omega) (by omega) hD'
  · -- distance 1: a pure shift, the low symbol of `L X` is zero
    have h1g : M - (7 - j) = 1 := by omega
    rw [h1g] at hD'
    have hsm := pat_lt δ (by have := hp.d3; omega) lo hp.lo32 bs hp.bs32
    have h35 : (pat δ lo bs).toNat < 2 ^ 35 := by
      have : 2 ^ (5 * (δ + 1)) ≤ 2 ^ 35 := Nat.pow_le_pow_right (by decide) (by have := hp.d3; omega)
      omega
    have hN := congrArg BitVec.toNat hD'
    rw [show Lpow 1 (pat δ lo bs) = L (pat δ lo bs) from rfl, L_small _ h35,
      BitVec.toNat_ofNat, Nat.mod_eq_of_lt (by omega)] at hN
    have hz : (pat δ lo bs).toNat = 0 := by omega
    exact pat_ne_zero hp (BitVec.eq_of_toNat_eq (by simpa using hz))

end MsVerif.Checksum
