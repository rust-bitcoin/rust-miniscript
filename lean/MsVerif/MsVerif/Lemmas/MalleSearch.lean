/-
Soundness of the CHECKMULTISIG pruning rule of C03's adversary search (`Driver/OpsMalle.lean`).  When the pruned search stops inside CHECKMULTISIG(VERIFY) for lack
of signature / dummy elements, it only tries, for the missing elements, the empty string and
elements that are valid signatures for one of the opcode's keys.  `multisig_block` shows that
under NULLFAIL + NULLDUMMY no other choice can make the opcode succeed (whatever lies below):
the dummy is empty and every signature element is empty or verifies for one of the keys.
-/
import MsVerif.Lemmas.CoreFrag

namespace MsVerif.MalleSearch
open MsVerif.Script

theorem of_guard_ok {ε α : Type} {c : Prop} [Decidable c] {e : ε} {x : Except ε α} {a : α}
    (h : (if c then .error e else x) = .ok a) : ¬c ∧ x = .ok a := by
  by_cases hc : c
  · rw [if_pos hc] at h; cases h
  · rw [if_neg hc] at h; exact ⟨hc, h⟩

theorem multisigLoop_true_all_valid (env : Env) (sigs keys : List Bytes)
    (h : multisigLoop env sigs keys = .ok true) :
    ∀ sg ∈ sigs, ∃ k ∈ keys, env.sigOk k sg = true := by
  obtain ⟨ps, hs, rfl, hv⟩ := multisigLoop_true_inv sigs keys h
  intro sg hsg
  obtain ⟨p, hp, rfl⟩ := List.mem_map.mp hsg
  exact ⟨p.1, hs.subset (List.mem_map_of_mem hp), (hv p hp).2⟩

theorem multisig_block (env : Env) (s s' : Core) (verify : Bool)
    (hnf : env.flags.nullFail = true) (hnd : env.flags.nullDummy = true)
    (nB mB dummy : Bytes) (keys sigs rest : List Bytes) (n m : Nat)
    (hst : s.stack = nB :: (keys ++ mB :: (sigs ++ dummy :: rest)))
    (hn : numDecode env.flags.minimalNum 4 nB = some (n : Int)) (hkl : keys.length = n)
    (hm : numDecode env.flags.minimalNum 4 mB = some (m : Int)) (hsl : sigs.length = m)
    (h : multisig env s verify = .ok s') :
    dummy = [] ∧ ∀ sg ∈ sigs, sg = [] ∨ ∃ k ∈ keys, env.sigOk k sg = true := by
  subst hkl hsl
  have ht : (keys ++ mB :: (sigs ++ dummy :: rest)).take keys.length = keys := List.take_left' rfl
  have hd : (keys ++ mB :: (sigs ++ dummy :: rest)).drop keys.length = mB :: (sigs ++ dummy :: rest) :=
    List.drop_left' rfl
  have ht2 : (sigs ++ dummy :: rest).take sigs.length = sigs := List.take_left' rfl
  have hd2 : (sigs ++ dummy :: rest).drop sigs.length = dummy :: rest := List.drop_left' rfl
  simp only [multisig, hst, hn, Int.toNat_natCast, ht, hd, hm, ht2, hd2, hnf, hnd, Bool.true_and,
    Bool.and_true] at h
  -- What is left of `multisig` is its chain of guards around the op count and the signature
  -- loop; `split at h` on it is very slow, so the guards are peeled off by `of_guard_ok`.
  replace h := (of_guard_ok (of_guard_ok h).2).2
  cases hc : countOp env s keys.length with
  | error e => rw [hc] at h; cases h
  | ok s2 =>
  rw [hc] at h
  replace h := (of_guard_ok (of_guard_ok (of_guard_ok h).2).2).2
  cases hl : multisigLoop env sigs keys with
  | error e => rw [hl] at h; cases h
  | ok ok =>
  rw [hl] at h
  obtain ⟨hnull, h⟩ := of_guard_ok h
  refine ⟨by simpa using (of_guard_ok h).1, fun sg hsg => ?_⟩
  cases ok with
  | true => exact .inr (multisigLoop_true_all_valid env sigs keys hl sg hsg)
  | false =>
    have hall : ∀ x ∈ sigs, x.isEmpty = true := by simpa using hnull
    exact .inl (List.isEmpty_iff.mp (hall sg hsg))

end MsVerif.MalleSearch
