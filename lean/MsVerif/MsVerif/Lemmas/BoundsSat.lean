/-
C09: the assembly of the threshold bound: the stacks of the children the satisfier chose
(`SatSpec.thresh_sat_pick`) against the sum of the chosen figures (`chosen_bound`), and that sum against the
library's fold (`threshold_sat_bound`).
-/
import MsVerif.Lemmas.BoundsThresh
import MsVerif.Lemmas.ValidateSat
import MsVerif.Lemmas.SatModel

namespace MsVerif.C09
open MsVerif ExtData

theorem foldConcat_stacks {l : List Sat} {w : List Ph} (h : (foldConcat l).stack = .stack w) :
    ∃ ws : List (List Ph), StacksOf l ws ∧ w.length = (ws.map List.length).sum
      ∧ wsz w = (ws.map wsz).sum ∧ wss w = (ws.map wss).sum := by
  obtain ⟨wacc, hacc, ws, hs, e1, e2, e3⟩ := foldl_concat_stacks l Sat.empty w h
  simp only [Sat.empty] at hacc
  cases hacc
  exact ⟨ws, hs, by simpa using e1, by simpa using e2, by simpa using e3⟩

def AllSB (e : Bool) : List SatDissat → List ExtData → Prop
  | [], [] => True
  | sd :: sds, x :: xs => (SB e sd.sat x.satData ∧ SB e sd.dissat x.dissatData) ∧ AllSB e sds xs
  | _, _ => False


/-- the vector `ExtData::threshold` starts from: the children's (sat, dissat) figure pairs, in order -/
def tv0 (exts : List ExtData) : List SD := exts.map (fun s => (s.satData, s.dissatData))

theorem chosen_bound (e : Bool) : ∀ (sds : List SatDissat) (exts : List ExtData) (ch : List Bool)
    (ws : List (List Ph)), AllSB e sds exts → ch.length = sds.length →
    StacksOf (SatSpec.pick ch sds) ws →
    (List.zip (tv0 exts) ch).map Prod.fst = tv0 exts
    ∧ (List.zip (tv0 exts) ch).length = sds.length
    ∧ (List.zip (tv0 exts) ch).countP (fun x => x.2) = ch.count true
    ∧ (∀ x ∈ List.zip (tv0 exts) ch, Valid x)
    ∧ (ws.map List.length).sum ≤ ((List.zip (tv0 exts) ch).map (val (·.wCount))).sum
    ∧ (ws.map wsz).sum ≤ ((List.zip (tv0 exts) ch).map (val (·.wSize))).sum
    ∧ (e = true → (ws.map wss).sum ≤ ((List.zip (tv0 exts) ch).map (val (·.ssSize))).sum) := by
  intro sds
  induction sds with
  | nil =>
    intro exts ch ws hall hlen hst
    cases exts with
    | nil =>
      cases ch with
      | nil => cases ws with
        | nil => simp [tv0]
        | cons _ _ => simp [SatSpec.pick, StacksOf] at hst
      | cons _ _ => simp at hlen
    | cons _ _ => simp [AllSB] at hall
  | cons sd sds ih =>
    intro exts ch ws hall hlen hst
    cases exts with
    | nil => simp [AllSB] at hall
    | cons x xs =>
      cases ch with
      | nil => simp at hlen
      | cons b bs =>
        cases ws with
        | nil => simp [SatSpec.pick, StacksOf] at hst
        | cons w ws =>
          simp only [AllSB] at hall
          simp only [SatSpec.pick, List.zipWith_cons_cons, StacksOf] at hst
          obtain ⟨⟨hsat, hdis⟩, hrest⟩ := hall
          obtain ⟨i1, i0, i2, i3, i4, i5, i6⟩ := ih xs bs ws hrest (by simpa using hlen) hst.2
          simp only [tv0, List.map_cons, List.zip_cons_cons, List.countP_cons, List.sum_cons,
            List.mem_cons, List.length_cons] at i1 i0 i2 i3 i4 i5 i6 ⊢
          -- the chosen alternative of the head has a figure `d`; it is what `val` reads
          have hb : SB e (if b then sd.sat else sd.dissat) (if b then x.satData else x.dissatData) := by
            cases b
            · exact hdis
            · exact hsat
          obtain ⟨d, hd, c1, c2, c3⟩ := hb w hst.1
          have hv : Valid ((x.satData, x.dissatData), b)
              ∧ ∀ proj : SatData → Nat, val proj ((x.satData, x.dissatData), b) = proj d := by
            cases b
            · rw [if_neg Bool.false_ne_true] at hd
              exact ⟨by simp [Valid, hd], fun proj => by simp [val, disV, hd]⟩
            · rw [if_pos rfl] at hd
              exact ⟨by simp [Valid, hd], fun proj => by simp [val, satV, hd]⟩
          obtain ⟨hvalid, hv⟩ := hv
          refine ⟨by rw [i1], by rw [i0], by simp [i2, List.count_cons], ?_, ?_, ?_, ?_⟩
          · rintro y (rfl | hy)
            · exact hvalid
            · exact i3 y hy
          · rw [hv]; omega
          · rw [hv]; omega
          · intro he; have := c3 he; have := i6 he
            rw [hv]; omega

/-- The satisfier chose exactly `min k n` children and every child has a dissatisfaction figure:
the library's figure EXISTS and bounds the sum of the chosen figures. -/
theorem threshold_sat_bound (k : Nat) (exts : List ExtData) (z0 : List ZE)
    (hz : z0.map Prod.fst = tv0 exts) (hvalid : ∀ x ∈ z0, Valid x)
    (hcount : z0.countP (fun x => x.2) = min k z0.length)
    (hdis : ∀ x ∈ z0, x.1.2.isSome = true) :
    ∃ d, (threshold k exts).satData = some d
      ∧ (z0.map (val (·.wCount))).sum ≤ d.wCount ∧ (z0.map (val (·.wSize))).sum ≤ d.wSize
      ∧ (z0.map (val (·.ssSize))).sum ≤ d.ssSize := by
  -- the figure exists: the satisfied children are among those that have a satisfaction figure
  have hex : (threshold k exts).satData.isSome = true := by
    have hl : z0.length = exts.length := by simpa [tv0] using congrArg List.length hz
    have hc : z0.countP (fun x => x.1.1.isSome) = exts.countP (fun e => e.satData.isSome) := by
      have := congrArg (List.countP fun p : SD => p.1.isSome) hz
      simpa only [tv0, List.countP_map, Function.comp_def] using this
    rw [threshold_sat_isSome k exts, decide_eq_true_eq, ← hl, ← hcount, ← hc]
    · exact List.countP_mono_left fun x hx hb => by simpa [Valid, hb] using hvalid x hx
    · intro e he
      have : (e.satData, e.dissatData) ∈ z0.map Prod.fst := hz ▸ List.mem_map_of_mem (f := fun s : ExtData => (s.satData, s.dissatData)) he
      obtain ⟨x, hx, hxe⟩ := List.mem_map.1 this
      simpa [hxe] using hdis x hx
  obtain ⟨d, hd⟩ := Option.isSome_iff_exists.1 hex
  refine ⟨d, hd, ?_⟩
  unfold threshold at hd
  simp only at hd
  split at hd
  · rename_i c s ss st o hc hs hss _ _
    cases hd
    have p1 := sortSD_reverse (·.wCount) (tv0 exts)
    have p2 := sortSD_reverse (·.wSize) (sortSD (·.wCount) (tv0 exts))
    have p3 := sortSD_reverse (·.ssSize) (sortSD (·.wSize) (sortSD (·.wCount) (tv0 exts)))
    have q1 : (sortSD (·.wCount) (tv0 exts)).Perm (tv0 exts) := (List.reverse_perm _).symm.trans p1.1
    have q2 := ((List.reverse_perm _).symm.trans p2.1).trans q1
    exact ⟨fold_bounds_choice _ k z0 _ c (hz ▸ p1.1) p1.2 hc hvalid hcount hdis,
      fold_bounds_choice _ k z0 _ s (hz ▸ p2.1.trans q1) p2.2 hs hvalid hcount hdis,
      fold_bounds_choice _ k z0 _ ss (hz ▸ p3.1.trans q2) p3.2 hss hvalid hcount hdis⟩
  · cases hd

theorem countP_or_le {α : Type} (p q : α → Bool) (l : List α) :
    l.countP (fun x => p x || q x) ≤ l.countP p + l.countP q := by
  induction l with
  | nil => simp
  | cons a as ih =>
    simp only [List.countP_cons]
    cases p a <;> cases q a <;> simp <;> omega

theorem countP_eq_le_one : ∀ (l : List Nat), l.Nodup → ∀ a : Nat,
    l.countP (fun i => decide (i = a)) ≤ 1 := by
  intro l hl a
  show l.countP (fun i => i == a) ≤ 1
  rw [← List.count_eq_countP, hl.count]
  split <;> omega

def addD (a s : SatData) : SatData :=
  ⟨a.wSize + s.wSize, a.wCount + s.wCount, a.ssSize + s.ssSize, max a.execStack s.execStack,
   a.execOps + s.execOps⟩

theorem thresh_dissat_fold (e : Bool) : ∀ (sds : List SatDissat) (exts : List ExtData)
    (ws : List (List Ph)) (acc : SatData), AllSB e sds exts → StacksOf (sds.map (·.dissat)) ws →
    ∃ d, exts.foldl (fun (a : Option SatData) sub => zipMap addD a sub.dissatData) (some acc) = some d
      ∧ acc.wCount + (ws.map List.length).sum ≤ d.wCount ∧ acc.wSize + (ws.map wsz).sum ≤ d.wSize
      ∧ (e = true → acc.ssSize + (ws.map wss).sum ≤ d.ssSize) := by
  intro sds
  induction sds with
  | nil =>
    intro exts ws acc hall hst
    cases exts with
    | nil => cases ws with
      | nil => exact ⟨acc, rfl, by simp, by simp, by simp⟩
      | cons _ _ => simp [StacksOf] at hst
    | cons _ _ => simp [AllSB] at hall
  | cons sd sds ih =>
    intro exts ws acc hall hst
    cases exts with
    | nil => simp [AllSB] at hall
    | cons x xs =>
      cases ws with
      | nil => simp [StacksOf] at hst
      | cons w ws =>
        simp only [AllSB] at hall
        simp only [List.map_cons, StacksOf] at hst
        obtain ⟨dx, hdx, c1, c2, c3⟩ := hall.1.2 w hst.1
        obtain ⟨d, hd, i1, i2, i3⟩ := ih xs ws (addD acc dx) hall.2 hst.2
        refine ⟨d, ?_, ?_, ?_, ?_⟩
        · simp only [List.foldl_cons, hdx, zipMap]; exact hd
        · simp only [List.map_cons, List.sum_cons]; simp only [addD] at i1; omega
        · simp only [List.map_cons, List.sum_cons]; simp only [addD] at i2; omega
        · intro he; have := c3 he; have := i3 he
          simp only [List.map_cons, List.sum_cons]; simp only [addD] at this; omega

end MsVerif.C09
