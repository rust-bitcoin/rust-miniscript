/-
C06, for the `s` letter — when no signature verifies (`NoSig`), a fragment typed `signed` is never
satisfied (`UnsatS`; B/W: no true result, V: cannot complete, K: the following CHECKSIG pushes false): the
signature opcodes and the multi family when nothing verifies, the count of signed children of `thresh` (`sgn`, `unsg`; `unit_decode`: a unit result counts 0 or 1), and the side condition `wfS`.
-/
import MsVerif.Lemmas.TypeSoundNonzero

namespace MsVerif.TypeSound
open MsVerif MsVerif.Script

def NoSig (env : Env) : Prop := ∀ pk sg, env.sigOk pk sg = false

theorem checkSig_nosig {env : Env} (hns : NoSig env) {sg pk : Bytes} {b : Bool}
    (h : checkSig env sg pk = .ok b) : b = false := by
  rw [(checkSig_inv h).2, hns, Bool.and_false]

/-- the K clause of `UnsatS` holds of every core when nothing verifies -/
theorem checksig_nosig {env : Env} (hns : NoSig env) {c c' : Core} (h : opc env .checksig c = .ok c')
    {v : Bytes} {r : List Bytes} (hs : c'.stack = v :: r) : castToBool v = false := by
  obtain ⟨pk, sg, r', b, _, e2, e3, _⟩ := checksig_ok' h
  have := checkSig_nosig hns e2
  subst this
  rw [e3] at hs
  simp only [List.cons.injEq] at hs
  rw [← hs.1]; rfl

/-- `multi` / `sortedmulti` on the key list `kl`, from one run of `multi_ok`: the shape, and a false result when the
first signature cannot match (no signature verifies, or it is the empty vector) -/
theorem multi_sound {env : Env} (ke : KeyEnv) (k : Nat) (kl : List Key)
    {s al s' al' : List Bytes} {n n' : Nat}
    (h : seqOps env ([pushInt k] ++ kl.map (fun pk => Op.push (ke.ser pk)) ++ [pushInt kl.length, .code .checkmultisig])
      ⟨s, al, n⟩ = .ok ⟨s', al', n'⟩) :
    al' = al ∧ (∃ b, s' = boolBytes b :: s.drop (k + 1)) ∧
      (1 ≤ k → (NoSig env ∨ ∃ stk, s = [] :: stk) → ∃ r, s' = [] :: r) := by
  obtain ⟨b, dummy, r2, ha, hd, hloop, hs⟩ := multi_ok ke k kl h
  refine ⟨ha, ⟨b, by rw [show s' = _ from hs, drop_succ_of_drop_cons hd]⟩, fun hk hcase => ?_⟩
  -- `k` as a successor, so that `take` of the non-empty stack shows its first signature to `multisigLoop_head`
  obtain ⟨k', rfl⟩ : ∃ k', k = k' + 1 := ⟨k - 1, by omega⟩
  cases s with
  | nil => cases hd
  | cons s0 r =>
    have hsg : ∀ key, (!s0.isEmpty && env.sigOk key s0) = false := by
      rcases hcase with hns | ⟨stk, e⟩
      · exact fun key => by rw [hns key, Bool.and_false]
      · cases e; exact fun _ => rfl
    cases multisigLoop_head hsg _ _ hloop
    exact ⟨r2, hs⟩

theorem multiA_nosig {env : Env} (hns : NoSig env) (ke : KeyEnv) (k : Nat) (hk : 1 ≤ k) (kl : List Key)
    (hkl : 1 ≤ kl.length) {c c' : Core}
    (h : seqOps env (encodeMultiA ke kl ++ [pushInt k, .code .numequal]) c = .ok c') :
    ∃ r, c'.stack = [] :: r := by
  obtain ⟨_, y, m, _, hs, hy⟩ := multiA_ok ke (fun _ => false) (fun _ _ hc => by cases checkSig_nosig hns hc) k kl h
  -- no key counts, so the chain's count is 0, which is not `k`
  have hy0 : y = 0 := by
    have := hy hkl
    rw [List.filter_eq_nil_iff.mpr fun _ _ => Bool.false_ne_true] at this
    simp only [List.length_nil] at this
    omega
  subst hy0
  have : ((k : Int) == 0) = false := by simp; omega
  exact ⟨_, by rw [show c'.stack = _ from hs, this]; rfl⟩


/-- the number a unit result stands for: 0 or 1 -/
theorem unit_decode {env : Env} {v : Bytes} {y : Int} (hu : castToBool v = true → v = [1])
    (h : num4 env v = .ok y) : (y = 0 ∨ y = 1) ∧ (castToBool v = false → y = 0) := by
  by_cases hv : castToBool v = true
  · have := hu hv
    subst this
    cases (Script.num4_one env).symm.trans h
    exact ⟨Or.inr rfl, fun hf => by rw [hv] at hf; cases hf⟩
  · have hf : castToBool v = false := by simpa using hv
    have := falsy_decodes_zero hf (num4_ok h)
    exact ⟨Or.inl this, fun _ => this⟩

def sgn (l : List Mall) : Nat := (l.filter (·.signed)).length
def unsg (l : List Mall) : Nat := (l.filter (fun m => !m.signed)).length

theorem sgn_add_unsg (l : List Mall) : sgn l + unsg l = l.length := by
  rw [sgn, unsg, ← List.countP_eq_length_filter, ← List.countP_eq_length_filter]
  simpa [Bool.not_eq_true] using (List.length_eq_countP_add_countP (·.signed) (l := l)).symm

theorem threshold_signed (k : Nat) (l : List Mall) :
    (Mall.threshold k l).signed = decide (sgn l > l.length - k) :=
  Mall.threshold_signed k l

theorem unsg_cons (m : Mall) (ms : List Mall) : unsg (m :: ms) = (if m.signed then 0 else 1) + unsg ms := by
  unfold unsg
  cases hm : m.signed <;> simp [hm] <;> omega

mutual
/-- side conditions of `Threshold::new` the signed-ness rules rely on: every multi-family
threshold is ≥ 1 (as in `wfK`), `multi_a` has a key, `thresh` has k ≤ n < 2³¹ children -/
def wfS : Ms → Bool
  | .multi k _ | .sortedMulti k _ => decide (1 ≤ k)
  | .multiA k ks | .sortedMultiA k ks => decide (1 ≤ k) && decide (1 ≤ ks.length)
  | .thresh k xs => decide (k ≤ xs.length) && decide (xs.length < 2 ^ 31) && wfSL xs
  | .alt x | .swap x | .check x | .dupIf x | .verify x | .nonZero x | .zeroNotEqual x => wfS x
  | .andV l r | .andB l r | .orB l r | .orD l r | .orC l r | .orI l r => wfS l && wfS r
  | .andOr a b c => wfS a && wfS b && wfS c
  | _ => true
def wfSL : MsList → Bool
  | .nil => true
  | .cons x xs => wfS x && wfSL xs
end

/-- "not satisfied" for a completed run from stack `s` to core `c'` -/
def UnsatS (env : Env) (base : Base) (s : List Bytes) (c' : Core) : Prop :=
  match base with
  | .B => ∀ v r, c'.stack = v :: r → castToBool v = false
  | .V => False
  | .K => ∀ c'', opc env .checksig c' = .ok c'' → ∀ v r, c''.stack = v :: r → castToBool v = false
  | .W => ∀ x tl, s = x :: tl → ∃ v r, (c'.stack = x :: v :: r ∨ c'.stack = v :: x :: r) ∧ castToBool v = false

theorem UnsatS.B {env : Env} {b : Base} {s : List Bytes} {c' : Core} (hb : b = .B) :
    UnsatS env b s c' ↔ ∀ v r, c'.stack = v :: r → castToBool v = false := by subst hb; rfl
theorem UnsatS.V {env : Env} {b : Base} {s : List Bytes} {c' : Core} (hb : b = .V) :
    UnsatS env b s c' ↔ False := by subst hb; rfl
theorem UnsatS.W {env : Env} {b : Base} {s : List Bytes} {c' : Core} (hb : b = .W) :
    UnsatS env b s c' ↔ ∀ x tl, s = x :: tl →
      ∃ v r, (c'.stack = x :: v :: r ∨ c'.stack = v :: x :: r) ∧ castToBool v = false := by subst hb; rfl

theorem UnsatS.stack {env : Env} (hns : NoSig env) {b : Base} {s0 s : List Bytes} {c4 c' : Core}
    (e4 : c'.stack = c4.stack) (hu : UnsatS env b s0 c4) (hb : b ≠ .W) : UnsatS env b s c' := by
  cases b with
  | B => intro v r hv; rw [e4] at hv; exact hu v r hv
  | V => exact hu
  | K => intro c'' hc v r hv; exact checksig_nosig hns hc hv
  | W => exact absurd rfl hb

theorem W_same_value {s : List Bytes} {a v w : Bytes} {r r' : List Bytes}
    (e1 : s = a :: w :: r ∨ s = w :: a :: r) (e2 : s = a :: v :: r' ∨ s = v :: a :: r') : w = v := by
  rcases e1 with e1 | e1 <;> rcases e2 with e2 | e2 <;> rw [e1] at e2 <;> simp only [List.cons.injEq] at e2
  · exact e2.2.1
  · rw [e2.2.1, ← e2.1]
  · rw [e2.1, e2.2.1]
  · exact e2.1

end MsVerif.TypeSound
