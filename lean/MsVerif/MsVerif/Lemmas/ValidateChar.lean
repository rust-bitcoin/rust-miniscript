/-
An order-free characterisation of the literal model of
`Miniscript::validate` (`accepts ↔ conjunction of independent conditions`).  Thm/C12.lean (monotonicity,
switch exactness), Thm/C03.lean and Lemmas/ValidateCC.lean (C08) read `validate` through `validate_isOk`.
-/
import MsVerif.Model.Validate

namespace MsVerif

@[simp] theorem chk_isOk {α} (b : Bool) (e : VErr) (k : Except VErr α) :
    isOk (chk b e k) = (!b && isOk k) := by
  cases b <;> simp [chk, isOk]

theorem isOk_iff {ε α} (r : Except ε α) : isOk r = true ↔ ∃ a, r = .ok a := by
  cases r <;> simp [isOk]

@[simp] theorem isOk_ok {ε α} (a : α) : isOk (Except.ok a : Except ε α) = true := rfl
@[simp] theorem isOk_error {ε α} (e : ε) : isOk (Except.error e : Except ε α) = false := rfl

def pkOK (p : ValidationParams) (k : KeyKind) : Bool :=
  (p.allowCompressedKeys || p.allowXOnlyKeys || k != .compressed)
    && (p.allowUncompressedKeys || k != .uncompressed)
    && (p.allowXOnlyKeys || k != .xonly)

theorem validatePk_isOk (p : ValidationParams) (k : KeyKind) :
    isOk (validatePk p k) = pkOK p k := by
  cases k <;> simp [validatePk, pkOK] <;>
    cases p.allowCompressedKeys <;> cases p.allowXOnlyKeys <;> cases p.allowUncompressedKeys <;> rfl

/-- the multipath state machine without the switch: `none` = mismatch -/
def mpRun : Option Nat → List Nat → Option (Option Nat)
  | st, [] => some st
  | st, n :: ns =>
    if n = 0 ∨ n = 1 then mpRun st ns
    else match st with
      | none => mpRun (some n) ns
      | some x => if x = n then mpRun st ns else none

theorem mpRun_append (st : Option Nat) (a b : List Nat) :
    mpRun st (a ++ b) = (mpRun st a).bind fun s => mpRun s b := by
  induction a generalizing st with
  | nil => simp [mpRun]
  | cons n ns ih =>
    simp only [List.cons_append, mpRun]
    split
    · exact ih st
    · cases st with
      | none => exact ih _
      | some x =>
        simp only
        split
        · exact ih _
        · rfl

/-- the multipath bookkeeping of one key / one run of keys, switch included -/
def mpStep (p : ValidationParams) (st : Option Nat) (l : List Nat) : Option (Option Nat) :=
  if p.allowInconsistentMultipathKeys then some st else mpRun st l

theorem mpStep_nil (p : ValidationParams) (st : Option Nat) : mpStep p st [] = some st := by
  unfold mpStep; split <;> rfl

theorem mpStep_append (p : ValidationParams) (st : Option Nat) (a b : List Nat) :
    mpStep p st (a ++ b) = (mpStep p st a).bind fun s => mpStep p s b := by
  unfold mpStep
  split
  · rfl
  · exact mpRun_append st a b

theorem mpCheck_ok (p : ValidationParams) (st s : Option Nat) (n : Nat) :
    mpCheck p st n = .ok s ↔ mpStep p st [n] = some s := by
  unfold mpCheck mpStep
  split
  · simp
  · simp only [mpRun]
    split
    · simp
    · cases st with
      | none => simp
      | some x => simp only; split <;> simp

theorem keysCheck_ok (p : ValidationParams) (K : KeyInfo) (st s : Option Nat) (ks : List Key) :
    keysCheck p K st ks = .ok s ↔
      (ks.all fun k => pkOK p (K.kind k)) = true ∧ mpStep p st (ks.map K.nPaths) = some s := by
  induction ks generalizing st with
  | nil =>
    simp only [keysCheck, List.all_nil, List.map_nil, mpStep_nil, true_and, Except.ok.injEq,
      Option.some.injEq]
  | cons k ks ih =>
    have hpk : (∃ u, validatePk p (K.kind k) = .ok u) ↔ pkOK p (K.kind k) = true := by
      rw [← isOk_iff, validatePk_isOk]
    have hstep : keysCheck p K st (k :: ks) = .ok s ↔ ∃ u, validatePk p (K.kind k) = .ok u ∧
        ∃ s', mpCheck p st (K.nPaths k) = .ok s' ∧ keysCheck p K s' ks = .ok s := by
      simp only [keysCheck]
      cases validatePk p (K.kind k) <;> cases mpCheck p st (K.nPaths k) <;> simp
    simp only [hstep, mpCheck_ok, ih, List.all_cons, List.map_cons, Bool.and_eq_true,
      show K.nPaths k :: ks.map K.nPaths = [K.nPaths k] ++ ks.map K.nPaths from rfl, mpStep_append,
      Option.bind_eq_some_iff]
    constructor
    · rintro ⟨u, hu, s', h1, h2, h3⟩
      exact ⟨⟨hpk.1 ⟨u, hu⟩, h2⟩, s', h1, h3⟩
    · rintro ⟨⟨h0, h2⟩, s', h1, h3⟩
      obtain ⟨u, hu⟩ := hpk.2 h0
      exact ⟨u, hu, s', h1, h2, h3⟩

/-- the switch part of the node loop -/
def flagOK (p : ValidationParams) : Ms → Bool
  | .dupIf _ => p.allowDupIf
  | .multi _ _ | .sortedMulti _ _ => p.allowMulti
  | .multiA _ _ | .sortedMultiA _ _ => p.allowMultiA
  | .orI _ _ => p.allowOrI
  | .rawPkH _ => p.allowRawPkh
  | _ => true

theorem nodeCheck_ok (p : ValidationParams) (K : KeyInfo) (st s : Option Nat) (m : Ms) :
    nodeCheck p K st m = .ok s ↔
      flagOK p m = true ∧ (m.nodeKeys.all fun k => pkOK p (K.kind k)) = true ∧
      mpStep p st (m.nodeKeys.map K.nPaths) = some s := by
  have hnil : (Except.ok st : Except VErr (Option Nat)) = .ok s ↔ mpStep p st [] = some s := by
    rw [mpStep_nil, Except.ok.injEq, Option.some.injEq]
  have hflag : ∀ (b : Bool) (e : VErr) (r : Except VErr (Option Nat)) (P : Prop),
      (r = .ok s ↔ P) → (chk (!b) e r = .ok s ↔ b = true ∧ P) := by
    intro b e r P h; cases b <;> simp [chk, h]
  cases m <;> simp only [nodeCheck, flagOK, Ms.nodeKeys, List.all_nil, List.map_nil, true_and]
  case dupIf x | orI l r | rawPkH h => exact hflag _ _ _ _ hnil
  case multi k ks | sortedMulti k ks | multiA k ks | sortedMultiA k ks =>
    exact hflag _ _ _ _ (keysCheck_ok p K st s ks)
  case pkK k | pkH k => exact keysCheck_ok p K st s [k]
  all_goals exact hnil

theorem nodesCheck_ok (p : ValidationParams) (K : KeyInfo) (st s : Option Nat) (ms : List Ms) :
    nodesCheck p K st ms = .ok s ↔
      (ms.all (flagOK p)) = true ∧
      ((ms.flatMap Ms.nodeKeys).all fun k => pkOK p (K.kind k)) = true ∧
      mpStep p st ((ms.flatMap Ms.nodeKeys).map K.nPaths) = some s := by
  induction ms generalizing st with
  | nil =>
    simp only [nodesCheck, List.all_nil, List.flatMap_nil, List.map_nil, mpStep_nil, true_and,
      Except.ok.injEq, Option.some.injEq]
  | cons m ms ih =>
    have hstep : nodesCheck p K st (m :: ms) = .ok s ↔
        ∃ s', nodeCheck p K st m = .ok s' ∧ nodesCheck p K s' ms = .ok s := by
      simp only [nodesCheck]
      cases nodeCheck p K st m <;> simp
    simp only [hstep, nodeCheck_ok, ih, List.all_cons, List.flatMap_cons,
      List.all_append, List.map_append, mpStep_append, Bool.and_eq_true, Option.bind_eq_some_iff]
    constructor
    · rintro ⟨s', ⟨f1, k1, m1⟩, f2, k2, m2⟩
      exact ⟨⟨f1, f2⟩, ⟨k1, k2⟩, s', m1, m2⟩
    · rintro ⟨⟨f1, f2⟩, ⟨k1, k2⟩, s', m1, m2⟩
      exact ⟨s', ⟨f1, k1, m1⟩, f2, k2, m2⟩

def nodesOK (p : ValidationParams) (K : KeyInfo) (ms : Ms) : Bool :=
  ms.preorder.all (flagOK p) && (ms.iterPk.all fun k => pkOK p (K.kind k))
    && (p.allowInconsistentMultipathKeys || (mpRun none (ms.iterPk.map K.nPaths)).isSome)

theorem nodesCheck_isOk (p : ValidationParams) (K : KeyInfo) (ms : Ms) :
    isOk (nodesCheck p K none ms.preorder) = nodesOK p K ms := by
  have hmp : (∃ s, mpStep p none (ms.iterPk.map K.nPaths) = some s)
      ↔ (p.allowInconsistentMultipathKeys = true ∨ (mpRun none (ms.iterPk.map K.nPaths)).isSome) := by
    unfold mpStep
    cases p.allowInconsistentMultipathKeys with
    | true => simp
    | false => simp [Option.isSome_iff_exists]
  rw [Bool.eq_iff_iff, isOk_iff]
  simp only [nodesCheck_ok, nodesOK, Bool.and_eq_true, Bool.or_eq_true, ← hmp]
  exact ⟨fun ⟨s, h1, h2, h3⟩ => ⟨⟨h1, h2⟩, s, h3⟩, fun ⟨⟨h1, h2⟩, s, h3⟩ => ⟨s, h1, h2, h3⟩⟩

def witnessItems (d : SatData) : Nat := d.wCount + 1
def opCount (e : ExtData) (d : SatData) : Nat := e.staticOps + d.execOps
def execStackTotal (d : SatData) : Nat := d.wCount + d.execStack

def resourceOK (p : ValidationParams) (size : Nat) (e : ExtData) : Bool :=
  (decide (USIZE_MAX ≤ p.maxScriptSize) || decide (size ≤ p.maxScriptSize))
    && (match e.satData with
        | none => true
        | some d => decide (witnessItems d ≤ p.maxWitnessItems)
            && decide (opCount e d ≤ p.maxOpcodeCount)
            && decide (execStackTotal d ≤ p.maxExecStackSize))

theorem resourceCheck_isOk (p : ValidationParams) (size : Nat) (e : ExtData) :
    isOk (resourceCheck p size e) = resourceOK p size e := by
  unfold resourceCheck resourceOK
  have hb : ∀ (a b : Nat), (!decide (a > b)) = decide (a ≤ b) := by
    intro a b; by_cases h : a ≤ b <;> simp [h]; omega
  have hs : (!(decide (p.maxScriptSize < USIZE_MAX) && decide (size > p.maxScriptSize)))
      = (decide (USIZE_MAX ≤ p.maxScriptSize) || decide (size ≤ p.maxScriptSize)) := by
    rw [Bool.eq_iff_iff]
    simp only [Bool.not_and, Bool.or_eq_true, Bool.not_eq_true', decide_eq_false_iff_not,
      decide_eq_true_eq]
    omega
  cases e.satData with
  | none => simp only [chk_isOk, isOk_ok, Bool.and_true, hs]
  | some d =>
    simp only [chk_isOk, isOk_ok, Bool.and_true, hs, hb, witnessItems, opCount, execStackTotal,
      Bool.and_assoc]
    rfl

def topOK (p : ValidationParams) (ty : Ty) (e : ExtData) : Bool :=
  (p.allowMalleability || ty.mall.nonMall) && (p.allowNonB || ty.corr.base == .B)
    && (p.allowSiglessBranch || ty.mall.signed) && (p.allowUnsatisfiable || e.satData.isSome)

theorem topLevelCheck_isOk (p : ValidationParams) (ty : Ty) (e : ExtData) :
    isOk (topLevelCheck p ty e) = topOK p ty e := by
  unfold topLevelCheck topOK
  simp only [chk_isOk, isOk_ok, Bool.and_true, Bool.not_and, Bool.not_not, Bool.and_assoc]
  have h1 : (!(ty.corr.base != Base.B)) = (ty.corr.base == Base.B) := by
    cases ty.corr.base <;> rfl
  have h2 : (!e.satData.isNone) = e.satData.isSome := by cases e.satData <;> rfl
  rw [h1, h2]

def nonTopOK (env : KeyEnv) (K : KeyInfo) (ctx : Ctx) (p : ValidationParams) (ms : Ms) : Bool :=
  decide ((extOf env ctx ms).treeHeight ≤ p.maxRecursiveDepth)
    && (p.allowDuplicateKeys || !hasRepeatedKeys ms)
    && (p.allowMixedTimeLocks || !hasMixedTimelocks (extOf env ctx ms))
    && nodesOK p K ms
    && resourceOK p (scriptSize env ctx ms) (extOf env ctx ms)

theorem validateNonTopLevel_isOk (env : KeyEnv) (K : KeyInfo) (ctx : Ctx) (p : ValidationParams)
    (ms : Ms) : isOk (validateNonTopLevel env K ctx p ms) = nonTopOK env K ctx p ms := by
  unfold validateNonTopLevel nonTopOK
  have hb : ∀ (a b : Nat), (!decide (a > b)) = decide (a ≤ b) := by
    intro a b; by_cases h : a ≤ b <;> simp [h]; omega
  simp only [chk_isOk, Bool.not_and, Bool.not_not, hb, Bool.and_assoc]
  rw [← nodesCheck_isOk, ← resourceCheck_isOk]
  cases hn : nodesCheck p K none ms.preorder with
  | error e => simp only [isOk_error, Bool.and_false, Bool.false_and]
  | ok s => simp only [isOk_ok, Bool.true_and]

/-- the order-free acceptance condition of `Miniscript::validate` -/
def validOK (env : KeyEnv) (K : KeyInfo) (ctx : Ctx) (p : ValidationParams) (ms : Ms) : Bool :=
  match typeOf ms with
  | none => false
  | some ty => nonTopOK env K ctx p ms && topOK p ty (extOf env ctx ms)

theorem validOK_some {env : KeyEnv} {K : KeyInfo} {ctx : Ctx} {p : ValidationParams} {ms : Ms}
    (h : validOK env K ctx p ms = true) :
    ∃ ty, typeOf ms = some ty ∧ nonTopOK env K ctx p ms = true ∧ topOK p ty (extOf env ctx ms) = true := by
  unfold validOK at h
  cases hty : typeOf ms with
  | none => simp [hty] at h
  | some ty => simpa only [hty, Bool.and_eq_true, Option.some.injEq, exists_eq_left'] using h

theorem validate_isOk (env : KeyEnv) (K : KeyInfo) (ctx : Ctx) (p : ValidationParams) (ms : Ms) :
    isOk (validate env K ctx p ms) = validOK env K ctx p ms := by
  unfold validate validOK
  cases typeOf ms with
  | none => rfl
  | some ty =>
    simp only
    rw [← validateNonTopLevel_isOk, ← topLevelCheck_isOk]
    cases validateNonTopLevel env K ctx p ms <;> simp

end MsVerif
