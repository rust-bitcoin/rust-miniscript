/-
The rules of the interpreter on typed fragments: a successful evaluation of a fragment that
`Model/TypeCheck.typeOf` accepts, read together with the rule of the typing judgement `HasType` that
accepted it.  Each rule says which base type and unit flag the children have and the node gets.
-/
import MsVerif.Lemmas.CoreHasType
import MsVerif.Lemmas.InterpRules

namespace MsVerif.InterpSound
open MsVerif

theorem typesOf_nil {ts : List Ty} (h : typesOf .nil = some ts) : ts = [] := by
  simp [typesOf] at h; exact h

end MsVerif.InterpSound

namespace MsVerif.Interp
open MsVerif

/-- `P ms b u st a cs`: an evaluation of a fragment of base type `b` with unit flag `u` (`Q`:
children 2…n of a `thresh`).  For a `K` or `V` node the unit flag carries no information and is
arbitrary. -/
structure TRules (ke : KeyEnv) (ie : IEnv)
    (P : Ms → Base → Bool → AStack → AStack → List Constraint → Prop)
    (Q : MsList → Nat → AStack → AStack → Nat → List Constraint → Prop) : Prop where
  tru : ∀ st, P .tru .B true st (.sat :: st) []
  fls : ∀ st, P .fls .B true st (.dissat :: st) []
  pkK : ∀ k u st a cs, evalSig ie (ke.ser k) (.pk (ke.ser k)) st = .ok (a, cs) → P (.pkK k) .K u st a cs
  pkH : ∀ k u st a cs, evaluatePkh ie (ke.pkh k) st = .ok (a, cs) → P (.pkH k) .K u st a cs
  rawPkH : ∀ k u st a cs, evaluatePkh ie (ke.rawPkh k) st = .ok (a, cs) → P (.rawPkH k) .K u st a cs
  after : ∀ n st a cs, evaluateAfter ie n st = .ok (a, cs) → P (.after n) .B false st a cs
  older : ∀ n st a cs, evaluateOlder ie n st = .ok (a, cs) → P (.older n) .B false st a cs
  hash : ∀ kind n st a cs, evaluateHash ie kind (ke.hashVal kind n) st = .ok (a, cs) →
    P (.hash kind n) .B true st a cs
  alt : ∀ x tx st a cs, HasType x tx → tx.corr.base = .B → interp ke ie x st = .ok (a, cs) →
    P x .B tx.corr.unit st a cs → P (.alt x) .W tx.corr.unit st a cs
  swap : ∀ x tx st a cs, HasType x tx → tx.corr.base = .B →
    (tx.corr.input = .one ∨ tx.corr.input = .oneNonZero) → interp ke ie x st = .ok (a, cs) →
    P x .B tx.corr.unit st a cs → P (.swap x) .W tx.corr.unit st a cs
  check : ∀ x tx st a cs, HasType x tx → tx.corr.base = .K → interp ke ie x st = .ok (a, cs) →
    P x .K tx.corr.unit st a cs → P (.check x) .B true st a cs
  dupIf_dis : ∀ x st, P (.dupIf x) .B false (.dissat :: st) (.dissat :: st) []
  dupIf_sat : ∀ x tx st a cs, HasType x tx → tx.corr.base = .V → tx.corr.input = .zero →
    interp ke ie x st = .ok (a, cs) → P x .V tx.corr.unit st a cs →
    P (.dupIf x) .B false (.sat :: st) (.sat :: a) cs
  verify : ∀ x tx st a cs, HasType x tx → tx.corr.base = .B →
    interp ke ie x st = .ok (.sat :: a, cs) → P x .B tx.corr.unit st (.sat :: a) cs →
    P (.verify x) .V false st a cs
  zne_dis : ∀ x tx st a cs, HasType x tx → tx.corr.base = .B →
    interp ke ie x st = .ok (.dissat :: a, cs) → P x .B tx.corr.unit st (.dissat :: a) cs →
    P (.zeroNotEqual x) .B true st (.dissat :: a) cs
  zne_sat : ∀ x tx st e a cs, HasType x tx → tx.corr.base = .B → e ≠ .dissat →
    interp ke ie x st = .ok (e :: a, cs) → P x .B tx.corr.unit st (e :: a) cs →
    P (.zeroNotEqual x) .B true st (.sat :: a) cs
  nonZero_dis : ∀ x u st, P (.nonZero x) .B u (.dissat :: st) (.dissat :: st) []
  nonZero : ∀ x tx e st a cs, HasType x tx → tx.corr.base = .B → e ≠ .dissat →
    interp ke ie x (e :: st) = .ok (a, cs) → P x .B tx.corr.unit (e :: st) a cs →
    P (.nonZero x) .B tx.corr.unit (e :: st) a cs
  andV : ∀ l r tl tr st a1 cs1 a cs2, HasType l tl → HasType r tr → tl.corr.base = .V →
    tr.corr.base ≠ .W → interp ke ie l st = .ok (a1, cs1) → P l .V tl.corr.unit st a1 cs1 →
    interp ke ie r a1 = .ok (a, cs2) → P r tr.corr.base tr.corr.unit a1 a cs2 →
    P (.andV l r) tr.corr.base tr.corr.unit st a (cs1 ++ cs2)
  andB : ∀ l r tl tr st x st1 cs1 y st2 cs2, HasType l tl → HasType r tr →
    tl.corr.base = .B → tr.corr.base = .W → (x = .sat ∨ x = .dissat) →
    interp ke ie l st = .ok (x :: st1, cs1) → P l .B tl.corr.unit st (x :: st1) cs1 →
    interp ke ie r st1 = .ok (y :: st2, cs2) → P r .W tr.corr.unit st1 (y :: st2) cs2 →
    P (.andB l r) .B true st ((if y == .sat && x == .sat then .sat else .dissat) :: st2) (cs1 ++ cs2)
  orB : ∀ l r tl tr st x st1 cs1 y st2 cs2, HasType l tl → HasType r tr →
    tl.corr.base = .B → tr.corr.base = .W → (x = .sat ∨ x = .dissat) →
    interp ke ie l st = .ok (x :: st1, cs1) → P l .B tl.corr.unit st (x :: st1) cs1 →
    interp ke ie r st1 = .ok (y :: st2, cs2) → P r .W tr.corr.unit st1 (y :: st2) cs2 →
    P (.orB l r) .B true st ((if y == .dissat && x == .dissat then .dissat else .sat) :: st2) (cs1 ++ cs2)
  andOr_sat : ∀ x y z tx ty tz st st1 cs1 a cs2, HasType x tx → HasType y ty →
    HasType z tz → tx.corr.base = .B → tx.corr.unit = true → ty.corr.base ≠ .W →
    interp ke ie x st = .ok (.sat :: st1, cs1) → P x .B true st (.sat :: st1) cs1 →
    interp ke ie y st1 = .ok (a, cs2) → P y ty.corr.base ty.corr.unit st1 a cs2 →
    P (.andOr x y z) ty.corr.base (ty.corr.unit && tz.corr.unit) st a (cs1 ++ cs2)
  andOr_dis : ∀ x y z tx ty tz st st1 cs1 a cs2, HasType x tx → HasType y ty →
    HasType z tz → tx.corr.base = .B → tx.corr.unit = true → tz.corr.base ≠ .W →
    interp ke ie x st = .ok (.dissat :: st1, cs1) → P x .B true st (.dissat :: st1) cs1 →
    interp ke ie z st1 = .ok (a, cs2) → P z tz.corr.base tz.corr.unit st1 a cs2 →
    P (.andOr x y z) tz.corr.base (ty.corr.unit && tz.corr.unit) st a (cs1 ++ cs2)
  orC_sat : ∀ l r tl u st a cs, HasType l tl → tl.corr.base = .B → tl.corr.unit = true →
    interp ke ie l st = .ok (.sat :: a, cs) → P l .B true st (.sat :: a) cs → P (.orC l r) .V u st a cs
  orC_dis : ∀ l r tl tr u st st1 cs1 a cs2, HasType l tl → HasType r tr →
    tl.corr.base = .B → tl.corr.unit = true → tr.corr.base = .V →
    interp ke ie l st = .ok (.dissat :: st1, cs1) → P l .B true st (.dissat :: st1) cs1 →
    interp ke ie r st1 = .ok (a, cs2) → P r .V tr.corr.unit st1 a cs2 →
    P (.orC l r) .V u st a (cs1 ++ cs2)
  orD_sat : ∀ l r tl u st a cs, HasType l tl → tl.corr.base = .B → tl.corr.unit = true →
    interp ke ie l st = .ok (.sat :: a, cs) → P l .B true st (.sat :: a) cs →
    P (.orD l r) .B u st (.sat :: a) cs
  orD_dis : ∀ l r tl tr st st1 cs1 a cs2, HasType l tl → HasType r tr →
    tl.corr.base = .B → tl.corr.unit = true → tr.corr.base = .B →
    interp ke ie l st = .ok (.dissat :: st1, cs1) → P l .B true st (.dissat :: st1) cs1 →
    interp ke ie r st1 = .ok (a, cs2) → P r .B tr.corr.unit st1 a cs2 →
    P (.orD l r) .B tr.corr.unit st a (cs1 ++ cs2)
  orI_left : ∀ l r tl u st a cs, HasType l tl → tl.corr.base ≠ .W →
    interp ke ie l st = .ok (a, cs) → P l tl.corr.base tl.corr.unit st a cs →
    P (.orI l r) tl.corr.base (tl.corr.unit && u) (.sat :: st) a cs
  orI_right : ∀ l r tr u st a cs, HasType r tr → tr.corr.base ≠ .W →
    interp ke ie r st = .ok (a, cs) → P r tr.corr.base tr.corr.unit st a cs →
    P (.orI l r) tr.corr.base (u && tr.corr.unit) (.dissat :: st) a cs
  thresh : ∀ k x xs tx st st1 cs1 y st2 n cs2, HasType x tx → (y = .sat ∨ y = .dissat) →
    interp ke ie x st = .ok (st1, cs1) → P x .B true st st1 cs1 →
    interpRest ke ie xs 0 st1 = .ok (y :: st2, n, cs2) → Q xs 0 st1 (y :: st2) n cs2 →
    P (.thresh k (.cons x xs)) .B true st
      ((if n == (if y = .sat then k - 1 else k) then .sat else .dissat) :: st2) (cs1 ++ cs2)
  multi : ∀ k ks st a cs, evalMulti ie k (ks.map ke.ser) st = .ok (a, cs) → P (.multi k ks) .B true st a cs
  sortedMulti : ∀ k ks st a cs, evalMulti ie k (ks.map ke.ser) st = .ok (a, cs) →
    P (.sortedMulti k ks) .B true st a cs
  multiA : ∀ k ks st a cs, multiALoop ie k (ks.map ke.ser) 0 st = .ok (a, cs) →
    P (.multiA k ks) .B true st a cs
  sortedMultiA : ∀ k ks st a cs, multiALoop ie k (ks.map ke.ser) 0 st = .ok (a, cs) →
    P (.sortedMultiA k ks) .B true st a cs
  rest_nil : ∀ n st, Q .nil n st st n []
  rest_cons : ∀ x xs tx n y st st1 cs1 a n' cs2, HasType x tx → (y = .sat ∨ y = .dissat) →
    interp ke ie x st = .ok (st1, cs1) → P x .W true st st1 cs1 →
    interpRest ke ie xs (if y == .sat then n + 1 else n) st1 = .ok (a, n', cs2) →
    Q xs (if y == .sat then n + 1 else n) st1 a n' cs2 →
    Q (.cons x xs) n (y :: st) a n' (cs1 ++ cs2)

variable {ke : KeyEnv} {ie : IEnv} {P : Ms → Base → Bool → AStack → AStack → List Constraint → Prop}
  {Q : MsList → Nat → AStack → AStack → Nat → List Constraint → Prop}

/-- each field inverts the type rule of its node and hands the children's typings to the typed rule -/
theorem TRules.rules (R : TRules ke ie P Q) :
    Rules ke ie (fun ms st a cs => ∀ ty, HasType ms ty → P ms ty.corr.base ty.corr.unit st a cs)
      (fun xs n st a n' cs => ∀ ts, HasTypes xs ts →
        (∀ s ∈ ts, s.corr.base = .W ∧ s.corr.unit = true ∧ s.corr.dissat = true) → Q xs n st a n' cs) where
  tru st := fun ty hty => by cases hty.typeOf_eq; exact R.tru st
  fls st := fun ty hty => by cases hty.typeOf_eq; exact R.fls st
  pkK k st a cs hi := fun ty hty => by cases hty.typeOf_eq; exact R.pkK k _ st a cs hi
  pkH k st a cs hi := fun ty hty => by cases hty.typeOf_eq; exact R.pkH k _ st a cs hi
  rawPkH k st a cs hi := fun ty hty => by cases hty.typeOf_eq; exact R.rawPkH k _ st a cs hi
  after n st a cs hi := fun ty hty => by cases hty.typeOf_eq; exact R.after n st a cs hi
  older n st a cs hi := fun ty hty => by cases hty.typeOf_eq; exact R.older n st a cs hi
  hash kind n st a cs hi := fun ty hty => by cases hty.typeOf_eq; exact R.hash kind n st a cs hi
  alt x st a cs hi ih := fun ty hty => by
    obtain ⟨tx, hx, hb, rfl⟩ := hty.alt_inv
    exact R.alt x tx st a cs hx hb hi (hb ▸ ih _ hx)
  swap x st a cs hi ih := fun ty hty => by
    obtain ⟨tx, hx, hb, hin, rfl⟩ := hty.swap_inv
    exact R.swap x tx st a cs hx hb hin hi (hb ▸ ih _ hx)
  check x st a cs hi ih := fun ty hty => by
    obtain ⟨tx, hx, hb, rfl⟩ := hty.check_inv
    exact R.check x tx st a cs hx hb hi (hb ▸ ih _ hx)
  dupIf_dis x st := fun ty hty => by obtain ⟨_, _, _, _, rfl⟩ := hty.dupIf_inv; exact R.dupIf_dis x st
  dupIf_sat x st a cs hi ih := fun ty hty => by
    obtain ⟨tx, hx, hb, hin, rfl⟩ := hty.dupIf_inv
    exact R.dupIf_sat x tx st a cs hx hb hin hi (hb ▸ ih _ hx)
  verify x st a cs hi ih := fun ty hty => by
    obtain ⟨tx, hx, hb, rfl⟩ := hty.verify_inv
    exact R.verify x tx st a cs hx hb hi (hb ▸ ih _ hx)
  zne_dis x st a cs hi ih := fun ty hty => by
    obtain ⟨tx, hx, hb, rfl⟩ := hty.zeroNotEqual_inv
    exact R.zne_dis x tx st a cs hx hb hi (hb ▸ ih _ hx)
  zne_sat x st e a cs hne hi ih := fun ty hty => by
    obtain ⟨tx, hx, hb, rfl⟩ := hty.zeroNotEqual_inv
    exact R.zne_sat x tx st e a cs hx hb hne hi (hb ▸ ih _ hx)
  nonZero_dis x st := fun ty hty => by obtain ⟨_, _, _, _, rfl⟩ := hty.nonZero_inv; exact R.nonZero_dis x _ st
  nonZero x e st a cs hne hi ih := fun ty hty => by
    obtain ⟨tx, hx, hb, _, rfl⟩ := hty.nonZero_inv
    exact R.nonZero x tx e st a cs hx hb hne hi (hb ▸ ih _ hx)
  andV l r st a1 cs1 a cs2 hl ihl hr ihr := fun ty hty => by
    obtain ⟨tl, tr, hl', hr', ha, hb, rfl⟩ := hty.andV_inv
    exact R.andV l r tl tr st a1 cs1 a cs2 hl' hr' ha hb hl (ha ▸ ihl _ hl') hr (ihr _ hr')
  andB l r st x st1 cs1 y st2 cs2 hx hl ihl hr ihr := fun ty hty => by
    obtain ⟨tl, tr, hl', hr', ha, hb, rfl⟩ := hty.andB_inv
    exact R.andB l r tl tr st x st1 cs1 y st2 cs2 hl' hr' ha hb hx hl (ha ▸ ihl _ hl') hr
        (hb ▸ ihr _ hr')
  orB l r st x st1 cs1 y st2 cs2 hx hl ihl hr ihr := fun ty hty => by
    obtain ⟨tl, tr, hl', hr', ha, hb, _, _, rfl⟩ := hty.orB_inv
    exact R.orB l r tl tr st x st1 cs1 y st2 cs2 hl' hr' ha hb hx hl (ha ▸ ihl _ hl') hr
        (hb ▸ ihr _ hr')
  andOr_sat x y z st st1 cs1 a cs2 hx ihx hy ihy := fun ty hty => by
    obtain ⟨tx, ty', tz, hx', hy', hz', ha, _, hu, _, hb, rfl⟩ := hty.andOr_inv
    exact R.andOr_sat x y z tx ty' tz st st1 cs1 a cs2 hx' hy' hz' ha hu hb hx
        (ha ▸ hu ▸ ihx _ hx') hy (ihy _ hy')
  andOr_dis x y z st st1 cs1 a cs2 hx ihx hz ihz := fun ty hty => by
    obtain ⟨tx, ty', tz, hx', hy', hz', ha, _, hu, hbc, hb, rfl⟩ := hty.andOr_inv
    rw [hbc] at hb ⊢
    exact R.andOr_dis x y z tx ty' tz st st1 cs1 a cs2 hx' hy' hz' ha hu hb hx
        (ha ▸ hu ▸ ihx _ hx') hz (ihz _ hz')
  orC_sat l r st a cs hl ihl := fun ty hty => by
    obtain ⟨tl, tr, hl', _, ha, _, _, hu, rfl⟩ := hty.orC_inv
    exact R.orC_sat l r tl _ st a cs hl' ha hu hl (ha ▸ hu ▸ ihl _ hl')
  orC_dis l r st st1 cs1 a cs2 hl ihl hr ihr := fun ty hty => by
    obtain ⟨tl, tr, hl', hr', ha, hb, _, hu, rfl⟩ := hty.orC_inv
    exact R.orC_dis l r tl tr _ st st1 cs1 a cs2 hl' hr' ha hu hb hl (ha ▸ hu ▸ ihl _ hl') hr
        (hb ▸ ihr _ hr')
  orD_sat l r st a cs hl ihl := fun ty hty => by
    obtain ⟨tl, tr, hl', _, ha, _, _, hu, rfl⟩ := hty.orD_inv
    exact R.orD_sat l r tl _ st a cs hl' ha hu hl (ha ▸ hu ▸ ihl _ hl')
  orD_dis l r st st1 cs1 a cs2 hl ihl hr ihr := fun ty hty => by
    obtain ⟨tl, tr, hl', hr', ha, hb, _, hu, rfl⟩ := hty.orD_inv
    exact R.orD_dis l r tl tr st st1 cs1 a cs2 hl' hr' ha hu hb hl (ha ▸ hu ▸ ihl _ hl') hr
        (hb ▸ ihr _ hr')
  orI_left l r st a cs hl ihl := fun ty hty => by
    obtain ⟨tl, tr, hl', _, _, ha, rfl⟩ := hty.orI_inv
    exact R.orI_left l r tl _ st a cs hl' ha hl (ihl _ hl')
  orI_right l r st a cs hr ihr := fun ty hty => by
    obtain ⟨tl, tr, _, hr', hab, ha, rfl⟩ := hty.orI_inv
    rw [hab] at ha ⊢
    exact R.orI_right l r tr _ st a cs hr' ha hr (ihr _ hr')
  thresh k x xs st st1 cs1 y st2 n cs2 hy hx ihx hr ihr := fun ty hty => by
    obtain ⟨t, ts, hx', hxs', hB, hu, _, hrest, rfl⟩ := hty.thresh_inv
    exact R.thresh k x xs t st st1 cs1 y st2 n cs2 hx' hy hx (hB ▸ hu ▸ ihx _ hx') hr (ihr _ hxs' hrest)
  multi k ks st a cs hi := fun ty hty => by cases hty.typeOf_eq; exact R.multi k ks st a cs hi
  sortedMulti k ks st a cs hi := fun ty hty => by cases hty.typeOf_eq; exact R.sortedMulti k ks st a cs hi
  multiA k ks st a cs hi := fun ty hty => by cases hty.typeOf_eq; exact R.multiA k ks st a cs hi
  sortedMultiA k ks st a cs hi := fun ty hty => by cases hty.typeOf_eq; exact R.sortedMultiA k ks st a cs hi
  rest_nil n st := fun _ _ _ => R.rest_nil n st
  rest_cons x xs n y st st1 cs1 a n' cs2 hy hx ihx hr ihr := fun ts hts hrest => by
    obtain ⟨t, ts', hx', hxs', rfl⟩ := hts.cons_inv
    obtain ⟨hW, hu, _⟩ := hrest t (List.mem_cons_self ..)
    exact R.rest_cons x xs t n y st st1 cs1 a n' cs2 hx' hy hx (hW ▸ hu ▸ ihx _ hx') hr
      (ihr _ hxs' fun s hs => hrest s (List.mem_cons_of_mem _ hs))

theorem TRules.interp (R : TRules ke ie P Q) (ms : Ms) (ty : Ty) (hty : typeOf ms = some ty)
    (st a : AStack) (cs : List Constraint) (h : interp ke ie ms st = .ok (a, cs)) :
    P ms ty.corr.base ty.corr.unit st a cs :=
  R.rules.interp ms st a cs h ty (.of_typeOf ms hty)

theorem threshLoop_rest {i acc m : Nat} {cs : List Corr} (hi : i ≠ 0)
    (h : Corr.threshLoop i acc cs = some m) : ∀ s ∈ cs, s.base = .W ∧ s.unit = true ∧ s.dissat = true := by
  obtain ⟨j, rfl⟩ := Nat.exists_eq_succ_of_ne_zero hi
  rw [Corr.threshLoop_succ] at h
  split at h
  · next hall => exact fun s hs => by simpa [and_assoc] using List.all_eq_true.mp hall s hs
  · cases h

theorem TRules.interpRest (R : TRules ke ie P Q) (xs : MsList) (ts : List Ty) (hts : typesOf xs = some ts)
    (i acc m : Nat) (hi : i ≠ 0) (hloop : Corr.threshLoop i acc (ts.map (·.corr)) = some m)
    (n : Nat) (st a : AStack) (n' : Nat) (cs : List Constraint)
    (h : interpRest ke ie xs n st = .ok (a, n', cs)) : Q xs n st a n' cs :=
  R.rules.interpRest xs n st a n' cs h ts (.of_typesOf xs hts)
    fun s hs => threshLoop_rest hi hloop s.corr (List.mem_map_of_mem hs)

end MsVerif.Interp
