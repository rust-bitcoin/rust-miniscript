/-
`Satisfaction::thresh_mall` and `Satisfaction::thresh` return a
stack whenever the counting condition of the specification's threshold row holds.  Before that
(`namespace MalleThresh`): the class `best` of sort keys of possible signature-free satisfactions, and
`thresh` refuses when more than `k` children are in it.
-/
import MsVerif.Lemmas.CompleteSort
import MsVerif.Lemmas.CompleteBasic

namespace MsVerif.MalleThresh
open MsVerif

/-- the class of keys `Satisfaction::thresh` looks for at position `k`: possible and signature-free -/
def best (s : SortKey) : Bool := !s.imp && !s.sig

theorem best_down {a b : SortKey} (h : a.le b = true) (hb : best b = true) : best a = true := by
  simp only [best, Bool.and_eq_true, Bool.not_eq_true'] at hb ⊢
  rw [SortKey.le_iff, hb.1, hb.2] at h
  cases hi : a.imp <;> cases hs : a.sig <;> simp [hi, hs] at h ⊢

theorem lowerSet_best (key : Nat → SortKey) : Complete.LowerSet key (fun i => best (key i)) :=
  Complete.lowerSet_of_downClosed (fun _ _ => best_down) key

theorem threshNonMall_refuses (k : Nat) (dissats sats : List Sat)
    (hcount : k < (List.range dissats.length).countP
      (fun i => !decide (sats[i]!.stack = .impossible) && !sats[i]!.hasSig)) :
    threshNonMall k dissats sats = Sat.IMPOSSIBLE ∨ threshNonMall k dissats sats = Sat.UNAVAILABLE := by
  have hkn : k < dissats.length :=
    Nat.lt_of_lt_of_le hcount (Nat.le_trans List.countP_le_length (Nat.le_of_eq List.length_range))
  have hk : k < (sortIdx (nonMallKey dissats sats) dissats.length).length := by
    rw [sortIdx_length]; exact hkn
  -- more than `k` best children, so position `k` holds one
  have hbest : best (nonMallKey dissats sats (sortIdx (nonMallKey dissats sats) dissats.length)[k]!) = true :=
    (Complete.sortIdx_get_class (lowerSet_best (nonMallKey dissats sats)) _ k hkn).mpr hcount
  rw [getElem!_pos _ k hk] at hbest
  have hlt := (mem_sortIdx _ _ _).mp (List.getElem_mem hk)
  have hnot := not_take_of_mem_drop (nonMallKey dissats sats) dissats.length k _
    (by rw [List.drop_eq_getElem_cons hk]; exact List.mem_cons_self)
  unfold threshNonMall
  simp only
  split
  · exact .inl rfl
  · split
    · exact .inr rfl
    · rename_i hcond
      exfalso
      apply hcond
      -- the (k+1)-th sorted index was not swapped: its entry in `(swapped …).2` is the satisfaction
      unfold nonMallKey at hk hbest hlt hnot
      rw [getElem!_pos _ k hk, swapped_snd,
        getElem!_pos _ _ (by rw [List.length_map, List.length_range]; exact hlt), List.getElem_map,
        List.getElem_range, if_neg (fun h => hnot (List.contains_iff_mem.mp h))]
      simp only [best, Bool.and_eq_true, Bool.not_eq_true', decide_eq_false_iff_not] at hbest
      simp only [hbest.2, Bool.not_false, Bool.true_and, decide_eq_true_eq]
      exact hbest.1

end MsVerif.MalleThresh

namespace MsVerif.Complete
open MsVerif Sat

/-- size bound that keeps `witness_size as i64` differences strictly between the sentinels:
`witnessSize ≤ sumSize + 9` (`witnessSize_le`), and `2^62 + 9 < 2^63` -/
def SMALL : Nat := 2 ^ 62

theorem sw_max {s d : Sat} (h : isStk s.stack = false) : stackWeight s d = I64MAX := by
  unfold stackWeight
  cases hs : s.stack <;> simp_all [isStk]

theorem sw_min {s d : Sat} (h : isStk s.stack = true) (h' : isStk d.stack = false) :
    stackWeight s d = I64MIN := by
  unfold stackWeight
  cases hs : s.stack <;> cases hd : d.stack <;> simp_all [isStk]

theorem sw_mid {s d : Sat} (h : isStk s.stack = true) (h' : isStk d.stack = true)
    (bs : wsz s.stack < SMALL) (bd : wsz d.stack < SMALL) :
    I64MIN < stackWeight s d ∧ stackWeight s d < I64MAX := by
  unfold stackWeight
  cases hs : s.stack <;> cases hd : d.stack <;> simp_all [isStk]
  rename_i a b
  have h1 := witnessSize_le a
  have h2 := witnessSize_le b
  simp only [SMALL] at bs bd
  unfold I64MIN I64MAX
  omega

theorem sw_le_max {s d : Sat} (bs : wsz s.stack < SMALL) (bd : wsz d.stack < SMALL) :
    decide (stackWeight s d ≤ I64MAX - 1) = isStk s.stack := by
  cases hs : isStk s.stack with
  | false => rw [sw_max hs]; decide
  | true =>
    cases hd : isStk d.stack with
    | false => rw [sw_min hs hd]; decide
    | true => have := sw_mid hs hd bs bd; simp only [decide_eq_true_eq]; omega

theorem sw_le_min {s d : Sat} (bs : wsz s.stack < SMALL) (bd : wsz d.stack < SMALL)
    (hnd : isStk s.stack = true ∨ isStk d.stack = true) :
    decide (stackWeight s d ≤ I64MIN) = !isStk d.stack := by
  cases hd : isStk d.stack with
  | false => rw [sw_min (hnd.resolve_right (by simp [hd])) hd]; decide
  | true =>
    cases hs : isStk s.stack with
    | false => rw [sw_max hs]; decide
    | true =>
      have := sw_mid hs hd bs bd
      simp only [Bool.not_true, decide_eq_false_iff_not]; omega

theorem mem_sds_get (sds : List SatDissat) (i : Nat) (hi : i < sds.length) : sds[i]! ∈ sds := by
  rw [getElem!_pos _ i hi]; exact List.getElem_mem hi

section
variable {ua ur : Bool}

theorem swapped_lockOK (k : Nat) (idx : List Nat) (sds : List SatDissat)
    (hlock : ∀ sd ∈ sds, LockOK ua ur sd.sat ∧ LockOK ua ur sd.dissat) :
    ∀ s ∈ (swapped k idx (sds.map (·.dissat)) (sds.map (·.sat))).1, LockOK ua ur s :=
  swapped_fst_forall (lockOK_none rfl rfl) k idx _ _
    (List.forall_mem_map.mpr fun sd h => (hlock sd h).2) (List.forall_mem_map.mpr fun sd h => (hlock sd h).1)

theorem swapped_wsz (k : Nat) (idx : List Nat) (sds : List SatDissat) :
    (((swapped k idx (sds.map (·.dissat)) (sds.map (·.sat))).1).map (fun s => wsz s.stack)).sum
      ≤ (sds.map (fun sd => max (wsz sd.sat.stack) (wsz sd.dissat.stack))).sum := by
  rw [swapped_fst, List.map_map, List.length_map]
  rw [← map_range_getElem! sds (fun sd => max (wsz sd.sat.stack) (wsz sd.dissat.stack))]
  apply sum_map_le
  intro i hi
  have hi := List.mem_range.mp hi
  simp only [Function.comp]
  split
  · rw [getElem!_map' _ _ _ hi]; omega
  · rw [getElem!_map' _ _ _ hi]; omega

theorem foldConcat_lockOK (l : List Sat) (hl : ∀ s ∈ l, LockOK ua ur s) :
    LockOK ua ur (foldConcat l) :=
  foldConcat_ind (lockOK_empty _ _) (fun _ _ => concat_lockOK) l hl

theorem foldConcat_isStk (l : List Sat) (hl : ∀ s ∈ l, LockOK ua ur s) :
    isStk (foldConcat l).stack = l.all (fun s => isStk s.stack) := by
  unfold foldConcat
  rw [foldl_concat_isStk l _ (lockOK_empty ua ur) hl]; simp [Sat.empty, isStk]

theorem foldConcat_wsz (l : List Sat) :
    wsz (foldConcat l).stack ≤ (l.map (fun s => wsz s.stack)).sum := by
  have := foldl_concat_wsz l Sat.empty
  simpa [foldConcat, Sat.empty, wsz] using this

theorem lockOK_sats {sds : List SatDissat}
    (hlock : ∀ sd ∈ sds, LockOK ua ur sd.sat ∧ LockOK ua ur sd.dissat) :
    ∀ s ∈ sds.map (·.sat), LockOK ua ur s := by
  intro s hs
  obtain ⟨sd, hsd, rfl⟩ := List.mem_map.mp hs
  exact (hlock sd hsd).1

theorem lockOK_dissats {sds : List SatDissat}
    (hlock : ∀ sd ∈ sds, LockOK ua ur sd.sat ∧ LockOK ua ur sd.dissat) :
    ∀ s ∈ sds.map (·.dissat), LockOK ua ur s := by
  intro s hs
  obtain ⟨sd, hsd, rfl⟩ := List.mem_map.mp hs
  exact (hlock sd hsd).2

/-- the `k = n` branch of both threshold satisfiers: every child is needed -/
theorem foldConcat_sats_isStk {sds : List SatDissat}
    (hlock : ∀ sd ∈ sds, LockOK ua ur sd.sat ∧ LockOK ua ur sd.dissat)
    (hall : sds.length ≤ sds.countP (fun sd => isStk sd.sat.stack)) :
    isStk (foldConcat (sds.map (·.sat))).stack = true := by
  rw [foldConcat_isStk _ (lockOK_sats hlock), List.all_map, List.all_eq_true]
  exact List.countP_eq_length.mp (Nat.le_antisymm List.countP_le_length hall)

theorem threshMall_lockOK (k : Nat) (sds : List SatDissat)
    (hlock : ∀ sd ∈ sds, LockOK ua ur sd.sat ∧ LockOK ua ur sd.dissat) :
    LockOK ua ur (threshMall k (sds.map (·.dissat)) (sds.map (·.sat))) := by
  rw [threshMall_eq]
  exact foldConcat_lockOK _ (swapped_lockOK k _ sds hlock)

theorem threshMall_wsz (k : Nat) (sds : List SatDissat) :
    wsz (threshMall k (sds.map (·.dissat)) (sds.map (·.sat))).stack
      ≤ (sds.map (fun sd => max (wsz sd.sat.stack) (wsz sd.dissat.stack))).sum := by
  rw [threshMall_eq]
  exact Nat.le_trans (foldConcat_wsz _) (swapped_wsz k _ sds)

theorem lowerSet_w (key : Nat → SortKey) (hk : ∀ i, (key i).imp = false ∧ (key i).sig = false)
    (t : Int) : LowerSet key (fun i => decide ((key i).w ≤ t)) := by
  have h := lowerSet_of_downClosed
    (Q := fun a => MalleThresh.best a && decide (a.w ≤ t)) (fun a b hab hb => by
      simp only [MalleThresh.best, Bool.and_eq_true, Bool.not_eq_true', decide_eq_true_eq] at hb ⊢
      rw [SortKey.le_iff, hb.1.1, hb.1.2] at hab
      cases hi : a.imp <;> cases hs : a.sig <;> simp [hi, hs] at hab ⊢
      omega) key
  simpa only [MalleThresh.best, (hk _).1, (hk _).2, Bool.not_false, Bool.and_self, Bool.true_and] using h

/-- The literal `thresh_mall`: with no dead child, at most `k` children that cannot be
dissatisfied and at least `k` that can be satisfied, the `k` smallest weights select only
satisfiable children and leave only dissatisfiable ones. -/
theorem threshMall_isStk (k : Nat) (sds : List SatDissat)
    (hlock : ∀ sd ∈ sds, LockOK ua ur sd.sat ∧ LockOK ua ur sd.dissat)
    (hsmall : ∀ sd ∈ sds, wsz sd.sat.stack < SMALL ∧ wsz sd.dissat.stack < SMALL)
    (hnodead : ∀ sd ∈ sds, isStk sd.sat.stack = true ∨ isStk sd.dissat.stack = true)
    (hlo : sds.countP (fun sd => !isStk sd.dissat.stack) ≤ k)
    (hhi : k ≤ sds.countP (fun sd => isStk sd.sat.stack)) :
    isStk (threshMall k (sds.map (·.dissat)) (sds.map (·.sat))).stack = true := by
  rw [threshMall_eq]
  rw [foldConcat_isStk _ (swapped_lockOK k _ sds hlock), List.all_eq_true]
  intro s hs
  obtain ⟨i, hi, h⟩ := swapped_fst_mem _ _ _ _ _ hs
  simp only [List.length_map] at hi h
  let key : Nat → SortKey := mallKey (sds.map (·.dissat)) (sds.map (·.sat))
  have hkey : ∀ j, j < sds.length → (key j).w = stackWeight sds[j]!.sat sds[j]!.dissat := by
    intro j hj
    show stackWeight (sds.map (·.sat))[j]! (sds.map (·.dissat))[j]! = _
    rw [getElem!_map' _ _ _ hj, getElem!_map' _ _ _ hj]
  have hsm := fun j (hj : j < sds.length) => hsmall _ (mem_sds_get sds j hj)
  rcases h with ⟨hin, rfl⟩ | ⟨hnin, rfl⟩
  · -- chosen: the weight is below MAX, so the satisfaction is a stack
    have hc : ∀ j, j < sds.length →
        decide ((key j).w ≤ I64MAX - 1) = isStk sds[j]!.sat.stack :=
      fun j hj => by rw [hkey j hj]; exact sw_le_max (hsm j hj).1 (hsm j hj).2
    have hP := sortIdx_take_mem (lowerSet_w key (fun _ => ⟨rfl, rfl⟩) (I64MAX - 1)) sds.length k
      (by rw [countP_range_of sds (q := fun sd => isStk sd.sat.stack) hc]; exact hhi) i hin
    rw [getElem!_map' _ _ _ hi]
    exact (hc i hi).symm.trans hP
  · -- not chosen: the weight is above MIN, so the dissatisfaction is a stack
    have hc : ∀ j, j < sds.length →
        decide ((key j).w ≤ I64MIN) = !isStk sds[j]!.dissat.stack :=
      fun j hj => by
        rw [hkey j hj]
        exact sw_le_min (hsm j hj).1 (hsm j hj).2 (hnodead _ (mem_sds_get sds j hj))
    have hP := sortIdx_drop_mem (lowerSet_w key (fun _ => ⟨rfl, rfl⟩) I64MIN) sds.length k
      (by rw [countP_range_of sds (q := fun sd => !isStk sd.dissat.stack) hc]; exact hlo) i
      (mem_drop_of_not_take key sds.length k i hi hnin)
    rw [getElem!_map' _ _ _ hi]
    simpa using (hc i hi).symm.trans hP

end

/-- a possible satisfaction without signature: what a third party could swap in -/
def freeSat (sd : SatDissat) : Bool := decide (sd.sat.stack ≠ .impossible) && !sd.sat.hasSig

theorem not_freeSat_sigOrImp {sd : SatDissat} (h : freeSat sd = false) : SigOrImp sd.sat := by
  intro hne
  simp only [freeSat, Bool.and_eq_false_iff, decide_eq_false_iff_not, Bool.not_eq_false'] at h
  rcases h with h | h
  · exact absurd hne h
  · exact h

def satsOf (sds : List SatDissat) : List Sat := sds.map (·.sat)
def dissatsOf (sds : List SatDissat) : List Sat := sds.map (·.dissat)

def nmKey (sds : List SatDissat) : Nat → SortKey := nonMallKey (dissatsOf sds) (satsOf sds)

def nmIdx (sds : List SatDissat) : List Nat := sortIdx (nmKey sds) sds.length
def nmSw (k : Nat) (sds : List SatDissat) : List Sat × List Sat :=
  swapped k (nmIdx sds) (dissatsOf sds) (satsOf sds)

theorem threshNonMall_eq (k : Nat) (sds : List SatDissat) :
    threshNonMall k (sds.map (·.dissat)) (sds.map (·.sat)) =
      if (nmSw k sds).2[(nmIdx sds)[k - 1]!]!.stack = .impossible then Sat.IMPOSSIBLE
      else if (!(nmSw k sds).2[(nmIdx sds)[k]!]!.hasSig
          && decide ((nmSw k sds).2[(nmIdx sds)[k]!]!.stack ≠ .impossible)) = true then
        Sat.UNAVAILABLE
      else foldConcat (nmSw k sds).1 := by
  rw [MsVerif.threshNonMall_eq, List.length_map]
  rfl

theorem satsOf_get (sds : List SatDissat) (j : Nat) (hj : j < sds.length) :
    (satsOf sds)[j]! = sds[j]!.sat := getElem!_map' _ _ _ hj
theorem dissatsOf_get (sds : List SatDissat) (j : Nat) (hj : j < sds.length) :
    (dissatsOf sds)[j]! = sds[j]!.dissat := getElem!_map' _ _ _ hj

theorem lowerSet_possible (sds : List SatDissat) :
    LowerSet (nmKey sds) (fun i => !(nmKey sds i).imp) :=
  lowerSet_of_downClosed (Q := fun a => !a.imp) (fun a b hab hb => by
    simp only [Bool.not_eq_true'] at hb ⊢
    rw [SortKey.le_iff, hb] at hab
    cases hi : a.imp <;> simp [hi] at hab ⊢) _

theorem nmKey_imp (sds : List SatDissat) (j : Nat) (hj : j < sds.length) :
    (nmKey sds j).imp = decide (sds[j]!.sat.stack = .impossible) := by
  show decide ((satsOf sds)[j]!.stack = .impossible) = _
  rw [satsOf_get _ _ hj]

theorem nmKey_sig (sds : List SatDissat) (j : Nat) (hj : j < sds.length) :
    (nmKey sds j).sig = sds[j]!.sat.hasSig := by
  show (satsOf sds)[j]!.hasSig = _
  rw [satsOf_get _ _ hj]

theorem best_nmKey (sds : List SatDissat) (j : Nat) (hj : j < sds.length) :
    MalleThresh.best (nmKey sds j) = freeSat sds[j]! := by
  simp only [MalleThresh.best, nmKey_imp _ _ hj, nmKey_sig _ _ hj, freeSat]
  cases h : decide (sds[j]!.sat.stack = .impossible) <;> simp_all

theorem count_possible (sds : List SatDissat) :
    (List.range sds.length).countP (fun i => !(nmKey sds i).imp)
      = sds.countP (fun sd => decide (sd.sat.stack ≠ .impossible)) :=
  countP_range_of sds (fun j hj => by rw [nmKey_imp _ _ hj]; simp)

theorem count_free (sds : List SatDissat) :
    (List.range sds.length).countP (fun i => MalleThresh.best (nmKey sds i)) = sds.countP freeSat :=
  countP_range_of sds (best_nmKey sds)

theorem swapped_fst_mem_of (k : Nat) (idx : List Nat) (dissats sats : List Sat) (i : Nat)
    (hi : i < dissats.length) (hin : i ∈ idx.take k) :
    sats[i]! ∈ (swapped k idx dissats sats).1 := by
  rw [swapped_fst, List.mem_map]
  refine ⟨i, List.mem_range.mpr hi, ?_⟩
  rw [if_pos (by simpa using hin)]

theorem nmIdx_length (sds : List SatDissat) : (nmIdx sds).length = sds.length :=
  sortIdx_length _ _

theorem nmSw_snd_get (k : Nat) (sds : List SatDissat) (j : Nat) (hj : j < sds.length) :
    (nmSw k sds).2[j]! = if j ∈ (nmIdx sds).take k then sds[j]!.dissat else sds[j]!.sat := by
  unfold nmSw
  rw [swapped_snd_get _ _ _ _ _ (by rw [dissatsOf, List.length_map]; exact hj), dissatsOf_get _ _ hj,
    satsOf_get _ _ hj]
  simp only [List.contains_iff_mem]

theorem drop_not_free (k : Nat) (sds : List SatDissat) (h : sds.countP freeSat ≤ k) :
    ∀ i ∈ (nmIdx sds).drop k, freeSat sds[i]! = false := fun i hi => by
  rw [← best_nmKey _ _ ((mem_sortIdx _ _ _).mp (List.mem_of_mem_drop hi))]
  exact sortIdx_drop_mem (MalleThresh.lowerSet_best (nmKey sds)) sds.length k (count_free sds ▸ h) i hi

theorem nmIdx_get_lt (sds : List SatDissat) (k : Nat) (hk : k < sds.length) :
    (nmIdx sds)[k]! < sds.length :=
  (mem_sortIdx _ _ _).mp (List.mem_of_mem_drop (getElem!_mem_drop _ k (by rw [sortIdx_length]; exact hk)))

/-- the position-`k` test of `thresh` reads the child at sorted position `k`, which was not swapped:
it asks whether that child is `freeSat` -/
theorem nmSw_test_eq (k : Nat) (sds : List SatDissat) (hk : k < sds.length) :
    (!(nmSw k sds).2[(nmIdx sds)[k]!]!.hasSig
      && decide ((nmSw k sds).2[(nmIdx sds)[k]!]!.stack ≠ .impossible)) = freeSat sds[(nmIdx sds)[k]!]! := by
  have hnt : (nmIdx sds)[k]! ∉ (nmIdx sds).take k := not_take_of_mem_drop _ _ _ _
    (getElem!_mem_drop _ k (by rw [sortIdx_length]; exact hk))
  rw [nmSw_snd_get _ _ _ (nmIdx_get_lt sds k hk), if_neg hnt, Bool.and_comm]
  rfl

theorem free_at_k (k : Nat) (sds : List SatDissat) (hk : k < sds.length) :
    freeSat sds[(nmIdx sds)[k]!]! = true ↔ k < sds.countP freeSat := by
  rw [← best_nmKey _ _ (nmIdx_get_lt sds k hk), ← count_free]
  exact sortIdx_get_class (MalleThresh.lowerSet_best (nmKey sds)) sds.length k hk

/-- the position-`k` test of `thresh` never fires when at most `k` children have a possible
signature-free satisfaction -/
theorem threshNonMall_cond_false (k : Nat) (sds : List SatDissat) (hk : k < sds.length)
    (hfree : sds.countP freeSat ≤ k) :
    (!(nmSw k sds).2[(nmIdx sds)[k]!]!.hasSig
      && decide ((nmSw k sds).2[(nmIdx sds)[k]!]!.stack ≠ .impossible)) = false := by
  rw [nmSw_test_eq k sds hk, Bool.eq_false_iff]
  exact fun h => absurd ((free_at_k k sds hk).mp h) (Nat.not_lt.mpr hfree)

section
variable {ua ur : Bool}

theorem nmSw_lockOK (k : Nat) (sds : List SatDissat)
    (hlock : ∀ sd ∈ sds, LockOK ua ur sd.sat ∧ LockOK ua ur sd.dissat) :
    ∀ s ∈ (nmSw k sds).1, LockOK ua ur s := swapped_lockOK k _ sds hlock

theorem threshNonMall_lockOK (k : Nat) (sds : List SatDissat)
    (hlock : ∀ sd ∈ sds, LockOK ua ur sd.sat ∧ LockOK ua ur sd.dissat) :
    LockOK ua ur (threshNonMall k (sds.map (·.dissat)) (sds.map (·.sat))) := by
  rw [threshNonMall_eq]
  split
  · exact lockOK_IMPOSSIBLE _ _
  · split
    · exact lockOK_UNAVAILABLE _ _
    · exact foldConcat_lockOK _ (nmSw_lockOK k sds hlock)

theorem nmSw_mem (k : Nat) (sds : List SatDissat) (s : Sat) (hs : s ∈ (nmSw k sds).1) :
    ∃ i, i < sds.length ∧
      ((i ∈ (nmIdx sds).take k ∧ s = sds[i]!.sat) ∨ (i ∉ (nmIdx sds).take k ∧ s = sds[i]!.dissat)) := by
  obtain ⟨i, hi, h⟩ := swapped_fst_mem _ _ _ _ _ hs
  have hi : i < sds.length := by simpa [dissatsOf] using hi
  refine ⟨i, hi, ?_⟩
  rcases h with ⟨a, rfl⟩ | ⟨a, rfl⟩
  · left; exact ⟨a, satsOf_get _ _ hi⟩
  · right; exact ⟨a, dissatsOf_get _ _ hi⟩

theorem threshNonMall_ne_unav (k : Nat) (sds : List SatDissat) (hk : k < sds.length)
    (hnu : ∀ sd ∈ sds, sd.sat.stack ≠ .unavailable ∧ sd.dissat.stack ≠ .unavailable)
    (hfree : sds.countP freeSat ≤ k) :
    (threshNonMall k (sds.map (·.dissat)) (sds.map (·.sat))).stack ≠ .unavailable := by
  rw [threshNonMall_eq, threshNonMall_cond_false k sds hk hfree]
  split
  · simp [IMPOSSIBLE]
  · rw [if_neg (by simp)]
    unfold foldConcat
    refine foldl_concat_ne_unav _ _ (by simp [Sat.empty]) ?_
    intro s hs
    obtain ⟨i, hi, h⟩ := nmSw_mem _ _ _ hs
    have hmem := mem_sds_get sds i hi
    rcases h with ⟨_, rfl⟩ | ⟨_, rfl⟩
    · exact (hnu _ hmem).1
    · exact (hnu _ hmem).2

theorem nmSw_fst_isStk (k : Nat) (sds : List SatDissat)
    (hnu : ∀ sd ∈ sds, sd.sat.stack ≠ .unavailable)
    (hds : ∀ sd ∈ sds, isStk sd.dissat.stack = true)
    (hposs : k ≤ sds.countP (fun sd => decide (sd.sat.stack ≠ .impossible))) :
    ∀ s ∈ (nmSw k sds).1, isStk s.stack = true := by
  intro s hs
  obtain ⟨i, hi, h⟩ := nmSw_mem _ _ _ hs
  have hmem := mem_sds_get sds i hi
  rcases h with ⟨hin, rfl⟩ | ⟨_, rfl⟩
  · have hP := sortIdx_take_mem (lowerSet_possible sds) sds.length k
      (count_possible sds ▸ hposs) i hin
    simp only [nmKey_imp _ _ hi] at hP
    exact isStk_of_ne (by simpa using hP) (hnu _ hmem)
  · exact hds _ hmem

/-- the first test of `thresh`: the last chosen child is handed back as its dissatisfaction -/
theorem nmSw_last_ne_imp (k : Nat) (sds : List SatDissat) (hk1 : 1 ≤ k) (hk : k < sds.length)
    (hds : ∀ sd ∈ sds, isStk sd.dissat.stack = true) :
    (nmSw k sds).2[(nmIdx sds)[k - 1]!]!.stack ≠ .impossible := by
  have hlen := nmIdx_length sds
  have hmt : (nmIdx sds)[k - 1]! ∈ (nmIdx sds).take k := getElem!_mem_take _ _ hk1 (by omega)
  have hlt : (nmIdx sds)[k - 1]! < sds.length := (mem_sortIdx _ _ _).mp (List.mem_of_mem_take hmt)
  rw [nmSw_snd_get _ _ _ hlt, if_pos hmt]
  exact isStk_ne_imp (hds _ (mem_sds_get sds _ hlt))

theorem threshNonMall_isStk (k : Nat) (sds : List SatDissat) (hk1 : 1 ≤ k) (hk : k < sds.length)
    (hlock : ∀ sd ∈ sds, LockOK ua ur sd.sat ∧ LockOK ua ur sd.dissat)
    (hnu : ∀ sd ∈ sds, sd.sat.stack ≠ .unavailable)
    (hds : ∀ sd ∈ sds, isStk sd.dissat.stack = true)
    (hfree : sds.countP freeSat ≤ k)
    (hposs : k ≤ sds.countP (fun sd => decide (sd.sat.stack ≠ .impossible))) :
    isStk (threshNonMall k (sds.map (·.dissat)) (sds.map (·.sat))).stack = true := by
  rw [threshNonMall_eq, threshNonMall_cond_false k sds hk hfree,
    if_neg (nmSw_last_ne_imp k sds hk1 hk hds), if_neg (by simp),
    foldConcat_isStk _ (nmSw_lockOK k sds hlock), List.all_eq_true]
  exact nmSw_fst_isStk k sds hnu hds hposs

theorem threshNonMall_sigOrImp (k : Nat) (sds : List SatDissat) (hk : k < sds.length)
    (hfree : sds.countP freeSat < k) :
    SigOrImp (threshNonMall k (sds.map (·.dissat)) (sds.map (·.sat))) := by
  have hlen := nmIdx_length sds
  unfold SigOrImp
  rw [threshNonMall_eq, threshNonMall_cond_false k sds hk (by omega)]
  split
  · simp [IMPOSSIBLE]
  · rw [if_neg (by simp)]
    intro hne
    -- some chosen child is not `freeSat`: the sort only permutes, so the first `k` cannot all be
    have h2 : ((nmIdx sds).take k).countP (fun i => freeSat sds[i]!)
        ≤ (nmIdx sds).countP (fun i => freeSat sds[i]!) := (List.take_sublist k _).countP_le
    have h3 : (nmIdx sds).countP (fun i => freeSat sds[i]!) = sds.countP freeSat := by
      unfold nmIdx
      rw [(sortIdx_perm _ _).countP_eq, countP_range_getElem!]
    obtain ⟨x, hx, hfx⟩ := exists_not_of_countP_lt (l := (nmIdx sds).take k)
      (p := fun i => freeSat sds[i]!) (by rw [List.length_take]; omega)
    have hxlt : x < sds.length := (mem_sortIdx _ _ _).mp (List.mem_of_mem_take hx)
    unfold foldConcat at hne ⊢
    refine foldl_concat_hasSig _ _ hne
      (.inr ⟨sds[x]!.sat, ?_, ?_⟩)
    · have := swapped_fst_mem_of k (nmIdx sds) (dissatsOf sds) (satsOf sds) x
        (by simpa [dissatsOf] using hxlt) hx
      rw [satsOf_get _ _ hxlt] at this
      exact this
    · exact not_freeSat_sigOrImp hfx

end

end MsVerif.Complete
