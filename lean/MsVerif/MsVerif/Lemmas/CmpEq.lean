/-
Lemmas for C19 (equality / hashing / clone): the zip of two pre-order traversals compared node
by node is a prefix test on LABEL sequences (discriminant and payload); the label of `thresh`
carries k and the arity, so the prefix code lemma gives structural equality.  Facts about two
nodes are reduced to facts about one node through the label, so no proof splits a pair of nodes.
-/
import MsVerif.Lemmas.TreeWalk
import MsVerif.Lemmas.CoreMisc

namespace MsVerif.CmpEq
open MsVerif MsVerif.TreeWalk

theorem idx_inj (a b : HashKind) (h : a.idx = b.idx) : a = b := by
  cases a <;> cases b <;> simp [HashKind.idx] at h <;> rfl

theorem idx_lt (a : HashKind) : a.idx < 4 := by cases a <;> simp [HashKind.idx]

/-- what `eq` compares at a node (and `hash` feeds) besides the discriminant: the atoms; for
`thresh`, k and the arity -/
def payload : Ms → List Nat
  | .pkK k | .pkH k => [k]
  | .rawPkH h | .hash _ h => [h]
  | .after n | .older n => [n]
  | .thresh k xs => [k, xs.length]
  | .multi k ks | .sortedMulti k ks | .multiA k ks | .sortedMultiA k ks => k :: ks
  | _ => []

def label (x : Ms) : Nat × List Nat := (x.disc, payload x)

/-- the node with discriminant `d`, payload `p` and children `cs`: the inverse of
`x ↦ (x.disc, payload x, children)`, total so that it computes on a literal `d` alone -/
def build (d : Nat) (p : List Nat) (cs : List Ms) : Ms :=
  let a := p.headD 0
  let c (i : Nat) := cs.getD i .fls
  match d with
  | 0 => .tru | 1 => .fls | 2 => .pkK a | 3 => .pkH a | 4 => .rawPkH a | 5 => .after a | 6 => .older a
  | 7 => .hash .sha256 a | 8 => .hash .hash256 a | 9 => .hash .ripemd160 a | 10 => .hash .hash160 a
  | 11 => .alt (c 0) | 12 => .swap (c 0) | 13 => .check (c 0) | 14 => .dupIf (c 0) | 15 => .verify (c 0)
  | 16 => .nonZero (c 0) | 17 => .zeroNotEqual (c 0)
  | 18 => .andV (c 0) (c 1) | 19 => .andB (c 0) (c 1) | 20 => .andOr (c 0) (c 1) (c 2)
  | 21 => .orB (c 0) (c 1) | 22 => .orD (c 0) (c 1) | 23 => .orC (c 0) (c 1) | 24 => .orI (c 0) (c 1)
  | 25 => .thresh a (MsList.ofList cs)
  | 26 => .multi a p.tail | 27 => .sortedMulti a p.tail | 28 => .multiA a p.tail
  | _ => .sortedMultiA a p.tail

/-- a node is determined by its label and its children; read from right to left with a known
discriminant this is also the inversion "`y.disc = 11` ⇒ `y = .alt _`" -/
theorem build_eq (x : Ms) : build x.disc (payload x) x.asNode.children = x := by
  cases x
  case hash kind h => cases kind <;> rfl
  case thresh k xs => exact congrArg (Ms.thresh k) (MsList.ofList_toList xs)
  all_goals rfl

theorem label_inj (x y : Ms) (h : label x = label y)
    (hc : x.asNode.children = y.asNode.children) : x = y := by
  rw [← build_eq x, ← build_eq y, hc, (Prod.mk.inj h).1, (Prod.mk.inj h).2]

def arityOf : Nat × List Nat → Nat
  | (25, [_, n]) => n
  | (20, _) => 3
  | (d, _) => if d < 11 ∨ 25 ≤ d then 0 else if d < 18 then 1 else 2

theorem arity_eq (x : Ms) : x.asNode.children.length = arityOf (label x) := by
  cases x
  case hash kind h => cases kind <;> rfl
  case thresh k xs => exact MsList.length_toList xs
  all_goals rfl

theorem label_arity (x y : Ms) (h : label x = label y) :
    x.asNode.children.length = y.asNode.children.length := by
  rw [arity_eq, arity_eq, h]

theorem nodeDiffers_self (x : Ms) : nodeDiffers x x = false := by
  cases x <;> simp [nodeDiffers, armGuard]

theorem disc_of_nodeDiffers (x y : Ms) (h : nodeDiffers x y = false) : x.disc = y.disc := by
  unfold nodeDiffers at h
  -- every arm but `hash` and the catch-all pairs two nodes of the same variant
  split at h <;> try rfl
  · split at h
    next hk => subst hk; rfl
    next => simpa using h
  · simpa using h

theorem armGuard_false {g : Bool} {me you : Ms} (h : armGuard g me you = false) : g = false := by
  cases g
  · rfl
  · exact h

theorem label_of_nodeDiffers (x y : Ms) (h : nodeDiffers x y = false) : label x = label y := by
  have hd := disc_of_nodeDiffers x y h
  -- with the discriminant known, `y` is `build` of a literal and computes to the constructor of
  -- `x`; `h` then unfolds (by unification, no `simp`) to the guard of their common arm
  obtain ⟨p, cs, rfl⟩ : ∃ p cs, y = build x.disc p cs := ⟨_, _, hd ▸ (build_eq y).symm⟩
  rw [label, label, ← hd]
  congr 1
  cases x
  case pkK | pkH | rawPkH | after | older =>
    exact congrArg (· :: []) (by simpa using armGuard_false h)
  case hash kind _ =>
    cases kind <;> exact congrArg (· :: []) (by simpa using armGuard_false h)
  case multi | sortedMulti | multiA | sortedMultiA =>
    have e := armGuard_false h
    simp only [Bool.or_eq_false_iff, bne_eq_false_iff_eq] at e
    show _ :: _ = _ :: _
    rw [e.1, e.2]
  case thresh =>
    have e := armGuard_false h
    simp only [Bool.or_eq_false_iff, bne_eq_false_iff_eq] at e
    show [_, _] = [_, _]
    rw [e.1, e.2]
  all_goals rfl

theorem eqZip_self (d : Ms → Ms → Bool) (hd : ∀ x, d x x = false) : ∀ l : List Ms, eqZip d l l = true
  | [] => rfl
  | x :: l => by simp [eqZip, hd x, eqZip_self d hd l]

theorem eqZip_prefix {L : Type} (d : Ms → Ms → Bool) (lab : Ms → L)
    (hd : ∀ x y, d x y = false → lab x = lab y) :
    ∀ (la lb : List Ms), eqZip d la lb = true →
      (la.map lab <+: lb.map lab ∨ lb.map lab <+: la.map lab)
  | [], lb, _ => by simp
  | _ :: _, [], _ => by simp
  | x :: la, y :: lb, h => by
    cases hxy : d x y with
    | true => simp [eqZip, hxy] at h
    | false =>
      simp only [eqZip, hxy, Bool.false_eq_true, if_false] at h
      simpa [hd x y hxy] using eqZip_prefix d lab hd la lb h

theorem pre_prefix_code (sa sb : List Ms) (hl : sa.length = sb.length)
    (hp : (sa.flatMap Ms.pre).map label <+: (sb.flatMap Ms.pre).map label) : sa = sb :=
  prefix_code (fun x => x.asNode.children) Ms.pre label Ms.nodes Ms.pre_eq Ms.nodes_eq
    label_arity label_inj sa sb hl hp

/-- written with `id`: it is the step hypothesis of `stackFold` at `F := id` -/
theorem cloneStep_children (x : Ms) (st : List Ms) :
    cloneStep (x.asNode.children.map id ++ st) x = some (id x :: st) := by
  cases x <;> simp [cloneStep, Ms.asNode, Tree.children, pop?, popEach_append, MsList.ofList_toList]

theorem cloneLoop_forest (xs rest st : List Ms) :
    cloneLoop (xs.reverse.flatMap Ms.rtlPost ++ rest) st = cloneLoop rest (xs ++ st) := by
  simpa using stackFold Ms.asNode Ms.rtlPost Ms.nodes id cloneStep cloneLoop Ms.rtlPost_eq Ms.nodes_rtl
    (fun _ _ _ _ h => by rw [cloneLoop, h]) cloneStep_children xs rest st

theorem cloneLoop_list : (xs : MsList) → ∀ (rest st : List Ms),
    cloneLoop (xs.rtlPost ++ rest) st = cloneLoop rest (xs.toList ++ st) := fun xs rest st => by
  rw [MsList.rtlPost_eq]
  exact cloneLoop_forest xs.toList rest st

theorem msClone_eq (ms : Ms) : msClone ms = .ok ms := by
  have := cloneLoop_forest [ms] [] []
  simp only [List.reverse_singleton, List.flatMap_singleton, List.append_nil] at this
  unfold msClone
  rw [rtlPostOrder_eq, this]
  rfl

end MsVerif.CmpEq
