/-
Time-lock values: a lock has a unit and an amount; locks of one unit are ordered (`absLe`, `relLe`),
`AbsLockTime::max` / `RelLockTime::max` return the larger of two locks of one unit, and what BIP65 /
BIP112 let a transaction pass is everything of the unit of, and not above, its own nLockTime /
nSequence — for Script's checks (`checkLockTime_iff`, `checkSequence_iff`) and for the policy's (`cltvOk_iff`,
`csvOk_iff`) alike.
-/
import MsVerif.Model.Satisfy
import MsVerif.Spec.Script
import MsVerif.Spec.Policy

namespace MsVerif.Sat
open MsVerif

/-- `n` has the unit of `m` and is not above it (absolute locks; `500000000` is
`Script.LOCKTIME_THRESHOLD`, written out as `Sat.absMax` writes it) -/
def absLe (n m : Nat) : Prop := (n < 500000000 ↔ m < 500000000) ∧ n ≤ m

/-- `n` has the unit of `m` (`relIsTime`: bit 22 of a sequence number) and its value (`relVal`: the
low 16 bits) is not above `m`'s (relative locks) -/
def relLe (n m : Nat) : Prop := relIsTime n = relIsTime m ∧ relVal n ≤ relVal m

theorem checkLockTime_iff (env : Script.Env) (n : Nat) :
    Script.checkLockTime env n = true ↔ absLe n env.nLockTime ∧ env.nSequence ≠ Script.SEQ_FINAL := by
  simp only [Script.checkLockTime, absLe, Bool.and_eq_true, Bool.or_eq_true, decide_eq_true_eq,
    bne_iff_ne, ne_eq]
  simp only [Script.LOCKTIME_THRESHOLD]
  omega

/-- `4194304 = Script.SEQ_TYPE = 2^22`, written out as `Sat.relIsTime` writes it -/
theorem relIsTime_eq_iff (n m : Nat) :
    relIsTime n = relIsTime m ↔ (n / 4194304 % 2 = 1 ↔ m / 4194304 % 2 = 1) := by
  unfold relIsTime
  rw [Bool.eq_iff_iff, beq_iff_eq, beq_iff_eq]

theorem relIsTime_base (b : Bool) (v : Nat) (hv : v < 65536) :
    relIsTime ((if b then 4194304 else 0) + v) = b := by
  unfold relIsTime
  cases b <;> simp <;> omega

theorem relVal_base (b : Bool) (v : Nat) (hv : v < 65536) : relVal ((if b then 4194304 else 0) + v) = v := by
  unfold relVal
  cases b <;> simp <;> omega

theorem seqMasked_le_iff (n x : Nat) :
    ((Script.seqMasked x < Script.SEQ_TYPE ∧ Script.seqMasked n < Script.SEQ_TYPE ∨
        Script.seqMasked x ≥ Script.SEQ_TYPE ∧ Script.seqMasked n ≥ Script.SEQ_TYPE) ∧
      Script.seqMasked n ≤ Script.seqMasked x) ↔ relLe n x := by
  simp only [Script.seqMasked, Script.SEQ_TYPE, Script.SEQ_MASK, relLe, relIsTime_eq_iff, relVal]
  -- the four bit fields are named before `omega` sees them, which keeps it to linear facts
  have h1 := Nat.mod_lt (x / 4194304) (by decide : 0 < 2)
  have h2 := Nat.mod_lt (n / 4194304) (by decide : 0 < 2)
  have h3 := Nat.mod_lt x (by decide : 0 < 65535 + 1)
  have h4 := Nat.mod_lt n (by decide : 0 < 65535 + 1)
  generalize x / 4194304 % 2 = a at *
  generalize n / 4194304 % 2 = b at *
  generalize x % (65535 + 1) = c at *
  generalize n % (65535 + 1) = d at *
  omega

theorem checkSequence_iff (env : Script.Env) (n : Nat) :
    Script.checkSequence env n = true ↔
      env.txVersion ≥ 2 ∧ (env.nSequence / Script.SEQ_DISABLE) % 2 = 0 ∧ relLe n env.nSequence := by
  simp only [Script.checkSequence, Bool.and_eq_true, Bool.or_eq_true, decide_eq_true_eq,
    beq_iff_eq, seqMasked_le_iff, and_assoc]

/-- the policy's reading of BIP65 (`Spec/Policy`; the finality of the input is not its business) -/
theorem cltvOk_iff (m n : Nat) : Pol.cltvOk m n = true ↔ absLe n m := by
  simp only [Pol.cltvOk, Pol.absIsHeight, Pol.LOCKTIME_THRESHOLD, absLe, Bool.and_eq_true, beq_iff_eq,
    decide_eq_true_eq]
  by_cases a : n < 500000000 <;> by_cases b : m < 500000000 <;> simp [a, b]

/-- bit 31 of a 32-bit `nSequence`, the disable flag of BIP68, as Script reads it and as the policy does -/
theorem seqEnabled_iff {m : Nat} (hu : m < 4294967296) : m / Script.SEQ_DISABLE % 2 = 0 ↔ m < 2147483648 := by
  simp only [Script.SEQ_DISABLE]; omega

theorem csvOk_iff (m n : Nat) : Pol.csvOk m n = true ↔ m < 2147483648 ∧ relLe n m := by
  have e : ∀ x, Pol.relIsTime x = relIsTime x := fun _ => rfl
  simp only [Pol.csvOk, Bool.and_eq_true, decide_eq_true_eq, beq_iff_eq]
  simp only [relLe, Pol.seqDisabled, Pol.relValue, e, relVal, Bool.not_not, decide_eq_true_eq, and_assoc]

theorem absLe_refl (n : Nat) : absLe n n := ⟨Iff.rfl, Nat.le_refl n⟩

theorem absLe_trans {a b c : Nat} (h1 : absLe a b) (h2 : absLe b c) : absLe a c :=
  ⟨h1.1.trans h2.1, Nat.le_trans h1.2 h2.2⟩

theorem relLe_trans {a b c : Nat} (h1 : relLe a b) (h2 : relLe b c) : relLe a c :=
  ⟨h1.1.trans h2.1, Nat.le_trans h1.2 h2.2⟩

theorem checkLockTime_mono {env : Script.Env} {n m : Nat} (h : absLe n m)
    (hm : Script.checkLockTime env m = true) : Script.checkLockTime env n = true := by
  rw [checkLockTime_iff] at hm ⊢
  exact ⟨absLe_trans h hm.1, hm.2⟩

theorem checkSequence_mono {env : Script.Env} {n m : Nat} (h : relLe n m)
    (hm : Script.checkSequence env m = true) : Script.checkSequence env n = true := by
  rw [checkSequence_iff] at hm ⊢
  exact ⟨hm.1, hm.2.1, relLe_trans h hm.2.2⟩

theorem checkLockTime_false {env : Script.Env} {m : Nat}
    (hbad : env.nLockTime < m ∨ ¬ (env.nLockTime < 500000000 ↔ m < 500000000) ∨
      env.nSequence = Script.SEQ_FINAL) : Script.checkLockTime env m = false := by
  rw [← Bool.not_eq_true, checkLockTime_iff]
  unfold absLe
  omega

theorem checkSequence_false {env : Script.Env} {m : Nat}
    (hbad : relVal env.nSequence < relVal m ∨ relIsTime env.nSequence ≠ relIsTime m ∨
      (env.nSequence / Script.SEQ_DISABLE) % 2 = 1 ∨ env.txVersion < 2) :
    Script.checkSequence env m = false := by
  rw [← Bool.not_eq_true, checkSequence_iff]
  rintro ⟨hv, hd, hu, hle⟩
  simp only [hu, ne_eq, not_true_eq_false, false_or] at hbad
  omega

theorem relLe_of_seqMasked {x m : Nat} (h : Script.seqMasked x = Script.seqMasked m) : relLe m x := by
  rw [← seqMasked_le_iff, h]
  omega

/-- two locks of one unit (compared as `Sat.absMax` compares it) have a maximum -/
theorem absMax_some {a b : Nat} (h : decide (a < 500000000) = decide (b < 500000000)) :
    ∃ m, absMax a b = some m :=
  ⟨_, by unfold absMax; rw [h, beq_self_eq_true, if_pos rfl]⟩

theorem relMax_some {a b : Nat} (h : relIsTime a = relIsTime b) : ∃ m, relMax a b = some m :=
  ⟨_, by unfold relMax; rw [h, beq_self_eq_true, if_pos rfl]⟩

theorem absMax_le {a b m : Nat} (h : absMax a b = some m) : (m = a ∨ m = b) ∧ absLe a m ∧ absLe b m := by
  unfold absMax at h
  split at h
  · rename_i hu
    have hu' : a < 500000000 ↔ b < 500000000 := by simpa using hu
    simp only [Option.some.injEq] at h
    unfold absLe
    split at h <;> subst h <;> omega
  · cases h

theorem relMax_le {a b m : Nat} (h : relMax a b = some m) : (m = a ∨ m = b) ∧ relLe a m ∧ relLe b m := by
  unfold relMax at h
  split at h
  · rename_i hu
    have hu' : relIsTime a = relIsTime b := by simpa using hu
    simp only [Option.some.injEq] at h
    unfold relLe
    split at h <;> subst h <;> simp only [hu', true_and, or_true, true_or] <;> omega
  · cases h

end MsVerif.Sat
