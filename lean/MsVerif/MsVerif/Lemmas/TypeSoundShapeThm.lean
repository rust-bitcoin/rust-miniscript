/-
C06: the steps of the stack-shape argument that span more than one fragment (`PostN.shift`, `PostN.bool2`, `shapeThreshN_of`), the script of `multi_a` (`csa_chain`, `multiA_ok`), and `keyTop`: what counts as the key a
K fragment leaves on top.
-/
import MsVerif.Lemmas.TypeSoundShape
import MsVerif.Lemmas.FragInv

namespace MsVerif.TypeSound
open MsVerif MsVerif.Script

/-- stack effect of the children of a `thresh` processed so far -/
def ThreshPost (first : Bool) (N : Nat) (s s' : List Bytes) : Prop :=
  if first then ∃ v m, m ≤ N ∧ s' = v :: s.drop m
  else ∃ a tl v m, m ≤ N ∧ s = a :: tl ∧ s' = v :: tl.drop m

theorem ThreshPost.mono {first : Bool} {N N' : Nat} {s s' : List Bytes} (h : ThreshPost first N s s')
    (hN : N ≤ N') : ThreshPost first N' s s' := by
  cases first
  · obtain ⟨a, tl, v, m, hm, e0, e1⟩ := h
    exact ⟨a, tl, v, m, Nat.le_trans hm hN, e0, e1⟩
  · obtain ⟨v, m, hm, e1⟩ := h
    exact ⟨v, m, Nat.le_trans hm hN, e1⟩

theorem ThreshPost.trans {first : Bool} {M N : Nat} {s s1 s2 : List Bytes} (h1 : ThreshPost first M s s1)
    (h2 : ThreshPost false N s1 s2) : ThreshPost first (M + N) s s2 := by
  obtain ⟨a2, tl2, v2, m2, hm2, e5, e6⟩ := h2
  cases first
  · obtain ⟨a0, tl, v, m, hm, e0, e1⟩ := h1
    rw [e1] at e5
    simp only [List.cons.injEq] at e5
    exact ⟨a0, tl, v2, m + m2, by omega, e0, by rw [e6, ← e5.2, List.drop_drop]⟩
  · obtain ⟨v, m, hm, e1⟩ := h1
    rw [e1] at e5
    simp only [List.cons.injEq] at e5
    exact ⟨v2, m + m2, by omega, by rw [e6, ← e5.2, List.drop_drop]⟩

/-- a `PostN` for the stack `s.drop n` is a `PostN` for `s` (B, V, K), the bounds add up -/
theorem PostN.shift {t t' : Corr} {M N : Nat} {s s' : List Bytes} (n : Nat) (h : PostN t M (s.drop n) s')
    (hb : t'.base = t.base) (hu : t'.unit = true → t.unit = true) (hw : t.base ≠ .W) (hN : n + M ≤ N) :
    PostN t' N s s' := by
  cases htb : t.base with
  | B =>
    obtain ⟨v, m, hm, e, u⟩ := (PostN.B htb).1 h
    exact (PostN.B (hb.trans htb)).2 ⟨v, n + m, by omega, by rw [e, List.drop_drop], fun h1 => u (hu h1)⟩
  | V =>
    obtain ⟨m, hm, e⟩ := (PostN.V htb).1 h
    exact (PostN.V (hb.trans htb)).2 ⟨n + m, by omega, by rw [e, List.drop_drop]⟩
  | K =>
    obtain ⟨k, m, hm, e⟩ := (PostN.K htb).1 h
    exact (PostN.K (hb.trans htb)).2 ⟨k, n + m, by omega, by rw [e, List.drop_drop]⟩
  | W => exact absurd htb hw

/-- `X Y OP` for a binary boolean `OP` (BOOLAND, BOOLOR): `X : B` leaves `v`, `Y : W` puts its result
next to it, `OP` replaces both by a boolean -/
theorem PostN.bool2 {ta tb t : Corr} {M N : Nat} {s s1 s2 s3 r' : List Bytes} {p q : Bytes} {bv : Bool}
    (hab : ta.base = .B) (hbb : tb.base = .W) (ht : t.base = .B) (h1 : PostN ta M s s1) (h2 : PostN tb N s1 s2)
    (e4 : s2 = p :: q :: r') (e4' : s3 = boolBytes bv :: r') : PostN t (M + N) s s3 := by
  obtain ⟨v, n, hn, e1, _⟩ := (PostN.B hab).1 h1
  obtain ⟨x, tl, w, m, hm, e2, e3, _⟩ := (PostN.W hbb).1 h2
  rw [e1] at e2
  simp only [List.cons.injEq] at e2
  obtain ⟨_, rfl⟩ := e2
  have hr' : r' = (s.drop n).drop m := by
    rcases e3 with e3 | e3 <;> rw [e3] at e4 <;> simp only [List.cons.injEq] at e4 <;> exact e4.2.2.symm
  exact (PostN.B ht).2 ⟨boolBytes bv, n + m, by omega, by rw [e4', hr', List.drop_drop], fun _ hv => boolBytes_unit _ hv⟩

/-- the children of `thresh`, given the statement of `shapeN` for each of them -/
theorem shapeThreshN_of {env : Env} (ke : KeyEnv) (ctx : Ctx) :
    (xs : MsList) → (∀ x ∈ xs.toList, wf x = true → ∀ (τ : Ty), typeOf x = some τ →
      ∀ (s al : List Bytes) (n : Nat) (s' al' : List Bytes) (n' : Nat),
        frag env ke ctx x ⟨s, al, n⟩ = .ok ⟨s', al', n'⟩ → al' = al ∧ PostN τ.corr (maxArgs x) s s') →
    wfL xs = true → ∀ (ts : List Ty), typesOf xs = some ts →
      ∀ (first : Bool) (i acc n : Nat), (first = true ↔ i = 0) →
        Corr.threshLoop i acc (ts.map (·.corr)) = some n →
          ∀ (s al : List Bytes) (m : Nat) (s' al' : List Bytes) (m' : Nat),
            fragThresh env ke ctx first xs ⟨s, al, m⟩ = .ok ⟨s', al', m'⟩ →
              al' = al ∧ ((xs = .nil ∧ s' = s) ∨ ThreshPost first (maxArgsL xs) s s')
  | .nil, _, _, ts, _, first, i, acc, n, _, _, s, al, m, s', al', m', hr => by
    obtain ⟨rfl, rfl⟩ := fragThresh_nil_inv hr
    exact ⟨rfl, Or.inl ⟨rfl, rfl⟩⟩
  | .cons x xs, hch, hw, ts, hts, first, i, acc, n, hfi, hloop, s, al, m, s', al', m', hr => by
    obtain ⟨t, ts', hx, hxs, rfl⟩ := typesOf_cons hts
    simp only [List.map_cons] at hloop
    obtain ⟨hB, hW, _, _, htail⟩ := Corr.threshLoop_cons hloop
    simp only [wfL, Bool.and_eq_true] at hw
    -- after the head (and its ADD): one accumulator on top of a suffix of the input
    have key : ∃ s2 al2 m2, fragThresh env ke ctx false xs ⟨s2, al2, m2⟩ = .ok ⟨s', al', m'⟩ ∧ al2 = al ∧
        ThreshPost first (maxArgs x) s s2 := by
      cases first with
      | true =>
        obtain ⟨s1, al1, m1, h1, h3⟩ := fragThresh_first_inv hr
        obtain ⟨ih1, ih2⟩ := hch x (List.mem_cons_self ..) hw.1 t hx _ _ _ _ _ _ h1
        obtain ⟨v, k, hbd, e1, _⟩ := (PostN.B (hB (hfi.1 rfl))).1 ih2
        exact ⟨_, _, _, h3, ih1, by simp only [ThreshPost, if_true]; exact ⟨v, k, hbd, e1⟩⟩
      | false =>
        have hi0 : i ≠ 0 := fun h0 => by simpa using hfi.2 h0
        obtain ⟨a, b, r, al1, m1, p, q, m2, h1, _, _, h3⟩ := fragThresh_add_inv hr
        obtain ⟨ih1, ih2⟩ := hch x (List.mem_cons_self ..) hw.1 t hx _ _ _ _ _ _ h1
        obtain ⟨a0, tl, w, k, hbd, rfl, e2, _⟩ := (PostN.W (hW hi0)).1 ih2
        have hr' : r = tl.drop k := by
          rcases e2 with e2 | e2 <;> exact (List.cons.inj (List.cons.inj e2).2).2
        refine ⟨_, _, _, h3, ih1, ?_⟩
        simp only [ThreshPost, Bool.false_eq_true, if_false]
        exact ⟨a0, tl, _, k, hbd, rfl, by rw [hr']⟩
    obtain ⟨s2, al2, m2, h3, ha2, kp⟩ := key
    obtain ⟨jh1, jh2⟩ := shapeThreshN_of ke ctx xs
      (fun z hz => hch z (List.mem_cons_of_mem _ hz)) hw.2 ts' hxs false (i + 1) _ n (by simp) htail _ _ _ _ _ _ h3
    refine ⟨jh1.trans ha2, Or.inr ?_⟩
    simp only [maxArgsL]
    rcases jh2 with ⟨_, e4⟩ | jh2
    · rw [e4]; exact kp.mono (Nat.le_add_right _ _)
    · exact kp.trans jh2

/-- one more key: a verified signature (`b`) counts only if the key is marked by `p` -/
theorem filter_step {α : Type} {p : α → Bool} {k : α} {b : Bool} (hb : b = true → p k = true) (ks : List α) :
    (if b then 1 else 0 : Int) + ((ks.filter p).length : Int) ≤ (((k :: ks).filter p).length : Int) := by
  cases b with
  | false =>
    have hle : (ks.filter p).length ≤ ((k :: ks).filter p).length := by
      simp only [List.filter_cons]; split <;> simp
    simp only [Bool.false_eq_true, if_false]; omega
  | true =>
    have h1 : ((k :: ks).filter p).length = (ks.filter p).length + 1 := by simp [hb rfl]
    rw [h1]
    simp only [↓reduceIte]
    omega

/-- `p` marks every key a signature verifies for; the counter grows by at most the number of marked keys -/
theorem csa_chain {env : Env} (ke : KeyEnv) (p : Key → Bool)
    (hp : ∀ k sg, checkSig env sg (ke.ser k) = .ok true → p k = true) :
    (ks : List Key) → ∀ {acc : Bytes} {s al : List Bytes} {n : Nat} {c' : Core},
      seqOps env (ks.flatMap fun pk => [Op.push (ke.ser pk), .code .checksigadd]) ⟨acc :: s, al, n⟩ = .ok c' →
      (∀ y, num4 env acc = .ok y → 0 ≤ y) →
      c'.alt = al ∧ ∃ acc', c'.stack = acc' :: s.drop ks.length ∧
        ∀ y', num4 env acc' = .ok y' → ∃ y, num4 env acc = .ok y ∧ y ≤ y' ∧ y' ≤ y + ((ks.filter p).length : Int)
  | [], acc, s, al, n, c', h, _ => by
    rw [List.flatMap_nil] at h
    cases seqOps_nil_ok h
    exact ⟨rfl, acc, rfl, fun y' hy' => ⟨y', hy', Int.le_refl _, by simp⟩⟩
  | k :: ks, acc, s, al, n, c', h, h0 => by
    obtain ⟨acc0, sg, r, v, b, m, e, hv, hc, h'⟩ := csa_step_inv h
    cases e
    have hv0 := h0 v hv
    have hd := filter_step (p := p) (k := k) (fun hb => hp k sg (hb ▸ hc)) ks
    have hd0 : 0 ≤ (if b then 1 else 0 : Int) := by split <;> decide
    obtain ⟨ha, acc', hs, hy⟩ := csa_chain ke p hp ks h'
      (fun y hy => by cases num4_numEncode_inv (by omega) hy; omega)
    refine ⟨ha, acc', hs, fun y' hy' => ?_⟩
    obtain ⟨y1, hy1, h1, h2⟩ := hy y' hy'
    cases num4_numEncode_inv (by omega) hy1
    exact ⟨v, hv, by omega, by omega⟩

/-- `y`, the count of the chain, is at most the number of keys marked by `p` (as in `csa_chain`) -/
theorem multiA_ok {env : Env} (ke : KeyEnv) (p : Key → Bool)
    (hp : ∀ k sg, checkSig env sg (ke.ser k) = .ok true → p k = true) (k : Nat) (kl : List Key)
    {c c' : Core} (h : seqOps env (encodeMultiA ke kl ++ [pushInt k, .code .numequal]) c = .ok c') :
    c'.alt = c.alt ∧ ∃ (y : Int) (m : Nat), m ≤ max 1 kl.length ∧
      c'.stack = boolBytes ((k : Int) == y) :: c.stack.drop m ∧
      (1 ≤ kl.length → 0 ≤ y ∧ y ≤ ((kl.filter p).length : Int)) := by
  obtain ⟨s, al, n⟩ := c
  obtain ⟨s', al', n'⟩ := c'
  obtain ⟨v, r, m0, x, y, h1, hx, hy, rfl⟩ := multiA_tail_inv h
  cases num4_numEncode_inv (Int.natCast_nonneg k) hx
  cases kl with
  | nil =>
    simp only [encodeMultiA] at h1
    cases seqOps_nil_ok h1
    exact ⟨rfl, y, 1, by simp, rfl, fun h => by simp at h⟩
  | cons k0 ks =>
    obtain ⟨sg, r0, b, m1, rfl, hc, h2⟩ := multiA_head_inv h1
    have hz : num4 env (boolBytes b) = .ok (if b then 1 else 0 : Int) := by
      cases b
      · exact Script.num4_nil env
      · exact Script.num4_one env
    obtain ⟨ha, acc', hs, hcnt⟩ := csa_chain ke p hp ks h2
      (fun y hy => by cases hz.symm.trans hy; split <;> decide)
    cases hs
    obtain ⟨y0, hy0, h3, h4⟩ := hcnt y hy
    cases hz.symm.trans hy0
    have hfirst := filter_step (p := p) (k := k0) (fun hb => hp k0 sg (hb ▸ hc)) ks
    exact ⟨ha, y, ks.length + 1, by simp only [List.length_cons]; omega, rfl,
      fun _ => ⟨by split at h3 <;> omega, by omega⟩⟩

theorem multiA_shape {env : Env} (ke : KeyEnv) (k : Nat) (kl : List Key) {c c' : Core}
    (h : seqOps env (encodeMultiA ke kl ++ [pushInt k, .code .numequal]) c = .ok c') :
    c'.alt = c.alt ∧ ∃ b m, m ≤ max 1 kl.length ∧ c'.stack = boolBytes b :: c.stack.drop m := by
  obtain ⟨ha, y, m, hm, hs, _⟩ := multiA_ok ke (fun _ => true) (fun _ _ _ => rfl) k kl h
  exact ⟨ha, _, m, hm, hs⟩

/-- what a K fragment `ms` may leave on top: the serialized key (`pk_k`); any HASH160 preimage of the commitment, not only the key (`pk_h`); that of whichever branch ran (`or_i`, `andor`) -/
def keyTop (env : Env) (ke : KeyEnv) : Ms → Bytes → Prop
  | .pkK k, x => x = ke.ser k
  | .pkH k, x => env.hash .hash160 x = ke.pkh k
  | .rawPkH h, x => env.hash .hash160 x = ke.rawPkh h
  | .andV _ r, x => keyTop env ke r x
  | .orI l r, x => keyTop env ke l x ∨ keyTop env ke r x
  | .andOr _ b c, x => keyTop env ke b x ∨ keyTop env ke c x
  | _, _ => False

end MsVerif.TypeSound
