/-
C03 (uniqueness): the adversary (`AdvOK`), the node invariant `UInv`, the node predicate `uP`, and `UInv` at the
leaves `0`, `1`, `pk_k`, `pk_h`, `after`, `older`, hashes (the multisig leaves: UniqMulti).  `min_left` / `min_right`: a possible
signature-free alternative wins `minimum` against one that is impossible or signed.  `altInv_sat`: `AltInv.kin` / `.nos`
of a satisfaction, from `sig_in_keys` and `noSigInv_satDissat`.
-/
import MsVerif.Lemmas.UniqAlt


namespace MsVerif.Uniq
open MsVerif Sat SatTable SatAll MalleLattice Complete

/-- the third party relative to the caller's availability `av`: no signature the caller does
not have, the same transaction (lock checks); preimages and raw keys are unconstrained -/
structure AdvOK (adv av : Avail) : Prop where
  sig_le : ∀ k, adv.sig k = true → av.sig k = true
  after_eq : ∀ n, adv.after n = av.after n
  older_eq : ∀ n, adv.older n = av.older n

/-- invariant of a node: satisfaction w.r.t. the keys of the node; dissatisfaction (types
`unique` / `none`) w.r.t. no key at all (canonical dissatisfactions never contain signatures) -/
structure UInv (adv : Avail) (sortK : List Key → List Key) (x : Ms) (M : Mall) (r : SatDissat) : Prop where
  sat : AltInv adv (keysOf x) (allSat adv sortK x) r.sat
  du : M.dissat = .unique → AltInv adv [] (allDsat adv sortK x) r.dissat
  dn : M.dissat = .none → allDsat adv sortK x = []

/-- node predicate: multisig thresholds are ≥ 1 and the fragment belongs to the context
(`multi` outside tapscript, `multi_a` inside) — both enforced by the library -/
def uP (ctx : Ctx) : Ms → Bool
  | .multi k _ | .sortedMulti k _ => decide (1 ≤ k) && (ctx != .tap)
  | .multiA k _ | .sortedMultiA k _ => decide (1 ≤ k) && (ctx == .tap)
  | _ => true

variable {adv : Avail} {sortK : List Key → List Key}

theorem min_left {s1 s2 : Sat} (hs : s1.stack ≠ .impossible) (hn : s1.hasSig = false)
    (h2 : SigOrImp s2) : minimum s1 s2 = s1 := by
  rcases minimum_pick s1 s2 with ⟨e, _⟩ | ⟨_, i1 | ⟨_, f1⟩⟩ | ⟨_, _, n2, _, f2⟩
  · exact e
  · exact absurd i1 hs
  · rw [hn] at f1; cases f1
  · rw [h2 n2] at f2; cases f2

theorem min_right {s1 s2 : Sat} (hs : s2.stack ≠ .impossible) (hn : s2.hasSig = false)
    (h1 : SigOrImp s1) : minimum s1 s2 = s2 := by
  rcases minimum_pick s1 s2 with ⟨_, i2 | ⟨n1, f2⟩⟩ | ⟨e, _⟩ | ⟨_, n1, _, f1, _⟩
  · exact absurd i2 hs
  · rw [hn] at f2; cases f2
  · exact e
  · rw [h1 n1] at f1; cases f1

section
variable (c : SatCfg)

theorem uinv_fls : UInv adv sortK .fls Ty.FALSE.mall (satDissat c .fls) := by
  refine ⟨?_, fun _ => ?_, fun h => by simp [Ty.FALSE, Mall.FALSE] at h⟩
  · simp only [satDissat, allSat, keysOf]; exact altInv_imp _ rfl
  · simp only [satDissat, allDsat]
    exact altInv_lit [] [] (fun k h => by simp [items] at h) none none

theorem uinv_tru : UInv adv sortK .tru Ty.TRUE.mall (satDissat c .tru) := by
  refine ⟨?_, fun h => by simp [Ty.TRUE, Mall.TRUE] at h, fun _ => by simp only [allDsat]⟩
  simp only [satDissat, allSat, keysOf]
  exact altInv_lit [] [] (fun k h => by simp [items] at h) none none

theorem sat_nos (hm : c.mall = false) (x : Ms) :
    (satDissat c x).sat.hasSig = false → ∀ w, (satDissat c x).sat.stack = .stack w →
      ∀ k, Item.sig k ∉ items w :=
  fun hf w hw k => no_sig_item ((noSigInv_satDissat c hm x).1 hf w hw) k

theorem dissat_nos (hm : c.mall = false) (x : Ms) :
    (satDissat c x).dissat.hasSig = false → ∀ w, (satDissat c x).dissat.stack = .stack w →
      ∀ k, Item.sig k ∉ items w :=
  fun hf w hw k => no_sig_item ((noSigInv_satDissat c hm x).2 hf w hw) k

theorem altInv_sat (hm : c.mall = false) (x : Ms) (A : List (List Item))
    (h1 : (satDissat c x).sat.stack = .impossible → A = [])
    (h2 : (satDissat c x).sat.hasSig = true → (∀ k ∈ keysOf x, adv.sig k = false) → A = [])
    (h3 : ∀ w, (satDissat c x).sat.stack = .stack w →
      (∀ k ∈ keysOf x, adv.sig k = true → Item.sig k ∈ items w) → ∀ t ∈ A, t = items w) :
    AltInv adv (keysOf x) A (satDissat c x).sat :=
  ⟨h1, h2, h3, (sig_in_keys c x).1, sat_nos c hm x⟩

theorem sigWit_avail (ctx : Ctx) (a : Assets) (k : Key) :
    (sigAvail ctx a k = false ∧ sigWit ctx a k = .impossible) ∨
    (sigAvail ctx a k = true ∧ ∃ p, phItem p = .sig k ∧ sigWit ctx a k = .stack [p]) := by
  rcases Complete.sigWit_avail_cases ctx a k with ⟨h1, h2⟩ | ⟨h1, p, h2, _⟩
  · exact .inl ⟨h1, h2⟩
  · refine .inr ⟨h1, ?_⟩
    rcases sigWit_item ctx a k with h | ⟨q, hq, h⟩
    · rw [h] at h2; cases h2
    · exact ⟨q, hq, h⟩

theorem uinv_pkK (hm : c.mall = false) (hadv : AdvOK adv (availOf c.assets c.ctx)) (k : Key) :
    UInv adv sortK (.pkK k) Ty.pkK.mall (satDissat c (.pkK k)) := by
  refine ⟨?_, fun _ => ?_, fun h => by simp [Ty.pkK, Mall.pkK] at h⟩
  · apply altInv_sat c hm
    · intro hi
      simp only [satDissat_pkK] at hi
      simp only [allSat]
      rcases sigWit_avail c.ctx c.assets k with ⟨h1, _⟩ | ⟨_, p, _, h2⟩
      · cases hs : adv.sig k with
        | false => simp
        | true => have := hadv.sig_le k hs; simp [availOf, h1] at this
      · rw [h2] at hi; cases hi
    · intro _ hn
      simp only [allSat, hn k (by simp [keysOf])]; simp
    · intro w hw _ t ht
      simp only [satDissat_pkK] at hw
      simp only [allSat] at ht
      rcases sigWit_avail c.ctx c.assets k with ⟨_, h2⟩ | ⟨_, p, hp, h2⟩
      · rw [h2] at hw; cases hw
      · rw [h2] at hw; cases hw
        split at ht
        · simp only [List.mem_singleton] at ht; rw [ht]; simp [items, hp]
        · cases ht
  · simp only [satDissat_pkK, allDsat]
    exact altInv_lit [] [.pushZero] (fun k h => by simp [items, phItem] at h) none none

/-- `pk_h` is `pk_k` with the public key pushed on top -/
theorem uinv_pkH (hm : c.mall = false) (hadv : AdvOK adv (availOf c.assets c.ctx)) (k : Key) :
    UInv adv sortK (.pkH k) Ty.pkH.mall (satDissat c (.pkH k)) := by
  refine ⟨?_, fun _ => ?_, fun h => by simp [Ty.pkH, Mall.pkH] at h⟩
  · have h := altInv_push (uinv_pkK (sortK := sortK) c hm hadv k).sat
      (.pubkey k (pkLen c.env c.ctx k)) (fun _ h => by cases h)
    simp only [satDissat_pkK, satDissat_pkH, keysOf, allSat] at h ⊢
    cases hs : adv.sig k <;> simpa [hs, cat, phItem] using h
  · simp only [satDissat_pkH, allDsat]
    show AltInv adv [] [items [.pushZero, .pubkey k (pkLen c.env c.ctx k)]]
      ⟨.stack [.pushZero, .pubkey k (pkLen c.env c.ctx k)], false, none, none⟩
    exact altInv_lit [] _ (fun k' h => by
      simp only [items, List.map_cons, List.map_nil, phItem, List.mem_cons, List.not_mem_nil, or_false] at h
      rcases h with h | h <;> cases h) none none

theorem uinv_after (hr : c.rootHasSig = true)
    (hadv : AdvOK adv (availOf c.assets c.ctx)) (n : Nat) :
    UInv adv sortK (.after n) Ty.time.mall (satDissat c (.after n)) := by
  refine ⟨?_, fun h => by simp [Ty.time, Mall.time] at h, fun _ => by simp only [allDsat]⟩
  have hav : adv.after n = c.assets.checkAfter n := by rw [hadv.after_eq]; rfl
  simp only [satDissat_after, allSat, keysOf, hav]
  cases hc : c.assets.checkAfter n with
  | true =>
    simp only [if_true]
    exact altInv_lit [] [] (fun k h => by simp [items] at h) _ _
  | false =>
    simp only [hr, if_true]
    exact altInv_imp _ rfl

theorem uinv_older (hr : c.rootHasSig = true)
    (hadv : AdvOK adv (availOf c.assets c.ctx)) (n : Nat) :
    UInv adv sortK (.older n) Ty.time.mall (satDissat c (.older n)) := by
  refine ⟨?_, fun h => by simp [Ty.time, Mall.time] at h, fun _ => by simp only [allDsat]⟩
  have hav : adv.older n = c.assets.checkOlder (relCanon n) := by rw [hadv.older_eq]; rfl
  simp only [satDissat_older, allSat, keysOf, hav]
  cases hc : c.assets.checkOlder (relCanon n) with
  | true =>
    simp only [if_true]
    exact altInv_lit [] [] (fun k h => by simp [items] at h) _ _
  | false =>
    simp only [hr, if_true]
    exact altInv_imp _ rfl

theorem uinv_hash (kind : HashKind) (h : Nat) :
    UInv adv sortK (.hash kind h) Ty.hash.mall (satDissat c (.hash kind h)) := by
  refine ⟨?_, fun h => by simp [Ty.hash, Mall.hash] at h, fun h => by simp [Ty.hash, Mall.hash] at h⟩
  simp only [satDissat_hash, allSat, keysOf]
  cases c.assets.preimage kind h with
  | false => exact altInv_unavailable _ _
  | true =>
    simp only [if_true]
    cases adv.preimage kind h with
    | true =>
      simp only [if_true]
      exact altInv_lit [] [.preimage kind h] (fun k h => by simp [items, phItem] at h) none none
    | false =>
      exact altInv_lit_nil [] [.preimage kind h] (fun k h => by simp [items, phItem] at h) none none

end

end MsVerif.Uniq
