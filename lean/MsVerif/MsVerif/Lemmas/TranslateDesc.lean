/-
Lemmas for C20 at descriptor level: `Descriptor::translate_pk` with a pure mapping, `for_each_key`,
`Descriptor::iter_pk`.
-/
import MsVerif.Lemmas.TranslateLemmas
import MsVerif.Lemmas.TranslateEncode
import MsVerif.Model.TranslateDesc

namespace MsVerif.TranslateDesc
open MsVerif MsVerif.Desc MsVerif.TreeWalk MsVerif.TranslateLemmas MsVerif.TranslateEncode

variable {σ ε : Type}

theorem translatePk_pure (f : Key → Key) (g : HashKind → Nat → Nat) (chk : Ms → Bool) (ms : Ms) :
    translatePk (pureT (σ := σ) (ε := ε) f g) chk ms
      = outC ((ms.mapKeys f g).pre.all chk) (ms.mapKeys f g) := by
  rw [translatePk_eq, trRtl_pure]; rfl

theorem translateKey_pure (f : Key → Key) (g : HashKind → Nat → Nat) (ok : Key → Bool) (k : Key) :
    translateKey (pureT (σ := σ) (ε := ε) f g) ok k = outC (ok (f k)) (f k) := by
  simp [translateKey, pureT, outC]

theorem translateLeaves_pure (f : Key → Key) (g : HashKind → Nat → Nat) (chk : Ms → Bool) :
    (ls : List (Nat × Ms)) →
    translateLeaves (pureT (σ := σ) (ε := ε) f g) chk ls
      = outC (ls.all fun l => (l.2.mapKeys f g).pre.all chk) (ls.map fun l => (l.1, l.2.mapKeys f g))
  | [] => by simp [translateLeaves, outC]
  | (d, m) :: ls => by
    simp only [translateLeaves, translatePk_pure, translateLeaves_pure f g chk ls, outC_bind_pure,
      outC_bind]
    rfl

/-- the byte-level parameters seen through a mapping -/
def Params.comap (P : Params) (f : Key → Key) (g : HashKind → Nat → Nat) : Params where
  H := P.H
  env := KeyEnv.comap P.env f g
  trOutputKey ik ls := P.trOutputKey (f ik) ls

theorem trLeavesForEach_eq (pred : Key → Bool) : (ls : List (Nat × Ms)) →
    trLeavesForEach pred ls = allVisit pred (ls.flatMap fun l => l.2.keys)
  | [] => rfl
  | (d, m) :: ls => by
    simp only [trLeavesForEach, forEachKey_eq, List.flatMap_cons, allVisit_append,
      trLeavesForEach_eq pred ls]

theorem optNext_getD (o : Option (List Key)) :
    o.getD [] = match optNext o with | some (k, it) => k :: it.getD [] | none => [] := by
  rcases o with _ | _ | ⟨k, ks⟩ <;> rfl

def leafKeys (ls : List (Nat × Ms)) : List Key := ls.flatMap fun l => l.2.iterPkLit

theorem tapLoop_spec : ∀ (it : Option (List Key)) (ls : List (Nat × Ms)),
    it.getD [] ++ leafKeys ls =
      match tapLoop it ls with
      | some (k, it', rest) => k :: (it'.getD [] ++ leafKeys rest)
      | none => []
  | it, [] => by
    rw [optNext_getD it, tapLoop]
    rcases optNext it with _ | ⟨k, it'⟩ <;> simp [leafKeys]
  | it, (d, m) :: rest => by
    rw [optNext_getD it, tapLoop]
    rcases optNext it with _ | ⟨k, it'⟩
    · simpa [leafKeys] using tapLoop_spec (some m.iterPkLit) rest
    · simp

/-- what a `PkIter` state still has to yield -/
def remainingKeys (s : DPkIter) : List Key :=
  s.singleKey.toList ++ (s.msTaproot.getD [] ++ leafKeys (s.taptreeIter.getD []))
    ++ s.msBare.getD [] ++ s.msLegacy.getD [] ++ s.msSegwit.getD []

theorem next_spec : Remains DPkIter.next remainingKeys := fun s => by
  obtain ⟨sk, tt, mb, ml, msg, mt⟩ := s
  cases sk with
  | some k => simp [DPkIter.next, remainingKeys]
  | none =>
    have hb := optNext_getD mb
    have hl := optNext_getD ml
    have hs := optNext_getD msg
    cases tt with
    | some leaves =>
      have ht := tapLoop_spec mt leaves
      simp only [DPkIter.next, remainingKeys, Option.toList_none, List.nil_append, Option.getD_some]
      revert hb hl hs ht
      rcases tapLoop mt leaves with _ | ⟨k, it, rest⟩ <;> rcases optNext mb with _ | ⟨k1, i1⟩ <;>
        rcases optNext ml with _ | ⟨k2, i2⟩ <;> rcases optNext msg with _ | ⟨k3, i3⟩ <;>
        intro hb hl hs ht <;> simp [hb, hl, hs, ht, ← List.append_assoc]
    | none =>
      have ht := optNext_getD mt
      simp only [DPkIter.next, remainingKeys, Option.toList_none, List.nil_append, Option.getD_none]
      revert hb hl hs ht
      rcases optNext mt with _ | ⟨k, it⟩ <;> rcases optNext mb with _ | ⟨k1, i1⟩ <;>
        rcases optNext ml with _ | ⟨k2, i2⟩ <;> rcases optNext msg with _ | ⟨k3, i3⟩ <;>
        intro hb hl hs ht <;> simp [hb, hl, hs, ht, leafKeys]

theorem collect_eq (fuel : Nat) (s : DPkIter) :
    iterCollect DPkIter.next fuel s = (remainingKeys s).take fuel :=
  iterCollect_eq_take next_spec fuel s

theorem bound_eq (s : DPkIter) : s.bound = (remainingKeys s).length := by
  obtain ⟨sk, tt, mb, ml, msg, mt⟩ := s
  cases sk <;> simp [DPkIter.bound, remainingKeys, leafKeys, List.length_flatMap] <;> omega

end MsVerif.TranslateDesc
