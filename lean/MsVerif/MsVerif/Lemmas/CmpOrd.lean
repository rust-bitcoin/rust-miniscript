/-
Lemmas for C19 (ordering): `Ord for Terminal` walks two display trees in lock step.  Since the
number of children is compared at every node, the walk is the lexicographic order of the
pre-order TOKEN sequences, which is a lawful total order and — by the prefix code lemma —
`Equal` exactly on identical trees; the two walks never fall out of step (no `unreachable!`).
-/
import MsVerif.Lemmas.CmpEq
import MsVerif.Lemmas.CoreCmp

namespace MsVerif.CmpOrd
open MsVerif MsVerif.TreeWalk MsVerif.CmpEq

def kids (d : DNode) : List DNode := (DNode.asNode d).children

mutual
/-- pre-order of the display tree below `DisplayNode::Node(_, t)` -/
def dpreMs : Ms → List DNode
  | .tru => [.node .tru]
  | .fls => [.node .fls]
  | .pkK k => [.node (.pkK k), .key k]
  | .pkH k => [.node (.pkH k), .key k]
  | .rawPkH h => [.node (.rawPkH h), .rawKeyHash h]
  | .after n => [.node (.after n), .after n]
  | .older n => [.node (.older n), .older n]
  | .hash kind h => [.node (.hash kind h), .hash kind h]
  | .check sub =>
    .node (.check sub) ::
      (match sub with
       | .pkK k | .pkH k => [.key k]
       | _ => dpreMs sub)
  | .alt x => .node (.alt x) :: dpreMs x
  | .swap x => .node (.swap x) :: dpreMs x
  | .dupIf x => .node (.dupIf x) :: dpreMs x
  | .verify x => .node (.verify x) :: dpreMs x
  | .nonZero x => .node (.nonZero x) :: dpreMs x
  | .zeroNotEqual x => .node (.zeroNotEqual x) :: dpreMs x
  | .andV l r => .node (.andV l r) :: (if r.isTrue then dpreMs l else dpreMs l ++ dpreMs r)
  | .orI l r =>
    .node (.orI l r) ::
      (if l.isFalse then dpreMs r else if r.isFalse then dpreMs l else dpreMs l ++ dpreMs r)
  | .andB l r => .node (.andB l r) :: (dpreMs l ++ dpreMs r)
  | .orB l r => .node (.orB l r) :: (dpreMs l ++ dpreMs r)
  | .orD l r => .node (.orD l r) :: (dpreMs l ++ dpreMs r)
  | .orC l r => .node (.orC l r) :: (dpreMs l ++ dpreMs r)
  | .andOr a b c =>
    .node (.andOr a b c) ::
      (if c.isFalse then dpreMs a ++ dpreMs b else dpreMs a ++ (dpreMs b ++ dpreMs c))
  | .thresh k xs => .node (.thresh k xs) :: .thresholdK k :: dpreList xs
  | .multi k ks => .node (.multi k ks) :: .thresholdK k :: ks.map .key
  | .sortedMulti k ks => .node (.sortedMulti k ks) :: .thresholdK k :: ks.map .key
  | .multiA k ks => .node (.multiA k ks) :: .thresholdK k :: ks.map .key
  | .sortedMultiA k ks => .node (.sortedMultiA k ks) :: .thresholdK k :: ks.map .key
def dpreList : MsList → List DNode
  | .nil => []
  | .cons x xs => dpreMs x ++ dpreList xs
end

def dpre : DNode → List DNode
  | .node t => dpreMs t
  | d => [d]

theorem dpreList_eq : (xs : MsList) → dpreList xs = (xs.toList.map DNode.node).flatMap dpre
  | .nil => rfl
  | .cons x xs => by simp [dpreList, MsList.toList, dpre, dpreList_eq xs]

theorem flatMap_dpre_keys (ks : List Key) : (ks.map DNode.key).flatMap dpre = ks.map DNode.key := by
  induction ks with
  | nil => rfl
  | cons k ks ih => simp [dpre, ih]

theorem dpre_eq (d : DNode) : dpre d = d :: (kids d).flatMap dpre := by
  cases d
  case node t =>
    cases t <;>
      simp [dpre, dpreMs, kids, DNode.asNode, Tree.children, naryNodes, naryKeys, dpreList_eq,
        flatMap_dpre_keys]
    case check sub => cases sub <;> simp [dpre, dpreMs]
    case andV l r => by_cases h : r.isTrue = true <;> simp [h, dpre]
    case orI l r =>
      by_cases h1 : l.isFalse = true <;> by_cases h2 : r.isFalse = true <;>
        simp [h1, h2, dpre]
    case andOr a b c => by_cases h : c.isFalse = true <;> simp [h, dpre]
  all_goals simp [dpre, kids, DNode.asNode, Tree.children]

/-- what `cmp` reads from a display node: for `Node` the fragment name and the
number of children -/
inductive Tok where
  | node (name : FragName) (n : Nat)
  | thresholdK (k : Nat)
  | key (k : Key)
  | rawKeyHash (h : Nat)
  | after (n : Nat)
  | older (n : Nat)
  | hash (kind : HashKind) (h : Nat)
  deriving DecidableEq, Repr

def tok : DNode → Tok
  | .node t => .node t.fragName (kids (.node t)).length
  | .thresholdK k => .thresholdK k
  | .key k => .key k
  | .rawKeyHash h => .rawKeyHash h
  | .after n => .after n
  | .older n => .older n
  | .hash kind h => .hash kind h

def Tok.kind : Tok → Nat
  | .node _ _ => 0 | .thresholdK _ => 1 | .key _ => 2 | .rawKeyHash _ => 3 | .after _ => 4
  | .older _ => 5 | .hash kind _ => 6 + kind.idx

def kind (d : DNode) : Nat := (tok d).kind

/-- the children's variants are a function of the fragment name and the number of children -/
def kidKinds (name : FragName) (n : Nat) : List Nat :=
  match name with
  | .one | .zero => []
  | .pk_k | .pk_h | .pk | .pkh => [2]
  | .expr_raw_pkh => [3]
  | .after => [4]
  | .older => [5]
  | .sha256 => [6] | .hash256 => [7] | .ripemd160 => [8] | .hash160 => [9]
  | .thresh => 1 :: List.replicate (n - 1) 0
  | .multi | .sortedmulti | .multi_a | .sortedmulti_a => 1 :: List.replicate (n - 1) 2
  | _ => List.replicate n 0

theorem kids_kinds (t : Ms) :
    (kids (.node t)).map kind = kidKinds t.fragName (kids (.node t)).length := by
  cases t
  case hash hk h => cases hk <;> rfl
  case check sub => cases sub <;> rfl
  case andV l r =>
    simp only [kids, DNode.asNode, Ms.fragName]
    cases r.isTrue <;> rfl
  case orI l r =>
    simp only [kids, DNode.asNode, Ms.fragName]
    cases l.isFalse <;> cases r.isFalse <;> rfl
  case andOr a b c =>
    simp only [kids, DNode.asNode, Ms.fragName]
    cases c.isFalse <;> rfl
  case thresh k xs =>
    simp [kids, DNode.asNode, Tree.children, Ms.fragName, kidKinds, naryNodes, Function.comp_def, kind, tok, Tok.kind]
    rw [List.map_const', MsList.length_toList]
  case multi | sortedMulti | multiA | sortedMultiA =>
    simp [kids, DNode.asNode, Tree.children, Ms.fragName, kidKinds, naryKeys, Function.comp_def, kind, tok, Tok.kind]
    exact List.map_const' ..
  all_goals rfl

theorem tok_kids_kinds (x y : DNode) (h : tok x = tok y) : (kids x).map kind = (kids y).map kind := by
  cases x <;> cases y <;> simp [tok] at h
  case node.node t u => rw [kids_kinds, kids_kinds, h.1, h.2]
  all_goals simp only [kids, DNode.asNode, Tree.children]

theorem tok_arity (x y : DNode) (h : tok x = tok y) : (kids x).length = (kids y).length := by
  have := congrArg List.length (tok_kids_kinds x y h)
  simpa using this

def getNodes : List DNode → Option (List Ms)
  | [] => some []
  | .node t :: ds => (getNodes ds).map (t :: ·)
  | _ :: _ => none

def getKeys : List DNode → Option (List Key)
  | [] => some []
  | .key k :: ds => (getKeys ds).map (k :: ·)
  | _ :: _ => none

theorem getNodes_map (l : List Ms) : getNodes (l.map .node) = some l := by
  induction l with
  | nil => rfl
  | cons x xs ih => simp [getNodes, ih]

theorem getKeys_map (l : List Key) : getKeys (l.map .key) = some l := by
  induction l with
  | nil => rfl
  | cons x xs ih => simp [getKeys, ih]

def unview : FragName → List DNode → Option Ms
  | .one, [] => some .tru
  | .zero, [] => some .fls
  | .pk_k, [.key k] => some (.pkK k)
  | .pk_h, [.key k] => some (.pkH k)
  | .expr_raw_pkh, [.rawKeyHash h] => some (.rawPkH h)
  | .after, [.after n] => some (.after n)
  | .older, [.older n] => some (.older n)
  | .sha256, [.hash kind h] => some (.hash kind h)
  | .hash256, [.hash kind h] => some (.hash kind h)
  | .ripemd160, [.hash kind h] => some (.hash kind h)
  | .hash160, [.hash kind h] => some (.hash kind h)
  | .a, [.node x] => some (.alt x)
  | .s, [.node x] => some (.swap x)
  | .pk, [.key k] => some (.check (.pkK k))
  | .pkh, [.key k] => some (.check (.pkH k))
  | .c, [.node x] => some (.check x)
  | .d, [.node x] => some (.dupIf x)
  | .v, [.node x] => some (.verify x)
  | .j, [.node x] => some (.nonZero x)
  | .n, [.node x] => some (.zeroNotEqual x)
  | .t, [.node x] => some (.andV x .tru)
  | .and_v, [.node l, .node r] => some (.andV l r)
  | .and_n, [.node a, .node b] => some (.andOr a b .fls)
  | .and_b, [.node l, .node r] => some (.andB l r)
  | .andor, [.node a, .node b, .node c] => some (.andOr a b c)
  | .or_b, [.node l, .node r] => some (.orB l r)
  | .or_d, [.node l, .node r] => some (.orD l r)
  | .or_c, [.node l, .node r] => some (.orC l r)
  | .u, [.node x] => some (.orI x .fls)
  | .l, [.node x] => some (.orI .fls x)
  | .or_i, [.node l, .node r] => some (.orI l r)
  | .thresh, .thresholdK k :: ds => (getNodes ds).map (fun l => .thresh k (MsList.ofList l))
  | .multi, .thresholdK k :: ds => (getKeys ds).map (.multi k)
  | .sortedmulti, .thresholdK k :: ds => (getKeys ds).map (.sortedMulti k)
  | .multi_a, .thresholdK k :: ds => (getKeys ds).map (.multiA k)
  | .sortedmulti_a, .thresholdK k :: ds => (getKeys ds).map (.sortedMultiA k)
  | _, _ => none

theorem isTrue_eq (r : Ms) (h : r.isTrue = true) : r = .tru := by cases r <;> simp [Ms.isTrue] at h <;> rfl
theorem isFalse_eq (r : Ms) (h : r.isFalse = true) : r = .fls := by cases r <;> simp [Ms.isFalse] at h <;> rfl

@[simp] theorem isFalse_fls : Ms.fls.isFalse = true := rfl
@[simp] theorem isTrue_tru : Ms.tru.isTrue = true := rfl

theorem unview_view (t : Ms) : unview t.fragName (kids (.node t)) = some t := by
  cases t
  case hash hk h => cases hk <;> rfl
  case check sub => cases sub <;> rfl
  case andV l r =>
    cases h : r.isTrue
    · simp only [kids, DNode.asNode, Ms.fragName, h]
      rfl
    · cases isTrue_eq r h
      rfl
  case orI l r =>
    cases h1 : l.isFalse <;> cases h2 : r.isFalse
    · simp only [kids, DNode.asNode, Ms.fragName, h1, h2]
      rfl
    · cases isFalse_eq r h2
      simp only [kids, DNode.asNode, Ms.fragName, h1]
      rfl
    · cases isFalse_eq l h1
      simp only [kids, DNode.asNode, Ms.fragName, h2]
      rfl
    · cases isFalse_eq l h1
      cases isFalse_eq r h2
      rfl
  case andOr a b c =>
    cases h : c.isFalse
    · simp only [kids, DNode.asNode, Ms.fragName, h]
      rfl
    · cases isFalse_eq c h
      rfl
  case thresh k xs =>
    simp [kids, DNode.asNode, Tree.children, Ms.fragName, unview, naryNodes, getNodes_map, MsList.ofList_toList]
  case multi | sortedMulti | multiA | sortedMultiA =>
    simp [kids, DNode.asNode, Tree.children, Ms.fragName, unview, naryKeys, getKeys_map]
  all_goals rfl

theorem tok_inj (x y : DNode) (h : tok x = tok y) (hk : kids x = kids y) : x = y := by
  cases x <;> cases y <;> simp [tok] at h
  case node.node t u =>
    have h1 := unview_view t
    have h2 := unview_view u
    rw [h.1, hk, h2] at h1
    rw [(Option.some.inj h1)]
  all_goals simp_all

theorem dpre_length_eq (x : DNode) : (dpre x).length = 1 + ((kids x).map (fun c => (dpre c).length)).sum := by
  rw [dpre_eq x]
  simp [List.length_flatMap]
  omega

theorem dpre_prefix_code (sa sb : List DNode) (hl : sa.length = sb.length)
    (hp : (sa.flatMap dpre).map tok <+: (sb.flatMap dpre).map tok) : sa = sb :=
  prefix_code kids dpre tok (fun d => (dpre d).length) dpre_eq dpre_length_eq tok_arity tok_inj
    sa sb hl hp

/-- total order on tokens: same variant ⇒ what `cmp` computes; different variants
(never compared by a lock-step walk) ⇒ by variant -/
def tokCmp (o : AtomOrd) : Tok → Tok → Ordering
  | .node n1 k1, .node n2 k2 => (natCmp n1.rank n2.rank).then (natCmp k1 k2)
  | .thresholdK a, .thresholdK b => natCmp a b
  | .key a, .key b => o.key a b
  | .rawKeyHash a, .rawKeyHash b => o.rawPkh a b
  | .after a, .after b => natCmp a b
  | .older a, .older b => natCmp a b
  | .hash k1 a, .hash k2 b => if k1 = k2 then o.hash k1 a b else natCmp (6 + k1.idx) (6 + k2.idx)
  | a, b => natCmp a.kind b.kind

/-- the fragment names in byte order: the inverse of `FragName.rank` -/
def byRank : List FragName :=
  [.zero, .one, .a, .after, .and_b, .and_n, .and_v, .andor, .c, .d, .expr_raw_pkh, .hash160, .hash256,
   .j, .l, .multi, .multi_a, .n, .older, .or_b, .or_c, .or_d, .or_i, .pk, .pk_h, .pk_k, .pkh,
   .ripemd160, .s, .sha256, .sortedmulti, .sortedmulti_a, .t, .thresh, .u, .v]

theorem byRank_rank (x : FragName) : byRank[x.rank]? = some x := by cases x <;> rfl

theorem rank_inj (x y : FragName) (h : x.rank = y.rank) : x = y := by
  have := byRank_rank x
  rw [h, byRank_rank y] at this
  exact (Option.some.inj this).symm

/-- two tokens of the same variant (for hashes: of the same kind) -/
inductive Tok.Same : Tok → Tok → Prop
  | node n1 k1 n2 k2 : Same (.node n1 k1) (.node n2 k2)
  | thresholdK a b : Same (.thresholdK a) (.thresholdK b)
  | key a b : Same (.key a) (.key b)
  | rawKeyHash a b : Same (.rawKeyHash a) (.rawKeyHash b)
  | after a b : Same (.after a) (.after b)
  | older a b : Same (.older a) (.older b)
  | hash k a b : Same (.hash k a) (.hash k b)

theorem Tok.same_of_kind {a b : Tok} (h : a.kind = b.kind) : Tok.Same a b := by
  cases a <;> cases b
  case hash.hash k1 _ k2 _ =>
    cases idx_inj k1 k2 (by simp only [Tok.kind] at h; omega)
    exact .hash ..
  case node.node | thresholdK.thresholdK | key.key | rawKeyHash.rawKeyHash | after.after | older.older =>
    constructor
  all_goals (simp only [Tok.kind] at h; omega)

theorem tokCmp_ne (o : AtomOrd) (a b : Tok) (h : a.kind ≠ b.kind) : tokCmp o a b = natCmp a.kind b.kind := by
  cases a <;> cases b
  case node.node | thresholdK.thresholdK | key.key | rawKeyHash.rawKeyHash | after.after | older.older =>
    exact absurd rfl h
  case hash.hash k1 _ k2 _ =>
    have : k1 ≠ k2 := fun e => h (by subst e; rfl)
    simp only [tokCmp, this, if_false, Tok.kind]
  all_goals rfl

theorem tokCmp_lawful (o : AtomOrd) (ho : LawfulAtoms o) : LawfulCmp (tokCmp o) := by
  refine .of_rank Tok.kind (tokCmp_ne o) ?_ ?_ ?_
  · intro a b h
    cases Tok.same_of_kind h with
    | node n1 k1 n2 k2 =>
      simp only [tokCmp, Ordering.then_eq_eq, natCmp_eq, Tok.node.injEq]
      exact ⟨fun e => ⟨rank_inj _ _ e.1, e.2⟩, fun e => ⟨by rw [e.1], e.2⟩⟩
    | thresholdK | after | older =>
      simp only [tokCmp, natCmp_eq, Tok.thresholdK.injEq, Tok.after.injEq, Tok.older.injEq]
    | key a b => simp only [tokCmp, ho.key.eq_iff, Tok.key.injEq]
    | rawKeyHash a b => simp only [tokCmp, ho.rawPkh.eq_iff, Tok.rawKeyHash.injEq]
    | hash k a b => simp only [tokCmp, if_true, (ho.hash k).eq_iff, Tok.hash.injEq, true_and]
  · intro a b h
    cases Tok.same_of_kind h with
    | node => simp only [tokCmp, Ordering.swap_then, ← natCmp_lawful.swap]
    | thresholdK | after | older => exact natCmp_lawful.swap _ _
    | key a b => exact ho.key.swap a b
    | rawKeyHash a b => exact ho.rawPkh.swap a b
    | hash k a b => simp only [tokCmp, if_true]; exact (ho.hash k).swap a b
  · intro a b d h1 h2
    cases Tok.same_of_kind h1 <;> cases Tok.same_of_kind h2
    case node.node =>
      simp only [tokCmp, Ordering.then_eq_lt, natCmp_lt, natCmp_eq]
      omega
    case thresholdK.thresholdK | after.after | older.older => exact natCmp_lawful.trans_lt _ _ _
    case key.key => exact ho.key.trans_lt _ _ _
    case rawKeyHash.rawKeyHash => exact ho.rawPkh.trans_lt _ _ _
    case hash.hash k _ _ _ => simp only [tokCmp, if_true]; exact (ho.hash k).trans_lt _ _ _

theorem dnodeCmp_same (o : AtomOrd) (x y : DNode) (h : kind x = kind y) :
    dnodeCmp o x y = .ok (tokCmp o (tok x) (tok y)) := by
  cases x <;> cases y <;> simp [kind, tok, Tok.kind] at h <;>
    try (have := idx_lt ‹HashKind›; omega)
  case node.node t u => simp only [dnodeCmp, tokCmp, tok, fragCmp, kids]
  case hash.hash k1 a k2 b =>
    have := idx_inj _ _ h; subst this
    simp [dnodeCmp, tokCmp, tok]
  all_goals simp only [dnodeCmp, tokCmp, tok]

theorem flatMap_dpre_cons (x : DNode) (ra : List DNode) :
    (x :: ra).flatMap dpre = x :: (kids x ++ ra).flatMap dpre := by
  simp [List.flatMap_cons, dpre_eq x, List.flatMap_append]

/-- on stacks with the same variants position by position, the loop never reaches
`unreachable!` and computes the lexicographic order of the token sequences -/
theorem cmpZip_lockstep (o : AtomOrd) (ho : LawfulAtoms o) :
    ∀ (sa sb : List DNode), sa.map kind = sb.map kind →
      cmpZip (dnodeCmp o) (sa.flatMap dpre) (sb.flatMap dpre) =
        .ok (lexCmp (tokCmp o) ((sa.flatMap dpre).map tok) ((sb.flatMap dpre).map tok))
  | [], [], _ => by simp [cmpZip, lexCmp]
  | [], _ :: _, hk | _ :: _, [], hk => by simp at hk
  | x :: xs, y :: ys, hk => by
    simp only [List.map_cons, List.cons.injEq] at hk
    rw [flatMap_dpre_cons x xs, flatMap_dpre_cons y ys]
    simp only [cmpZip, List.map_cons, lexCmp, dnodeCmp_same o x y hk.1]
    cases hc : tokCmp o (tok x) (tok y) with
    | lt => rfl
    | gt => rfl
    | eq =>
      have ht := ((tokCmp_lawful o ho).eq_iff _ _).1 hc
      exact cmpZip_lockstep o ho (kids x ++ xs) (kids y ++ ys)
        (by simp only [List.map_append, tok_kids_kinds x y ht, hk.2])
termination_by sa => (sa.flatMap dpre).length
decreasing_by rw [flatMap_dpre_cons x xs]; exact Nat.lt_succ_self _

mutual
theorem dpreMs_le : (t : Ms) → (dpreMs t).length ≤ t.dsize
  | .tru | .fls | .pkK _ | .pkH _ | .rawPkH _ | .after _ | .older _ | .hash _ _ => Nat.le_refl _
  | .multi _ ks | .sortedMulti _ ks | .multiA _ ks | .sortedMultiA _ ks => by
    simp only [dpreMs, Ms.dsize, List.length_cons, List.length_map]
    omega
  | .check sub => by
    have := dpreMs_le sub
    simp only [dpreMs, Ms.dsize, List.length_cons]
    split <;> (try simp only [Ms.dsize, List.length_cons, List.length_nil]) <;> omega
  | .alt x | .swap x | .dupIf x | .verify x | .nonZero x | .zeroNotEqual x => Nat.succ_le_succ (dpreMs_le x)
  | .andV l r => by
    have := dpreMs_le l
    have := dpreMs_le r
    simp only [dpreMs, Ms.dsize]
    split <;> simp only [List.length_cons, List.length_append] <;> omega
  | .orI l r => by
    have := dpreMs_le l
    have := dpreMs_le r
    simp only [dpreMs, Ms.dsize]
    split <;> (try split) <;> simp only [List.length_cons, List.length_append] <;> omega
  | .andB l r | .orB l r | .orD l r | .orC l r => by
    have := dpreMs_le l
    have := dpreMs_le r
    simp only [dpreMs, Ms.dsize, List.length_cons, List.length_append]
    omega
  | .andOr a b c => by
    have := dpreMs_le a
    have := dpreMs_le b
    have := dpreMs_le c
    simp only [dpreMs, Ms.dsize]
    split <;> simp only [List.length_cons, List.length_append] <;> omega
  | .thresh _ xs => by
    have := dpreList_le xs
    simp only [dpreMs, Ms.dsize, List.length_cons]
    omega
theorem dpreList_le : (xs : MsList) → (dpreList xs).length ≤ xs.dsize
  | .nil => Nat.le_refl _
  | .cons x xs => by
    have := dpreMs_le x
    have := dpreList_le xs
    simp only [dpreList, MsList.dsize, List.length_append]
    omega
end

theorem displayPreOrder_eq (t : Ms) : t.displayPreOrder = dpreMs t :=
  preOrderIter_eq DNode.asNode dpre dpre_eq _ (.node t) (dpreMs_le t)

def toks (a : Ms) : List Tok := (dpreMs a).map tok

theorem msCmp_eq_lex (o : AtomOrd) (ho : LawfulAtoms o) (a b : Ms) :
    msCmp o a b = .ok (lexCmp (tokCmp o) (toks a) (toks b)) := by
  unfold msCmp toks
  rw [displayPreOrder_eq, displayPreOrder_eq]
  cases hc : fragCmp a b
  case eq =>
    have hl := cmpZip_lockstep o ho [.node a] [.node b] rfl
    simpa [dpre] using hl
  -- otherwise the first tokens already differ in the fragment name
  all_goals
    have ea : dpreMs a = _ := dpre_eq (.node a)
    have eb : dpreMs b = _ := dpre_eq (.node b)
    simp only [ea, eb, List.map_cons, lexCmp, tok, tokCmp]
    unfold fragCmp at hc
    simp [hc, Ordering.then]

/-- decidable equality of outcomes (for `decide` on concrete witnesses) -/
instance instDecEqOutcome {ε α : Type} [DecidableEq ε] [DecidableEq α] : DecidableEq (Except ε α) :=
  fun a b =>
    match a, b with
    | .ok x, .ok y => if h : x = y then isTrue (by rw [h]) else isFalse (fun e => h (by injection e))
    | .error x, .error y => if h : x = y then isTrue (by rw [h]) else isFalse (fun e => h (by injection e))
    | .ok _, .error _ => isFalse (fun e => by cases e)
    | .error _, .ok _ => isFalse (fun e => by cases e)

end MsVerif.CmpOrd
