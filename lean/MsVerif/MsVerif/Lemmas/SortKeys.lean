/-
Lemmas for C16/T2: the byte order used by BIP67 sorting is a total order, the stable insertion
sort of Model/Encode.lean (`sortKeys`) returns a sorted permutation, and therefore its result
does not depend on the order of the input list (up to ties between equal sort keys).
-/
import MsVerif.Lemmas.CoreSort

namespace MsVerif.Sorted

theorem bytesLe_eq : ∀ a b : Bytes, bytesLe a b = decide (a ≤ b)
  | [], _ => by simp [bytesLe]
  | _ :: _, [] => by simp [bytesLe]
  | x :: xs, y :: ys => by
    simp only [bytesLe, bytesLe_eq xs ys, List.cons_le_cons_iff]
    by_cases h1 : x < y <;> by_cases h2 : x = y <;> simp [h1, h2]

theorem bytesLe_refl : ∀ a : Bytes, bytesLe a a = true := fun a => by
  simp [bytesLe_eq]

theorem bytesLe_total : ∀ a b : Bytes, bytesLe a b = true ∨ bytesLe b a = true := fun a b => by
  simpa [bytesLe_eq] using List.le_total a b

theorem bytesLe_trans : ∀ a b c : Bytes, bytesLe a b = true → bytesLe b c = true → bytesLe a c = true := by
  intro a b c h1 h2
  rw [bytesLe_eq, decide_eq_true_eq] at *
  exact List.le_trans h1 h2

theorem bytesLe_antisymm : ∀ a b : Bytes, bytesLe a b = true → bytesLe b a = true → a = b := by
  intro a b h1 h2
  rw [bytesLe_eq, decide_eq_true_eq] at *
  exact List.le_antisymm h1 h2

def sortLe (env : KeyEnv) (a b : Key) : Bool := bytesLe (env.sortKey a) (env.sortKey b)

theorem insertByKey_sorted (env : KeyEnv) (k : Key) (l : List Key)
    (h : l.Pairwise (fun a b => sortLe env a b = true)) :
    (insertByKey env k l).Pairwise (fun a b => sortLe env a b = true) :=
  InsertSort.ins_sorted (sortLe env) (insertByKey env) (fun _ => rfl) (fun _ _ _ => rfl)
    (fun _ _ => bytesLe_total _ _) (fun _ _ _ => bytesLe_trans _ _ _) k l h

theorem sortKeys_sorted (env : KeyEnv) (ks : List Key) :
    (sortKeys env ks).Pairwise (fun a b => sortLe env a b = true) :=
  InsertSort.foldl_ins_sorted (sortLe env) (insertByKey env) (fun _ => rfl) (fun _ _ _ => rfl)
    (fun _ _ => bytesLe_total _ _) (fun _ _ _ => bytesLe_trans _ _ _) ks [] .nil

theorem sortKeys_map_perm_invariant {β : Type} (env : KeyEnv) (f : Key → β) (ks ks' : List Key)
    (hp : ks.Perm ks')
    (htie : ∀ x ∈ ks, ∀ y ∈ ks, env.sortKey x = env.sortKey y → f x = f y) :
    (sortKeys env ks).map f = (sortKeys env ks').map f := by
  -- compare the lists of pairs (sort key, image): sorted by the first component, permutations
  -- of each other, and the order is antisymmetric on their elements
  let g : Key → Bytes × β := fun k => (env.sortKey k, f k)
  let le : Bytes × β → Bytes × β → Prop := fun p q => bytesLe p.1 q.1 = true
  have h1 : ((sortKeys env ks).map g).Pairwise le :=
    List.pairwise_map.mpr (sortKeys_sorted env ks)
  have h2 : ((sortKeys env ks').map g).Pairwise le :=
    List.pairwise_map.mpr (sortKeys_sorted env ks')
  have hperm : ((sortKeys env ks).map g).Perm ((sortKeys env ks').map g) :=
    (((sortKeys_perm env ks).trans hp).trans (sortKeys_perm env ks').symm).map g
  have hanti : ∀ a b, a ∈ (sortKeys env ks).map g → b ∈ (sortKeys env ks').map g →
      le a b → le b a → a = b := by
    intro a b ha hb hab hba
    obtain ⟨x, hx, rfl⟩ := List.mem_map.mp ha
    obtain ⟨y, hy, rfl⟩ := List.mem_map.mp hb
    have hx' : x ∈ ks := (sortKeys_perm env ks).subset hx
    have hy' : y ∈ ks := hp.symm.subset ((sortKeys_perm env ks').subset hy)
    have hk : env.sortKey x = env.sortKey y := bytesLe_antisymm _ _ hab hba
    simp only [g, hk, htie x hx' y hy' hk]
  have := List.Perm.eq_of_pairwise hanti h1 h2 hperm
  have h3 := congrArg (List.map Prod.snd) this
  simpa [List.map_map, g, Function.comp_def] using h3

theorem sortKeys_perm_invariant (env : KeyEnv) (ks ks' : List Key) (hp : ks.Perm ks')
    (hinj : ∀ x ∈ ks, ∀ y ∈ ks, env.sortKey x = env.sortKey y → x = y) :
    sortKeys env ks = sortKeys env ks' := by
  have := sortKeys_map_perm_invariant env id ks ks' hp hinj
  simpa using this

/-- Equal sort keys are pushed identically.  True of the real code: the ECDSA sort key
`(compressed encoding, !compressed)` determines the point and the form that is pushed, the
x-only sort key IS the pushed serialisation (`C16.sort_key_of_the_code_is_faithful`). -/
def SortKeyFaithful (env : KeyEnv) : Prop :=
  ∀ x y, env.sortKey x = env.sortKey y → env.ser x = env.ser y

end MsVerif.Sorted
