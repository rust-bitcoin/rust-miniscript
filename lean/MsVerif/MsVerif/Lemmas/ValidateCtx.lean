/-
Helper lemmas for C12/T1: what `constructed` (= `from_ast` on every node) and a successful
`validate` under the context's parameters imply about the context rules of Spec/CtxRules.lean
(`factsFrom`: the specification's `Facts` read off the key table).  For T2: `type_defects_eq`, `ruleTopB_of_type` (the model's
`D_malleable`, `D_sigless`, `D_nonB` and base `B` against the specification's type, through `typeBridge`), `validOK_and_congr`.
Also `depths_le_height` (taproot trees) and `SANE`, `INSANE` below `CONSENSUS` (`sane_le_consensus`, `insane_le_consensus`).
-/
import MsVerif.Lemmas.ValidateSpec
import MsVerif.Lemmas.ValidateTypes

namespace MsVerif
open Spec

/-- the specification's facts as seen through the validator's key table -/
def factsFrom (K : KeyInfo) (len : Ms → Nat) : Facts where
  uncompressed k := K.kind k == .uncompressed
  xonly k := K.kind k == .xonly
  nPaths := K.nPaths
  scriptLen := len

theorem checkPk_eq (K : KeyInfo) (len) (ctx : Ctx) (k : Key) :
    checkPk ctx (K.kind k) = keyAllowed (factsFrom K len) ctx k := by
  cases ctx <;> simp [checkPk, keyAllowed, factsFrom] <;> cases K.kind k <;> rfl

theorem validateKN_iff (mx k n : Nat) (hmx : 0 < mx) :
    validateKN mx k n = (decide (1 ≤ k) && decide (k ≤ n) && decide (n ≤ mx)) := by
  unfold validateKN
  rw [Bool.eq_iff_iff]
  simp only [Bool.not_eq_true', Bool.or_eq_false_iff, beq_eq_false_iff_ne, decide_eq_false_iff_not,
    Bool.and_eq_false_imp, decide_eq_true_eq, Bool.and_eq_true]
  omega

theorem validateKN0_iff (k n : Nat) : validateKN 0 k n = (decide (1 ≤ k) && decide (k ≤ n)) := by
  unfold validateKN
  rw [Bool.eq_iff_iff]
  simp only [Bool.not_eq_true', Bool.or_eq_false_iff, beq_eq_false_iff_ne, decide_eq_false_iff_not,
    Bool.and_eq_false_imp, decide_eq_true_eq, Bool.and_eq_true]
  omega

theorem termNodeOk_eq (m : Ms) : termNodeOk m = rangeOk m := by
  cases m
  case after n | older n =>
    simp only [termNodeOk, rangeOk, absLockOk, relLockOk]; rw [Bool.eq_iff_iff]; simp; omega
  case thresh k xs => exact validateKN0_iff k xs.length
  case multi k ks | sortedMulti k ks | multiA k ks | sortedMultiA k ks =>
    exact validateKN_iff _ k ks.length (by decide)
  all_goals rfl

variable (env : KeyEnv) (K : KeyInfo) (ctx : Ctx)

/-- only the six key-carrying fragments are looked at by `check_global_validity` -/
theorem nodeChecked_imp (m : Ms) (h : nodeChecked ctx K m = true) :
    multiAllowed ctx m = true ∧ m.nodeKeys.all (fun k => checkPk ctx (K.kind k)) = true := by
  cases m
  case pkK k | pkH k => cases ctx <;> exact ⟨rfl, (Bool.and_true _).trans h⟩
  case multi k ks | sortedMulti k ks =>
    cases ctx with
    | tap => cases h
    | _ => exact ⟨rfl, h⟩
  case multiA k ks | sortedMultiA k ks =>
    cases ctx with
    | tap => exact ⟨rfl, h⟩
    | _ => cases h
  all_goals exact ⟨rfl, rfl⟩

theorem fromAstNode_imp (len) (m : Ms) (h : fromAstNode env K ctx m = true) :
    rangeOk m = true ∧ multiAllowed ctx m = true ∧
      m.nodeKeys.all (keyAllowed (factsFrom K len) ctx) = true := by
  simp only [fromAstNode, Bool.and_eq_true, checkGlobalValidity] at h
  obtain ⟨⟨⟨h1, _⟩, _⟩, h4, _⟩ := h
  obtain ⟨hm, hk⟩ := nodeChecked_imp K ctx m h4
  refine ⟨by rw [← termNodeOk_eq]; exact h1, hm, ?_⟩
  rwa [show keyAllowed (factsFrom K len) ctx = fun k => checkPk ctx (K.kind k) from
    funext fun k => (checkPk_eq K len ctx k).symm]

theorem constructed_rules (len) (ms : Ms) (h : constructed env K ctx ms = true) :
    ruleRange ms = true ∧ ruleMulti ctx ms = true ∧
      ruleKeys (factsFrom K len) ctx ms = true := by
  simp only [constructed, List.all_eq_true] at h
  simp only [ruleRange, ruleMulti, ruleKeys, allKeys_eq, Ms.iterPk, everyNode_eq, List.all_eq_true,
    List.mem_flatMap]
  refine ⟨fun m hm => (fromAstNode_imp env K ctx len m (h m hm)).1,
    fun m hm => (fromAstNode_imp env K ctx len m (h m hm)).2.1, ?_⟩
  rintro k ⟨m, hm, hk⟩
  exact List.all_eq_true.mp (fromAstNode_imp env K ctx len m (h m hm)).2.2 k hk

theorem preorder_self_mem (ms : Ms) : ms ∈ ms.preorder := by
  cases ms <;> exact List.mem_cons_self

theorem constructed_root (ms : Ms) (h : constructed env K ctx ms = true) :
    fromAstNode env K ctx ms = true := by
  simp only [constructed, List.all_eq_true] at h
  exact h ms (preorder_self_mem ms)

theorem constructed_depth (ms : Ms) (h : constructed env K ctx ms = true) : ruleDepth ms = true := by
  have := constructed_root env K ctx ms h
  simp only [fromAstNode, Bool.and_eq_true, MAX_RECURSION_DEPTH] at this
  simp only [ruleDepth, ← treeHeight_eq env ctx]
  exact this.1.2

theorem sizeChecked_le (c : Ctx) (n : Nat) : sizeChecked c n = true → n ≤ maxScriptLen c := by
  cases c with
  | segwitv0 => exact fun h => of_decide_eq_true (and_left h)
  | _ => exact of_decide_eq_true

theorem constructed_size (ms : Ms) (h : constructed env K ctx ms = true) :
    (extOf env ctx ms).pkCost ≤ maxScriptLen ctx := by
  have := constructed_root env K ctx ms h
  simp only [fromAstNode, checkGlobalValidity, Bool.and_eq_true] at this
  exact sizeChecked_le _ _ this.2.2

theorem constructed_typed (ms : Ms) (h : constructed env K ctx ms = true) :
    (typeOf ms).isSome = true := by
  have := constructed_root env K ctx ms h
  simp only [fromAstNode, Bool.and_eq_true] at this
  exact this.1.1.2

theorem pkOK_consensus (len) (k : Key) (h : pkOK ctx.CONSENSUS (K.kind k) = true) :
    keyAllowed (factsFrom K len) ctx k = true := by
  cases ctx <;> cases hk : K.kind k <;>
    simp_all [pkOK, Ctx.CONSENSUS, ValidationParams.CONSENSUS, keyAllowed, factsFrom]

theorem flagOK_consensus (m : Ms) (h : flagOK ctx.CONSENSUS m = true) :
    condAllowed ctx m = true := by
  cases m
  case dupIf x | orI l r =>
    cases ctx with
    | bare | legacy => cases h
    | segwitv0 | tap => rfl
  all_goals rfl

theorem flagOK_consensus_multi (m : Ms) (h : flagOK ctx.CONSENSUS m = true) :
    multiAllowed ctx m = true := by
  cases m
  case multi k ks | sortedMulti k ks =>
    cases ctx with
    | tap => cases h
    | _ => rfl
  case multiA k ks | sortedMultiA k ks =>
    cases ctx with
    | tap => rfl
    | _ => cases h
  all_goals rfl

theorem validOK_consensus_rules (len) (ms : Ms)
    (h : validOK env K ctx ctx.CONSENSUS ms = true) :
    ruleKeys (factsFrom K len) ctx ms = true ∧ ruleCond ctx ms = true ∧ ruleMulti ctx ms = true ∧
      ∃ ty, typeOf ms = some ty ∧ ty.corr.base = .B := by
  obtain ⟨ty, hty, hn, ht⟩ := validOK_some h
  simp only [Bool.and_eq_true, nonTopOK, nodesOK, topOK, List.all_eq_true, Bool.or_eq_true] at hn ht
  obtain ⟨⟨⟨_, ⟨hf, hk⟩, _⟩, _⟩, ⟨⟨_, hb⟩, _⟩, _⟩ := And.intro hn ht
  refine ⟨?_, ?_, ?_, ty, hty, ?_⟩
  · simp only [ruleKeys, allKeys_eq, List.all_eq_true]
    exact fun k hk' => pkOK_consensus K ctx len k (hk k hk')
  · simp only [ruleCond, everyNode_eq, List.all_eq_true]
    exact fun m hm => flagOK_consensus ctx m (hf m hm)
  · simp only [ruleMulti, everyNode_eq, List.all_eq_true]
    exact fun m hm => flagOK_consensus_multi ctx m (hf m hm)
  · rcases hb with hb | hb
    · cases ctx <;> simp [Ctx.CONSENSUS, ValidationParams.CONSENSUS] at hb
    · simpa using hb

/-- a defect that is only looked at on typed scripts may be replaced by an equal one -/
theorem validOK_and_congr (p : ValidationParams) (ms : Ms) {a b : Bool}
    (h : ∀ ty, typeOf ms = some ty → a = b) :
    (validOK env K ctx p ms && a) = (validOK env K ctx p ms && b) := by
  cases hty : typeOf ms with
  | none => simp only [validOK, hty, Bool.false_and]
  | some ty => rw [h ty hty]

theorem type_defects_eq (tap : Bool) (ms : Ms) (hr : ruleRange ms = true) {ty : Ty}
    (hty : typeOf ms = some ty) :
    D_malleable ms = hasDefect_malleable tap ms ∧ D_sigless ms = hasDefect_sigless tap ms
      ∧ D_nonB ms = hasDefect_nonB tap ms := by
  obtain ⟨τ, h1, h2, h3, h4⟩ := typeBridge tap ms hr ty hty
  simp only [D_malleable, D_sigless, D_nonB, hasDefect_malleable, hasDefect_sigless,
    hasDefect_nonB, hty, h1, h2, h3, h4, bne, and_self]

theorem ruleTopB_of_type (ms : Ms) (hr : ruleRange ms = true) {ty : Ty} (hty : typeOf ms = some ty)
    (hB : ty.corr.base = .B) : ruleTopB ctx ms = true := by
  obtain ⟨τ, ht1, ht2, _, _⟩ := typeBridge (isTap ctx) ms hr ty hty
  simp only [ruleTopB, ht1, ht2, hB]; rfl

theorem validOK_depth (p : ValidationParams) (ms : Ms) (h : validOK env K ctx p ms = true) :
    depth ms ≤ p.maxRecursiveDepth := by
  obtain ⟨_, _, hn, _⟩ := validOK_some h
  simp only [Bool.and_eq_true, nonTopOK, decide_eq_true_eq] at hn
  rw [← treeHeight_eq env ctx]; exact hn.1.1.1.1

theorem validOK_scriptSize (p : ValidationParams) (ms : Ms) (h : validOK env K ctx p ms = true) :
    USIZE_MAX ≤ p.maxScriptSize ∨ scriptSize env ctx ms ≤ p.maxScriptSize := by
  obtain ⟨_, _, hn, _⟩ := validOK_some h
  simp only [Bool.and_eq_true, nonTopOK, resourceOK, Bool.or_eq_true, decide_eq_true_eq] at hn
  exact hn.2.1

/-- what `validate` under the context's `CONSENSUS` parameters gives of the context's rules: all but two.  `hrange`, `hsize`
do not follow from `hv`: `validate` tests no range, and its size test is on `scriptSize`, not on `len` (`validOK_scriptSize`) -/
theorem ctxOK_of_validOK_consensus (len) (ms : Ms)
    (hv : validOK env K ctx ctx.CONSENSUS ms = true) (hrange : ruleRange ms = true)
    (hsize : ruleSize (factsFrom K len) ctx ms = true) : ctxOK (factsFrom K len) ctx ms = true := by
  obtain ⟨hk, hcond, hmulti, ty, hty, hB⟩ := validOK_consensus_rules env K ctx len ms hv
  have hdepth : ruleDepth ms = true := by
    have := validOK_depth env K ctx _ ms hv
    have h402 : (ctx.CONSENSUS).maxRecursiveDepth = 402 := by cases ctx <;> rfl
    exact decide_eq_true (h402 ▸ this)
  simp only [ctxOK, ctxFragOK, Bool.and_eq_true]
  exact ⟨⟨ruleTopB_of_type ctx ms hrange hty hB, hcond⟩,
    ⟨⟨⟨hk, hmulti⟩, hrange⟩, hsize⟩, hdepth⟩

theorem depths_le_height (t : TapT) (d0 : Nat) : ∀ d ∈ t.depths d0, d ≤ d0 + t.height := by
  induction t generalizing d0 with
  | leaf m => intro d hd; simp [TapT.depths] at hd; simp [TapT.height, hd]
  | node l r ihl ihr =>
    intro d hd
    simp only [TapT.depths, List.mem_append] at hd
    simp only [TapT.height]
    rcases hd with hd | hd
    · have := ihl (d0 + 1) d hd; omega
    · have := ihr (d0 + 1) d hd; omega

theorem sane_le_consensus : (ctx : Ctx) → ctx.SANE.le ctx.CONSENSUS = true
  | .bare => by decide
  | .legacy => by decide
  | .segwitv0 => by decide
  | .tap => by decide

theorem insane_le_consensus : (ctx : Ctx) → ctx.INSANE.le ctx.CONSENSUS = true
  | .bare => by decide
  | .legacy => by decide
  | .segwitv0 => by decide
  | .tap => by decide

end MsVerif
