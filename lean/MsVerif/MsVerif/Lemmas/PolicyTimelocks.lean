/-
`check_timelocks` / `TimelockInfo` of concrete policies against the selections.  A selection is
seen through its lock signature (`sigOf`), the policy level's record through the Miniscript
level's (`toMs`); the signatures of `chooseK` are `pickSigs`, so a node is an instance of
`LiftLocks.rep_pick` / `above_pick` (`Lemmas/LockRep.lean`).
-/
import MsVerif.Lemmas.PolicyBasic
import MsVerif.Lemmas.LockRep

namespace MsVerif.Pol
open Conc

theorem chooseK_nil_head (rest : List (List (List Atom))) (k : Nat) :
    chooseK ([] :: rest) k = chooseK rest k := by
  cases k with
  | zero => simp [chooseK_zero]
  | succ k => simp [chooseK]

theorem chooseK_filter (alts : List (List (List Atom))) :
    ∀ k, chooseK alts k = chooseK (alts.filter (fun al => !al.isEmpty)) k := by
  induction alts with
  | nil => intro k; rfl
  | cons al rest ih =>
    intro k
    cases al with
    | nil => rw [chooseK_nil_head, ih]; simp
    | cons x xs =>
      simp only [List.filter_cons, List.isEmpty_cons, Bool.not_false, if_true]
      cases k with
      | zero => simp [chooseK_zero]
      | succ k => simp only [chooseK, ih]

theorem chooseK_short (alts : List (List (List Atom))) :
    ∀ k, alts.length < k → chooseK alts k = [] := by
  induction alts with
  | nil => intro k hk; cases k with
    | zero => omega
    | succ k => rfl
  | cons al rest ih =>
    intro k hk
    cases k with
    | zero => simp at hk
    | succ k =>
      simp only [List.length_cons] at hk
      simp [chooseK, ih (k + 1) (by omega), ih k (by omega)]

/-- the children that have a satisfaction (`combine` drops the others) -/
def satSubs (subs : List CPolicy) : List CPolicy :=
  subs.filter (fun c => (timelockInfo c).isSome)

/-- a child's info; the default is never reached on `satSubs` -/
def infoD (c : CPolicy) : Conc.TimelockInfo := (timelockInfo c).getD {}

theorem filterMap_infos (subs : List CPolicy) :
    (subs.map timelockInfo).filterMap id = (satSubs subs).map infoD := by
  induction subs with
  | nil => rfl
  | cons c cs ih =>
    cases h : timelockInfo c <;>
      simp [satSubs, h, infoD] at ih ⊢ <;> exact ih

theorem filter_sels (subs : List CPolicy)
    (hA : ∀ c ∈ subs, timelockInfo c = none ↔ selsC false c = []) :
    (subs.map (selsC false)).filter (fun al => !al.isEmpty) = (satSubs subs).map (selsC false) := by
  induction subs with
  | nil => rfl
  | cons c cs ih =>
    have ih' := ih (fun c' hc' => hA c' (by simp [hc']))
    have hc := hA c (by simp)
    cases h : timelockInfo c with
    | none =>
      have : selsC false c = [] := hc.mp h
      simp [satSubs, h, this] at ih' ⊢
      exact ih'
    | some x =>
      have : selsC false c ≠ [] := fun hh => by rw [hc.mpr hh] at h; simp at h
      have hne : (selsC false c).isEmpty = false := by
        cases hs : selsC false c with
        | nil => exact absurd hs this
        | cons _ _ => rfl
      simp [satSubs, h, hne] at ih' ⊢
      exact ih'

open LiftLocks
open MsVerif.MsSem (LockSig)

def sigOf (s : List Atom) : LockSig :=
  ⟨s.any Atom.isOlderHeight, s.any Atom.isOlderTime, s.any Atom.isAfterHeight, s.any Atom.isAfterTime⟩

theorem sigOf_append (a r : List Atom) : sigOf (a ++ r) = (sigOf a).or (sigOf r) := by
  simp [sigOf, LockSig.or, List.any_append]

theorem mem_sigOf_chooseK {α} (S : α → List (List Atom)) : ∀ (xs : List α) (k : Nat) (x : LockSig),
    x ∈ (chooseK (xs.map S) k).map sigOf ↔ x ∈ pickSigs (xs.map fun c => (S c).map sigOf) k
  | xs, 0, x => by simp [chooseK_zero, pickSigs_zero, sigOf]
  | [], k + 1, x => by simp [chooseK, pickSigs]
  | c :: rest, k + 1, x => by
    have i1 := mem_sigOf_chooseK S rest (k + 1)
    have i0 := mem_sigOf_chooseK S rest k
    simp only [List.mem_map] at i1 i0
    simp only [List.map_cons, pickSigs, mem_union, mem_cross, ← i1, ← i0, List.mem_map,
      mem_chooseK_cons]
    constructor
    · rintro ⟨s, h | ⟨a, ha, r, hr, rfl⟩, rfl⟩
      · exact .inl ⟨s, h, rfl⟩
      · exact .inr ⟨_, ⟨a, ha, rfl⟩, _, ⟨r, hr, rfl⟩, sigOf_append a r⟩
    · rintro (⟨s, h, rfl⟩ | ⟨_, ⟨a, ha, rfl⟩, _, ⟨r, hr, rfl⟩, rfl⟩)
      · exact ⟨s, .inl h, rfl⟩
      · exact ⟨a ++ r, .inr ⟨a, ha, r, hr, rfl⟩, sigOf_append a r⟩

/-- the policy level's record (`Conc.TimelockInfo`, Model/Concrete) as the Miniscript level's (the bare
`TimelockInfo` here, Model/Ext), field by field -/
def toMs (t : Conc.TimelockInfo) : TimelockInfo :=
  ⟨t.csvWithHeight, t.csvWithTime, t.cltvWithHeight, t.cltvWithTime, t.containsCombination⟩

theorem toMs_combineThreshold (k : Nat) (ts : List Conc.TimelockInfo) :
    toMs (Conc.TimelockInfo.combineThreshold k ts) = TimelockInfo.combineThreshold k (ts.map toMs) := by
  have fold : ∀ acc, toMs (ts.foldl (Conc.TimelockInfo.step k) acc)
      = (ts.map toMs).foldl (step k) (toMs acc) := by
    induction ts with
    | nil => intro _; rfl
    | cons t ts ih =>
      intro acc
      rw [List.foldl_cons, ih, List.map_cons, List.foldl_cons]
      congr 1
      by_cases hk : k > 1 <;> simp [toMs, step, hat, Conc.TimelockInfo.step, hk]
  exact fold {}

theorem rep_node (k : Nat) (subs : List CPolicy) (ti : CPolicy → Conc.TimelockInfo)
    (Sl : CPolicy → List (List Atom)) (h : ∀ c ∈ subs, Rep (toMs (ti c)) ((Sl c).map sigOf))
    (hk1 : 1 ≤ k) (hkn : k ≤ subs.length) :
    Rep (toMs (Conc.TimelockInfo.combineThreshold k (subs.map ti)))
      ((chooseK (subs.map Sl) k).map sigOf) := by
  rw [toMs_combineThreshold, List.map_map]
  exact rep_congr (rep_pick subs (toMs ∘ ti) (fun c => (Sl c).map sigOf) h hk1 hkn) fun x =>
    (mem_sigOf_chooseK Sl subs k x).symm

/-- What is proved of every concrete policy, jointly because a node needs all of it of its children: no
info exactly when no selection; otherwise the info is `Above` the selections' signatures, and `Rep`resents
them when every threshold has `k ≥ 1` (a `thresh 0 subs` has the one empty selection, but
`combine_threshold 0` still ORs in the children's flags, so its info only over-approximates). -/
def Claim (c : CPolicy) : Prop :=
  (timelockInfo c = none ∧ selsC false c = []) ∨
    ∃ info, timelockInfo c = some info ∧ NE ((selsC false c).map sigOf)
      ∧ Above (toMs info) ((selsC false c).map sigOf)
      ∧ (threshKPos c = true → Rep (toMs info) ((selsC false c).map sigOf))

theorem Claim.none_iff {c : CPolicy} (h : Claim c) :
    timelockInfo c = none ↔ selsC false c = [] := by
  rcases h with ⟨h1, h2⟩ | ⟨info, h1, ⟨x, hx⟩, _⟩
  · simp [h1, h2]
  · simp only [h1, reduceCtorEq, false_iff]
    intro h; simp [h] at hx

theorem claim_node (k : Nat) (subs : List CPolicy) (ih : ∀ c ∈ subs, Claim c) :
    (combineOpt k (subs.map timelockInfo) = none ∧ chooseK (subs.map (selsC false)) k = []) ∨
      ∃ info, combineOpt k (subs.map timelockInfo) = some info ∧
        NE ((chooseK (subs.map (selsC false)) k).map sigOf) ∧
        Above (toMs info) ((chooseK (subs.map (selsC false)) k).map sigOf) ∧
        -- `k = 0` only as the empty `and`, whose info and selections are both trivial
        ((∀ c ∈ subs, threshKPos c = true) → (1 ≤ k ∨ (k = 0 ∧ subs = [])) →
          Rep (toMs info) ((chooseK (subs.map (selsC false)) k).map sigOf)) := by
  have hA : ∀ c ∈ subs, timelockInfo c = none ↔ selsC false c = [] := fun c hc => (ih c hc).none_iff
  have hsat : ∀ c ∈ satSubs subs, c ∈ subs ∧ NE ((selsC false c).map sigOf)
      ∧ Above (toMs (infoD c)) ((selsC false c).map sigOf)
      ∧ (threshKPos c = true → Rep (toMs (infoD c)) ((selsC false c).map sigOf)) := by
    intro c hc
    simp only [satSubs, List.mem_filter] at hc
    rcases ih c hc.1 with ⟨h1, _⟩ | ⟨info, h1, h2⟩
    · simp [h1] at hc
    · exact ⟨hc.1, by simpa [infoD, h1] using h2⟩
  have hmem := mem_sigOf_chooseK (selsC false) (satSubs subs) k
  rw [chooseK_filter, filter_sels subs hA]
  unfold combineOpt
  simp only [filterMap_infos, List.length_map]
  by_cases hlen : (satSubs subs).length < k
  · exact .inl ⟨by simp [hlen], chooseK_short _ _ (by simpa using hlen)⟩
  · refine .inr ⟨_, if_neg hlen, ?_, ?_, fun hkp hk => ?_⟩
    · have hNE : ∀ T ∈ (satSubs subs).map (fun c => (selsC false c).map sigOf), NE T := by
        intro T hT; obtain ⟨c, hc, rfl⟩ := List.mem_map.mp hT; exact (hsat c hc).2.1
      obtain ⟨x, hx⟩ := (ne_pick _ k hNE).mpr (by rw [List.length_map]; omega)
      exact ⟨x, (hmem x).mpr hx⟩
    · rw [toMs_combineThreshold, List.map_map]
      have := above_pick (satSubs subs) (toMs ∘ infoD) (fun c => (selsC false c).map sigOf)
        (fun c hc => (hsat c hc).2.1) (fun c hc => (hsat c hc).2.2.1) k
      exact ⟨fun κ hκ => this.1 κ (by simpa only [Has, hmem] using hκ),
        fun hm => this.2 (by simpa only [Has, hmem] using hm)⟩
    · rcases hk with hk | ⟨rfl, rfl⟩
      · exact rep_node k _ infoD (selsC false)
          (fun c hc => (hsat c hc).2.2.2 (hkp c (hsat c hc).1)) hk (by omega)
      · exact rep_empty

theorem claim_all : ∀ c, Claim c := by
  intro c
  induction c using CPolicy.inductNode with
  | unsat => exact .inl ⟨rfl, rfl⟩
  | trivial => exact .inr ⟨{}, rfl, rep_empty.ne, rep_above rep_empty, fun _ => rep_empty⟩
  | atom a =>
    have : ∃ info, timelockInfo (.atom a) = some info ∧ Rep (toMs info) ((selsC false (.atom a)).map sigOf) := by
      cases a <;> refine ⟨_, rfl, ?_⟩ <;>
      exact rep_lock (fun κ => by cases κ <;> simp [toMs, Kind.info, Kind.sig, fOH, fOT, fAH, fAT,
        sigOf, Atom.isOlderHeight, Atom.isOlderTime, Atom.isAfterHeight, Atom.isAfterTime])
        (by simp [toMs, LockSig.mixed, sigOf, Atom.isOlderHeight, Atom.isOlderTime,
          Atom.isAfterHeight, Atom.isAfterTime, relIsHeight, absIsTime, absIsHeight])
    obtain ⟨info, h1, h2⟩ := this
    exact .inr ⟨info, h1, h2.ne, rep_above h2, fun _ => h2⟩
  | node c k subs hn ih =>
    rw [Claim, timelockInfo_node hn, selsC_node hn]
    rcases claim_node k subs ih with h | ⟨info, h1, h2, h3, h4⟩
    · exact .inl h
    · exact .inr ⟨info, h1, h2, h3, fun hkp => h4 (threshKPos_node hn hkp).1 (threshKPos_node hn hkp).2⟩

theorem has_mixed_sels (L : List (List Atom)) :
    Has LockSig.mixed (L.map sigOf) ↔ ∃ s ∈ L, mixedLocks s = true :=
  exists_mem_map' sigOf L (fun x => x.mixed = true)

theorem checkTimelocks_sound (c : CPolicy) (h : hasMixedPath c = true) :
    checkTimelocks c = false := by
  obtain ⟨s, hs, hm⟩ := List.any_eq_true.mp h
  rcases claim_all c with ⟨_, h2⟩ | ⟨info, hi, _, ha, _⟩
  · simp [h2] at hs
  · have : info.containsCombination = true := ha.2 ((has_mixed_sels _).mpr ⟨s, hs, hm⟩)
    simp [checkTimelocks, TimelockInfo.accepts, hi, this]

theorem checkTimelocks_exact (c : CPolicy) (hk : threshKPos c = true) :
    checkTimelocks c = false ↔ hasMixedPath c = true := by
  refine ⟨fun h => ?_, checkTimelocks_sound c⟩
  rcases claim_all c with ⟨hi, _⟩ | ⟨info, hi, _, _, hr⟩
  · simp [checkTimelocks, TimelockInfo.accepts, hi] at h
  · have hc : info.containsCombination = true := by
      simpa [checkTimelocks, TimelockInfo.accepts, hi] using h
    exact List.any_eq_true.mpr ((has_mixed_sels _).mp ((hr hk).mx.mp hc))

theorem WFC_threshKPos : ∀ c, WFC c = true → threshKPos c = true := by
  intro c
  induction c using CPolicy.induct' with
  | unsat | trivial | atom _ => intro _; rfl
  | and subs ih =>
    intro h
    simp only [WFC, WFC_go_iff] at h
    simp only [threshKPos, threshKPos_go_iff]
    exact fun c hc => ih c hc (h c hc)
  | or subs ih =>
    intro h
    simp only [WFC, Bool.and_eq_true, WFC_go_iff] at h
    simp only [threshKPos, threshKPos_go_iff]
    exact fun c hc => ih c hc (h.2 c hc)
  | thresh k subs ih =>
    intro h
    simp only [WFC, Bool.and_eq_true, decide_eq_true_eq, WFC_go_iff] at h
    simp only [threshKPos, Bool.and_eq_true, decide_eq_true_eq, threshKPos_go_iff]
    exact ⟨h.1.1, fun c hc => ih c hc (h.2 c hc)⟩

end MsVerif.Pol
