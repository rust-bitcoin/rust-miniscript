/-
Lemmas for C16/T3–T5: key-level derivation against the key-expression semantics, the generic
`translate`, the two key orders, the multipath split, and the range loop of
`find_derivation_index_for_spk`.
-/
import MsVerif.Model.Descriptor
import MsVerif.Spec.KeyExpr

namespace MsVerif.Desc
open MsVerif MsVerif.Keys MsVerif.Bip32 MsVerif.KeyExpr

variable {X P κ κ' ε : Type}

theorem normalIndices_none_iff (p : List Child) :
    normalIndices p = none ↔ p.any Child.isHardened = true := by
  induction p with
  | nil => simp [normalIndices]
  | cons c cs ih =>
    cases c with
    | normal i => simp [normalIndices, Child.isHardened, ih]
    | hardened i => simp [normalIndices, Child.isHardened]

theorem normalIndices_append_normal (i : Nat) : ∀ (path : List Child) (idx : List Nat),
    normalIndices path = some idx → normalIndices (path ++ [.normal i]) = some (idx ++ [i])
  | [], idx, h => by simp [normalIndices] at h ⊢; exact h.symm ▸ rfl
  | .hardened j :: cs, idx, h => by simp [normalIndices] at h
  | .normal j :: cs, idx, h => by
    simp only [normalIndices, Option.map_eq_some_iff] at h
    obtain ⟨idx', h', rfl⟩ := h
    simp [normalIndices, normalIndices_append_normal i cs idx' h']

theorem derivePub_eq_derivePath (ckd : X → Nat → X) (x : X) (p : List Child) :
    derivePub ckd x p = derivePath ckd x p := by
  induction p generalizing x with
  | nil => simp [derivePub, derivePath, normalIndices]
  | cons c cs ih =>
    cases c with
    | normal i =>
      simp only [derivePub, ih, derivePath, normalIndices, Option.map_map]
      cases normalIndices cs <;> simp
    | hardened i => simp [derivePub, derivePath, normalIndices]

theorem derivePath_isSome_iff (ckd : X → Nat → X) (x : X) (p : List Child) :
    (derivePath ckd x p).isSome = !p.any Child.isHardened := by
  unfold derivePath
  cases h : normalIndices p with
  | none => simp [(normalIndices_none_iff p).mp h]
  | some l =>
    have : ¬ p.any Child.isHardened = true := fun hh => by
      rw [(normalIndices_none_iff p).mpr hh] at h; cases h
    simp [Bool.not_eq_true _ ▸ this]

/-- the error `at_derivation_index` reports for a key that has no public derivation at `i` -/
def keyErrAt (k : DPK X P) : KeyErr := if k.isMultipath then .multipath else .hardenedStep

/-- the guards of public derivation at index `i`, spelled out: not a multipath key, no hardened
step in the path, no hardened wildcard, and — if there is a wildcard — `i < 2³¹` -/
def PubliclyDerivableAt (k : DPK X P) (i : Nat) : Prop :=
  k.isMultipath = false ∧ k.hasHardenedStep = false ∧
    (∀ o x p, k ≠ .xpub o x p .hardened) ∧ (k.hasWildcard = true → i < indexLimit)

theorem keyAt_isSome_iff (ckd : X → Nat → X) (k : DPK X P) (i : Nat) :
    (keyAt ckd k i).isSome ↔ PubliclyDerivableAt k i := by
  unfold PubliclyDerivableAt
  cases k with
  | single o key => simp [keyAt, DPK.isMultipath, DPK.hasHardenedStep, DPK.hasWildcard]
  | multi o x paths wc => simp [keyAt, DPK.isMultipath]
  | xpub o x path wc =>
    cases wc with
    | none =>
      simp [keyAt, DPK.isMultipath, DPK.hasHardenedStep, DPK.hasWildcard, derivePath_isSome_iff]
    | hardened => simp [keyAt, DPK.isMultipath, DPK.hasHardenedStep, DPK.hasWildcard]
    | unhardened =>
      by_cases hi : i < indexLimit
      · simp [keyAt, DPK.isMultipath, DPK.hasHardenedStep, DPK.hasWildcard, derivePath_isSome_iff, hi,
          Child.isHardened]
      · simp [keyAt, DPK.isMultipath, DPK.hasHardenedStep, DPK.hasWildcard, hi]

def errOf (r : Except ε κ') : Option ε := match r with | .error e => some e | .ok _ => none

theorem errOf_eq_none {r : Except ε κ'} : errOf r = none ↔ ∃ a, r = .ok a := by cases r <;> simp [errOf]

theorem errOf_eq_some {r : Except ε κ'} {e : ε} : errOf r = some e ↔ r = .error e := by cases r <;> simp [errOf]

theorem firstError_eq (f : κ → Except ε κ') : ∀ l, firstError f l = l.findSome? fun k => errOf (f k)
  | [] => rfl
  | k :: ks => by
    rw [firstError, List.findSome?_cons, ← firstError_eq f ks]
    cases f k <;> rfl

theorem firstError_none_iff (f : κ → Except ε κ') (l : List κ) :
    firstError f l = none ↔ ∀ k ∈ l, ∃ r, f k = .ok r := by
  simp only [firstError_eq, List.findSome?_eq_none_iff, errOf_eq_none]

theorem firstError_some_iff (f : κ → Except ε κ') (l : List κ) (e : ε) :
    firstError f l = some e ↔
      ∃ pre k post, l = pre ++ k :: post ∧ (∀ k' ∈ pre, ∃ r, f k' = .ok r) ∧ f k = .error e := by
  simp only [firstError_eq, List.findSome?_eq_some_iff, errOf_eq_none, errOf_eq_some, and_comm]

theorem translate_eq_of_agree (f : κ → Except ε κ') (g : κ → Option κ')
    (hfg : ∀ k, (f k).toOption = g k) (d : KDesc κ) :
    d.translate f =
      match firstError f d.keysTranslate with
      | some e => .error e
      | none => .ok ⟨d.shape, fun a => (d.key a).bind g⟩ := by
  unfold KDesc.translate
  cases firstError f d.keysTranslate with
  | some e => rfl
  | none =>
    simp only
    congr 2
    funext a
    cases d.key a with
    | none => rfl
    | some k => simp [hfg k]

theorem findLoop_succ_none {β : Type} {step : Nat → Except KeyErr (Option β)} {lo : Nat}
    (h : step lo = .ok none) (n : Nat) : findLoop step (n + 1) lo = findLoop step n (lo + 1) := by
  rw [findLoop, h]

theorem findLoop_succ_stop {β : Type} {step : Nat → Except KeyErr (Option β)} {lo : Nat}
    (h : step lo ≠ .ok none) (n : Nat) : findLoop step (n + 1) lo = step lo := by
  rw [findLoop]
  split
  next he => exact he.symm
  next hs => exact hs.symm
  next hn => exact absurd hn h

/-- the loop returns the first result that is not `Ok(None)`: that is the only way it returns
anything else -/
theorem findLoop_eq_iff {β : Type} (step : Nat → Except KeyErr (Option β))
    (r : Except KeyErr (Option β)) (hr : r ≠ .ok none) :
    ∀ n lo, findLoop step n lo = r ↔
      ∃ i, lo ≤ i ∧ i < lo + n ∧ step i = r ∧ ∀ j, lo ≤ j → j < i → step j = .ok none := by
  intro n
  induction n with
  | zero => intro lo; exact ⟨fun h => absurd h.symm hr, fun ⟨_, h1, h2, _⟩ => by omega⟩
  | succ n ih =>
    intro lo
    by_cases h0 : step lo = .ok none
    · rw [findLoop_succ_none h0, ih (lo + 1)]
      constructor
      · rintro ⟨i, h1, h2, hi, hall⟩
        refine ⟨i, by omega, by omega, hi, fun j hj hji => ?_⟩
        by_cases e : j = lo
        · exact e ▸ h0
        · exact hall j (by omega) hji
      · rintro ⟨i, h1, h2, hi, hall⟩
        have : i ≠ lo := fun e => hr ((e ▸ hi).symm.trans h0)
        exact ⟨i, by omega, by omega, hi, fun j hj hji => hall j (by omega) hji⟩
    · rw [findLoop_succ_stop h0]
      constructor
      · intro h; exact ⟨lo, Nat.le_refl _, by omega, h, fun j h1 h2 => by omega⟩
      · rintro ⟨i, h1, _, hi, hall⟩
        by_cases e : i = lo
        · exact e ▸ hi
        · exact absurd (hall lo (Nat.le_refl _) (by omega)) h0

theorem findLoop_ok_none {β : Type} (step : Nat → Except KeyErr (Option β)) :
    ∀ n lo, findLoop step n lo = .ok none ↔ ∀ j, lo ≤ j → j < lo + n → step j = .ok none := by
  intro n
  induction n with
  | zero => intro lo; exact ⟨fun _ _ h1 h2 => by omega, fun _ => rfl⟩
  | succ n ih =>
    intro lo
    by_cases h0 : step lo = .ok none
    · rw [findLoop_succ_none h0, ih (lo + 1)]
      constructor
      · intro hall j h1 h2
        by_cases e : j = lo
        · exact e ▸ h0
        · exact hall j (by omega) (by omega)
      · intro hall j h1 h2
        exact hall j (by omega) (by omega)
    · rw [findLoop_succ_stop h0]
      exact ⟨fun h => absurd h h0, fun hall => absurd (hall lo (Nat.le_refl _) (by omega)) h0⟩

mutual
theorem msKeysRtl_perm : ∀ m : Ms, (msKeysRtl m).Perm (msKeysPre m)
  | .tru | .fls | .rawPkH _ | .after _ | .older _ | .hash _ _ | .pkK _ | .pkH _
  | .multi _ _ | .sortedMulti _ _ | .multiA _ _ | .sortedMultiA _ _ => List.Perm.refl _
  | .alt x | .swap x | .check x | .dupIf x | .verify x | .nonZero x | .zeroNotEqual x =>
    msKeysRtl_perm x
  | .andV l r | .andB l r | .orB l r | .orD l r | .orC l r | .orI l r =>
    List.perm_append_comm.trans ((msKeysRtl_perm l).append (msKeysRtl_perm r))
  | .andOr a b c =>
    List.perm_append_comm.trans <| ((msKeysRtl_perm a).append
      (List.perm_append_comm.trans ((msKeysRtl_perm b).append (msKeysRtl_perm c)))).trans
      (.of_eq (List.append_assoc ..).symm)
  | .thresh _ xs => msListKeysRtl_perm xs
theorem msListKeysRtl_perm : ∀ xs : MsList, (msListKeysRtl xs).Perm (msListKeysPre xs)
  | .nil => List.Perm.refl _
  | .cons x xs => List.perm_append_comm.trans ((msKeysRtl_perm x).append (msListKeysRtl_perm xs))
end

theorem leaves_keys_perm : ∀ leaves : List (Nat × Ms),
    (leaves.flatMap (fun l => msKeysRtl l.2)).Perm (leaves.flatMap (fun l => msKeysPre l.2))
  | [] => by simp
  | l :: ls => by
    simp only [List.flatMap_cons]
    exact (msKeysRtl_perm l.2).append (leaves_keys_perm ls)

theorem Desc.keysTranslate_perm (d : Desc) : d.keysTranslate.Perm d.keysPre := by
  cases d with
  | bare ms => exact msKeysRtl_perm ms
  | pkh pk => exact List.Perm.refl _
  | wpkh pk => exact List.Perm.refl _
  | wsh ms => exact msKeysRtl_perm ms
  | sh inner =>
    cases inner with
    | wsh ms => exact msKeysRtl_perm ms
    | wpkh pk => exact List.Perm.refl _
    | ms ms => exact msKeysRtl_perm ms
  | tr ik leaves => exact (leaves_keys_perm leaves).append (List.Perm.refl _)

theorem KDesc.keysTranslate_perm (d : KDesc κ) : d.keysTranslate.Perm d.keysPre :=
  (Desc.keysTranslate_perm d.shape).filterMap d.key

theorem KDesc.mem_keysTranslate_iff (d : KDesc κ) (k : κ) : k ∈ d.keysTranslate ↔ k ∈ d.keysPre :=
  (KDesc.keysTranslate_perm d).mem_iff

theorem indexChoser_toOption (j : Nat) (k : DPK X P) :
    (indexChoser j k).toOption = selectPath j k := by
  cases k with
  | single o key => simp [indexChoser, selectPath, Except.toOption]
  | xpub o x p wc => simp [indexChoser, selectPath, Except.toOption]
  | multi o x paths wc =>
    simp only [indexChoser, DPK.intoSingleKeys, selectPath, List.getElem?_map]
    cases paths[j]? <;> simp [Except.toOption]

theorem indexChoser_ok_iff (j : Nat) (k : DPK X P) :
    (∃ r, indexChoser j k = .ok r) ↔ ∀ m, arity k = some m → j < m := by
  cases k with
  | single o key => simp [indexChoser, arity]
  | xpub o x p wc => simp [indexChoser, arity]
  | multi o x paths wc =>
    simp only [indexChoser, DPK.intoSingleKeys, List.getElem?_map, arity, Option.some.injEq,
      forall_eq']
    by_cases h : j < paths.length
    · simp [h]
    · simp [h]

theorem indexChoser_error (j : Nat) (k : DPK X P) (e : SplitErr) :
    indexChoser j k = .error e → e = .lenMismatch := by
  cases k with
  | single o key => simp [indexChoser]
  | xpub o x p wc => simp [indexChoser]
  | multi o x paths wc =>
    simp only [indexChoser]
    split <;> simp
    exact fun h => h.symm

theorem arityNe_iff (n : Nat) (k : DPK X P) :
    arityNe n k = true ↔ ∃ m, arity k = some m ∧ m ≠ n := by
  cases k with
  | single o key => simp [arityNe, arity]
  | xpub o x p wc => simp [arityNe, arity]
  | multi o x paths wc => simp [arityNe, arity]

def KDesc.select (d : KDesc (DPK X P)) (j : Nat) : KDesc (DPK X P) :=
  ⟨d.shape, fun a => (d.key a).bind (selectPath j)⟩

theorem translate_indexChoser (d : KDesc (DPK X P)) (j : Nat) :
    d.translate (indexChoser j) =
      match firstError (indexChoser j) d.keysTranslate with
      | some e => .error e
      | none => .ok (d.select j) := by
  rw [translate_eq_of_agree (indexChoser j) (selectPath j) (indexChoser_toOption j) d]
  cases firstError (indexChoser j) d.keysTranslate <;> rfl

theorem splitLoop_ok (d : KDesc (DPK X P)) : ∀ js : List Nat,
    (∀ j ∈ js, ∀ k ∈ d.keysPre, ∀ m, arity k = some m → j < m) →
    splitLoop d js = .ok (js.map d.select)
  | [], _ => rfl
  | j :: js, h => by
    have hj : firstError (indexChoser j) d.keysTranslate = none := by
      rw [firstError_none_iff]
      intro k hk
      exact (indexChoser_ok_iff j k).mpr (h j (by simp) k ((d.mem_keysTranslate_iff k).mp hk))
    simp only [splitLoop, translate_indexChoser, hj,
      splitLoop_ok d js (fun j' hj' => h j' (by simp [hj'])), List.map_cons]

theorem splitLoop_error (d : KDesc (DPK X P)) : ∀ js : List Nat,
    (∃ j ∈ js, ∃ k ∈ d.keysPre, ∃ m, arity k = some m ∧ ¬ j < m) →
    splitLoop d js = .error .lenMismatch
  | [], h => by simp at h
  | j :: js, h => by
    simp only [splitLoop, translate_indexChoser]
    cases hf : firstError (indexChoser j) d.keysTranslate with
    | some e =>
      obtain ⟨pre, k, post, _, _, hk⟩ := (firstError_some_iff _ _ _).mp hf
      simp [indexChoser_error j k e hk]
    | none =>
      simp only
      have hrest : ∃ j' ∈ js, ∃ k ∈ d.keysPre, ∃ m, arity k = some m ∧ ¬ j' < m := by
        obtain ⟨j', hj', k, hk, m, hm, hlt⟩ := h
        rcases List.mem_cons.mp hj' with rfl | hj'
        · exfalso
          obtain ⟨r, hr⟩ := (firstError_none_iff _ _).mp hf k ((d.mem_keysTranslate_iff k).mpr hk)
          exact hlt ((indexChoser_ok_iff j' k).mp ⟨r, hr⟩ m hm)
        · exact ⟨j', hj', k, hk, m, hm, hlt⟩
      simp [splitLoop_error d js hrest]


/-- one iteration of the loop, as a function of `derived_descriptor(i)` -/
def findStep (ckd : X → Nat → X) (spk : KDesc (Derived X P) → Bytes) (d : KDesc (DPK X P))
    (target : Bytes) (i : Nat) : Except KeyErr (Option (Nat × KDesc (Derived X P))) :=
  match d.derivedDescriptor ckd i with
  | .error e => .error e
  | .ok c => if spk c = target then .ok (some (i, c)) else .ok none

theorem find_wildcard_eq (ckd : X → Nat → X) (spk : KDesc (Derived X P) → Bytes)
    (d : KDesc (DPK X P)) (hw : d.hasWildcard = true) (target : Bytes) (lo hi : Nat) :
    d.findDerivationIndexForSpk ckd spk target lo hi =
      findLoop (findStep ckd spk d target) (hi - lo) lo := by
  unfold KDesc.findDerivationIndexForSpk
  simp only [hw, Bool.not_true, Bool.false_eq_true, if_false]
  congr 1
  funext i
  simp only [findStep, KDesc.derivedDescriptor, KDesc.deriveAtIndex, hw, Bool.not_true,
    Bool.false_eq_true, if_false]
  cases d.atDerivationIndex i <;> simp [DerivationResult.intoResult, Except.map]

theorem findStep_some_iff (ckd : X → Nat → X) (spk : KDesc (Derived X P) → Bytes)
    (d : KDesc (DPK X P)) (target : Bytes) (j i : Nat) (c : KDesc (Derived X P)) :
    findStep ckd spk d target j = .ok (some (i, c)) ↔
      j = i ∧ d.derivedDescriptor ckd i = .ok c ∧ spk c = target := by
  unfold findStep
  cases h : d.derivedDescriptor ckd j with
  | error e =>
    simp only [reduceCtorEq, false_iff]
    rintro ⟨rfl, h', _⟩
    rw [h] at h'; cases h'
  | ok c' =>
    by_cases hs : spk c' = target
    · simp only [hs, if_true, Except.ok.injEq, Option.some.injEq, Prod.mk.injEq]
      constructor
      · rintro ⟨rfl, rfl⟩; exact ⟨rfl, h, hs⟩
      · rintro ⟨rfl, h', _⟩; rw [h] at h'; cases h'; exact ⟨rfl, rfl⟩
    · simp only [hs, if_false, Except.ok.injEq, reduceCtorEq, false_iff]
      rintro ⟨rfl, h', hs'⟩
      rw [h] at h'; cases h'
      exact hs hs'

theorem findStep_none_iff (ckd : X → Nat → X) (spk : KDesc (Derived X P) → Bytes)
    (d : KDesc (DPK X P)) (target : Bytes) (j : Nat) :
    findStep ckd spk d target j = .ok none ↔
      ∃ cj, d.derivedDescriptor ckd j = .ok cj ∧ spk cj ≠ target := by
  unfold findStep
  cases h : d.derivedDescriptor ckd j with
  | error e => simp
  | ok c' =>
    by_cases hs : spk c' = target
    · simp [hs]
    · simp [hs]

theorem findStep_error_iff (ckd : X → Nat → X) (spk : KDesc (Derived X P) → Bytes)
    (d : KDesc (DPK X P)) (target : Bytes) (j : Nat) (e : KeyErr) :
    findStep ckd spk d target j = .error e ↔ d.derivedDescriptor ckd j = .error e := by
  unfold findStep
  cases h : d.derivedDescriptor ckd j with
  | error e' => simp
  | ok c' => by_cases hs : spk c' = target <;> simp [hs]

end MsVerif.Desc
