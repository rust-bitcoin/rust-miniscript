import MsVerif.Model.Validate

namespace MsVerif

theorem distinctCount_le : ∀ l : List Key, distinctCount l ≤ l.length
  | [] => Nat.le_refl 0
  | k :: ks => by
    have := distinctCount_le ks
    simp only [distinctCount, List.length_cons]
    split <;> omega

end MsVerif
