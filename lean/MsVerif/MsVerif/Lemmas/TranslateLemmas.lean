/-
Lemmas for C20: the stack-based rebuild of `translate_pk_ctx` over `rtl_post_order_iter` equals
the structural translation with the same order of effects (`Ms.trRtl`); what that returns for a
pure translator and for a stateless fallible one (the first error in call order); the functor
laws of `Ms.mapKeys`; `substitute_raw_pkh`.
-/
import MsVerif.Lemmas.TreeWalk
import MsVerif.Lemmas.CoreMisc
import MsVerif.Model.Translate

namespace MsVerif.TranslateLemmas
open MsVerif MsVerif.TreeWalk

variable {σ ε : Type}

@[simp] theorem throw_bind {α β : Type} (e : TrErr ε) (f : α → TrM σ ε β) :
    (throw e : TrM σ ε α) >>= f = throw e := by
  apply StateT.ext; intro s
  simp only [StateT.run_bind]
  rfl

@[simp] theorem map_throw {α β : Type} (e : TrErr ε) (f : α → β) :
    f <$> (throw e : TrM σ ε α) = throw e := by
  rw [← bind_pure_comp]; exact throw_bind e _

theorem pushChecked_bind {β : Type} (chk : Ms → Bool) (n : Ms) (st : List Ms)
    (f : List Ms → TrM σ ε β) :
    (pushChecked chk n st >>= f) = (retChecked chk n >>= fun m => f (m :: st)) := by
  unfold pushChecked retChecked
  split <;> simp

theorem translateLoop_append (t : Translator σ ε) (chk : Ms → Bool) :
    ∀ (xs ys st : List Ms), translateLoop t chk (xs ++ ys) st
      = (translateLoop t chk xs st >>= fun st' => translateLoop t chk ys st')
  | [], ys, st => by simp [translateLoop]
  | x :: xs, ys, st => by
    simp only [List.cons_append, translateLoop, bind_assoc]
    congr 1; funext st'
    exact translateLoop_append t chk xs ys st'

/-- continuations after `xs.trRtl` only matter on lists of the same length -/
theorem trRtl_list_congr {β : Type} (t : Translator σ ε) (chk : Ms → Bool) :
    (xs : MsList) → ∀ (f g : MsList → TrM σ ε β), (∀ ys, ys.length = xs.length → f ys = g ys) →
      (xs.trRtl t chk >>= f) = (xs.trRtl t chk >>= g)
  | .nil, f, g, h => by simp [MsList.trRtl, h .nil rfl]
  | .cons x xs, f, g, h => by
    simp only [MsList.trRtl, bind_assoc, pure_bind]
    apply trRtl_list_congr t chk xs
    intro ys hy
    congr 1; funext x'
    exact h _ (by simp only [MsList.length, hy])

mutual
theorem trLoop_ms (t : Translator σ ε) (chk : Ms → Bool) : (ms : Ms) → ∀ (rest st : List Ms),
    translateLoop t chk (ms.rtlPost ++ rest) st
      = (ms.trRtl t chk >>= fun ms' => translateLoop t chk rest (ms' :: st))
  | .tru, rest, st | .fls, rest, st | .rawPkH _, rest, st | .after _, rest, st | .older _, rest, st
  | .pkK _, rest, st | .pkH _, rest, st | .hash _ _, rest, st | .multi _ _, rest, st
  | .sortedMulti _ _, rest, st | .multiA _ _, rest, st | .sortedMultiA _ _, rest, st => by
    simp [Ms.rtlPost, translateLoop, translateStep, Ms.trRtl, pushChecked_bind]
  | .alt x, rest, st | .swap x, rest, st | .check x, rest, st | .dupIf x, rest, st
  | .verify x, rest, st | .nonZero x, rest, st | .zeroNotEqual x, rest, st => by
    simp [Ms.rtlPost, List.append_assoc, trLoop_ms t chk x, translateLoop, translateStep, Ms.trRtl,
      pushChecked_bind, popM, pop?]
  | .andV l r, rest, st | .andB l r, rest, st | .orB l r, rest, st | .orD l r, rest, st
  | .orC l r, rest, st | .orI l r, rest, st => by
    simp [Ms.rtlPost, List.append_assoc, trLoop_ms t chk l, trLoop_ms t chk r, translateLoop,
      translateStep, Ms.trRtl, pushChecked_bind, popM, pop?]
  | .andOr a b c, rest, st => by
    simp [Ms.rtlPost, List.append_assoc, trLoop_ms t chk a, trLoop_ms t chk b, trLoop_ms t chk c,
      translateLoop, translateStep, Ms.trRtl, pushChecked_bind, popM, pop?]
  | .thresh k xs, rest, st => by
    simp only [Ms.rtlPost, List.append_assoc, trLoop_list t chk xs, Ms.trRtl, bind_assoc]
    apply trRtl_list_congr t chk xs
    intro ys hy
    have hl : xs.toList.length = ys.toList.length := by simp only [MsList.length_toList, hy]
    simp [translateLoop, translateStep, popEachM, popEach_append _ _ _ hl, pushChecked_bind, MsList.ofList_toList]
theorem trLoop_list (t : Translator σ ε) (chk : Ms → Bool) : (xs : MsList) → ∀ (rest st : List Ms),
    translateLoop t chk (xs.rtlPost ++ rest) st
      = (xs.trRtl t chk >>= fun ys => translateLoop t chk rest (ys.toList ++ st))
  | .nil, rest, st => by simp [MsList.rtlPost, MsList.trRtl, MsList.toList]
  | .cons x xs, rest, st => by
    simp [MsList.rtlPost, List.append_assoc, trLoop_list t chk xs, trLoop_ms t chk x,
      MsList.trRtl, MsList.toList]
end

/-- T1: the stack machine is the structural translation -/
theorem translatePk_eq (t : Translator σ ε) (chk : Ms → Bool) (ms : Ms) :
    translatePk t chk ms = ms.trRtl t chk := by
  unfold translatePk
  rw [rtlPostOrder_eq]
  have := trLoop_ms t chk ms [] []
  simp only [List.append_nil] at this
  rw [this]
  simp [translateLoop, popM, pop?]

theorem MsList.atoms_eq : (xs : MsList) →
    xs.rtlPost.flatMap Ms.nodeAtoms = xs.toList.reverse.flatMap Ms.atomsRtl
  | .nil => rfl
  | .cons x xs => by
    simp [MsList.rtlPost, MsList.toList, List.flatMap_append, MsList.atoms_eq xs, Ms.atomsRtl]

def pureT (f : Key → Key) (g : HashKind → Nat → Nat) : Translator σ ε :=
  ⟨fun k => pure (f k), fun kind h => pure (g kind h)⟩

def outC {α : Type} (ok : Bool) (v : α) : TrM σ ε α := if ok then pure v else throw .outerError

theorem outC_bind {α β : Type} (a : Bool) (b : α → Bool) (v : α) (k : α → β) :
    ((outC a v : TrM σ ε α) >>= fun x => outC (b x) (k x)) = outC (a && b v) (k v) := by
  cases a <;> cases h : b v <;> simp [outC, h]

theorem outC_bind_pure {α β : Type} (a : Bool) (v : α) (k : α → β) :
    ((outC a v : TrM σ ε α) >>= fun x => pure (k x)) = outC a (k v) := by
  cases a <;> simp [outC]

theorem retChecked_outC (chk : Ms → Bool) (n : Ms) : (retChecked chk n : TrM σ ε Ms) = outC (chk n) n := rfl

theorem translateKeys_pure (f : Key → Key) (g : HashKind → Nat → Nat) (ks : List Key) :
    translateKeys (pureT (σ := σ) (ε := ε) f g) ks = pure (ks.map f) := by
  induction ks with
  | nil => rfl
  | cons k ks ih =>
    simp only [translateKeys, ih]
    simp [pureT]

def allNodes (chk : Ms → Bool) (ms : Ms) : Bool := ms.pre.all chk
def allNodesL (chk : Ms → Bool) (xs : MsList) : Bool := xs.pre.all chk

mutual
theorem trRtl_pure (f : Key → Key) (g : HashKind → Nat → Nat) (chk : Ms → Bool) : (ms : Ms) →
    ms.trRtl (pureT (σ := σ) (ε := ε) f g) chk
      = outC (allNodes chk (ms.mapKeys f g)) (ms.mapKeys f g)
  | .pkK _ | .pkH _ | .hash _ _ => by
    simp [Ms.trRtl, Ms.mapKeys, retChecked_outC, allNodes, Ms.pre, pureT]
  | .tru | .fls | .rawPkH _ | .after _ | .older _
  | .multi _ _ | .sortedMulti _ _ | .multiA _ _ | .sortedMultiA _ _ => by
    simp [Ms.trRtl, Ms.mapKeys, retChecked_outC, allNodes, Ms.pre, translateKeys_pure]
  | .alt x | .swap x | .check x | .dupIf x | .verify x | .nonZero x | .zeroNotEqual x => by
    simp only [Ms.trRtl, trRtl_pure f g chk x, retChecked_outC, outC_bind, Ms.mapKeys]
    congr 1
    simp [allNodes, Ms.pre, Bool.and_comm]
  | .andV l r | .andB l r | .orB l r | .orD l r | .orC l r | .orI l r => by
    simp only [Ms.trRtl, trRtl_pure f g chk l, trRtl_pure f g chk r, retChecked_outC, outC_bind,
      Ms.mapKeys]
    congr 1
    simp [allNodes, Ms.pre, List.all_append, Bool.and_comm, Bool.and_assoc]
  | .andOr a b c => by
    simp only [Ms.trRtl, trRtl_pure f g chk a, trRtl_pure f g chk b, trRtl_pure f g chk c,
      retChecked_outC, outC_bind, Ms.mapKeys]
    congr 1
    simp [allNodes, Ms.pre, List.all_append, Bool.and_comm, Bool.and_assoc]
  | .thresh k xs => by
    simp only [Ms.trRtl, trRtl_pure_list f g chk xs, retChecked_outC, outC_bind, Ms.mapKeys]
    congr 1
    simp [allNodes, allNodesL, Ms.pre, Bool.and_comm]
theorem trRtl_pure_list (f : Key → Key) (g : HashKind → Nat → Nat) (chk : Ms → Bool) : (xs : MsList) →
    xs.trRtl (pureT (σ := σ) (ε := ε) f g) chk
      = outC (allNodesL chk (xs.mapKeys f g)) (xs.mapKeys f g)
  | .nil => by simp [MsList.trRtl, MsList.mapKeys, allNodesL, MsList.pre, outC]
  | .cons x xs => by
    simp only [MsList.trRtl, trRtl_pure_list f g chk xs, trRtl_pure f g chk x, MsList.mapKeys,
      outC_bind_pure, outC_bind]
    congr 1
    simp only [allNodes, allNodesL, MsList.pre, List.all_append, Bool.and_comm]
end

/-! ### a stateless fallible translator, no context re-check: the FIRST failing atom in
translator-call order (right-to-left post-order) decides -/

def liftE {α : Type} : Except ε α → TrM σ ε α
  | .ok a => pure a
  | .error e => throw (.translatorErr e)

def statelessT (f : Key → Except ε Key) (g : HashKind → Nat → Except ε Nat) : Translator σ ε :=
  ⟨fun k => liftE (f k), fun kind h => liftE (g kind h)⟩

def firstErr {α : Type} : List (Except ε α) → Option ε
  | [] => none
  | .error e :: _ => some e
  | .ok _ :: l => firstErr l

theorem firstErr_append {α : Type} (a b : List (Except ε α)) :
    firstErr (a ++ b) = (firstErr a).orElse (fun _ => firstErr b) := by
  induction a with
  | nil => simp [firstErr]
  | cons x xs ih => cases x <;> simp [firstErr, ih]

def atomRes (f : Key → Except ε Key) (g : HashKind → Nat → Except ε Nat) : Atom → Except ε Unit
  | .key k => (f k).map (fun _ => ())
  | .hash kind h => (g kind h).map (fun _ => ())

def valOr {α : Type} (x : Except ε α) (d : α) : α := match x with | .ok a => a | .error _ => d

/-- fail with the first error among the answers on `as`, else return `v` -/
def outE {α : Type} (f : Key → Except ε Key) (g : HashKind → Nat → Except ε Nat)
    (as : List Atom) (v : α) : TrM σ ε α :=
  match firstErr (as.map (atomRes f g)) with
  | some e => throw (.translatorErr e)
  | none => pure v

theorem outE_bind {α β : Type} (f : Key → Except ε Key) (g : HashKind → Nat → Except ε Nat)
    (a b : List Atom) (v : α) (k : α → β) :
    ((outE f g a v : TrM σ ε α) >>= fun x => outE f g b (k x)) = outE f g (a ++ b) (k v) := by
  simp only [outE, List.map_append, firstErr_append]
  cases firstErr (a.map (atomRes f g)) <;> simp [Option.orElse]

theorem outE_bind_pure {α β : Type} (f : Key → Except ε Key) (g : HashKind → Nat → Except ε Nat)
    (a : List Atom) (v : α) (k : α → β) :
    ((outE f g a v : TrM σ ε α) >>= fun x => pure (k x)) = outE f g a (k v) := by
  simp only [outE]
  cases firstErr (a.map (atomRes f g)) <;> simp

theorem outE_nil {α : Type} (f : Key → Except ε Key) (g : HashKind → Nat → Except ε Nat) (v : α) :
    (outE f g [] v : TrM σ ε α) = pure v := rfl

/-- `d` stands in for the value that does not exist when the call fails -/
theorem liftE_bind_pure (f : Key → Except ε Key) (g : HashKind → Nat → Except ε Nat) (a : Atom)
    {α β : Type} (r : Except ε α) (hr : atomRes f g a = r.map fun _ => ()) (d : α) (c : α → β) :
    ((liftE r : TrM σ ε α) >>= fun x => pure (c x)) = outE f g [a] (c (valOr r d)) := by
  cases r <;> simp [liftE, outE, firstErr, hr, valOr, Except.map]

theorem translateKeys_stateless (f : Key → Except ε Key) (g : HashKind → Nat → Except ε Nat) (ks : List Key) :
    translateKeys (statelessT (σ := σ) f g) ks
      = outE f g (ks.map .key) (ks.map (fun k => valOr (f k) k)) := by
  induction ks with
  | nil => rfl
  | cons k ks ih =>
    rw [translateKeys, ih]
    simp only [outE_bind_pure, statelessT, List.map_cons]
    cases h : f k <;> simp [liftE, outE, firstErr, atomRes, h, valOr, Except.map]

theorem retChecked_true (n : Ms) : (retChecked (fun _ => true) n : TrM σ ε Ms) = pure n := rfl

/-- the pure part of a fallible stateless mapping -/
abbrev fOr (f : Key → Except ε Key) : Key → Key := fun k => valOr (f k) k
abbrev gOr (g : HashKind → Nat → Except ε Nat) : HashKind → Nat → Nat := fun kind h => valOr (g kind h) h

mutual
theorem trRtl_stateless (f : Key → Except ε Key) (g : HashKind → Nat → Except ε Nat) : (ms : Ms) →
    ms.trRtl (statelessT (σ := σ) f g) (fun _ => true)
      = outE f g ms.atomsRtl (ms.mapKeys (fOr f) (gOr g))
  | .tru | .fls | .rawPkH _ | .after _ | .older _ => by
    simp [Ms.trRtl, retChecked_true, Ms.atomsRtl, Ms.rtlPost, Ms.nodeAtoms, outE_nil, Ms.mapKeys]
  | .pkK k | .pkH k => by
    simp only [Ms.trRtl, retChecked_true, statelessT, liftE_bind_pure f g (.key k) (f k) rfl k]
    simp [Ms.atomsRtl, Ms.rtlPost, Ms.nodeAtoms, Ms.mapKeys]
  | .hash kind x => by
    simp only [Ms.trRtl, retChecked_true, statelessT, liftE_bind_pure f g (.hash kind x) (g kind x) rfl x]
    simp [Ms.atomsRtl, Ms.rtlPost, Ms.nodeAtoms, Ms.mapKeys]
  | .multi _ _ | .sortedMulti _ _ | .multiA _ _ | .sortedMultiA _ _ => by
    simp only [Ms.trRtl, retChecked_true, translateKeys_stateless, outE_bind_pure]
    simp [Ms.atomsRtl, Ms.rtlPost, Ms.nodeAtoms, Ms.mapKeys]
  | .alt x | .swap x | .check x | .dupIf x | .verify x | .nonZero x | .zeroNotEqual x => by
    simp only [Ms.trRtl, retChecked_true, trRtl_stateless f g x, outE_bind_pure]
    simp [Ms.atomsRtl, Ms.rtlPost, Ms.nodeAtoms, Ms.mapKeys, List.flatMap_append]
  | .andV l r | .andB l r | .orB l r | .orD l r | .orC l r | .orI l r => by
    simp only [Ms.trRtl, retChecked_true, trRtl_stateless f g l, trRtl_stateless f g r, outE_bind_pure,
      outE_bind]
    simp [Ms.atomsRtl, Ms.rtlPost, Ms.nodeAtoms, Ms.mapKeys, List.flatMap_append]
  | .andOr a b c => by
    simp only [Ms.trRtl, retChecked_true, trRtl_stateless f g a, trRtl_stateless f g b,
      trRtl_stateless f g c, outE_bind_pure, outE_bind]
    simp [Ms.atomsRtl, Ms.rtlPost, Ms.nodeAtoms, Ms.mapKeys, List.flatMap_append]
  | .thresh k xs => by
    simp only [Ms.trRtl, retChecked_true, trRtl_stateless_list f g xs, outE_bind_pure]
    simp [Ms.atomsRtl, Ms.rtlPost, Ms.nodeAtoms, Ms.mapKeys, List.flatMap_append]
theorem trRtl_stateless_list (f : Key → Except ε Key) (g : HashKind → Nat → Except ε Nat) : (xs : MsList) →
    xs.trRtl (statelessT (σ := σ) f g) (fun _ => true)
      = outE f g (xs.rtlPost.flatMap Ms.nodeAtoms) (xs.mapKeys (fOr f) (gOr g))
  | .nil => by simp [MsList.trRtl, MsList.rtlPost, outE_nil, MsList.mapKeys]
  | .cons x xs => by
    simp only [MsList.trRtl, trRtl_stateless_list f g xs, trRtl_stateless f g x, outE_bind_pure,
      outE_bind]
    simp only [MsList.rtlPost, MsList.mapKeys, List.flatMap_append, Ms.atomsRtl]
end

mutual
theorem mapKeys_id : (ms : Ms) → ms.mapKeys id (fun _ h => h) = ms
  | .tru | .fls | .pkK _ | .pkH _ | .rawPkH _ | .after _ | .older _ | .hash _ _
  | .multi _ _ | .sortedMulti _ _ | .multiA _ _ | .sortedMultiA _ _ => by simp [Ms.mapKeys]
  | .alt x | .swap x | .check x | .dupIf x | .verify x | .nonZero x | .zeroNotEqual x => by
    simp only [Ms.mapKeys, mapKeys_id x]
  | .andV l r | .andB l r | .orB l r | .orD l r | .orC l r | .orI l r => by
    simp only [Ms.mapKeys, mapKeys_id l, mapKeys_id r]
  | .andOr a b c => by simp only [Ms.mapKeys, mapKeys_id a, mapKeys_id b, mapKeys_id c]
  | .thresh _ xs => by simp only [Ms.mapKeys, mapKeys_id_list xs]
theorem mapKeys_id_list : (xs : MsList) → xs.mapKeys id (fun _ h => h) = xs
  | .nil => rfl
  | .cons x xs => by simp only [MsList.mapKeys, mapKeys_id x, mapKeys_id_list xs]
end

mutual
theorem mapKeys_comp (f f' : Key → Key) (g g' : HashKind → Nat → Nat) : (ms : Ms) →
    (ms.mapKeys f g).mapKeys f' g' = ms.mapKeys (f' ∘ f) (fun kind h => g' kind (g kind h))
  | .tru | .fls | .pkK _ | .pkH _ | .rawPkH _ | .after _ | .older _ | .hash _ _
  | .multi _ _ | .sortedMulti _ _ | .multiA _ _ | .sortedMultiA _ _ => by simp [Ms.mapKeys]
  | .alt x | .swap x | .check x | .dupIf x | .verify x | .nonZero x | .zeroNotEqual x => by
    simp only [Ms.mapKeys, mapKeys_comp f f' g g' x]
  | .andV l r | .andB l r | .orB l r | .orD l r | .orC l r | .orI l r => by
    simp only [Ms.mapKeys, mapKeys_comp f f' g g' l, mapKeys_comp f f' g g' r]
  | .andOr a b c => by
    simp only [Ms.mapKeys, mapKeys_comp f f' g g' a, mapKeys_comp f f' g g' b, mapKeys_comp f f' g g' c]
  | .thresh _ xs => by simp only [Ms.mapKeys, mapKeys_comp_list f f' g g' xs]
theorem mapKeys_comp_list (f f' : Key → Key) (g g' : HashKind → Nat → Nat) : (xs : MsList) →
    (xs.mapKeys f g).mapKeys f' g' = xs.mapKeys (f' ∘ f) (fun kind h => g' kind (g kind h))
  | .nil => rfl
  | .cons x xs => by simp only [MsList.mapKeys, mapKeys_comp f f' g g' x, mapKeys_comp_list f f' g g' xs]
end

theorem MsList.substRaw_toList (pkMap : Nat → Option Key) : (xs : MsList) →
    (xs.substRaw pkMap).toList = xs.toList.map (Ms.substRaw pkMap)
  | .nil => rfl
  | .cons x xs => by simp [MsList.substRaw, MsList.toList, MsList.substRaw_toList pkMap xs]

theorem substStep_children (pkMap : Nat → Option Key) (x : Ms) (st : List Ms) :
    substStep pkMap (x.asNode.children.map (Ms.substRaw pkMap) ++ st) x
      = some (x.substRaw pkMap :: st) := by
  cases x
  case rawPkH h => cases hm : pkMap h <;> simp [substStep, Ms.substRaw, Ms.asNode, Tree.children, hm]
  case thresh k xs =>
    have hl : xs.toList.length = (xs.substRaw pkMap).toList.length := by
      rw [MsList.substRaw_toList, List.length_map]
    simp [substStep, cloneStep, Ms.substRaw, Ms.asNode, Tree.children, ← MsList.substRaw_toList,
      popEach_append _ _ _ hl, MsList.ofList_toList]
  all_goals simp [substStep, cloneStep, Ms.substRaw, Ms.asNode, Tree.children, pop?]

theorem substLoop_forest (pkMap : Nat → Option Key) (xs rest st : List Ms) :
    substLoop pkMap (xs.reverse.flatMap Ms.rtlPost ++ rest) st
      = substLoop pkMap rest (xs.map (Ms.substRaw pkMap) ++ st) :=
  stackFold Ms.asNode Ms.rtlPost Ms.nodes _ (substStep pkMap) (substLoop pkMap) Ms.rtlPost_eq
    Ms.nodes_rtl (fun _ _ _ _ h => by rw [substLoop, h]) (substStep_children pkMap) xs
    rest st

theorem substLoop_list (pkMap : Nat → Option Key) : (xs : MsList) → ∀ (rest st : List Ms),
    substLoop pkMap (xs.rtlPost ++ rest) st = substLoop pkMap rest ((xs.substRaw pkMap).toList ++ st) :=
  fun xs rest st => by
    rw [MsList.rtlPost_eq, MsList.substRaw_toList]
    exact substLoop_forest pkMap xs.toList rest st

end MsVerif.TranslateLemmas
