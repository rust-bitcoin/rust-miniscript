/-
C06: what a SUCCESSFUL primitive step of the fragment semantics did to the stacks: `opc_inv_act` for every opcode but CHECKMULTISIG(VERIFY),
through the opcode's local action (`Script.act`, `Lemmas/CoreOpc.lean`), its instances at eighteen opcodes, the pushes and `seqOps`;
also `bind_ok` (a successful `>>=`), `len1`–`len3`, `boolBytes_unit`.
The machine states are written out (`⟨s, al, n⟩ ↦ ⟨s', al', n'⟩`), so every equation is between variables and
`obtain ⟨a, rfl, rfl⟩ := toalt_inv h` leaves the stacks in their final form.
No hypothesis on the flags: with limits on, a step either fails or has the same effect.
-/
import MsVerif.Lemmas.CoreOpc

namespace MsVerif.TypeSound
open MsVerif MsVerif.Script

theorem bind_ok {α β} {x : Except Err α} {f : α → Except Err β} {b : β}
    (h : (x >>= f) = .ok b) : ∃ a, x = .ok a ∧ f a = .ok b := by
  cases x with
  | error e => cases h
  | ok a => exact ⟨a, rfl, h⟩

theorem len1 {α : Type} {l : List α} (h : l.length = 1) : ∃ a, l = [a] := by
  match l, h with
  | [a], _ => exact ⟨a, rfl⟩
theorem len2 {α : Type} {l : List α} (h : l.length = 2) : ∃ a b, l = [a, b] := by
  match l, h with
  | [a, b], _ => exact ⟨a, b, rfl⟩
theorem len3 {α : Type} {l : List α} (h : l.length = 3) : ∃ a b d, l = [a, b, d] := by
  match l, h with
  | [a, b, d], _ => exact ⟨a, b, d, rfl⟩

section opcodes
variable {env : Env} {c c' : Core}

macro "exec_cases " h:ident : tactic =>
  `(tactic| (obtain ⟨s, al, ops⟩ := c
             simp only [execOpc] at $h:ident))

variable {s al s' al' : List Bytes} {n n' : Nat}

/-- a successful opcode read `need o` elements `pre`, and its local action on them gave the new top part
`out`, the new alt stack and the element `p` pushed last -/
theorem opc_inv_act {o : Opc} (ho : o ≠ .checkmultisig ∧ o ≠ .checkmultisigverify)
    (h : opc env o ⟨s, al, n⟩ = .ok ⟨s', al', n'⟩) :
    ∃ pre rest out p, s = pre ++ rest ∧ pre.length = need o ∧ act env o pre al = .ok (out, al', p) ∧
      s' = p.toList ++ (out ++ rest) := by
  obtain ⟨⟨s1, al1, n1⟩, hs, ha, he⟩ := opc_inv h
  obtain ⟨rfl, rfl⟩ : s1 = s ∧ al1 = al := ⟨hs, ha⟩
  rcases execOpc_cases ho ⟨s1, al1, n1⟩ with hu | ⟨pre, rest, hst, hlen, hl⟩
  · rw [hu] at he; cases he
  · rw [hl] at he
    obtain ⟨⟨out, al2, p⟩, hact, hfin⟩ := bind_ok he
    cases p with
    | none => cases hfin; exact ⟨pre, rest, out, none, hst, hlen, hact, rfl⟩
    | some b =>
      obtain ⟨e, rfl⟩ : s' = b :: (out ++ rest) ∧ al' = al2 := pushElem_stack hfin
      exact ⟨pre, rest, out, some b, hst, hlen, hact, e⟩

theorem toalt_inv (h : opc env .toalt ⟨s, al, n⟩ = .ok ⟨s', al', n'⟩) : ∃ a, s = a :: s' ∧ al' = a :: al := by
  obtain ⟨pre, rest, out, p, rfl, hlen, hact, rfl⟩ := opc_inv_act (by decide) h
  obtain ⟨a, rfl⟩ := len1 hlen
  cases hact
  exact ⟨a, rfl, rfl⟩

theorem fromalt_inv (h : opc env .fromalt ⟨s, al, n⟩ = .ok ⟨s', al', n'⟩) : ∃ a, al = a :: al' ∧ s' = a :: s := by
  obtain ⟨pre, rest, out, p, rfl, hlen, hact, rfl⟩ := opc_inv_act (by decide) h
  cases List.eq_nil_of_length_eq_zero hlen
  cases al with
  | nil => cases hact
  | cons a ar => cases hact; exact ⟨a, rfl, rfl⟩

theorem swap_inv (h : opc env .swap ⟨s, al, n⟩ = .ok ⟨s', al', n'⟩) :
    ∃ a b r, s = a :: b :: r ∧ s' = b :: a :: r ∧ al' = al := by
  obtain ⟨pre, rest, out, p, rfl, hlen, hact, rfl⟩ := opc_inv_act (by decide) h
  obtain ⟨a, b, rfl⟩ := len2 hlen
  cases hact
  exact ⟨a, b, rest, rfl, rfl, rfl⟩

theorem dup_inv (h : opc env .dup ⟨s, al, n⟩ = .ok ⟨s', al', n'⟩) : ∃ a r, s = a :: r ∧ s' = a :: a :: r ∧ al' = al := by
  obtain ⟨pre, rest, out, p, rfl, hlen, hact, rfl⟩ := opc_inv_act (by decide) h
  obtain ⟨a, rfl⟩ := len1 hlen
  cases hact
  exact ⟨a, rest, rfl, rfl, rfl⟩

theorem size_inv (h : opc env .size ⟨s, al, n⟩ = .ok ⟨s', al', n'⟩) :
    ∃ a r, s = a :: r ∧ s' = numEncode a.length :: a :: r ∧ al' = al := by
  obtain ⟨pre, rest, out, p, rfl, hlen, hact, rfl⟩ := opc_inv_act (by decide) h
  obtain ⟨a, rfl⟩ := len1 hlen
  cases hact
  exact ⟨a, rest, rfl, rfl, rfl⟩

theorem ifdup_inv (h : opc env .ifdup ⟨s, al, n⟩ = .ok ⟨s', al', n'⟩) :
    ∃ a r, s = a :: r ∧ al' = al ∧ s' = (if castToBool a then a :: a :: r else a :: r) := by
  obtain ⟨pre, rest, out, p, rfl, hlen, hact, rfl⟩ := opc_inv_act (by decide) h
  obtain ⟨a, rfl⟩ := len1 hlen
  simp only [act] at hact
  split at hact <;> rename_i hb <;> cases hact <;> exact ⟨a, rest, rfl, rfl, by simp only [hb]; rfl⟩

theorem verify_inv (h : opc env .verify ⟨s, al, n⟩ = .ok ⟨s', al', n'⟩) :
    ∃ a, s = a :: s' ∧ castToBool a = true ∧ al' = al := by
  obtain ⟨pre, rest, out, p, rfl, hlen, hact, rfl⟩ := opc_inv_act (by decide) h
  obtain ⟨a, rfl⟩ := len1 hlen
  simp only [act] at hact
  split at hact
  · rename_i hb; cases hact; exact ⟨a, rfl, hb, rfl⟩
  · cases hact

theorem equalverify_inv (h : opc env .equalverify ⟨s, al, n⟩ = .ok ⟨s', al', n'⟩) :
    ∃ a, s = a :: a :: s' ∧ al' = al := by
  obtain ⟨pre, rest, out, p, rfl, hlen, hact, rfl⟩ := opc_inv_act (by decide) h
  obtain ⟨a, b, rfl⟩ := len2 hlen
  simp only [act] at hact
  split at hact
  · rename_i hb; cases hact; cases beq_iff_eq.mp hb; exact ⟨a, rfl, rfl⟩
  · cases hact

theorem arith_inv {o : Opc} {f : Int → Int → Bytes} (ho : o ≠ .checkmultisig ∧ o ≠ .checkmultisigverify)
    (hn : need o = 2) (hact : ∀ a b alt, act env o [a, b] alt = do
      let x ← num4 env a; let y ← num4 env b; pure ([], alt, some (f x y)))
    (h : opc env o ⟨s, al, n⟩ = .ok ⟨s', al', n'⟩) :
    ∃ a b r x y, s = a :: b :: r ∧ num4 env a = .ok x ∧ num4 env b = .ok y ∧ s' = f x y :: r ∧ al' = al := by
  obtain ⟨pre, rest, out, p, rfl, hlen, ha, rfl⟩ := opc_inv_act ho h
  obtain ⟨a, b, rfl⟩ := len2 (hlen.trans hn)
  rw [hact] at ha
  obtain ⟨x, hx, ha⟩ := bind_ok ha
  obtain ⟨y, hy, ha⟩ := bind_ok ha
  cases ha
  exact ⟨a, b, rest, x, y, rfl, hx, hy, rfl, rfl⟩

theorem booland_inv (h : opc env .booland ⟨s, al, n⟩ = .ok ⟨s', al', n'⟩) :
    ∃ a b r x y, s = a :: b :: r ∧ num4 env a = .ok x ∧ num4 env b = .ok y ∧
      s' = boolBytes (x != 0 && y != 0) :: r ∧ al' = al :=
  arith_inv (f := fun x y => boolBytes (x != 0 && y != 0)) (by decide) rfl (fun _ _ _ => rfl) h

theorem boolor_inv (h : opc env .boolor ⟨s, al, n⟩ = .ok ⟨s', al', n'⟩) :
    ∃ a b r x y, s = a :: b :: r ∧ num4 env a = .ok x ∧ num4 env b = .ok y ∧
      s' = boolBytes (x != 0 || y != 0) :: r ∧ al' = al :=
  arith_inv (f := fun x y => boolBytes (x != 0 || y != 0)) (by decide) rfl (fun _ _ _ => rfl) h

theorem add_inv (h : opc env .add ⟨s, al, n⟩ = .ok ⟨s', al', n'⟩) :
    ∃ a b r x y, s = a :: b :: r ∧ num4 env a = .ok x ∧ num4 env b = .ok y ∧
      s' = numEncode (y + x) :: r ∧ al' = al :=
  arith_inv (f := fun x y => numEncode (y + x)) (by decide) rfl (fun _ _ _ => rfl) h

theorem numequal_inv (h : opc env .numequal ⟨s, al, n⟩ = .ok ⟨s', al', n'⟩) :
    ∃ a b r x y, s = a :: b :: r ∧ num4 env a = .ok x ∧ num4 env b = .ok y ∧
      s' = boolBytes (x == y) :: r ∧ al' = al :=
  arith_inv (f := fun x y => boolBytes (x == y)) (by decide) rfl (fun _ _ _ => rfl) h

theorem zeronotequal_inv (h : opc env .zeronotequal ⟨s, al, n⟩ = .ok ⟨s', al', n'⟩) :
    ∃ a r x, s = a :: r ∧ num4 env a = .ok x ∧ s' = boolBytes (x != 0) :: r ∧ al' = al := by
  obtain ⟨pre, rest, out, p, rfl, hlen, hact, rfl⟩ := opc_inv_act (by decide) h
  obtain ⟨a, rfl⟩ := len1 hlen
  obtain ⟨x, hx, hact⟩ := bind_ok hact
  cases hact
  exact ⟨a, rest, x, rfl, hx, rfl, rfl⟩

theorem equal_inv (h : opc env .equal ⟨s, al, n⟩ = .ok ⟨s', al', n'⟩) :
    ∃ a b r, s = a :: b :: r ∧ s' = boolBytes (a == b) :: r ∧ al' = al := by
  obtain ⟨pre, rest, out, p, rfl, hlen, hact, rfl⟩ := opc_inv_act (by decide) h
  obtain ⟨a, b, rfl⟩ := len2 hlen
  cases hact
  exact ⟨a, b, rest, rfl, rfl, rfl⟩

theorem checksig_inv (h : opc env .checksig ⟨s, al, n⟩ = .ok ⟨s', al', n'⟩) :
    ∃ pk sg r b, s = pk :: sg :: r ∧ checkSig env sg pk = .ok b ∧ s' = boolBytes b :: r ∧ al' = al := by
  obtain ⟨pre, rest, out, p, rfl, hlen, hact, rfl⟩ := opc_inv_act (by decide) h
  obtain ⟨a, b, rfl⟩ := len2 hlen
  obtain ⟨x, hx, hact⟩ := bind_ok hact
  cases hact
  exact ⟨a, b, rest, x, rfl, hx, rfl, rfl⟩

theorem cltv_inv (h : opc env .cltv ⟨s, al, n⟩ = .ok ⟨s', al', n'⟩) :
    ∃ a r v, s = a :: r ∧ s' = s ∧ al' = al ∧ numDecode env.flags.minimalNum 5 a = some v ∧ ¬ v < 0 ∧
      checkLockTime env v.toNat = true := by
  obtain ⟨pre, rest, out, p, rfl, hlen, hact, rfl⟩ := opc_inv_act (by decide) h
  obtain ⟨a, rfl⟩ := len1 hlen
  simp only [act] at hact
  split at hact
  · cases hact
  · rename_i v hv
    split at hact
    · cases hact
    · rename_i hneg
      split at hact
      · rename_i hc; cases hact; exact ⟨a, rest, v, rfl, rfl, rfl, hv, hneg, hc⟩
      · cases hact

theorem csv_inv (h : opc env .csv ⟨s, al, n⟩ = .ok ⟨s', al', n'⟩) :
    ∃ a r v, s = a :: r ∧ s' = s ∧ al' = al ∧ numDecode env.flags.minimalNum 5 a = some v ∧ ¬ v < 0 ∧
      (((v.toNat / SEQ_DISABLE) % 2 == 1) = true ∨ checkSequence env v.toNat = true) := by
  obtain ⟨pre, rest, out, p, rfl, hlen, hact, rfl⟩ := opc_inv_act (by decide) h
  obtain ⟨a, rfl⟩ := len1 hlen
  simp only [act] at hact
  split at hact
  · cases hact
  · rename_i v hv
    split at hact
    · cases hact
    · rename_i hneg
      split at hact
      · rename_i hd; cases hact; exact ⟨a, rest, v, rfl, rfl, rfl, hv, hneg, .inl hd⟩
      · split at hact
        · rename_i hc; cases hact; exact ⟨a, rest, v, rfl, rfl, rfl, hv, hneg, .inr hc⟩
        · cases hact

theorem checksigadd_inv (h : opc env .checksigadd ⟨s, al, n⟩ = .ok ⟨s', al', n'⟩) :
    ∃ pk m sg r v b, s = pk :: m :: sg :: r ∧ num4 env m = .ok v ∧ checkSig env sg pk = .ok b ∧
      s' = numEncode (v + (if b then 1 else 0)) :: r ∧ al' = al := by
  obtain ⟨pre, rest, out, p, rfl, hlen, hact, rfl⟩ := opc_inv_act (by decide) h
  obtain ⟨a, b, d, rfl⟩ := len3 hlen
  simp only [act] at hact
  split at hact
  · cases hact
  · obtain ⟨x, hx, hact⟩ := bind_ok hact
    obtain ⟨y, hy, hact⟩ := bind_ok hact
    cases hact
    exact ⟨a, b, d, rest, x, y, rfl, hx, hy, rfl, rfl⟩

/-! IFDUP, VERIFY and CHECKSIG with the stacks as projections of the two states (for statements that
speak of a run between two states that are variables) -/

theorem ifdup_ok (h : opc env .ifdup c = .ok c') :
    ∃ a r, c.stack = a :: r ∧ c'.alt = c.alt ∧
      c'.stack = (if castToBool a then a :: a :: r else a :: r) := ifdup_inv h

theorem verify_ok (h : opc env .verify c = .ok c') :
    ∃ a, c.stack = a :: c'.stack ∧ castToBool a = true ∧ c'.alt = c.alt := verify_inv h

theorem checksig_ok' (h : opc env .checksig c = .ok c') :
    ∃ pk sg r b, c.stack = pk :: sg :: r ∧ checkSig env sg pk = .ok b ∧ c'.stack = boolBytes b :: r ∧
      c'.alt = c.alt := checksig_inv h

end opcodes

theorem seqOps_nil_ok {env : Env} {c c' : Core} (h : seqOps env [] c = .ok c') : c' = c := by
  cases h; rfl

theorem seqOps_cons_ok {env : Env} {op : Op} {ops : List Op} {c c' : Core}
    (h : seqOps env (op :: ops) c = .ok c') :
    ∃ c1, pshOp env op c = .ok c1 ∧ seqOps env ops c1 = .ok c' :=
  bind_ok (seqOps_cons env op ops c ▸ h)

theorem seqOps_append_ok {env : Env} {xs ys : List Op} {c c' : Core}
    (h : seqOps env (xs ++ ys) c = .ok c') :
    ∃ c1, seqOps env xs c = .ok c1 ∧ seqOps env ys c1 = .ok c' :=
  bind_ok (seqOps_append env xs ys c ▸ h)

theorem pushInt_ok {env : Env} {n : Nat} {c c' : Core} (h : pshOp env (pushInt n) c = .ok c') :
    c'.stack = numEncode (n : Int) :: c.stack ∧ c'.alt = c.alt := by
  unfold pushInt at h
  split at h
  · rename_i hn
    rw [numEncode_small hn]
    exact pushElem_stack h
  · exact psh_stack h

theorem pushInt_inv {env : Env} {k : Nat} {s al s' al' : List Bytes} {n n' : Nat}
    (h : pshOp env (pushInt k) ⟨s, al, n⟩ = .ok ⟨s', al', n'⟩) : s' = numEncode (k : Int) :: s ∧ al' = al :=
  pushInt_ok h

theorem pushData_ok {env : Env} {b : Bytes} {c c' : Core} (h : pshOp env (.push b) c = .ok c') :
    c'.stack = b :: c.stack ∧ c'.alt = c.alt := psh_stack h

theorem boolBytes_unit (b : Bool) (h : castToBool (boolBytes b) = true) : boolBytes b = [1] := by
  rw [castToBool_boolBytes] at h
  subst h; rfl

end MsVerif.TypeSound
