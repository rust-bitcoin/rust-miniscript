/-
From Miniscript-level acceptance to `Spend.verifySpend`: resource limits (via the transfer
theorem of Lemmas/SatLimits.lean), byte-level parsing of scriptPubKey / scriptSig / witness
script (Lemmas/SatParse.lean) and the per-output-type plumbing of Spec/Spend.lean.
-/
import MsVerif.Spec.SpendSat
import MsVerif.Lemmas.SatLimits
import MsVerif.Lemmas.SatParse

namespace MsVerif.SatSpec
open MsVerif Script MsVerif.Bridge MsVerif.Desc MsVerif.Plan MsVerif.Spend

theorem accepts_run {env : Env} {script : List Op} {stack : List Bytes}
    (h : accepts env script stack = true) :
    ∃ c v, run env script (State.init stack) = .ok ⟨c, []⟩ ∧ c.stack = [v] ∧ castToBool v = true := by
  unfold accepts at h
  split at h
  · rename_i s hs
    obtain ⟨c, cs⟩ := s
    simp only [Bool.and_eq_true, List.isEmpty_iff] at h
    obtain ⟨hc, hv⟩ := h
    subst hc
    match hst : c.stack, hv with
    | [v], hv => exact ⟨c, v, hs, hst, by simpa [hst] using hv⟩
  · cases h

theorem accepts_withLimits (env : Env) (hhash : ∀ op b, (env.hash op b).length ≤ 520)
    (o t : Bool) (script : List Op) (hbig : bigPush script = false) (stack : List Bytes)
    (hacc : accepts env script stack = true)
    (helem : ∀ x ∈ stack, x.length ≤ 520)
    (hdepth : stack.length + growCount script ≤ 1000)
    (hops : env.flags.tapscript = true ∨ codeCount script + 20 * msCount script ≤ 201) :
    accepts (withLimits env o t) script stack = true := by
  obtain ⟨c, v, hrun, hs, hv⟩ := accepts_run hacc
  have hle := (run_ops_le env script _ _ hrun).2
  have := run_withLimits env o t hhash script hbig _ _ hrun
    (by simpa [State.init] using helem) (by simpa [State.init] using hdepth)
    (by rcases hops with h | h
        · exact .inl h
        · right; simp only [State.init] at hle; show c.ops ≤ 201; omega)
  unfold accepts
  rw [this]
  simp [hs, hv]

theorem accepts_runOn {env : Env} {script : List Op} {stack : List Bytes}
    (h : accepts env script stack = true) :
    ∃ out, runOn env script stack = .ok out ∧ cleanTrue out = true := by
  obtain ⟨c, v, hrun, hs, hv⟩ := accepts_run h
  refine ⟨[v], ?_, by simpa [cleanTrue] using hv⟩
  simp [runOn, hrun, hs]

theorem forall_mem_items {σ : Ph → Bytes} {w : List Ph} {Q : Bytes → Prop}
    (h : ∀ p ∈ w, Q (σ p)) : ∀ x ∈ items σ w, Q x := by
  intro x hx
  obtain ⟨p, hp, rfl⟩ := List.mem_map.mp hx
  exact h p hp

theorem verifyWitnessV0_wsh (e : SpendEnv) (scriptBytes : Bytes) (script : List Op)
    (its : List Bytes) (hparse : parse scriptBytes = some script)
    (hsize : scriptBytes.length ≤ 10000) (helem : ∀ x ∈ its, x.length ≤ 520)
    (hacc : accepts (mkEnv e segwitFlags DOM_SEGWITV0) script its.reverse = true) :
    verifyWitnessV0 e (.p2wsh (e.hash .sha256 scriptBytes)) (its ++ [scriptBytes]) = .ok := by
  obtain ⟨out, hrun, hclean⟩ := accepts_runOn hacc
  have hany : (its.any fun x => decide (x.length > 520)) = false := by
    rw [List.any_eq_false]; intro x hx; have := helem x hx; simp; omega
  have hs : ¬ scriptBytes.length > 10000 := by omega
  simp [verifyWitnessV0, List.getLast?_append, hs, hany, hparse, hrun, hclean]

theorem verifySpend_native (e : SpendEnv) (v : Nat) (hv : v ≤ 16) (prog : Bytes)
    (hp : 1 ≤ prog.length ∧ prog.length < 76) (witness : List Bytes) (k : SpkKind)
    (hk : classify [.small v, .push prog] = k) :
    verifySpend e (serialize [.small v, .push prog]) [] witness =
      match k with
      | .p2wpkh h => verifyWitnessV0 e (.p2wpkh h) witness
      | .p2wsh h => verifyWitnessV0 e (.p2wsh h) witness
      | .p2tr k => verifyTaproot e k witness
      | _ => verifySpend e (serialize [.small v, .push prog]) [] witness := by
  have hparse : parse (serialize [.small v, .push prog]) = some [.small v, .push prog] :=
    parse_serialize _ (by simp [canonOp, hv, hp.1, hp.2])
  have hpf : parseFlagged ([] : Bytes) = some [] := rfl
  cases k with
  | p2sh _ => rfl
  | other => rfl
  | _ =>
    unfold verifySpend
    rw [hparse, hpf]
    simp [isPushOnly, hk]

theorem verifySpend_p2wsh (e : SpendEnv) (h : Bytes) (hl : h.length = 32) (witness : List Bytes) :
    verifySpend e (serialize [.small 0, .push h]) [] witness = verifyWitnessV0 e (.p2wsh h) witness := by
  rw [verifySpend_native e 0 (by omega) h (by omega) witness (.p2wsh h) (by simp [classify, hl])]

theorem verifySpend_p2wpkh (e : SpendEnv) (h : Bytes) (hl : h.length = 20) (witness : List Bytes) :
    verifySpend e (serialize [.small 0, .push h]) [] witness = verifyWitnessV0 e (.p2wpkh h) witness := by
  rw [verifySpend_native e 0 (by omega) h (by omega) witness (.p2wpkh h) (by simp [classify, hl])]

theorem verifySpend_p2tr (e : SpendEnv) (k : Bytes) (hl : k.length = 32) (witness : List Bytes) :
    verifySpend e (serialize [.small 1, .push k]) [] witness = verifyTaproot e k witness := by
  rw [verifySpend_native e 1 (by omega) k (by omega) witness (.p2tr k) (by simp [classify, hl])]

theorem parse_newP2sh (h : Bytes) (hl : h.length = 20) :
    parse (serialize (newP2sh h)) = some (newP2sh h) :=
  parse_serialize _ (by simp [newP2sh, canonOp, hl])

/-- common part of every P2SH spend whose scriptSig is built by `witness_to_scriptsig`:
after the scriptSig checks the redeem script is on top of the items -/
theorem verifySpend_p2sh_prefix (its : List Bytes) (redeem : Bytes) (hit : ∀ x ∈ its, ssItemOk x)
    (hred : 4 < redeem.length ∧ redeem.length ≤ 520) :
    ∃ ssF, parseFlagged (witnessToScriptSig (its ++ [redeem])) = some ssF ∧
      isPushOnly (ssF.map (·.1)) = true ∧
      ssF.any (fun p => match p.1 with | .push bs => !pushMinimal bs p.2 | _ => false) = false ∧
      pushedStack (ssF.map (·.1)) = redeem :: its.reverse := by
  have hall : ∀ x ∈ its ++ [redeem], ssItemOk x := by
    intro x hx
    rcases List.mem_append.mp hx with hx | hx
    · exact hit x hx
    · simp at hx; subst hx; exact .inr (.inr hred)
  obtain ⟨l, h1, _, h2, h3, h4⟩ := parseFlagged_w2ss (its ++ [redeem]) hall
  exact ⟨l, h1, h2, h3, by simpa using h4⟩

theorem classify_v0 {spk : List Op} {k : SpkKind} (h : classify spk = k)
    (hk : (∃ wh, k = .p2wpkh wh) ∨ ∃ wh, k = .p2wsh wh) : ∃ prog, spk = [.small 0, .push prog] := by
  have hother : k = .other → False := by
    rintro rfl
    rcases hk with ⟨_, hk⟩ | ⟨_, hk⟩ <;> cases hk
  unfold classify at h
  split at h
  · split at h
    · subst h
      rcases hk with ⟨_, hk⟩ | ⟨_, hk⟩ <;> cases hk
    · exact (hother h.symm).elim
  · exact ⟨_, rfl⟩
  · split at h
    · subst h
      rcases hk with ⟨_, hk⟩ | ⟨_, hk⟩ <;> cases hk
    · exact (hother h.symm).elim
  · exact (hother h.symm).elim

/-- `sh(<legacy miniscript>)` -/
theorem verifySpend_p2sh_legacy (e : SpendEnv) (its : List Bytes) (redeem : Bytes)
    (script : List Op) (hit : ∀ x ∈ its, ssItemOk x)
    (hred : 4 < redeem.length ∧ redeem.length ≤ 520)
    (hl : (e.hash .hash160 redeem).length = 20)
    (hss : (witnessToScriptSig (its ++ [redeem])).length ≤ 1650)
    (hparse : parse redeem = some script)
    (hnw : ∀ prog, script ≠ [.small 0, .push prog])
    (hacc : accepts (mkEnv e legacyFlags DOM_LEGACY) script its.reverse = true) :
    verifySpend e (serialize (newP2sh (e.hash .hash160 redeem)))
      (witnessToScriptSig (its ++ [redeem])) [] = .ok := by
  obtain ⟨ssF, h1, h2, h3, h4⟩ := verifySpend_p2sh_prefix its redeem hit hred
  obtain ⟨out, hrun, hclean⟩ := accepts_runOn hacc
  have hsz : ¬ (witnessToScriptSig (its ++ [redeem])).length > 1650 := by omega
  have hrs : ¬ redeem.length > 520 := by omega
  have hc : classify (newP2sh (e.hash .hash160 redeem)) = .p2sh (e.hash .hash160 redeem) := by
    simp [classify, newP2sh, hl]
  unfold verifySpend
  rw [parse_newP2sh _ hl, h1]
  simp only [h2, Bool.not_true, Bool.false_eq_true, if_false]
  refine (if_neg fun hx => Bool.false_ne_true (h3.symm.trans hx)).trans ?_
  simp only [hsz, if_false, hc, h4, bne_self_eq_false, Bool.false_eq_true, hrs, hparse]
  split
  · rename_i heq
    obtain ⟨prog, hp⟩ := classify_v0 heq (.inl ⟨_, rfl⟩)
    exact (hnw prog hp).elim
  · rename_i heq
    obtain ⟨prog, hp⟩ := classify_v0 heq (.inr ⟨_, rfl⟩)
    exact (hnw prog hp).elim
  · simp [hrun, hclean]

theorem witprog_length (prog : Bytes) (hp : prog.length < 76) :
    (serialize [.small 0, .push prog]).length = prog.length + 2 := by
  simp [serialize, Op.bytes, pushPrefix, hp]

/-- `sh(wsh(..))` / `sh(wpkh(..))`: the scriptSig is the single push of the witness program -/
theorem verifySpend_p2sh_segwit (e : SpendEnv) (prog : Bytes) (k : SpkKind)
    (hk : (prog.length = 32 ∧ k = .p2wsh prog) ∨ (prog.length = 20 ∧ k = .p2wpkh prog))
    (hl : (e.hash .hash160 (serialize [.small 0, .push prog])).length = 20)
    (witness : List Bytes) :
    verifySpend e (serialize (newP2sh (e.hash .hash160 (serialize [.small 0, .push prog]))))
      (Plan.pushSlice (serialize [.small 0, .push prog])) witness = verifyWitnessV0 e k witness := by
  have hplen : 1 ≤ prog.length ∧ prog.length < 76 := by rcases hk with h | h <;> omega
  have hilen := witprog_length prog hplen.2
  have hred : 4 < (serialize [.small 0, .push prog]).length ∧
      (serialize [.small 0, .push prog]).length ≤ 520 := by omega
  have hss : Plan.pushSlice (serialize [.small 0, .push prog]) =
      witnessToScriptSig ([] ++ [serialize [.small 0, .push prog]]) := by
    simp [witnessToScriptSig, PlanSizes.w2ssItem_long _ hred.1]
  have hsslen : (witnessToScriptSig ([] ++ [serialize [.small 0, .push prog]])).length ≤ 1650 := by
    rw [← hss]
    have : (pushPrefix (serialize [.small 0, .push prog]).length).length ≤ 5 := by
      unfold pushPrefix; split <;> try split <;> try split
      all_goals simp
    simp only [Plan.pushSlice, List.length_append]
    omega
  obtain ⟨ssF, h1, h2, h3, h4⟩ := verifySpend_p2sh_prefix [] _ (by simp) hred
  have hsz : ¬ (witnessToScriptSig ([] ++ [serialize [.small 0, .push prog]])).length > 1650 := by omega
  have hrs : ¬ (serialize [.small 0, .push prog]).length > 520 := by omega
  have hparse : parse (serialize [.small 0, .push prog]) = some [.small 0, .push prog] :=
    parse_serialize _ (by simp [canonOp, hplen.1, hplen.2])
  have hc : classify (newP2sh (e.hash .hash160 (serialize [.small 0, .push prog]))) =
      .p2sh (e.hash .hash160 (serialize [.small 0, .push prog])) := by
    simp [classify, newP2sh, hl]
  rw [hss]
  unfold verifySpend
  rw [parse_newP2sh _ hl, h1]
  simp only [h2, Bool.not_true, Bool.false_eq_true, if_false]
  refine (if_neg fun hx => Bool.false_ne_true (h3.symm.trans hx)).trans ?_
  simp only [hsz, if_false, hc, h4, bne_self_eq_false, Bool.false_eq_true, hrs, hparse]
  rcases hk with ⟨h32, rfl⟩ | ⟨h20, rfl⟩
  · simp [classify, h32]
  · simp [classify, h20]

theorem verifyWitnessV0_wpkh (e : SpendEnv) (sig pk : Bytes)
    (hpk : pubkeyOk (mkEnv e segwitFlags DOM_SEGWITV0) pk = true) (hsig : sig ≠ [])
    (hok : e.sigOk DOM_SEGWITV0 pk sig = true)
    (hpl : pk.length ≤ 520) (hhl : (e.hash .hash160 pk).length ≤ 520) :
    verifyWitnessV0 e (.p2wpkh (e.hash .hash160 pk)) [sig, pk] = .ok := by
  have h1 : ¬ pk.length > 520 := by omega
  have h2 : ¬ (e.hash .hash160 pk).length > 520 := by omega
  have hcs : checkSig (mkEnv e segwitFlags DOM_SEGWITV0) sig pk = .ok true := checkSig_ok hpk hsig hok
  simp [verifyWitnessV0, runOn, run, p2pkhScript, List.foldlM, step, State.init, State.executing,
    countOp, execOpc, pushElem, mkEnv, segwitFlags, h1, h2, bind, Except.bind, pure, Except.pure,
    cleanTrue, boolBytes] 
  simp [mkEnv, segwitFlags] at hcs
  simp [hcs, castToBool]

theorem verifyTaproot_key (e : SpendEnv) (outKey sig : Bytes)
    (hok : e.sigOk DOM_TAPKEY outKey sig = true) : verifyTaproot e outKey [sig] = .ok := by
  simp [verifyTaproot, hok]

theorem verifyTaproot_script (e : SpendEnv) (outKey : Bytes) (its : List Bytes)
    (scriptBytes control : Bytes) (script : List Op)
    (hparse : parse scriptBytes = some script)
    (hc1 : 33 ≤ control.length) (hc2 : (control.length - 33) % 32 = 0)
    (hc3 : control.length ≤ 33 + 32 * 128)
    (hcommit : e.tapCommitOk control scriptBytes outKey = true)
    (hver : control.head?.map (· &&& 0xfe) = some 0xc0)
    (helem : ∀ x ∈ its, x.length ≤ 520)
    (hacc : accepts (mkEnv e tapFlags DOM_TAPSCRIPT) script its.reverse = true) :
    verifyTaproot e outKey (its ++ [scriptBytes, control]) = .ok := by
  obtain ⟨out, hrun, hclean⟩ := accepts_runOn hacc
  have hany : (its.any fun x => decide (x.length > 520)) = false := by
    rw [List.any_eq_false]; intro x hx; have := helem x hx; simp; omega
  have hannex : (control.head? == some 0x50) = false := by
    cases hh : control.head? with
    | none => rfl
    | some b =>
      rw [hh] at hver
      simp only [Option.map_some, Option.some.injEq] at hver
      have : b ≠ 0x50 := by rintro rfl; revert hver; decide
      simpa using this
  have hlast : (its ++ [scriptBytes, control]).getLast? = some control := by
    simp [List.getLast?_append]
  have hdl : (its ++ [scriptBytes, control]).dropLast = its ++ [scriptBytes] := by
    rw [show its ++ [scriptBytes, control] = (its ++ [scriptBytes]) ++ [control] by simp]
    exact List.dropLast_concat
  have hsz : ¬ (control.length < 33 ∨ ¬ (control.length - 33) % 32 = 0 ∨ 33 + 32 * 128 < control.length) := by
    omega
  unfold verifyTaproot
  rw [hlast]
  simp only [hannex, Bool.and_false, Bool.false_eq_true, if_false]
  have hshape : ∀ sig, its ++ [scriptBytes, control] ≠ [sig] := by
    intro sig h; have := congrArg List.length h; simp at this
  split
  · rename_i sig heq; exact absurd heq (hshape sig)
  · rw [hdl]
    simp [List.getLast?_append, hcommit, hver, hany, hparse, hrun, hclean]
    omega

end MsVerif.SatSpec
