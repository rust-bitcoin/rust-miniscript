/-
The engine as a stream of symbols: for the characters of a string the engine feeds their low
symbols to its residue and, after every third character (and once more at the end), the class
symbol of the group.  The step being XOR-linear, the difference of the final residues of two runs
is the same fold over the XOR of the two streams.  Where that XOR is non-zero is read off one cut of
a stream, at the end of the group that is open (`stream_group`).  The three results: one character, two
characters, three class-preserving characters substituted change the checksum (`checksum_differs`, `checksum_differs2`,
`checksum_differs_three`).
-/
import MsVerif.Lemmas.ChecksumPair
import MsVerif.Lemmas.ChecksumString

namespace MsVerif.Checksum

structure PatOk (δ lo bs : Nat) : Prop where
  d1 : 1 ≤ δ
  d3 : δ ≤ 3
  lo32 : lo < 32
  bs32 : bs < 32
  ne : lo ≠ 0 ∨ bs ≠ 0

theorem pat_eq (δ lo bs : Nat) (hlo : lo < 32) (hδ : δ ≤ 7) :
    pat δ lo bs = Lpow δ (BitVec.ofNat 40 lo) ^^^ BitVec.ofNat 40 bs := by
  unfold pat; rw [Lpow_ofNat lo hlo δ hδ]

theorem pat_ne_zero {δ lo bs : Nat} (h : PatOk δ lo bs) : pat δ lo bs ≠ 0#40 := by
  intro e
  have := pat_zero h.d1 (by have := h.d3; omega) h.lo32 h.bs32 e
  rcases h.ne with h1 | h1
  · exact h1 this.1
  · exact h1 this.2

theorem no_clash {δ1 a1 b1 δ2 a2 b2 g : Nat} (h1 : PatOk δ1 a1 b1) (hδ2 : 1 ≤ δ2 ∧ δ2 ≤ 3)
    (ha2 : a2 < 32) (hb2 : b2 < 32) (hg1 : 1 ≤ g) (hg : g ≤ 1040) (hlt : δ2 < g) :
    Lpow g (pat δ1 a1 b1) ≠ pat δ2 a2 b2 := by
  intro e
  rw [pat_eq δ1 a1 b1 h1.lo32 (by have := h1.d3; omega), Lpow_xor, ← Lpow_add] at e
  have := pair_table hg1 hg ⟨h1.d1, h1.d3⟩ hδ2 hlt h1.lo32 h1.bs32 ha2 hb2 e
  rcases h1.ne with h | h
  · exact h this.1
  · exact h this.2

def dstep (D : W) (d : Nat) : W := L D ^^^ BitVec.ofNat 40 d

theorem foldl_inputFe_xor2 : ∀ (es fs : List Nat), es.length = fs.length → (∀ e ∈ es, e < 32) →
    (∀ f ∈ fs, f < 32) → ∀ x y : W,
    es.foldl inputFe x ^^^ fs.foldl inputFe y = (List.zipWith (· ^^^ ·) es fs).foldl dstep (x ^^^ y)
  | [], [], _, _, _, _, _ => rfl
  | [], _ :: _, h, _, _, _, _ => by simp at h
  | _ :: _, [], h, _, _, _, _ => by simp at h
  | e :: es, f :: fs, h, he, hf, x, y => by
    rw [List.foldl_cons, List.foldl_cons, List.zipWith_cons_cons, List.foldl_cons,
      foldl_inputFe_xor2 es fs (by simpa using h) (fun z hz => he z (List.mem_cons_of_mem _ hz))
        (fun z hz => hf z (List.mem_cons_of_mem _ hz)),
      xor_inputFe2 _ _ _ _ (he e List.mem_cons_self) (hf f List.mem_cons_self)]
    rfl

theorem foldl_dstep_zeros (n : Nat) (D : W) : (List.replicate n 0).foldl dstep D = Lpow n D := by
  induction n generalizing D with
  | zero => rfl
  | succ k ih =>
    rw [List.replicate_succ, List.foldl_cons, ih, Lpow_succ']
    congr 1
    simp [dstep]

theorem zipWith_xor_self (l : List Nat) : List.zipWith (· ^^^ ·) l l = List.replicate l.length 0 := by
  induction l with
  | nil => rfl
  | cons a l ih => rw [List.zipWith_cons_cons, ih, Nat.xor_self]; rfl

theorem stream_length_eq : ∀ (ps qs : List Nat) (cnt a b : Nat), ps.length = qs.length →
    (stream cnt a ps).length = (stream cnt b qs).length
  | [], [], cnt, a, b, _ => by unfold stream; split <;> rfl
  | [], _ :: _, _, _, _, h => by simp at h
  | _ :: _, [], _, _, _, h => by simp at h
  | p :: ps, q :: qs, cnt, a, b, h => by
    have h' : ps.length = qs.length := by simpa using h
    unfold stream
    split
    · simp only [List.length_cons, stream_length_eq ps qs 0 0 0 h']
    · simp only [List.length_cons, stream_length_eq ps qs (cnt + 1) _ (b * 3 + q / 32) h']

theorem div32_ne {p p' : Nat} (h : p ≠ p') (hl : p % 32 = p' % 32) : p / 32 ≠ p' / 32 := by omega

theorem xor_acc_lt32 {k k' n : Nat} (hk : k < 3 ^ n) (hk' : k' < 3 ^ n) (hn : n ≤ 3) :
    k ^^^ k' < 32 :=
  xor_lt32 (acc_lt32 hk hn) (acc_lt32 hk' hn)

theorem stream_length_le : ∀ (ps : List Nat) (cnt cls : Nat),
    (stream cnt cls ps).length ≤ ps.length + (cnt + ps.length) / 3 + 1
  | [], cnt, cls => by unfold stream; split <;> simp
  | p :: ps, cnt, cls => by
    unfold stream
    split
    · have := stream_length_le ps 0 0
      simp only [List.length_cons]; omega
    · have := stream_length_le ps (cnt + 1) (cls * 3 + p / 32)
      simp only [List.length_cons]; omega

/-- class symbol of a group: the pending value `k` extended by the class digits of `g` -/
def clsOf (k : Nat) (g : List Nat) : Nat := g.foldl (fun k p => k * 3 + p / 32) k

theorem stream_group : ∀ (l : List Nat) (cnt k : Nat), cnt < 3 → 0 < cnt + l.length →
    stream cnt k l = (l.take (3 - cnt)).map (· % 32)
      ++ clsOf k (l.take (3 - cnt)) :: stream 0 0 (l.drop (3 - cnt))
  | [], cnt, k, _, h => by
    rw [stream, if_pos (by simpa using h), List.take_nil, List.drop_nil]; rfl
  | p :: ps, cnt, k, hc, _ => by
    rw [show 3 - cnt = (2 - cnt) + 1 by omega, List.take_succ_cons, List.drop_succ_cons]
    by_cases h3 : cnt + 1 = 3
    · rw [stream_emit h3, show 2 - cnt = 0 by omega]; rfl
    · rw [stream_noemit h3, stream_group ps (cnt + 1) _ (by omega) (by omega),
        show 3 - (cnt + 1) = 2 - cnt by omega]
      rfl

theorem clsOf_lt : ∀ (g : List Nat) {k n : Nat}, k < 3 ^ n → (∀ p ∈ g, p < 95) →
    clsOf k g < 3 ^ (n + g.length)
  | [], _, _, hk, _ => hk
  | p :: g, k, n, hk, hg => by
    have := clsOf_lt g (acc_lt hk (div32_le (hg p List.mem_cons_self)))
      (fun q hq => hg q (List.mem_cons_of_mem _ hq))
    rwa [Nat.add_right_comm] at this

theorem clsOf_inj : ∀ {g g' : List Nat} {a b : Nat}, g.length = g'.length → (∀ r ∈ g, r < 95) →
    (∀ r ∈ g', r < 95) → clsOf a g = clsOf b g' → a = b
  | [], [], _, _, _, _, _, h => h
  | [], _ :: _, _, _, hl, _, _, _ => by simp at hl
  | _ :: _, [], _, _, hl, _, _, _ => by simp at hl
  | r :: g, r' :: g', a, b, hl, hg, hg', h => by
    have := clsOf_inj (a := a * 3 + r / 32) (b := b * 3 + r' / 32) (by simpa using hl)
      (fun x hx => hg x (List.mem_cons_of_mem _ hx)) (fun x hx => hg' x (List.mem_cons_of_mem _ hx)) h
    have := hg r List.mem_cons_self
    have := hg' r' List.mem_cons_self
    omega

theorem zipWith_stream_group {l l' : List Nat} {cnt a b : Nat} (hc : cnt < 3)
    (hl : l.length = l'.length) (h0 : 0 < cnt + l.length) :
    List.zipWith (· ^^^ ·) (stream cnt a l) (stream cnt b l')
      = List.zipWith (· ^^^ ·) ((l.take (3 - cnt)).map (· % 32)) ((l'.take (3 - cnt)).map (· % 32))
        ++ (clsOf a (l.take (3 - cnt)) ^^^ clsOf b (l'.take (3 - cnt)))
        :: List.zipWith (· ^^^ ·) (stream 0 0 (l.drop (3 - cnt))) (stream 0 0 (l'.drop (3 - cnt))) := by
  rw [stream_group l _ _ hc h0, stream_group l' _ _ hc (hl ▸ h0),
    List.zipWith_append (by simp only [List.length_map, List.length_take, hl])]
  rfl

theorem grp_pat {cnt k p q : Nat} {g : List Nat} (hk : k < 3 ^ cnt) (hp : p < 95) (hq : q < 95)
    (hne : p ≠ q) (hg : ∀ r ∈ g, r < 95) (hl : cnt + g.length ≤ 2) :
    PatOk (g.length + 1) (p % 32 ^^^ q % 32) (clsOf (k * 3 + p / 32) g ^^^ clsOf (k * 3 + q / 32) g) := by
  have b := fun {x} (hx : x < 95) => clsOf_lt g (acc_lt hk (div32_le hx)) hg
  refine ⟨by omega, by omega, xor_lt32 (Nat.mod_lt _ (by decide)) (Nat.mod_lt _ (by decide)),
    xor_acc_lt32 (b hp) (b hq) (by omega), ?_⟩
  by_cases hl : p % 32 = q % 32
  · exact Or.inr (xor_ne_zero fun e => div32_ne hne hl (by have := clsOf_inj rfl hg hg e; omega))
  · exact Or.inl (xor_ne_zero hl)

/-- a substituted character's two symbols, `j + 1` places apart, enter the difference as a pattern -/
theorem foldl_dstep_block {lo bs j : Nat} (D : W) (R : List Nat) (hlo : lo < 32) (hj : j ≤ 2) :
    (lo :: (List.replicate j 0 ++ bs :: R)).foldl dstep D
      = R.foldl dstep (Lpow (j + 2) D ^^^ pat (j + 1) lo bs) := by
  rw [List.foldl_cons, List.foldl_append, foldl_dstep_zeros, List.foldl_cons]
  congr 1
  rw [dstep, dstep, Lpow_xor, L_xor, Lpow_ofNat lo hlo j (by omega), L_shift lo hlo j (by omega),
    ← Lpow_succ, ← Lpow_succ', pat, BitVec.xor_assoc]

/-- pending class digits and their value after the characters `ps` -/
def adv : Nat → Nat → List Nat → Nat × Nat
  | cnt, cls, [] => (cnt, cls)
  | cnt, cls, p :: ps => if cnt + 1 = 3 then adv 0 0 ps else adv (cnt + 1) (cls * 3 + p / 32) ps

/-- the symbols fed for the characters `ps`, nothing flushed -/
def fed : Nat → Nat → List Nat → List Nat
  | _, _, [] => []
  | cnt, cls, p :: ps =>
    if cnt + 1 = 3 then p % 32 :: (cls * 3 + p / 32) :: fed 0 0 ps
    else p % 32 :: fed (cnt + 1) (cls * 3 + p / 32) ps

theorem stream_append : ∀ (ps qs : List Nat) (cnt cls : Nat),
    stream cnt cls (ps ++ qs) = fed cnt cls ps ++ stream (adv cnt cls ps).1 (adv cnt cls ps).2 qs
  | [], _, _, _ => rfl
  | p :: ps, qs, cnt, cls => by
    rw [List.cons_append, stream, fed, adv]
    split
    · rw [stream_append ps qs 0 0]; rfl
    · rw [stream_append ps qs (cnt + 1) _]; rfl

theorem fed_length_le : ∀ (ps : List Nat) (cnt cls : Nat),
    (fed cnt cls ps).length ≤ ps.length + (cnt + ps.length) / 3
  | [], _, _ => by simp [fed]
  | p :: ps, cnt, cls => by
    unfold fed
    split
    · have := fed_length_le ps 0 0
      simp only [List.length_cons]; omega
    · have := fed_length_le ps (cnt + 1) (cls * 3 + p / 32)
      simp only [List.length_cons]; omega

theorem adv_wf : ∀ (ps : List Nat) (cnt cls : Nat), cnt < 3 → cls < 3 ^ cnt → (∀ p ∈ ps, p < 95) →
    (adv cnt cls ps).1 < 3 ∧ (adv cnt cls ps).2 < 3 ^ (adv cnt cls ps).1
  | [], _, _, hc, hcls, _ => ⟨hc, hcls⟩
  | p :: ps, cnt, cls, hc, hcls, hps => by
    have hp := hps p List.mem_cons_self
    have hps' : ∀ q ∈ ps, q < 95 := fun q hq => hps q (List.mem_cons_of_mem _ hq)
    unfold adv
    split
    · exact adv_wf ps 0 0 (by decide) (by decide) hps'
    · refine adv_wf ps (cnt + 1) _ (by omega) ?_ hps'
      rw [Nat.pow_succ]; omega

theorem zipWith_stream_prefix (ms A B : List Nat) (cnt cls : Nat) :
    List.zipWith (· ^^^ ·) (stream cnt cls (ms ++ A)) (stream cnt cls (ms ++ B))
      = List.replicate (fed cnt cls ms).length 0 ++ List.zipWith (· ^^^ ·)
          (stream (adv cnt cls ms).1 (adv cnt cls ms).2 A) (stream (adv cnt cls ms).1 (adv cnt cls ms).2 B) := by
  rw [stream_append, stream_append, List.zipWith_append (by rfl), zipWith_xor_self]

/-- one substituted character after a common prefix `ms`: zeros, its low symbol, and the class symbol of its group
`j + 1` places later -/
theorem stream_diff1_after {cnt k q q' : Nat} (ms ts : List Nat) (hc : cnt < 3) (hk : k < 3 ^ cnt)
    (hms : ∀ r ∈ ms, r < 95) (hq : q < 95) (hq' : q' < 95) (hne : q ≠ q') (hts : ∀ r ∈ ts, r < 95) :
    ∃ f j m bs, f ≤ ms.length + (cnt + ms.length) / 3 ∧ PatOk (j + 1) (q % 32 ^^^ q' % 32) bs ∧
      m ≤ ts.length + ts.length / 3 + 1 ∧
      List.zipWith (· ^^^ ·) (stream cnt k (ms ++ q :: ts)) (stream cnt k (ms ++ q' :: ts))
        = List.replicate f 0 ++ (q % 32 ^^^ q' % 32) :: (List.replicate j 0 ++ bs :: List.replicate m 0) := by
  obtain ⟨w1, w2⟩ := adv_wf ms cnt k hc hk hms
  rw [zipWith_stream_prefix]
  generalize (adv cnt k ms).1 = c at w1 w2 ⊢
  generalize (adv cnt k ms).2 = a at w2 ⊢
  refine ⟨_, _, (stream 0 0 (ts.drop (2 - c))).length, _, fed_length_le ms cnt k,
    grp_pat (g := ts.take (2 - c)) w2 hq hq' hne (fun r hr => hts r (List.mem_of_mem_take hr))
      (by rw [List.length_take]; omega), ?_, ?_⟩
  · have := stream_length_le (ts.drop (2 - c)) 0 0
    rw [List.length_drop] at this; omega
  · rw [zipWith_stream_group (l := q :: ts) (l' := q' :: ts) w1 rfl (by simp; omega),
      show 3 - c = (2 - c) + 1 by omega]
    simp only [List.take_succ_cons, List.drop_succ_cons, List.map_cons, List.zipWith_cons_cons,
      zipWith_xor_self, List.length_map, List.cons_append]
    rfl

theorem stream_diff2_far {cnt k p p' q q' : Nat} (ms ts : List Nat) (hc : cnt < 3)
    (hk : k < 3 ^ cnt) (hp : p < 95) (hp' : p' < 95) (hne : p ≠ p') (hms : ∀ r ∈ ms, r < 95)
    (hq : q < 95) (hq' : q' < 95) (hne2 : q ≠ q') (hts : ∀ r ∈ ts, r < 95)
    (hfar : 2 - cnt ≤ ms.length) :
    ∃ bs1 f j2 bs2 m, PatOk (2 - cnt + 1) (p % 32 ^^^ p' % 32) bs1 ∧ f ≤ ms.length + ms.length / 3 ∧
      PatOk (j2 + 1) (q % 32 ^^^ q' % 32) bs2 ∧ m ≤ ts.length + ts.length / 3 + 1 ∧
      List.zipWith (· ^^^ ·) (stream cnt k (p :: (ms ++ q :: ts)))
          (stream cnt k (p' :: (ms ++ q' :: ts)))
        = (p % 32 ^^^ p' % 32) :: (List.replicate (2 - cnt) 0 ++ bs1 :: (List.replicate f 0 ++
            (q % 32 ^^^ q' % 32) :: (List.replicate j2 0 ++ bs2 :: List.replicate m 0))) := by
  have hg : ∀ r ∈ ms.take (2 - cnt), r < 95 := fun r hr => hms r (List.mem_of_mem_take hr)
  have hgl : (ms.take (2 - cnt)).length = 2 - cnt := by rw [List.length_take]; omega
  obtain ⟨f, j2, m, bs2, hf, hP2, hm, hz⟩ := stream_diff1_after (cnt := 0) (k := 0)
    (ms.drop (2 - cnt)) ts (by decide) (by decide) (fun r hr => hms r (List.mem_of_mem_drop hr))
    hq hq' hne2 hts
  have hP1 := grp_pat hk hp hp' hne hg (by omega)
  rw [hgl] at hP1
  refine ⟨_, f, j2, bs2, m, hP1, by rw [List.length_drop] at hf; omega, hP2, hm, ?_⟩
  rw [zipWith_stream_group (l := p :: (ms ++ q :: ts)) (l' := p' :: (ms ++ q' :: ts)) hc (by simp)
    (by simp; omega), show 3 - cnt = (2 - cnt) + 1 by omega]
  simp only [List.take_succ_cons, List.drop_succ_cons, List.take_append_of_le_length hfar,
    List.drop_append_of_le_length hfar, List.map_cons, List.zipWith_cons_cons, zipWith_xor_self,
    List.length_map, hgl, List.cons_append, hz]
  rfl


theorem stream_diff2_near {cnt k p p' q q' : Nat} (ms ts : List Nat) (hc : cnt < 3)
    (hk : k < 3 ^ cnt) (hp : p < 95) (hp' : p' < 95) (hne : p ≠ p') (hms : ∀ r ∈ ms, r < 95)
    (hq : q < 95) (hq' : q' < 95) (hts : ∀ r ∈ ts, r < 95) (hnear : ms.length < 2 - cnt) :
    ∃ b bs m, b ≤ 1 ∧ bs < 32 ∧ (p % 32 ^^^ p' % 32 ≠ 0 ∨ q % 32 ^^^ q' % 32 ≠ 0 ∨ bs ≠ 0) ∧
      List.zipWith (· ^^^ ·) (stream cnt k (p :: (ms ++ q :: ts)))
          (stream cnt k (p' :: (ms ++ q' :: ts)))
        = (p % 32 ^^^ p' % 32) :: (List.replicate ms.length 0 ++ (q % 32 ^^^ q' % 32) ::
            (List.replicate b 0 ++ bs :: List.replicate m 0)) := by
  have e : 3 - cnt = ms.length + (1 - cnt - ms.length + 1) + 1 := by omega
  have hb : (ts.take (1 - cnt - ms.length)).length ≤ 1 - cnt - ms.length := by
    rw [List.length_take]; exact Nat.min_le_left _ _
  have hg : ∀ {x y}, x < 95 → y < 95 → ∀ r ∈ x :: (ms ++ y :: ts.take (1 - cnt - ms.length)), r < 95 := by
    intro x y hx hy r hr
    simp only [List.mem_cons, List.mem_append] at hr
    rcases hr with rfl | hr | rfl | hr
    · exact hx
    · exact hms r hr
    · exact hy
    · exact hts r (List.mem_of_mem_take hr)
  have b : ∀ {x y}, x < 95 → y < 95 → clsOf k (x :: (ms ++ y :: ts.take (1 - cnt - ms.length)))
      < 3 ^ (cnt + (ms.length + ((ts.take (1 - cnt - ms.length)).length + 1) + 1)) := fun hx hy => by
    have := clsOf_lt _ hk (hg hx hy)
    rwa [List.length_cons, List.length_append, List.length_cons] at this
  refine ⟨(ts.take (1 - cnt - ms.length)).length, clsOf k (p :: (ms ++ q :: ts.take (1 - cnt - ms.length)))
      ^^^ clsOf k (p' :: (ms ++ q' :: ts.take (1 - cnt - ms.length))),
    (stream 0 0 (ts.drop (1 - cnt - ms.length))).length, by omega,
    xor_acc_lt32 (b hp hq) (b hp' hq') (by omega),
    ?_, ?_⟩
  · by_cases hl : p % 32 = p' % 32
    · refine Or.inr (Or.inr (xor_ne_zero fun e => div32_ne hne hl ?_))
      have := clsOf_inj (a := k * 3 + p / 32) (b := k * 3 + p' / 32) (by simp)
        (fun r hr => hg hp hq r (List.mem_cons_of_mem _ hr))
        (fun r hr => hg hp' hq' r (List.mem_cons_of_mem _ hr)) e
      omega
    · exact Or.inl (xor_ne_zero hl)
  · rw [zipWith_stream_group (l := p :: (ms ++ q :: ts)) (l' := p' :: (ms ++ q' :: ts)) hc (by simp)
      (by simp; omega), e]
    simp only [List.take_succ_cons, List.drop_succ_cons, List.take_length_add_append,
      List.drop_length_add_append, List.map_cons, List.map_append, List.zipWith_cons_cons,
      List.zipWith_append, zipWith_xor_self, List.length_map, List.cons_append, List.append_assoc]



/-- a substituted character of the same class changes one low symbol and leaves the state alone -/
theorem stream_diff_same_class {cnt cls p p' : Nat} (ms A B : List Nat) (hc : cnt < 3)
    (hcls : cls < 3 ^ cnt) (hms : ∀ r ∈ ms, r < 95) (hp : p < 95) (hsame : p / 32 = p' / 32) :
    ∃ f e c' k', f ≤ ms.length + (cnt + ms.length) / 3 ∧ e ≤ 1 ∧ c' < 3 ∧ k' < 3 ^ c' ∧
      List.zipWith (· ^^^ ·) (stream cnt cls (ms ++ p :: A)) (stream cnt cls (ms ++ p' :: B))
        = List.replicate f 0 ++ (p % 32 ^^^ p' % 32) :: (List.replicate e 0 ++
            List.zipWith (· ^^^ ·) (stream c' k' A) (stream c' k' B)) := by
  obtain ⟨w1, w2⟩ := adv_wf ms cnt cls hc hcls hms
  rw [zipWith_stream_prefix]
  generalize (adv cnt cls ms).1 = c at w1 w2 ⊢
  generalize (adv cnt cls ms).2 = k at w2 ⊢
  by_cases h3 : c + 1 = 3
  · refine ⟨_, 1, 0, 0, fed_length_le ms cnt cls, Nat.le_refl 1, by decide, by decide, ?_⟩
    rw [stream_emit h3, stream_emit h3, List.zipWith_cons_cons, List.zipWith_cons_cons, hsame,
      Nat.xor_self]
    rfl
  · refine ⟨_, 0, c + 1, k * 3 + p / 32, fed_length_le ms cnt cls, Nat.zero_le 1, by omega,
      acc_lt w2 (div32_le hp), ?_⟩
    rw [stream_noemit h3, stream_noemit h3, List.zipWith_cons_cons, hsame]
    rfl

theorem foldl_inputFe_same (es : List Nat) (hes : ∀ e ∈ es, e < 32) (x y : W) :
    es.foldl inputFe x ^^^ es.foldl inputFe y = Lpow es.length (x ^^^ y) := by
  rw [foldl_inputFe_xor2 es es rfl hes hes, zipWith_xor_self, foldl_dstep_zeros]

theorem residue_xor {s t : List Char} (hs : AllValid s) (ht : AllValid t) (hl : s.length = t.length) :
    ∃ ra rb, checksumOf s = some (residueChars ra) ∧ checksumOf t = some (residueChars rb) ∧
      ra ^^^ rb = Lpow 8 ((List.zipWith (· ^^^ ·) (stream 0 0 (s.map posOf))
        (stream 0 0 (t.map posOf))).foldl dstep 0#40) := by
  refine ⟨_, _, checksumOf_stream hs, checksumOf_stream ht, ?_⟩
  rw [tail8, tail8, foldl_inputFe_same _ (by decide),
    foldl_inputFe_xor2 _ _ (stream_length_eq _ _ _ _ _ (by simp [hl]))
      (stream_lt _ _ _ (by decide) (by decide) (posOf_map_lt hs))
      (stream_lt _ _ _ (by decide) (by decide) (posOf_map_lt ht)), BitVec.xor_self]
  rfl

theorem checksum_one {pre post : List Char} {x y : Char} (hs : AllValid (pre ++ x :: post))
    (ht : AllValid (pre ++ y :: post)) (hne : x ≠ y) :
    ∃ ra rb M δ lo bs, checksumOf (pre ++ x :: post) = some (residueChars ra) ∧
      checksumOf (pre ++ y :: post) = some (residueChars rb) ∧
      PatOk δ lo bs ∧
      ra ^^^ rb = Lpow M (pat δ lo bs) ∧ 8 ≤ M ∧ M ≤ post.length + post.length / 3 + 9 := by
  obtain ⟨hpre, hxp⟩ := hs.of_append
  obtain ⟨hx, hpost⟩ := hxp.of_cons
  have hy := ht.of_append.2.of_cons.1
  obtain ⟨ra, rb, h1, h2, hx12⟩ := residue_xor hs ht (by simp)
  obtain ⟨f, j, m, bs, _, hP, hm, hz⟩ := stream_diff1_after (cnt := 0) (k := 0)
    (pre.map posOf) (post.map posOf) (by decide) (by decide) (posOf_map_lt hpre) (posOf_lt hx)
    (posOf_lt hy) (posOf_ne hx hy hne) (posOf_map_lt hpost)
  refine ⟨ra, rb, 8 + m, j + 1, _, bs, h1, h2, hP, ?_, by omega, ?_⟩
  · rw [hx12, List.map_append, List.map_append, List.map_cons, List.map_cons, hz, List.foldl_append,
      foldl_dstep_zeros, Lpow_zero, foldl_dstep_block _ _ hP.lo32 (by have := hP.d3; omega),
      foldl_dstep_zeros, Lpow_zero, BitVec.zero_xor, ← Lpow_add]
  · rw [List.length_map] at hm; omega

theorem checksum_differs {pre post : List Char} {x y : Char} (hs : AllValid (pre ++ x :: post))
    (ht : AllValid (pre ++ y :: post)) (hne : x ≠ y) :
    ∃ c1 c2, checksumOf (pre ++ x :: post) = some c1 ∧ checksumOf (pre ++ y :: post) = some c2 ∧
      c1 ≠ c2 := by
  obtain ⟨ra, rb, M, δ, lo, bs, h1, h2, hp, hx, _, _⟩ := checksum_one hs ht hne
  refine ⟨_, _, h1, h2, fun e => pat_ne_zero hp (Lpow_eq_zero M ?_)⟩
  rw [← hx, residueChars_inj e, BitVec.xor_self]

theorem checksum_differs2 {pre mid post : List Char} {x x' y y' : Char}
    (hs : AllValid (pre ++ x :: (mid ++ y :: post))) (ht : AllValid (pre ++ x' :: (mid ++ y' :: post)))
    (hnx : x ≠ x') (hny : y ≠ y') (hlen : mid.length + mid.length / 3 + 4 ≤ 1040) :
    ∃ c1 c2, checksumOf (pre ++ x :: (mid ++ y :: post)) = some c1 ∧
      checksumOf (pre ++ x' :: (mid ++ y' :: post)) = some c2 ∧ c1 ≠ c2 := by
  obtain ⟨hpre, h1⟩ := hs.of_append
  obtain ⟨hx, h2⟩ := h1.of_cons
  obtain ⟨hmid, h3⟩ := h2.of_append
  obtain ⟨hy, hpost⟩ := h3.of_cons
  have hx' := ht.of_append.2.of_cons.1
  have hy' := ht.of_append.2.of_cons.2.of_append.2.of_cons.1
  obtain ⟨ra, rb, e1, e2, hxor⟩ := residue_xor hs ht (by simp)
  refine ⟨_, _, e1, e2, fun e => ?_⟩
  rw [residueChars_inj e, BitVec.xor_self] at hxor
  have hV := Lpow_eq_zero 8 hxor.symm
  have l1 : posOf x % 32 ^^^ posOf x' % 32 < 32 :=
    xor_lt32 (Nat.mod_lt _ (by decide)) (Nat.mod_lt _ (by decide))
  have l2 : posOf y % 32 ^^^ posOf y' % 32 < 32 :=
    xor_lt32 (Nat.mod_lt _ (by decide)) (Nat.mod_lt _ (by decide))
  obtain ⟨w1, w2⟩ := adv_wf (pre.map posOf) 0 0 (by decide) (by decide) (posOf_map_lt hpre)
  simp only [List.map_append, List.map_cons] at hV
  rw [zipWith_stream_prefix, List.foldl_append, foldl_dstep_zeros, Lpow_zero] at hV
  by_cases hfar : 2 - (adv 0 0 (pre.map posOf)).1 ≤ (mid.map posOf).length
  · obtain ⟨bs1, f, j2, bs2, m, hP1, hf, hP2, _, hz⟩ :=
      stream_diff2_far (mid.map posOf) (post.map posOf) w1 w2 (posOf_lt hx) (posOf_lt hx')
        (posOf_ne hx hx' hnx) (posOf_map_lt hmid) (posOf_lt hy) (posOf_lt hy') (posOf_ne hy hy' hny)
        (posOf_map_lt hpost) hfar
    have := hP2.d3
    rw [hz, foldl_dstep_block _ _ l1 (by omega), Lpow_zero, BitVec.zero_xor, List.foldl_append,
      foldl_dstep_zeros, foldl_dstep_block _ _ l2 (by omega), foldl_dstep_zeros, ← Lpow_add] at hV
    rw [List.length_map] at hf
    -- the two class symbols are `g = f + j2 + 2` places apart, `f ≤ |mid| + |mid| / 3`, `j2 ≤ 2`:
    -- the `+ 4` of `hlen`
    exact no_clash hP1 ⟨hP2.d1, hP2.d3⟩ l2 hP2.bs32 (by omega) (by omega) (by omega)
      (BitVec.xor_eq_zero_iff.mp (Lpow_eq_zero m hV))
  · obtain ⟨b, bs, m, hb, hbs, hnz, hz⟩ :=
      stream_diff2_near (mid.map posOf) (post.map posOf) w1 w2 (posOf_lt hx) (posOf_lt hx')
        (posOf_ne hx hx' hnx) (posOf_map_lt hmid) (posOf_lt hy) (posOf_lt hy')
        (posOf_map_lt hpost) (by omega)
    have ha : (mid.map posOf).length ≤ 1 := by omega
    generalize (mid.map posOf).length = a at hz ha
    rw [hz, foldl_dstep_block _ _ l1 (by omega), Lpow_zero, BitVec.zero_xor, List.foldl_append,
      foldl_dstep_zeros, List.foldl_cons, foldl_dstep_zeros] at hV
    -- the three symbols sit at three different places below 2^20: nothing is reduced
    have hD := Lpow_eq_zero m hV
    rw [dstep, ← Lpow_succ] at hD
    have hN := congrArg BitVec.toNat (BitVec.xor_eq_zero_iff.mp hD)
    have hlt := pat_lt (a + 1) (by omega) _ l1 _ l2
    have h15 : 2 ^ (5 * (a + 1 + 1)) ≤ 2 ^ 15 := Nat.pow_le_pow_right (by decide) (by omega)
    have h32 : 32 ^ (b + 1) ≤ 32 ^ 2 := Nat.pow_le_pow_right (by decide) (by omega)
    have h32' : 32 ≤ 32 ^ (b + 1) := Nat.le_self_pow (by omega) 32
    have hmul : (pat (a + 1) (posOf x % 32 ^^^ posOf x' % 32) (posOf y % 32 ^^^ posOf y' % 32)).toNat
        * 32 ^ (b + 1) < 2 ^ 40 := by
      calc _ < 2 ^ 15 * 32 ^ 2 := Nat.mul_lt_mul_of_lt_of_le (by omega) h32 (by decide)
        _ < 2 ^ 40 := by decide
    rw [Lpow_small _ _ hmul, BitVec.toNat_ofNat, Nat.mod_eq_of_lt (Nat.lt_trans hbs (by decide))] at hN
    have hz0 : (pat (a + 1) (posOf x % 32 ^^^ posOf x' % 32) (posOf y % 32 ^^^ posOf y' % 32)).toNat = 0 := by
      rcases Nat.eq_zero_or_pos (pat (a + 1) _ _).toNat with h0 | h0
      · exact h0
      · have := Nat.mul_le_mul h0 h32'
        omega
    have hb0 : bs = 0 := by rw [hz0, Nat.zero_mul] at hN; exact hN.symm
    have ha8 : a + 1 < 8 := by omega
    obtain ⟨z1, z2⟩ := pat_zero (δ := a + 1) (Nat.le_add_left 1 a) ha8 l1 l2
      (BitVec.eq_of_toNat_eq (by simpa using hz0))
    rcases hnz with h | h | h
    · exact h z1
    · exact h z2
    · exact h hb0

/-- three class-preserving substitutions (each changes exactly one 5-bit symbol): the streams differ in three low
symbols, the residue difference is `L^a e₁ + L^b e₂ + L^c e₃`, which `triple_free` shows non-zero.  `z = z'` is
allowed: two such substitutions are covered as well, `triple_free` admitting `e₃ = 0`. -/
theorem checksum_differs_three {pre m1 m2 post : List Char} {x x' y y' z z' : Char}
    (hs : AllValid (pre ++ x :: (m1 ++ y :: (m2 ++ z :: post))))
    (ht : AllValid (pre ++ x' :: (m1 ++ y' :: (m2 ++ z' :: post))))
    (hnx : x ≠ x') (hny : y ≠ y')
    (hcx : classOf x = classOf x') (hcy : classOf y = classOf y') (hcz : classOf z = classOf z')
    (hlen : m1.length + m2.length ≤ 776) :
    ∃ c1 c2, checksumOf (pre ++ x :: (m1 ++ y :: (m2 ++ z :: post))) = some c1 ∧
      checksumOf (pre ++ x' :: (m1 ++ y' :: (m2 ++ z' :: post))) = some c2 ∧ c1 ≠ c2 := by
  obtain ⟨hpre, h1⟩ := hs.of_append
  obtain ⟨hx, h2⟩ := h1.of_cons
  obtain ⟨hm1, h3⟩ := h2.of_append
  obtain ⟨hy, h4⟩ := h3.of_cons
  obtain ⟨hm2, h5⟩ := h4.of_append
  obtain ⟨hz, hpost⟩ := h5.of_cons
  have hx' := ht.of_append.2.of_cons.1
  have hy' := ht.of_append.2.of_cons.2.of_append.2.of_cons.1
  have hz' := ht.of_append.2.of_cons.2.of_append.2.of_cons.2.of_append.2.of_cons.1
  rw [classOf_valid hx, classOf_valid hx', Option.some.injEq] at hcx
  rw [classOf_valid hy, classOf_valid hy', Option.some.injEq] at hcy
  rw [classOf_valid hz, classOf_valid hz', Option.some.injEq] at hcz
  obtain ⟨ra, rb, e1, e2, hxor⟩ := residue_xor hs ht (by simp)
  refine ⟨_, _, e1, e2, fun e => ?_⟩
  rw [residueChars_inj e, BitVec.xor_self] at hxor
  have hV := Lpow_eq_zero 8 hxor.symm
  have lt32 : ∀ a b : Char, posOf a % 32 ^^^ posOf b % 32 < 32 := fun a b =>
    xor_lt32 (Nat.mod_lt _ (by decide)) (Nat.mod_lt _ (by decide))
  have n1 : posOf x % 32 ^^^ posOf x' % 32 ≠ 0 := by
    have := posOf_ne hx hx' hnx; exact xor_ne_zero (by omega)
  have n2 : posOf y % 32 ^^^ posOf y' % 32 ≠ 0 := by
    have := posOf_ne hy hy' hny; exact xor_ne_zero (by omega)
  simp only [List.map_append, List.map_cons] at hV
  obtain ⟨f0, a1, c1, k1, _, ha1, w1, w1', z1⟩ := stream_diff_same_class (cnt := 0) (cls := 0)
    (pre.map posOf)
    (m1.map posOf ++ posOf y :: (m2.map posOf ++ posOf z :: post.map posOf))
    (m1.map posOf ++ posOf y' :: (m2.map posOf ++ posOf z' :: post.map posOf))
    (by decide) (by decide) (posOf_map_lt hpre) (posOf_lt hx) hcx
  obtain ⟨f1, a2, c2, k2, hf1, ha2, w2, w2', z2⟩ := stream_diff_same_class (m1.map posOf)
    (m2.map posOf ++ posOf z :: post.map posOf) (m2.map posOf ++ posOf z' :: post.map posOf)
    w1 w1' (posOf_map_lt hm1) (posOf_lt hy) hcy
  obtain ⟨f2, a3, c3, k3, hf2, ha3, _, _, z3⟩ := stream_diff_same_class (m2.map posOf)
    (post.map posOf) (post.map posOf) w2 w2' (posOf_map_lt hm2) (posOf_lt hz) hcz
  rw [z1, z2, z3, zipWith_xor_self] at hV
  simp only [List.foldl_append, List.foldl_cons, foldl_dstep_zeros, Lpow_zero] at hV
  have hD := Lpow_eq_zero _ (Lpow_eq_zero _ hV)
  simp only [dstep, show L 0#40 = 0#40 from L_zero, BitVec.zero_xor] at hD
  simp only [L_xor, ← Lpow_succ, ← Lpow_add, Lpow_xor] at hD
  rw [List.length_map] at hf1 hf2
  -- from the first changed symbol to the third: `a1 + f1 + 1 + a2 + f2 + 1` places, at most
  -- `m1 + m2 + (m1 + 2) / 3 + (m2 + 2) / 3 + 4`, which is below the 1040 of `triple_free` as long as
  -- `m1 + m2 ≤ 776`
  exact triple_free (by omega) (by omega) (by omega) (lt32 x x') (lt32 y y') (lt32 z z') n1 n2
    (BitVec.xor_eq_zero_iff.mp hD)

end MsVerif.Checksum
