/-
Decoding a pre-order depth list back into the script tree it describes — SPEC-level inverse of
`Tree.depths` (BIP 371 stores a tap tree as exactly this list).  The parser recovers a tree from
its depth list followed by anything (`parseAt_depthsFrom`; `C15.ofDepths_inverts_depths`), so a
judge may decode an implementation's depth list and compare trees / Merkle roots.
-/
import MsVerif.Lemmas.TapTreeSpec

namespace MsVerif.Spec.Tree
variable {α : Type}

/-- parse one subtree whose root is at depth `d`; `fuel` bounds the nesting -/
def parseAt : Nat → Nat → List (Nat × α) → Option (Tree α × List (Nat × α))
  | 0, _, _ => none
  | _ + 1, _, [] => none
  | fuel + 1, d, (k, s) :: rest =>
    if k = d then some (leaf s, rest)
    else if k < d then none
    else
      match parseAt fuel (d + 1) ((k, s) :: rest) with
      | none => none
      | some (l, rest1) =>
        match parseAt fuel (d + 1) rest1 with
        | none => none
        | some (r, rest2) => some (node l r, rest2)

def maxDepthIn (l : List (Nat × α)) : Nat := l.foldl (fun m p => max m p.1) 0

/-- the tree a depth list describes, if it is the pre-order code of one -/
def ofDepths (l : List (Nat × α)) : Option (Tree α) :=
  match parseAt (maxDepthIn l + 2) 0 l with
  | some (t, []) => some t
  | _ => none

theorem parseAt_depthsFrom (t : Tree α) : ∀ (fuel d : Nat) (rest : List (Nat × α)),
    height t < fuel → parseAt fuel d (depthsFrom d t ++ rest) = some (t, rest) := by
  induction t with
  | leaf s =>
    intro fuel d rest h
    cases fuel with
    | zero => simp [height] at h
    | succ fuel => simp [depthsFrom, parseAt]
  | node l r ihl ihr =>
    intro fuel d rest h
    cases fuel with
    | zero => simp at h
    | succ fuel =>
      simp only [height] at h
      simp only [depthsFrom, List.append_assoc]
      rcases hl : depthsFrom (d + 1) l with _ | ⟨⟨k, s⟩, tl⟩
      · exact absurd hl (depthsFrom_ne_nil l (d + 1))
      · have hk : d + 1 ≤ k := depthsFrom_ge l (d + 1) (k, s) (by simp [hl])
        have h1 : ¬ k = d := by omega
        have h2 : ¬ k < d := by omega
        simp only [List.cons_append, parseAt, h1, h2, if_false]
        have e : (k, s) :: (tl ++ (depthsFrom (d + 1) r ++ rest)) =
            depthsFrom (d + 1) l ++ (depthsFrom (d + 1) r ++ rest) := by simp [hl]
        rw [e, ihl fuel (d + 1) _ (by omega)]
        simp only []
        rw [ihr fuel (d + 1) _ (by omega)]

theorem maxDepthIn_ge (l : List (Nat × α)) : ∀ m : Nat,
    m ≤ l.foldl (fun m p => max m p.1) m ∧ ∀ p ∈ l, p.1 ≤ l.foldl (fun m p => max m p.1) m := by
  induction l with
  | nil => intro m; exact ⟨Nat.le_refl _, fun _ h => nomatch h⟩
  | cons q l ih =>
    intro m
    obtain ⟨h1, h2⟩ := ih (max m q.1)
    refine ⟨Nat.le_trans (Nat.le_max_left ..) h1, fun p hp => ?_⟩
    rcases List.mem_cons.mp hp with rfl | hp
    · exact Nat.le_trans (Nat.le_max_right ..) h1
    · exact h2 p hp

theorem le_maxDepthIn {l : List (Nat × α)} {p : Nat × α} (hp : p ∈ l) : p.1 ≤ maxDepthIn l :=
  (maxDepthIn_ge l 0).2 p hp

end MsVerif.Spec.Tree

namespace MsVerif.Tap
open MsVerif.Spec MsVerif.Spec.Tree
variable {α : Type}

/-- a depth list is the pre-order code of at most one tree (prefix form): the parser recovers the
tree and the rest from either side -/
theorem depthsFrom_prefix_inj (t₁ : Tree α) : ∀ (t₂ : Tree α) (d : Nat) (r₁ r₂ : List (Nat × α)),
    depthsFrom d t₁ ++ r₁ = depthsFrom d t₂ ++ r₂ → t₁ = t₂ ∧ r₁ = r₂ := by
  intro t₂ d r₁ r₂ h
  have h₁ := parseAt_depthsFrom t₁ (height t₁ + height t₂ + 1) d r₁ (by omega)
  rw [h, parseAt_depthsFrom t₂ _ d r₂ (by omega)] at h₁
  cases h₁
  exact ⟨rfl, rfl⟩

end MsVerif.Tap

