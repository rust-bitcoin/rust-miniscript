/-
C03 (uniqueness): the induction over the typing derivation (`HasType`).

For a script of non-malleable type whose keys are pairwise distinct, the NON-malleable satisfier
(`satDissat`, `mall = false`, `root_has_sig = true`), every node satisfying C02's `nmP` (one lock unit each, `ua` / `ur`; no raw `pk_h`;
preimages known to the caller; `1 ≤ k ≤ n` at `thresh`) and `uP` (multisig `k ≥ 1`, fragment of the context), and an adversary `adv` who holds at most the caller's signatures and faces the same
transaction: the satisfaction (and, for type `dissat = unique`, the dissatisfaction) satisfies
`AltInv` w.r.t. the table's complete enumeration `SatAll.allSat` / `allDsat`.
-/
import MsVerif.Lemmas.UniqAlt
import MsVerif.Lemmas.UniqMulti
import MsVerif.Lemmas.UniqThresh
import MsVerif.Lemmas.CoreHasType


namespace MsVerif.Uniq
open MsVerif Sat SatTable SatAll MalleLattice Complete

variable {adv : Avail} {sortK : List Key → List Key}

section
variable (c : SatCfg) (ua ur : Bool)

theorem mem_append_comm {α : Type} (a b : List α) (t : α) : t ∈ a ++ b ↔ t ∈ b ++ a := by
  simp [List.mem_append, or_comm]

/- By induction on the typing derivation.  A composite case takes what the malleability rule demands
of the children from `Mall.*_nonMall`, the children's `NMInv` (locks, the unique or signed
dissatisfaction) from `nm_inv`, and combines the children's `AltInv` by `altInv_concat` / `altInv_min` /
`altInv_push` along the body of `satDissat`; disjointness of the children's keys is `Nodup` of the node's. -/
theorem uinv (hm : c.mall = false) (hr : c.rootHasSig = true)
    (hadv : AdvOK adv (availOf c.assets c.ctx)) {ms : Ms} {τ : Ty} (h : HasType ms τ) :
    τ.mall.nonMall = true → allNodes (nmP MODEL_NZ c.assets ua ur) ms = true →
      allNodes (uP c.ctx) ms = true → (keysOf ms).Nodup →
      UInv adv (sortKeys' c.env) ms τ.mall (satDissat c ms) := by
  induction h using HasType.rec (motive_2 := fun xs _ _ =>
    (∀ y ∈ xs.toList, (tyOf y).mall.nonMall = true) →
      allNodesL (nmP MODEL_NZ c.assets ua ur) xs = true → allNodesL (uP c.ctx) xs = true →
      (keysOfL xs).Nodup →
      ∀ y ∈ xs.toList, UInv adv (sortKeys' c.env) y (tyOf y).mall (satDissat c y)) with
  | fls => exact fun _ _ _ _ => uinv_fls c
  | tru => exact fun _ _ _ _ => uinv_tru c
  | @pkK k => exact fun _ _ _ _ => uinv_pkK c hm hadv k
  | @pkH k => exact fun _ _ _ _ => uinv_pkH c hm hadv k
  | rawPkH => exact fun _ hP => nomatch (nmP_iff.mp (allNodes_leaf hP rfl)).2.2.1
  | @multi k ks =>
    intro _ _ hU
    have hU := allNodes_leaf hU rfl
    simp only [uP, Bool.and_eq_true, decide_eq_true_eq, bne_iff_ne, ne_eq] at hU
    exact uinv_multi c hadv k ks hU.1 hU.2
  | @sortedMulti k ks =>
    intro _ _ hU
    have hU := allNodes_leaf hU rfl
    simp only [uP, Bool.and_eq_true, decide_eq_true_eq, bne_iff_ne, ne_eq] at hU
    exact uinv_sortedMulti c hadv k ks hU.1 hU.2
  | @multiA k ks =>
    intro _ _ hU
    have hU := allNodes_leaf hU rfl
    simp only [uP, Bool.and_eq_true, decide_eq_true_eq, beq_iff_eq] at hU
    exact uinv_multiA c hadv k ks hU.1 hU.2
  | @sortedMultiA k ks =>
    intro _ _ hU
    have hU := allNodes_leaf hU rfl
    simp only [uP, Bool.and_eq_true, decide_eq_true_eq, beq_iff_eq] at hU
    exact uinv_sortedMultiA c hadv k ks hU.1 hU.2
  | @after n => exact fun _ _ _ _ => uinv_after c hr hadv n
  | @older n => exact fun _ _ _ _ => uinv_older c hr hadv n
  | @hash kind h =>
    exact fun _ _ _ _ => uinv_hash c kind h
  | alt _ _ ih | swap _ _ _ ih | check _ _ ih | zeroNotEqual _ _ ih =>
    intro hnm hP hU hnd
    have ih := ih hnm (allNodes_un hP rfl).2 (allNodes_un hU rfl).2 hnd
    exact ⟨by simpa only [satDissat, keysOf, allSat] using ih.sat,
      fun h => by simpa only [satDissat, keysOf, allDsat] using ih.du h,
      fun h => by simpa only [allDsat] using ih.dn h⟩
  | dupIf _ _ _ ih =>
    intro hnm hP hU hnd
    have ih := ih hnm (allNodes_un hP rfl).2 (allNodes_un hU rfl).2 hnd
    refine ⟨?_, fun _ => ?_, fun h => absurd h (Mall.wrapD_not_none _)⟩
    · simp only [satDissat, keysOf, allSat]
      exact altInv_push ih.sat .pushOne (fun _ h => by cases h)
    · simp only [satDissat, allDsat]
      exact altInv_lit _ [.pushZero] (fun k h => by simp [items, phItem] at h) _ _
  | verify _ _ ih =>
    intro hnm hP hU hnd
    have ih := ih hnm (allNodes_un hP rfl).2 (allNodes_un hU rfl).2 hnd
    refine ⟨?_, fun h => by simp [Mall.castVerify] at h, fun _ => by simp only [allDsat]⟩
    simpa only [satDissat, keysOf, allSat] using ih.sat
  | nonZero _ _ _ ih =>
    intro hnm hP hU hnd
    have ih := ih hnm (allNodes_un hP rfl).2 (allNodes_un hU rfl).2 hnd
    refine ⟨?_, fun _ => ?_, fun h => absurd h (Mall.wrapD_not_none _)⟩
    · simpa only [satDissat, keysOf, allSat] using ih.sat
    · simp only [satDissat, allDsat]
      exact altInv_lit _ [.pushZero] (fun k h => by simp [items, phItem] at h) _ _
  | andB hl hr' _ _ il ir =>
    intro hnm hP hU hnd
    obtain ⟨hml, hmr⟩ := Mall.andB_nonMall hnm
    obtain ⟨-, hPl, hPr⟩ := allNodes_bin hP rfl
    obtain ⟨-, hUl, hUr⟩ := allNodes_bin hU rfl
    simp only [keysOf] at hnd
    have nl := nm_inv c ua ur hm hr hl hml hPl
    have nr := nm_inv c ua ur hm hr hr' hmr hPr
    have il := il hml hPl hUl (nodup_left hnd)
    have ir := ir hmr hPr hUr (nodup_right hnd)
    refine ⟨?_, fun h => ?_, fun h => ?_⟩
    · simp only [satDissat, keysOf, allSat]
      exact altInv_concat il.sat ir.sat nl.lockS nr.lockS (disj_of_nodup hnd)
    · obtain ⟨ul, ur'⟩ := Mall.andB_unique _ _ h
      simp only [satDissat, allDsat]
      exact altInv_concat (il.du ul) (ir.du ur') nl.lockD nr.lockD (disj_nil_left _)
    · simp only [allDsat]
      rcases Mall.andB_none _ _ h with ⟨h', -⟩ | ⟨h', -⟩ | ⟨h', -⟩
      · rw [il.dn h']; exact cat_nil_right _
      · rw [il.dn h']; exact cat_nil_right _
      · rw [ir.dn h']; rfl
  | andV hl hr' _ _ il ir =>
    intro hnm hP hU hnd
    obtain ⟨hml, hmr⟩ := Mall.andV_nonMall hnm
    obtain ⟨-, hPl, hPr⟩ := allNodes_bin hP rfl
    obtain ⟨-, hUl, hUr⟩ := allNodes_bin hU rfl
    simp only [keysOf] at hnd
    have nl := nm_inv c ua ur hm hr hl hml hPl
    have nr := nm_inv c ua ur hm hr hr' hmr hPr
    refine ⟨?_, fun h => absurd h (Mall.andV_not_unique _ _), fun _ => by simp only [allDsat]⟩
    simp only [satDissat, keysOf, allSat]
    exact altInv_concat (il hml hPl hUl (nodup_left hnd)).sat (ir hmr hPr hUr (nodup_right hnd)).sat
      nl.lockS nr.lockS (disj_of_nodup hnd)
  | @andOr a b z _ _ _ ha hb hz _ _ _ _ _ ia ib iz =>
    intro hnm hP hU hnd
    obtain ⟨hma, hmb, hmz, hda, -⟩ := Mall.andOr_nonMall hnm
    obtain ⟨-, hPa, hPb, hPz⟩ := allNodes_andOr hP
    obtain ⟨-, hUa, hUb, hUz⟩ := allNodes_andOr hU
    simp only [keysOf] at hnd
    have hndbz := nodup_right hnd
    have na := nm_inv c ua ur hm hr ha hma hPa
    have nb := nm_inv c ua ur hm hr hb hmb hPb
    have nz := nm_inv c ua ur hm hr hz hmz hPz
    have ia := ia hma hPa hUa (nodup_left hnd)
    have ib := ib hmb hPb hUb (nodup_left hndbz)
    have iz := iz hmz hPz hUz (nodup_right hndbz)
    have dab : Disj (keysOf a) (keysOf b) := fun k h1 h2 => disj_of_nodup hnd k h1 (by simp [h2])
    have daz : Disj (keysOf a) (keysOf z) := fun k h1 h2 => disj_of_nodup hnd k h1 (by simp [h2])
    have dbz : Disj (keysOf b) (keysOf z) := disj_of_nodup hndbz
    refine ⟨?_, fun h => ?_, fun h => ?_⟩
    · simp only [satDissat, keysOf, allSat, c.minFn_nonmall hm]
      have alt1 := altInv_concat ia.sat ib.sat na.lockS nb.lockS dab
      have alt2' := altInv_concat (ia.du hda) iz.sat na.lockD nz.lockS (disj_nil_left _)
      simp only [List.nil_append] at alt2'
      have hdisj : Disj (keysOf a ++ keysOf b) (keysOf z) := fun k h1 h2 => by
        rcases List.mem_append.mp h1 with h | h
        · exact daz k h h2
        · exact dbz k h h2
      exact (altInv_min alt1 alt2' hdisj).congr (fun k => by simp [List.mem_append])
        (fun t ht => ht)
    · simp only [satDissat, allDsat]
      exact altInv_concat (ia.du hda) (iz.du (Mall.andOr_unique _ _ _ h)) na.lockD nz.lockD (disj_nil_left _)
    · simp only [allDsat]
      rw [iz.dn (Mall.andOr_none _ _ _ h).1]; rfl
  | @orB l r _ _ hl hr' _ _ _ _ il ir =>
    intro hnm hP hU hnd
    obtain ⟨hml, hmr, hdl, hdr, -⟩ := Mall.orB_nonMall hnm
    obtain ⟨-, hPl, hPr⟩ := allNodes_bin hP rfl
    obtain ⟨-, hUl, hUr⟩ := allNodes_bin hU rfl
    simp only [keysOf] at hnd
    have nl := nm_inv c ua ur hm hr hl hml hPl
    have nr := nm_inv c ua ur hm hr hr' hmr hPr
    have il := il hml hPl hUl (nodup_left hnd)
    have ir := ir hmr hPr hUr (nodup_right hnd)
    have hd := disj_of_nodup hnd
    refine ⟨?_, fun _ => ?_, fun h => by simp [Mall.orB] at h⟩
    · simp only [satDissat, keysOf, allSat, c.minFn_nonmall hm]
      have alt1' := altInv_concat (il.du hdl) ir.sat nl.lockD nr.lockS (disj_nil_left _)
      have alt2' := altInv_concat il.sat (ir.du hdr) nl.lockS nr.lockD (disj_nil_right _)
      simp only [List.nil_append, List.append_nil] at alt1' alt2'
      have hd' : Disj (keysOf r) (keysOf l) := fun k h1 h2 => hd k h2 h1
      exact (altInv_min alt1' alt2' hd').congr (fun k => by simp [List.mem_append, or_comm])
        (fun t ht => (mem_append_comm _ _ t).mp ht)
    · simp only [satDissat, allDsat]
      exact altInv_concat (il.du hdl) (ir.du hdr) nl.lockD nr.lockD (disj_nil_left _)
  | orC hl hr' _ _ _ _ il ir =>
    intro hnm hP hU hnd
    obtain ⟨hml, hmr, hdl, -⟩ := Mall.orC_nonMall hnm
    obtain ⟨-, hPl, hPr⟩ := allNodes_bin hP rfl
    obtain ⟨-, hUl, hUr⟩ := allNodes_bin hU rfl
    simp only [keysOf] at hnd
    have nl := nm_inv c ua ur hm hr hl hml hPl
    have nr := nm_inv c ua ur hm hr hr' hmr hPr
    have il := il hml hPl hUl (nodup_left hnd)
    have ir := ir hmr hPr hUr (nodup_right hnd)
    refine ⟨?_, fun h => by simp [Mall.orC] at h, fun _ => by simp only [allDsat]⟩
    simp only [satDissat, keysOf, allSat, c.minFn_nonmall hm]
    have alt2' := altInv_concat (il.du hdl) ir.sat nl.lockD nr.lockS (disj_nil_left _)
    simp only [List.nil_append] at alt2'
    exact altInv_min il.sat alt2' (disj_of_nodup hnd)
  | orD hl hr' _ _ _ _ il ir =>
    intro hnm hP hU hnd
    obtain ⟨hml, hmr, hdl, -⟩ := Mall.orD_nonMall hnm
    obtain ⟨-, hPl, hPr⟩ := allNodes_bin hP rfl
    obtain ⟨-, hUl, hUr⟩ := allNodes_bin hU rfl
    simp only [keysOf] at hnd
    have nl := nm_inv c ua ur hm hr hl hml hPl
    have nr := nm_inv c ua ur hm hr hr' hmr hPr
    have il := il hml hPl hUl (nodup_left hnd)
    have ir := ir hmr hPr hUr (nodup_right hnd)
    refine ⟨?_, fun h => ?_, fun h => ?_⟩
    · simp only [satDissat, keysOf, allSat, c.minFn_nonmall hm]
      have alt2' := altInv_concat (il.du hdl) ir.sat nl.lockD nr.lockS (disj_nil_left _)
      simp only [List.nil_append] at alt2'
      exact altInv_min il.sat alt2' (disj_of_nodup hnd)
    · simp only [satDissat, allDsat]
      exact altInv_concat (il.du hdl) (ir.du (by simpa [Mall.orD] using h)) nl.lockD nr.lockD (disj_nil_left _)
    · simp only [allDsat]
      rw [ir.dn (by simpa [Mall.orD] using h)]; rfl
  | @orI l r _ _ hl hr' _ _ il ir =>
    intro hnm hP hU hnd
    obtain ⟨hml, hmr, -⟩ := Mall.orI_nonMall hnm
    obtain ⟨-, hPl, hPr⟩ := allNodes_bin hP rfl
    obtain ⟨-, hUl, hUr⟩ := allNodes_bin hU rfl
    simp only [keysOf] at hnd
    have nl := nm_inv c ua ur hm hr hl hml hPl
    have nr := nm_inv c ua ur hm hr hr' hmr hPr
    have il := il hml hPl hUl (nodup_left hnd)
    have ir := ir hmr hPr hUr (nodup_right hnd)
    refine ⟨?_, fun h => ?_, fun h => ?_⟩
    · simp only [satDissat, keysOf, allSat, c.minFn_nonmall hm]
      exact altInv_min (altInv_push il.sat .pushOne (fun _ h => by cases h))
        (altInv_push ir.sat .pushZero (fun _ h => by cases h)) (disj_of_nodup hnd)
    · simp only [satDissat, allDsat, c.minFn_nonmall hm]
      rcases Mall.orI_unique _ _ h with ⟨h1, h2⟩ | ⟨h1, h2⟩
      · rw [ir.dn h2, cat_nil_left, List.append_nil]
        have hst := min_left (s1 := pushTop .pushOne (satDissat c l).dissat)
          (s2 := pushTop .pushZero (satDissat c r).dissat)
          (isStk_ne_imp (pushTop_isStk (nl.du h1).1)) (nl.du h1).2 (pushTop_sigOrImp (nr.dn h2))
        exact hst ▸ altInv_push (il.du h1) .pushOne (fun _ h => by cases h)
      · rw [il.dn h1, cat_nil_left, List.nil_append]
        have hst := min_right (s1 := pushTop .pushOne (satDissat c l).dissat)
          (s2 := pushTop .pushZero (satDissat c r).dissat)
          (isStk_ne_imp (pushTop_isStk (nr.du h2).1)) (nr.du h2).2 (pushTop_sigOrImp (nl.dn h1))
        exact hst ▸ altInv_push (ir.du h2) .pushZero (fun _ h => by cases h)
    · simp only [allDsat]
      obtain ⟨h1, h2⟩ := Mall.orI_none _ _ h
      rw [il.dn h1, ir.dn h2]; rfl
  | @threshNil k =>
    intro _ hP
    have hkk := nmP_thresh (allNodes_thresh hP).1
    exact absurd (Nat.le_trans hkk.1 hkk.2) (by decide)
  | @thresh k x xs t ts hx hxs _ _ _ _ ihx ihxs =>
    intro hnm hP hU hnd
    obtain ⟨hPn, hPxs⟩ := allNodes_thresh hP
    have hUxs := (allNodes_thresh hU).2
    have hkk := nmP_thresh hPn
    obtain ⟨htsEq, htyx⟩ := (HasTypes.cons hx hxs).eq_map
    have hmap : (t :: ts).map (·.mall) = (MsList.cons x xs).toList.map (fun y => (tyOf y).mall) := by
      rw [htsEq, List.map_map]; rfl
    rw [hmap] at hnm ⊢
    obtain ⟨hallM, hallU, -, -, hdnn⟩ := Mall.threshold_nonMall hnm
    rw [List.all_map, List.all_eq_true] at hallM hallU
    have hallM : ∀ y ∈ (MsList.cons x xs).toList, (tyOf y).mall.nonMall = true :=
      fun y hy => by simpa using hallM y hy
    simp only [keysOf] at hnd
    have hPxs' := hPxs
    rw [allNodesL_cons, Bool.and_eq_true] at hPxs
    rw [allNodesL_cons, Bool.and_eq_true] at hUxs
    have hnd' := hnd
    simp only [keysOfL] at hnd
    have htx := tyOf_eq hx
    have := thresh_uinv (adv := adv) c k (.cons x xs) (fun y => (tyOf y).mall) _ ua ur
      (forall_cons (htx ▸ ihx (htx ▸ hallM x List.mem_cons_self) hPxs.1 hUxs.1 (nodup_left hnd))
        (ihxs (fun y hy => hallM y (List.mem_cons_of_mem _ hy)) hPxs.2 hUxs.2 (nodup_right hnd)))
      (fun y hy => nm_inv c ua ur hm hr (htyx y hy) (hallM y hy)
        (allNodesL_mem _ hPxs' y hy))
      (fun y hy => by simpa using hallU y hy) hkk.1
      (by rw [MsList.length_toList]; exact hkk.2) hnd' hdnn
    simpa only [satDissat_thresh, hm, satDissats_eq_map, keysOf, allSat, allDsat, Bool.false_eq_true, if_false] using this
  | nil => rename_i hy; cases hy
  | @cons x xs t ts hx hxs ihx ihxs =>
    rename_i hall hP hU hnd y hy
    rw [allNodesL_cons, Bool.and_eq_true] at hP hU
    simp only [keysOfL] at hnd
    have htx := tyOf_eq hx
    exact forall_cons (htx ▸ ihx (htx ▸ hall x List.mem_cons_self) hP.1 hU.1 (nodup_left hnd))
      (ihxs (fun y hy => hall y (List.mem_cons_of_mem _ hy)) hP.2 hU.2 (nodup_right hnd)) y hy

theorem uinvs (hm : c.mall = false) (hr : c.rootHasSig = true)
    (hadv : AdvOK adv (availOf c.assets c.ctx)) :
    (xs : MsList) → allNodesL (nmP MODEL_NZ c.assets ua ur) xs = true →
      allNodesL (uP c.ctx) xs = true → (keysOfL xs).Nodup →
      ∀ x ∈ xs.toList, ∀ t, typeOf x = some t → t.mall.nonMall = true →
        UInv adv (sortKeys' c.env) x t.mall (satDissat c x) :=
  fun xs hP hU hnd x hx _ ht hnm => uinv c ua ur hm hr hadv (.of_typeOf x ht) hnm
    (allNodesL_mem xs hP x hx) (allNodesL_mem xs hU x hx) (keysOfL_nodup_mem xs hnd x hx)

end

end MsVerif.Uniq
