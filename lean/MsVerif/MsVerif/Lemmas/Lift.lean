/-
Lifting a miniscript to a policy (C07): the explicit-stack loop over `rtl_post_order_iter` is the
structural fold `liftRaw`, whose truth table is the direct reading `sem`; for a well-typed
miniscript the specification's satisfaction table agrees with `sem` because every `d`-typed
fragment has a canonical dissatisfaction.
-/
import MsVerif.Model.Lift
import MsVerif.Model.TypeCheck
import MsVerif.Lemmas.PolicyNorm
import MsVerif.Lemmas.CoreSatTable

namespace MsVerif.Lift
open MsVerif MsVerif.Pol MsVerif.MsSem MsVerif.SatTable

theorem liftLoop_cons (x : Ms) (rest : List Ms) (st : List Policy) :
    liftLoop (x :: rest) st =
      match liftStep st x with
      | .ok st' => liftLoop rest st'
      | .error e => .error e := rfl

theorem liftRawList_length : ∀ (xs : MsList) (ps : List Policy),
    liftRawList xs = some ps → ps.length = xs.length
  | .nil, ps, h => by simp [liftRawList] at h; subst h; rfl
  | .cons x xs, ps, h => by
    simp only [liftRawList] at h
    cases hx : liftRaw x <;> cases hxs : liftRawList xs <;> simp [hx, hxs] at h
    subst h
    simp [MsList.length, liftRawList_length xs _ hxs]

mutual
theorem liftLoop_rtlPost : ∀ (ms : Ms) (rest : List Ms) (st : List Policy),
    liftLoop (rtlPost ms ++ rest) st =
      match liftRaw ms with
      | some p => liftLoop rest (p :: st)
      | none => .error .rawDescriptorLift
  | .tru, rest, st | .fls, rest, st | .pkK _, rest, st | .pkH _, rest, st | .rawPkH _, rest, st
  | .after _, rest, st | .older _, rest, st | .hash _ _, rest, st | .multi _ _, rest, st
  | .sortedMulti _ _, rest, st | .multiA _ _, rest, st | .sortedMultiA _ _, rest, st => rfl
  | .alt x, rest, st | .swap x, rest, st | .check x, rest, st | .dupIf x, rest, st
  | .verify x, rest, st | .nonZero x, rest, st | .zeroNotEqual x, rest, st => by
    rw [rtlPost, List.append_assoc, liftLoop_rtlPost x, liftRaw]
    cases liftRaw x <;> rfl
  | .andV l r, rest, st | .andB l r, rest, st | .orB l r, rest, st | .orD l r, rest, st
  | .orC l r, rest, st | .orI l r, rest, st => by
    rw [rtlPost, List.append_assoc, liftLoop_rtlPost r, liftRaw]
    cases hr : liftRaw r with
    | none => cases liftRaw l <;> simp
    | some b =>
      simp only []
      rw [List.append_assoc, liftLoop_rtlPost l]
      cases hl : liftRaw l <;> rfl
  | .andOr a b c, rest, st => by
    rw [rtlPost, List.append_assoc, liftLoop_rtlPost c, liftRaw]
    cases hc : liftRaw c with
    | none => cases liftRaw a <;> cases liftRaw b <;> simp
    | some z =>
      simp only []
      rw [List.append_assoc, liftLoop_rtlPost b]
      cases hb : liftRaw b with
      | none => cases liftRaw a <;> simp
      | some y =>
        simp only []
        rw [List.append_assoc, liftLoop_rtlPost a]
        cases ha : liftRaw a <;> rfl
  | .thresh k xs, rest, st => by
    rw [rtlPost, List.append_assoc, liftLoop_rtlPostList xs, liftRaw]
    cases hxs : liftRawList xs with
    | none => simp
    | some ps =>
      have hlen := liftRawList_length xs ps hxs
      have hn : ¬ (ps.length + st.length < ps.length) := by omega
      simp [liftLoop_cons, liftStep, ← hlen, hn]
theorem liftLoop_rtlPostList : ∀ (xs : MsList) (rest : List Ms) (st : List Policy),
    liftLoop (rtlPostList xs ++ rest) st =
      match liftRawList xs with
      | some ps => liftLoop rest (ps ++ st)
      | none => .error .rawDescriptorLift
  | .nil, rest, st => by simp [rtlPostList, liftRawList]
  | .cons x xs, rest, st => by
    rw [rtlPostList, List.append_assoc, liftLoop_rtlPostList xs, liftRawList]
    cases hxs : liftRawList xs with
    | none => cases liftRaw x <;> simp
    | some ps =>
      simp only []
      rw [liftLoop_rtlPost x]
      cases hx : liftRaw x <;> simp
end

theorem liftLoop_eq (ms : Ms) :
    liftLoop (rtlPost ms) [] =
      match liftRaw ms with
      | some p => .ok [p]
      | none => .error .rawDescriptorLift := by
  have := liftLoop_rtlPost ms [] []
  rw [List.append_nil] at this
  rw [this]
  cases liftRaw ms <;> simp [liftLoop]

theorem raw_spec (ms : Ms) : (liftRaw ms).isSome = noRaw ms ∧ mentionsRaw ms = !noRaw ms := by
  induction ms using Ms.rec (motive_2 := fun xs =>
    (liftRawList xs).isSome = noRawList xs ∧ mentionsRawL xs = !noRawList xs) with
  | tru | fls | pkK | pkH | rawPkH | after | older | hash | multi | sortedMulti | multiA
  | sortedMultiA => simp [liftRaw, noRaw, mentionsRaw]
  | alt x ih | swap x ih | check x ih | dupIf x ih | verify x ih | nonZero x ih
  | zeroNotEqual x ih => simpa only [liftRaw, noRaw, mentionsRaw] using ih
  | andV l r ihl ihr | andB l r ihl ihr | orB l r ihl ihr | orD l r ihl ihr | orC l r ihl ihr
  | orI l r ihl ihr =>
    simp only [liftRaw, noRaw, mentionsRaw, ihl.2, ihr.2, ← ihl.1, ← ihr.1]
    cases liftRaw l <;> cases liftRaw r <;> simp
  | andOr a b c iha ihb ihc =>
    simp only [liftRaw, noRaw, mentionsRaw, iha.2, ihb.2, ihc.2, ← iha.1, ← ihb.1, ← ihc.1]
    cases liftRaw a <;> cases liftRaw b <;> cases liftRaw c <;> simp
  | thresh k xs ih =>
    simp only [liftRaw, noRaw, mentionsRaw, ih.2, ← ih.1]
    cases liftRawList xs <;> simp
  | nil => simp [liftRawList, noRawList, mentionsRawL]
  | cons x xs ihx ihxs =>
    simp only [liftRawList, noRawList, mentionsRawL, ihx.2, ihxs.2, ← ihx.1, ← ihxs.1]
    cases liftRaw x <;> cases liftRawList xs <;> simp

theorem liftRaw_isSome (ms : Ms) : (liftRaw ms).isSome = noRaw ms := (raw_spec ms).1

theorem mentionsRaw_eq (ms : Ms) : mentionsRaw ms = !noRaw ms := (raw_spec ms).2

theorem liftRawList_isSome : ∀ xs : MsList, (liftRawList xs).isSome = noRawList xs := fun xs => by
  have := liftRaw_isSome (.thresh 0 xs)
  simp only [liftRaw, noRaw] at this
  rw [← this]; cases liftRawList xs <;> rfl

theorem mentionsRawL_eq : ∀ xs : MsList, mentionsRawL xs = !noRawList xs := fun xs => by
  simpa only [mentionsRaw, noRaw] using mentionsRaw_eq (.thresh 0 xs)

theorem countA_keys (v : Atom → Bool) (ks : List Key) :
    countA v (ks.map keyPol) = (ks.filter (fun k => v (.key k))).length := by
  rw [countA_eq, List.countP_map, List.countP_eq_length_filter]; rfl

mutual
theorem liftRaw_holds (W : World) : ∀ (ms : Ms) (p : Policy),
    liftRaw ms = some p → holds W p = sem W ms
  | .tru, p, h | .fls, p, h | .pkK _, p, h | .pkH _, p, h | .after _, p, h | .older _, p, h
  | .hash _ _, p, h | .multi _ _, p, h | .sortedMulti _ _, p, h | .multiA _ _, p, h
  | .sortedMultiA _ _, p, h => by
    simp [liftRaw] at h; subst h
    simp [holds, holdsA, sem, keyPol, countA_keys, World.val]
  | .rawPkH _, p, h => by simp [liftRaw] at h
  | .alt x, p, h | .swap x, p, h | .check x, p, h | .dupIf x, p, h | .verify x, p, h
  | .nonZero x, p, h | .zeroNotEqual x, p, h => by
    simp only [liftRaw] at h
    simp only [sem]; exact liftRaw_holds W x p h
  | .andV l r, p, h | .andB l r, p, h | .orB l r, p, h | .orD l r, p, h | .orC l r, p, h
  | .orI l r, p, h => by
    simp only [liftRaw] at h
    cases hl : liftRaw l <;> cases hr : liftRaw r <;> simp [hl, hr] at h
    subst h
    have h1 := liftRaw_holds W l _ hl; have h2 := liftRaw_holds W r _ hr
    simp only [holds] at h1 h2
    simp only [holds, holdsA, countA, sem, h1, h2]
    cases sem W l <;> cases sem W r <;> simp
  | .andOr a b c, p, h => by
    simp only [liftRaw] at h
    cases ha : liftRaw a <;> cases hb : liftRaw b <;> cases hc : liftRaw c <;>
      simp [ha, hb, hc] at h
    subst h
    have h1 := liftRaw_holds W a _ ha; have h2 := liftRaw_holds W b _ hb
    have h3 := liftRaw_holds W c _ hc
    simp only [holds] at h1 h2 h3
    simp only [holds, holdsA, countA, sem, h1, h2, h3]
    cases sem W a <;> cases sem W b <;> cases sem W c <;> simp
  | .thresh k xs, p, h => by
    simp only [liftRaw] at h
    cases hxs : liftRawList xs with
    | none => simp [hxs] at h
    | some ps =>
      simp [hxs] at h; subst h
      simp only [holds, holdsA, sem, liftRawList_count W xs ps hxs]
theorem liftRawList_count (W : World) : ∀ (xs : MsList) (ps : List Policy),
    liftRawList xs = some ps → countA W.val ps = semCount W xs
  | .nil, ps, h => by simp [liftRawList] at h; subst h; simp [countA, semCount]
  | .cons x xs, ps, h => by
    simp only [liftRawList] at h
    cases hx : liftRaw x <;> cases hxs : liftRawList xs <;> simp [hx, hxs] at h
    subst h
    have h1 := liftRaw_holds W x _ hx
    simp only [holds] at h1
    simp only [countA, semCount, h1, liftRawList_count W xs _ hxs]
end

/-- By induction over the typing of the children of a `thresh`, with the statement about one fragment as the
other motive. -/
theorem table_hasTypes (W : World) {xs : MsList} {ts : List Ty} (h : HasTypes xs ts) :
    noRawList xs = true →
    countCanSat (availOfWorld W) xs = semCount W xs ∧
      ((∀ t ∈ ts, t.corr.dissat = true) → allDsatEx (availOfWorld W) xs = true) := by
  have step : ∀ {x : Ms} {xs : MsList} {t : Ty} {ts : List Ty},
      (satEx (availOfWorld W) x = sem W x ∧ (t.corr.dissat = true → dsatEx (availOfWorld W) x = true)) →
      (countCanSat (availOfWorld W) xs = semCount W xs ∧
        ((∀ t ∈ ts, t.corr.dissat = true) → allDsatEx (availOfWorld W) xs = true)) →
      countCanSat (availOfWorld W) (.cons x xs) = semCount W (.cons x xs) ∧
        ((∀ t' ∈ t :: ts, t'.corr.dissat = true) → allDsatEx (availOfWorld W) (.cons x xs) = true) := by
    intro x xs t ts i1 i2
    refine ⟨by simp only [countCanSat, semCount, i1.1, i2.1], fun hd => ?_⟩
    rw [allDsatEx, i1.2 (hd t (by simp)), i2.2 fun t' ht' => hd t' (List.mem_cons_of_mem _ ht')]; rfl
  induction h using HasTypes.rec (motive_1 := fun ms τ _ => noRaw ms = true →
    satEx (availOfWorld W) ms = sem W ms
      ∧ (τ.corr.dissat = true → dsatEx (availOfWorld W) ms = true)) with
  | tru => simp [satEx, sem, Ty.TRUE, Corr.TRUE]
  | after | older => simp [satEx, sem, availOfWorld, Ty.time, Corr.time]
  | rawPkH => rename_i hr; simp [noRaw] at hr
  | fls | pkK | pkH | hash | multi | sortedMulti | multiA | sortedMultiA =>
    simp [satEx, dsatEx, sem, availOfWorld]
  | alt _ _ ih | swap _ _ _ ih | check _ _ ih | zeroNotEqual _ _ ih =>
    rename_i hr; simp only [satEx, dsatEx, sem]; exact ih hr
  | verify _ _ ih | dupIf _ _ _ ih | nonZero _ _ _ ih =>
    rename_i hr; simp only [satEx, dsatEx, sem]; exact ⟨(ih hr).1, by simp⟩
  | andV _ _ _ _ ihl ihr =>
    rename_i hr; simp only [noRaw, Bool.and_eq_true] at hr
    simp only [satEx, dsatEx, sem, (ihl hr.1).1, (ihr hr.2).1]; simp
  | andB _ _ _ _ ihl ihr =>
    rename_i hr; simp only [noRaw, Bool.and_eq_true] at hr
    simp only [satEx, dsatEx, sem, (ihl hr.1).1, (ihr hr.2).1, Bool.and_eq_true]
    exact ⟨trivial, fun hd => ⟨(ihl hr.1).2 hd.1, (ihr hr.2).2 hd.2⟩⟩
  | orB _ _ _ _ d1 d2 ihl ihr =>
    rename_i hr; simp only [noRaw, Bool.and_eq_true] at hr
    simp only [satEx, dsatEx, sem, (ihl hr.1).1, (ihr hr.2).1, (ihl hr.1).2 d1, (ihr hr.2).2 d2]; simp
  | orD _ _ _ _ d1 _ ihl ihr =>
    rename_i hr; simp only [noRaw, Bool.and_eq_true] at hr
    simp only [satEx, dsatEx, sem, (ihl hr.1).1, (ihr hr.2).1, (ihl hr.1).2 d1]
    exact ⟨by simp, fun hd => by simp [(ihr hr.2).2 hd]⟩
  | orC _ _ _ _ d1 _ ihl ihr =>
    rename_i hr; simp only [noRaw, Bool.and_eq_true] at hr
    simp only [satEx, dsatEx, sem, (ihl hr.1).1, (ihr hr.2).1, (ihl hr.1).2 d1]; simp
  | orI _ _ _ _ ihl ihr =>
    rename_i hr; simp only [noRaw, Bool.and_eq_true] at hr
    simp only [satEx, dsatEx, sem, (ihl hr.1).1, (ihr hr.2).1, Bool.or_eq_true]
    exact ⟨trivial, fun hd => hd.elim (fun x => Or.inl ((ihl hr.1).2 x)) (fun x => Or.inr ((ihr hr.2).2 x))⟩
  | andOr _ _ _ _ d1 _ _ _ ihx ihy ihz =>
    rename_i hr; simp only [noRaw, Bool.and_eq_true] at hr
    simp only [satEx, dsatEx, sem, (ihx hr.1.1).1, (ihy hr.1.2).1, (ihz hr.2).1, (ihx hr.1.1).2 d1]
    exact ⟨by simp, fun hd => by simp [(ihz hr.2).2 hd]⟩
  | threshNil => simp [satEx, dsatEx, sem, threshEx, countOnlySat, countCanSat, countDead, allDsatEx, semCount]
  | thresh _ _ _ _ hd hrest ihx ihxs =>
    rename_i hr; simp only [noRaw, noRawList, Bool.and_eq_true] at hr
    obtain ⟨c1, c⟩ := step (ihx hr.1) (ihxs hr.2)
    have c2 := c fun t' ht' => by
      rcases List.mem_cons.mp ht' with rfl | h'
      · exact hd
      · exact (hrest t' h').2.2
    simp [satEx_thresh_of_allDsat _ _ _ c2, dsatEx, sem, c1, c2]
  | nil => intro _; simp [countCanSat, semCount, allDsatEx]
  | cons _ _ ihx ihxs =>
    intro hr; simp only [noRawList, Bool.and_eq_true] at hr
    exact step (ihx hr.1) (ihxs hr.2)

theorem table_ms (W : World) (ms : Ms) (τ : Ty) (h : typeOf ms = some τ) (hr : noRaw ms = true) :
    satEx (availOfWorld W) ms = sem W ms
      ∧ (τ.corr.dissat = true → dsatEx (availOfWorld W) ms = true) := by
  obtain ⟨c1, c⟩ := table_hasTypes W (.cons (.of_typeOf ms h) .nil) (by simpa [noRawList] using hr)
  simp only [countCanSat, semCount, Nat.add_zero] at c1
  refine ⟨by cases hs : satEx (availOfWorld W) ms <;> cases hm : sem W ms <;> simp [hs, hm] at c1 ⊢, fun hd => ?_⟩
  simpa [allDsatEx] using c (by simpa using hd)

theorem table_list (W : World) : ∀ (xs : MsList) (τs : List Ty), typesOf xs = some τs →
    noRawList xs = true → (∀ t ∈ τs, t.corr.dissat = true) →
    countCanSat (availOfWorld W) xs = semCount W xs ∧ allDsatEx (availOfWorld W) xs = true
      ∧ countOnlySat (availOfWorld W) xs = 0 ∧ countDead (availOfWorld W) xs = 0 :=
  fun xs _ h hr hd =>
    let ⟨c1, c⟩ := table_hasTypes W (.of_typesOf xs h) hr
    let ⟨c4, c3, _⟩ := counts_of_allDsat _ xs (c hd)
    ⟨c1, c hd, c3, c4⟩

theorem lift_eq (env : KeyEnv) (ctx : Ctx) (ms : Ms) :
    lift env ctx ms =
      match liftCheck env ctx ms with
      | .error e => .error e
      | .ok () =>
        match liftRaw ms with
        | some p => .ok (Sem.normalized p)
        | none => .error .rawDescriptorLift := by
  unfold lift
  cases liftCheck env ctx ms with
  | error e => rfl
  | ok u =>
    cases u
    simp only [liftLoop_eq]
    cases liftRaw ms <;> rfl

/-- no `unwrap()` of the loop can fail -/
theorem lift_no_panic (env : KeyEnv) (ctx : Ctx) (ms : Ms) :
    lift env ctx ms ≠ .error .panic := by
  rw [lift_eq]
  unfold liftCheck
  cases withinResourceLimits env ctx ms <;> cases hasMixedTimelocks env ctx ms <;>
    cases liftRaw ms <;> simp

theorem lift_ok_raw {env : KeyEnv} {ctx : Ctx} {ms : Ms} {p : Policy}
    (h : lift env ctx ms = .ok p) : ∃ q, liftRaw ms = some q ∧ p = Sem.normalized q := by
  rw [lift_eq] at h
  cases hc : liftCheck env ctx ms <;> cases hq : liftRaw ms <;> simp [hc, hq] at h
  exact ⟨_, rfl, h.symm⟩

theorem lift_holds (env : KeyEnv) (ctx : Ctx) (ms : Ms) (p : Policy)
    (h : lift env ctx ms = .ok p) (W : World) : holds W p = sem W ms := by
  obtain ⟨q, hq, rfl⟩ := lift_ok_raw h
  rw [holds, normalized_holdsA]
  exact liftRaw_holds W ms q hq

theorem liftLeaves_any (env : KeyEnv) (W : World) : ∀ (ls : List Ms) (ps : List Policy),
    liftLeaves env ls = .ok ps →
      decide (1 ≤ countA W.val ps) = ls.any (sem W) ∧ ps.length = ls.length
  | [], ps, h => by simp [liftLeaves] at h; subst h; simp [countA]
  | l :: ls, ps, h => by
    simp only [liftLeaves] at h
    cases hl : lift env .tap l <;> cases hls : liftLeaves env ls <;> simp [hl, hls] at h
    subst h
    have h1 := lift_holds env .tap l _ hl W
    have ⟨h2, h3⟩ := liftLeaves_any env W ls _ hls
    simp only [holds] at h1
    simp only [countA, h1, List.any_cons, ← h2, List.length_cons, h3]
    cases sem W l <;> simp <;> omega

/-- one policy per leaf (`liftLeaves_any`'s second half does not depend on the world) -/
theorem liftLeaves_length (env : KeyEnv) (ls : List Ms) (ps : List Policy) (h : liftLeaves env ls = .ok ps) :
    ps.length = ls.length :=
  (liftLeaves_any env ⟨fun _ => false, fun _ _ => false, 0, 0⟩ ls ps h).2

theorem liftLeaves_no_panic (env : KeyEnv) : ∀ ls : List Ms, liftLeaves env ls ≠ .error .panic
  | [] => by simp [liftLeaves]
  | l :: ls => by
    have h1 := lift_no_panic env .tap l
    have h2 := liftLeaves_no_panic env ls
    simp only [liftLeaves]
    cases hl : lift env .tap l <;> cases hls : liftLeaves env ls <;> simp_all

end MsVerif.Lift
