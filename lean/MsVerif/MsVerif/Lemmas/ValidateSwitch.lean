/-
Helper lemmas for C12/T2 (model level): switching one `allow_X` off, or lowering one limit,
turns `validOK` into `validOK && c`, `c` the test the change adds (`switch_*`, `limit_*`, all through `validOK_switch`);
the `D_*` name the tests that need a definition.
-/
import MsVerif.Lemmas.ValidateLattice
import MsVerif.Lemmas.CoreMisc

namespace MsVerif

variable (env : KeyEnv) (K : KeyInfo) (ctx : Ctx) (p : ValidationParams) (ms : Ms)

def D_malleable (ms : Ms) : Bool := match typeOf ms with | some ty => !ty.mall.nonMall | none => false
def D_nonB (ms : Ms) : Bool := match typeOf ms with | some ty => ty.corr.base != .B | none => false
def D_sigless (ms : Ms) : Bool := match typeOf ms with | some ty => !ty.mall.signed | none => false
def D_unsat (env : KeyEnv) (ctx : Ctx) (ms : Ms) : Bool := (extOf env ctx ms).satData.isNone
def isDupIf : Ms → Bool | .dupIf _ => true | _ => false
def isOrI : Ms → Bool | .orI _ _ => true | _ => false
def isMulti : Ms → Bool | .multi _ _ | .sortedMulti _ _ => true | _ => false
def isMultiA : Ms → Bool | .multiA _ _ | .sortedMultiA _ _ => true | _ => false
def isRawPkh : Ms → Bool | .rawPkH _ => true | _ => false
def D_kind (K : KeyInfo) (kind : KeyKind) (ms : Ms) : Bool := ms.iterPk.any fun k => K.kind k == kind
def D_multipath (K : KeyInfo) (ms : Ms) : Bool := (mpRun none (ms.iterPk.map K.nPaths)).isNone

theorem all_or_const {α} (l : List α) (c : Bool) (f : α → Bool) :
    l.all (fun a => c || f a) = (c || l.all f) := by
  cases c <;> simp

/-! ### the general step

`validOK` is a conjunction of clauses.  A change of the parameters that turns one clause `X` into
`X && c` and leaves the others as they are (definitionally, since they read other fields) turns
`validOK` into `validOK && c`: rewrite that clause, the rest is associativity and commutativity
of `&&`. -/

theorem validOK_switch {p' : ValidationParams} {c : Bool}
    (h : ∀ ty, typeOf ms = some ty →
      (nonTopOK env K ctx p' ms && topOK p' ty (extOf env ctx ms))
        = (nonTopOK env K ctx p ms && topOK p ty (extOf env ctx ms) && c)) :
    validOK env K ctx p' ms = (validOK env K ctx p ms && c) := by
  unfold validOK
  cases hty : typeOf ms with
  | none => rfl
  | some ty => exact h ty hty

theorem or_switch (a t : Bool) : (false || t) = ((a || t) && t) := by cases a <;> cases t <;> rfl

theorem le_switch {x L M : Nat} (h : L ≤ M) :
    decide (x ≤ L) = (decide (x ≤ M) && decide (x ≤ L)) := by
  by_cases h1 : x ≤ L
  · simp [h1, Nat.le_trans h1 h]
  · simp [h1]

theorem switch_malleability :
    validOK env K ctx { p with allowMalleability := false } ms
      = (validOK env K ctx p ms && !D_malleable ms) :=
  validOK_switch env K ctx p ms fun ty hty => by
    simp only [topOK, D_malleable, hty, Bool.not_not, or_switch p.allowMalleability]
    ac_rfl

theorem switch_nonB :
    validOK env K ctx { p with allowNonB := false } ms = (validOK env K ctx p ms && !D_nonB ms) :=
  validOK_switch env K ctx p ms fun ty hty => by
    simp only [topOK, D_nonB, hty, bne, Bool.not_not, or_switch p.allowNonB]
    ac_rfl

theorem switch_sigless :
    validOK env K ctx { p with allowSiglessBranch := false } ms
      = (validOK env K ctx p ms && !D_sigless ms) :=
  validOK_switch env K ctx p ms fun ty hty => by
    simp only [topOK, D_sigless, hty, Bool.not_not, or_switch p.allowSiglessBranch]
    ac_rfl

theorem switch_unsatisfiable :
    validOK env K ctx { p with allowUnsatisfiable := false } ms
      = (validOK env K ctx p ms && !D_unsat env ctx ms) :=
  validOK_switch env K ctx p ms fun ty _ => by
    simp only [topOK, D_unsat, Option.not_isNone, or_switch p.allowUnsatisfiable]
    ac_rfl

theorem switch_duplicateKeys :
    validOK env K ctx { p with allowDuplicateKeys := false } ms
      = (validOK env K ctx p ms && !hasRepeatedKeys ms) :=
  validOK_switch env K ctx p ms fun ty _ => by
    simp only [nonTopOK, or_switch p.allowDuplicateKeys]
    ac_rfl

theorem switch_mixedTimeLocks :
    validOK env K ctx { p with allowMixedTimeLocks := false } ms
      = (validOK env K ctx p ms && !hasMixedTimelocks (extOf env ctx ms)) :=
  validOK_switch env K ctx p ms fun ty _ => by
    simp only [nonTopOK, or_switch p.allowMixedTimeLocks]
    ac_rfl

theorem switch_multipath :
    validOK env K ctx { p with allowInconsistentMultipathKeys := false } ms
      = (validOK env K ctx p ms && !D_multipath K ms) :=
  validOK_switch env K ctx p ms fun ty _ => by
    simp only [nonTopOK, nodesOK, D_multipath, Option.not_isNone,
      or_switch p.allowInconsistentMultipathKeys]
    ac_rfl

theorem flagOK_eq (p : ValidationParams) (m : Ms) :
    flagOK p m = ((p.allowDupIf || !isDupIf m) && (p.allowOrI || !isOrI m)
      && (p.allowMulti || !isMulti m) && (p.allowMultiA || !isMultiA m)
      && (p.allowRawPkh || !isRawPkh m)) := by
  cases m <;> simp [flagOK, isDupIf, isOrI, isMulti, isMultiA, isRawPkh]

theorem all_flagOK (p : ValidationParams) (l : List Ms) :
    l.all (flagOK p) = ((p.allowDupIf || !l.any isDupIf) && (p.allowOrI || !l.any isOrI)
      && (p.allowMulti || !l.any isMulti) && (p.allowMultiA || !l.any isMultiA)
      && (p.allowRawPkh || !l.any isRawPkh)) := by
  rw [show flagOK p = _ from funext (flagOK_eq p)]
  simp only [List.all_and, all_or_const, ← List.not_any_eq_all_not]

theorem switch_dupIf :
    validOK env K ctx { p with allowDupIf := false } ms
      = (validOK env K ctx p ms && !ms.preorder.any isDupIf) :=
  validOK_switch env K ctx p ms fun ty _ => by
    simp only [nonTopOK, nodesOK, all_flagOK, or_switch p.allowDupIf]
    ac_rfl

theorem switch_orI :
    validOK env K ctx { p with allowOrI := false } ms
      = (validOK env K ctx p ms && !ms.preorder.any isOrI) :=
  validOK_switch env K ctx p ms fun ty _ => by
    simp only [nonTopOK, nodesOK, all_flagOK, or_switch p.allowOrI]
    ac_rfl

theorem switch_multi :
    validOK env K ctx { p with allowMulti := false } ms
      = (validOK env K ctx p ms && !ms.preorder.any isMulti) :=
  validOK_switch env K ctx p ms fun ty _ => by
    simp only [nonTopOK, nodesOK, all_flagOK, or_switch p.allowMulti]
    ac_rfl

theorem switch_multiA :
    validOK env K ctx { p with allowMultiA := false } ms
      = (validOK env K ctx p ms && !ms.preorder.any isMultiA) :=
  validOK_switch env K ctx p ms fun ty _ => by
    simp only [nonTopOK, nodesOK, all_flagOK, or_switch p.allowMultiA]
    ac_rfl

theorem switch_rawPkh :
    validOK env K ctx { p with allowRawPkh := false } ms
      = (validOK env K ctx p ms && !ms.preorder.any isRawPkh) :=
  validOK_switch env K ctx p ms fun ty _ => by
    simp only [nonTopOK, nodesOK, all_flagOK, or_switch p.allowRawPkh]
    ac_rfl

theorem D_kind_not (kind : KeyKind) :
    (!D_kind K kind ms) = ms.iterPk.all fun k => K.kind k != kind := by
  unfold D_kind; rw [List.not_any_eq_all_not]; rfl

theorem all_pkOK :
    (ms.iterPk.all fun k => pkOK p (K.kind k))
      = ((p.allowCompressedKeys || (p.allowXOnlyKeys || !D_kind K .compressed ms))
        && (p.allowUncompressedKeys || !D_kind K .uncompressed ms)
        && (p.allowXOnlyKeys || !D_kind K .xonly ms)) := by
  simp only [pkOK, List.all_and, all_or_const, D_kind_not, Bool.or_assoc]

theorem switch_uncompressedKeys :
    validOK env K ctx { p with allowUncompressedKeys := false } ms
      = (validOK env K ctx p ms && !D_kind K .uncompressed ms) :=
  validOK_switch env K ctx p ms fun ty _ => by
    simp only [nonTopOK, nodesOK, all_pkOK, or_switch p.allowUncompressedKeys]
    ac_rfl

theorem or_switch_mid (c x t : Bool) : (c || (false || t)) = ((c || (x || t)) && (c || t)) := by
  cases c <;> cases x <;> cases t <;> rfl

/-- the x-only switch sits in two clauses: its own, and the compressed-key clause, where it is
the "compressed key stands for its x-only key" escape of `validate_pk` -/
theorem switch_xOnlyKeys :
    validOK env K ctx { p with allowXOnlyKeys := false } ms
      = (validOK env K ctx p ms && (!D_kind K .xonly ms
          && (p.allowCompressedKeys || !D_kind K .compressed ms))) :=
  validOK_switch env K ctx p ms fun ty _ => by
    simp only [nonTopOK, nodesOK, all_pkOK]
    rw [or_switch_mid _ p.allowXOnlyKeys, or_switch p.allowXOnlyKeys]
    ac_rfl

theorem switch_compressedKeys :
    validOK env K ctx { p with allowCompressedKeys := false } ms
      = (validOK env K ctx p ms && (p.allowXOnlyKeys || !D_kind K .compressed ms)) :=
  validOK_switch env K ctx p ms fun ty _ => by
    simp only [nonTopOK, nodesOK, all_pkOK, or_switch p.allowCompressedKeys]
    ac_rfl

theorem limit_depth (L : Nat) (hL : L ≤ p.maxRecursiveDepth) :
    validOK env K ctx { p with maxRecursiveDepth := L } ms
      = (validOK env K ctx p ms && decide ((extOf env ctx ms).treeHeight ≤ L)) :=
  validOK_switch env K ctx p ms fun ty _ => by
    simp only [nonTopOK]
    rw [le_switch hL]
    ac_rfl

theorem limit_scriptSize (L : Nat) (hL : L ≤ p.maxScriptSize) (hfin : L < USIZE_MAX) :
    validOK env K ctx { p with maxScriptSize := L } ms
      = (validOK env K ctx p ms && decide (scriptSize env ctx ms ≤ L)) :=
  validOK_switch env K ctx p ms fun ty _ => by
    have h0 : decide (USIZE_MAX ≤ L) = false := decide_eq_false (Nat.not_le.2 hfin)
    have h1 : decide (scriptSize env ctx ms ≤ L)
        = ((decide (USIZE_MAX ≤ p.maxScriptSize) || decide (scriptSize env ctx ms ≤ p.maxScriptSize))
          && decide (scriptSize env ctx ms ≤ L)) := by
      rw [le_switch hL]; cases decide (USIZE_MAX ≤ p.maxScriptSize) <;> simp
    simp only [nonTopOK, resourceOK, h0, Bool.false_or]
    rw [h1]
    ac_rfl

/-- the three limits that are only looked at when a satisfaction exists -/
theorem resourceOK_limit {p' : ValidationParams} {size : Nat} {e : ExtData} {f : SatData → Nat}
    {L : Nat} (hsz : p'.maxScriptSize = p.maxScriptSize)
    (h : ∀ d, (decide (witnessItems d ≤ p'.maxWitnessItems) && decide (opCount e d ≤ p'.maxOpcodeCount)
        && decide (execStackTotal d ≤ p'.maxExecStackSize))
      = (decide (witnessItems d ≤ p.maxWitnessItems) && decide (opCount e d ≤ p.maxOpcodeCount)
        && decide (execStackTotal d ≤ p.maxExecStackSize) && decide (f d ≤ L))) :
    resourceOK p' size e = (resourceOK p size e &&
      (match e.satData with | none => true | some d => decide (f d ≤ L))) := by
  unfold resourceOK
  rw [hsz]
  cases e.satData with
  | none => simp only [Bool.and_true]
  | some d => simp only [h d, Bool.and_assoc]

theorem limit_witnessItems (L : Nat) (hL : L ≤ p.maxWitnessItems) :
    validOK env K ctx { p with maxWitnessItems := L } ms
      = (validOK env K ctx p ms &&
          (match (extOf env ctx ms).satData with
           | none => true | some d => decide (witnessItems d ≤ L))) :=
  validOK_switch env K ctx p ms fun ty _ => by
    simp only [nonTopOK]
    rw [resourceOK_limit p (p' := { p with maxWitnessItems := L }) (f := witnessItems) rfl
      fun d => by rw [le_switch hL]; ac_rfl]
    ac_rfl

theorem limit_opcodeCount (L : Nat) (hL : L ≤ p.maxOpcodeCount) :
    validOK env K ctx { p with maxOpcodeCount := L } ms
      = (validOK env K ctx p ms &&
          (match (extOf env ctx ms).satData with
           | none => true | some d => decide (opCount (extOf env ctx ms) d ≤ L))) :=
  validOK_switch env K ctx p ms fun ty _ => by
    simp only [nonTopOK]
    rw [resourceOK_limit p (p' := { p with maxOpcodeCount := L }) (f := opCount _) rfl
      fun d => by rw [le_switch hL]; ac_rfl]
    ac_rfl

theorem limit_execStack (L : Nat) (hL : L ≤ p.maxExecStackSize) :
    validOK env K ctx { p with maxExecStackSize := L } ms
      = (validOK env K ctx p ms &&
          (match (extOf env ctx ms).satData with
           | none => true | some d => decide (execStackTotal d ≤ L))) :=
  validOK_switch env K ctx p ms fun ty _ => by
    simp only [nonTopOK]
    rw [resourceOK_limit p (p' := { p with maxExecStackSize := L }) (f := execStackTotal) rfl
      fun d => by rw [le_switch hL]; ac_rfl]
    ac_rfl

end MsVerif
