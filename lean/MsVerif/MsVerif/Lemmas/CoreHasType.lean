/-
The typing judgement `HasType` and its agreement with `typeOf`; for a proof that inverts the typing of a known
constructor, the rules with premises read backwards one by one (`HasType.<c>_inv`; a leaf: `cases h.typeOf_eq`);
for the malleability letters `m` and `dissat`, what each rule demands of the children (`Mall.<rule>_nonMall`;
`Mall.<rule>_none`, `Mall.<rule>_unique` for `and_b`, `and_v`, `or_i`, `andor`, the rules that compute the letter).
-/
import MsVerif.Lemmas.CoreTypes

namespace MsVerif

mutual
/-- The typing judgement: the letter-level reading of `typeOf` (`Model/TypeCheck.lean`), one rule per constructor
of `Ms`; `typeOf ms = some τ ↔ HasType ms τ` (`typeOf_iff`). A rule lists what `Correctness::<rule>` demands of
the children's letters, in the form the specification's table has (`b.corr.base ≠ .W` for "B, K or V";
`thresh`: "X1 is Bdu, the others Wdu"), and gives the node's type with `corr` as an explicit record, so that
`τ.corr.base` &c. reduce by `rfl`, and `mall` as the malleability rule applied to the children's `mall`.
`threshNil`: `typeOf` types a `thresh` without children (Rust's `Threshold` cannot be empty).
Induction: the pair is mutual, so plain `induction h` does not apply; write `induction h using HasType.rec (motive_2 :=
fun xs ts _ => …) with` and give, after the 28 rules, the cases `nil` and `cons` of the children's list (`using
HasTypes.rec (motive_1 := …)` when the statement is about the list: `HasTypes.typesOf_eq` below). In the cases of the
motive you wrote out, the motive's hypotheses arrive introduced and unnamed (`rename_i`); in the others they are still
in the goal (`intro`). -/
inductive HasType : Ms → Ty → Prop
  | tru : HasType .tru Ty.TRUE
  | fls : HasType .fls Ty.FALSE
  | pkK {k} : HasType (.pkK k) Ty.pkK
  | pkH {k} : HasType (.pkH k) Ty.pkH
  | rawPkH {h} : HasType (.rawPkH h) Ty.pkH
  | after {n} : HasType (.after n) Ty.time
  | older {n} : HasType (.older n) Ty.time
  | hash {kind h} : HasType (.hash kind h) Ty.hash
  | multi {k ks} : HasType (.multi k ks) Ty.multi
  | sortedMulti {k ks} : HasType (.sortedMulti k ks) Ty.sortedmulti
  | multiA {k ks} : HasType (.multiA k ks) Ty.multiA
  | sortedMultiA {k ks} : HasType (.sortedMultiA k ks) Ty.sortedmultiA
  | alt {x a} : HasType x a → a.corr.base = .B →
      HasType (.alt x) ⟨⟨.W, .any, a.corr.dissat, a.corr.unit⟩, Mall.castAlt a.mall⟩
  | swap {x a} : HasType x a → a.corr.base = .B → (a.corr.input = .one ∨ a.corr.input = .oneNonZero) →
      HasType (.swap x) ⟨⟨.W, .any, a.corr.dissat, a.corr.unit⟩, Mall.castSwap a.mall⟩
  | check {x a} : HasType x a → a.corr.base = .K →
      HasType (.check x) ⟨⟨.B, a.corr.input, a.corr.dissat, true⟩, Mall.castCheck a.mall⟩
  | dupIf {x a} : HasType x a → a.corr.base = .V → a.corr.input = .zero →
      HasType (.dupIf x) ⟨⟨.B, .oneNonZero, true, false⟩, Mall.castDupIf a.mall⟩
  | verify {x a} : HasType x a → a.corr.base = .B →
      HasType (.verify x) ⟨⟨.V, a.corr.input, false, false⟩, Mall.castVerify a.mall⟩
  | nonZero {x a} : HasType x a → a.corr.base = .B →
      (a.corr.input = .oneNonZero ∨ a.corr.input = .anyNonZero) →
      HasType (.nonZero x) ⟨⟨.B, a.corr.input, true, a.corr.unit⟩, Mall.castNonZero a.mall⟩
  | zeroNotEqual {x a} : HasType x a → a.corr.base = .B →
      HasType (.zeroNotEqual x) ⟨⟨.B, a.corr.input, a.corr.dissat, true⟩, Mall.castZeroNotEqual a.mall⟩
  | andV {l r a b} : HasType l a → HasType r b → a.corr.base = .V → b.corr.base ≠ .W →
      HasType (.andV l r)
        ⟨⟨b.corr.base, Corr.andInput a.corr.input b.corr.input, false, b.corr.unit⟩, Mall.andV a.mall b.mall⟩
  | andB {l r a b} : HasType l a → HasType r b → a.corr.base = .B → b.corr.base = .W →
      HasType (.andB l r)
        ⟨⟨.B, Corr.andInput a.corr.input b.corr.input, a.corr.dissat && b.corr.dissat, true⟩,
          Mall.andB a.mall b.mall⟩
  | orB {l r a b} : HasType l a → HasType r b → a.corr.base = .B → b.corr.base = .W →
      a.corr.dissat = true → b.corr.dissat = true →
      HasType (.orB l r) ⟨⟨.B, Corr.orBInput a.corr.input b.corr.input, true, true⟩, Mall.orB a.mall b.mall⟩
  | orD {l r a b} : HasType l a → HasType r b → a.corr.base = .B → b.corr.base = .B →
      a.corr.dissat = true → a.corr.unit = true →
      HasType (.orD l r)
        ⟨⟨.B, Corr.orDInput a.corr.input b.corr.input, b.corr.dissat, b.corr.unit⟩, Mall.orD a.mall b.mall⟩
  | orC {l r a b} : HasType l a → HasType r b → a.corr.base = .B → b.corr.base = .V →
      a.corr.dissat = true → a.corr.unit = true →
      HasType (.orC l r) ⟨⟨.V, Corr.orDInput a.corr.input b.corr.input, false, false⟩, Mall.orC a.mall b.mall⟩
  | orI {l r a b} : HasType l a → HasType r b → a.corr.base = b.corr.base → a.corr.base ≠ .W →
      HasType (.orI l r)
        ⟨⟨a.corr.base, Corr.orIInput a.corr.input b.corr.input, a.corr.dissat || b.corr.dissat,
          a.corr.unit && b.corr.unit⟩, Mall.orI a.mall b.mall⟩
  | andOr {x y z a b c} : HasType x a → HasType y b → HasType z c → a.corr.base = .B →
      a.corr.dissat = true → a.corr.unit = true → b.corr.base = c.corr.base → b.corr.base ≠ .W →
      HasType (.andOr x y z)
        ⟨⟨b.corr.base, Corr.andOrInput a.corr.input b.corr.input c.corr.input, c.corr.dissat,
          b.corr.unit && c.corr.unit⟩, Mall.andOr a.mall b.mall c.mall⟩
  | threshNil {k} : HasType (.thresh k .nil) ⟨⟨.B, .zero, true, true⟩, Mall.threshold k []⟩
  | thresh {k x xs t ts} : HasType x t → HasTypes xs ts → t.corr.base = .B → t.corr.unit = true →
      t.corr.dissat = true → (∀ s ∈ ts, s.corr.base = .W ∧ s.corr.unit = true ∧ s.corr.dissat = true) →
      HasType (.thresh k (.cons x xs))
        ⟨⟨.B, (match Corr.numArgs t.corr.input + (ts.map fun s => Corr.numArgs s.corr.input).sum with
            | 0 => .zero | 1 => .one | _ => .any), true, true⟩,
          Mall.threshold k ((t :: ts).map (·.mall))⟩
/-- `typesOf`, as a judgement: the children of a `thresh` with their types, in order -/
inductive HasTypes : MsList → List Ty → Prop
  | nil : HasTypes .nil []
  | cons {x xs t ts} : HasType x t → HasTypes xs ts → HasTypes (.cons x xs) (t :: ts)
end

/-- a guarded record, lifted: the only shape a typing rule has -/
theorem ite_map_some {α β} {c : Prop} [Decidable c] {v : α} {f : α → β} {y : β}
    (h : (if c then some v else none).map f = some y) : c ∧ y = f v := by
  split at h
  · exact ⟨‹c›, (Option.some.inj h).symm⟩
  · cases h

mutual
theorem HasType.of_typeOf : (ms : Ms) → ∀ {τ}, typeOf ms = some τ → HasType ms τ
  | .tru, _, h => by cases h; exact .tru
  | .fls, _, h => by cases h; exact .fls
  | .pkK _, _, h => by cases h; exact .pkK
  | .pkH _, _, h => by cases h; exact .pkH
  | .rawPkH _, _, h => by cases h; exact .rawPkH
  | .after _, _, h => by cases h; exact .after
  | .older _, _, h => by cases h; exact .older
  | .hash _ _, _, h => by cases h; exact .hash
  | .multi _ _, _, h => by cases h; exact .multi
  | .sortedMulti _ _, _, h => by cases h; exact .sortedMulti
  | .multiA _ _, _, h => by cases h; exact .multiA
  | .sortedMultiA _ _, _, h => by cases h; exact .sortedMultiA
  | .alt x, _, h => by
    obtain ⟨a, hx, h⟩ := typeOf_un h
    rw [Ty.castAlt, Ty.lift1_eq, Corr.castAlt_eq] at h
    obtain ⟨hb, rfl⟩ := ite_map_some h
    exact .alt (.of_typeOf x hx) hb
  | .swap x, _, h => by
    obtain ⟨a, hx, h⟩ := typeOf_un h
    rw [Ty.castSwap, Ty.lift1_eq, Corr.castSwap_eq] at h
    obtain ⟨⟨hb, hi⟩, rfl⟩ := ite_map_some h
    exact .swap (.of_typeOf x hx) hb hi
  | .check x, _, h => by
    obtain ⟨a, hx, h⟩ := typeOf_un h
    rw [Ty.castCheck, Ty.lift1_eq, Corr.castCheck_eq] at h
    obtain ⟨hb, rfl⟩ := ite_map_some h
    exact .check (.of_typeOf x hx) hb
  | .dupIf x, _, h => by
    obtain ⟨a, hx, h⟩ := typeOf_un h
    rw [Ty.castDupIf, Ty.lift1_eq, Corr.castDupIf_eq] at h
    obtain ⟨⟨hb, hi⟩, rfl⟩ := ite_map_some h
    exact .dupIf (.of_typeOf x hx) hb hi
  | .verify x, _, h => by
    obtain ⟨a, hx, h⟩ := typeOf_un h
    rw [Ty.castVerify, Ty.lift1_eq, Corr.castVerify_eq] at h
    obtain ⟨hb, rfl⟩ := ite_map_some h
    exact .verify (.of_typeOf x hx) hb
  | .nonZero x, _, h => by
    obtain ⟨a, hx, h⟩ := typeOf_un h
    rw [Ty.castNonZero, Ty.lift1_eq, Corr.castNonZero_eq] at h
    obtain ⟨⟨hi, hb⟩, rfl⟩ := ite_map_some h
    exact .nonZero (.of_typeOf x hx) hb hi
  | .zeroNotEqual x, _, h => by
    obtain ⟨a, hx, h⟩ := typeOf_un h
    rw [Ty.castZeroNotEqual, Ty.lift1_eq, Corr.castZeroNotEqual_eq] at h
    obtain ⟨hb, rfl⟩ := ite_map_some h
    exact .zeroNotEqual (.of_typeOf x hx) hb
  | .andV l r, _, h => by
    obtain ⟨a, b, hl, hr, h⟩ := typeOf_bin h
    rw [Ty.andV, Ty.lift2_eq, Corr.andV_eq] at h
    obtain ⟨⟨ha, hb⟩, rfl⟩ := ite_map_some h
    exact .andV (.of_typeOf l hl) (.of_typeOf r hr) ha hb
  | .andB l r, _, h => by
    obtain ⟨a, b, hl, hr, h⟩ := typeOf_bin h
    rw [Ty.andB, Ty.lift2_eq, Corr.andB_eq] at h
    obtain ⟨⟨ha, hb⟩, rfl⟩ := ite_map_some h
    exact .andB (.of_typeOf l hl) (.of_typeOf r hr) ha hb
  | .orB l r, _, h => by
    obtain ⟨a, b, hl, hr, h⟩ := typeOf_bin h
    rw [Ty.orB, Ty.lift2_eq, Corr.orB_eq] at h
    obtain ⟨⟨ha, hda, hb, hdb⟩, rfl⟩ := ite_map_some h
    exact .orB (.of_typeOf l hl) (.of_typeOf r hr) ha hb hda hdb
  | .orD l r, _, h => by
    obtain ⟨a, b, hl, hr, h⟩ := typeOf_bin h
    rw [Ty.orD, Ty.lift2_eq, Corr.orD_eq] at h
    obtain ⟨⟨ha, hda, hua, hb⟩, rfl⟩ := ite_map_some h
    exact .orD (.of_typeOf l hl) (.of_typeOf r hr) ha hb hda hua
  | .orC l r, _, h => by
    obtain ⟨a, b, hl, hr, h⟩ := typeOf_bin h
    rw [Ty.orC, Ty.lift2_eq, Corr.orC_eq] at h
    obtain ⟨⟨ha, hda, hua, hb⟩, rfl⟩ := ite_map_some h
    exact .orC (.of_typeOf l hl) (.of_typeOf r hr) ha hb hda hua
  | .orI l r, _, h => by
    obtain ⟨a, b, hl, hr, h⟩ := typeOf_bin h
    rw [Ty.orI, Ty.lift2_eq, Corr.orI_eq] at h
    obtain ⟨⟨hab, ha⟩, rfl⟩ := ite_map_some h
    exact .orI (.of_typeOf l hl) (.of_typeOf r hr) hab ha
  | .andOr x y z, _, h => by
    obtain ⟨a, b, c, hx, hy, hz, h⟩ := typeOf_andOr_inv h
    rw [Ty.andOr_eq, Corr.andOr_eq] at h
    obtain ⟨⟨ha, hda, hua, hbc, hb⟩, rfl⟩ := ite_map_some h
    exact .andOr (.of_typeOf x hx) (.of_typeOf y hy) (.of_typeOf z hz) ha hda hua hbc hb
  | .thresh k .nil, _, h => by cases h; exact .threshNil
  | .thresh k (.cons x xs), _, h => by
    obtain ⟨ts, hts, h⟩ := typeOf_thresh_inv h
    obtain ⟨t, ts, hx, hxs, rfl⟩ := typesOf_cons hts
    rw [Ty.threshold_eq, Corr.threshold_eq, Option.map_map] at h
    simp only [List.map_cons] at h
    rw [Corr.threshLoop_zero] at h
    simp only [List.map_cons, List.sum_cons, List.map_map, Function.comp_def] at h
    obtain ⟨hg, rfl⟩ := ite_map_some h
    simp only [Bool.and_eq_true, decide_eq_true_eq, List.all_map, List.all_eq_true, Function.comp_def] at hg
    exact .thresh (.of_typeOf x hx) (.of_typesOf xs hxs) hg.1.1.1 hg.1.1.2 hg.1.2 fun s hs =>
      ⟨(hg.2 s hs).1.1, (hg.2 s hs).1.2, (hg.2 s hs).2⟩
theorem HasTypes.of_typesOf : (xs : MsList) → ∀ {ts}, typesOf xs = some ts → HasTypes xs ts
  | .nil, _, h => by cases h; exact .nil
  | .cons x xs, _, h => by
    obtain ⟨t, ts, hx, hxs, rfl⟩ := typesOf_cons h
    exact .cons (.of_typeOf x hx) (.of_typesOf xs hxs)
end

theorem HasTypes.typesOf_eq {xs : MsList} {ts : List Ty} (h : HasTypes xs ts) : typesOf xs = some ts := by
  induction h using HasTypes.rec (motive_1 := fun ms τ _ => typeOf ms = some τ) with
  | tru | fls | pkK | pkH | rawPkH | after | older | hash | multi | sortedMulti | multiA
  | sortedMultiA => rfl
  | alt _ hb ih => rw [typeOf_alt_eq, ih]; exact Ty.lift1_of ((Corr.castAlt_eq _).trans (if_pos hb))
  | swap _ hb hi ih => rw [typeOf_swap_eq, ih]; exact Ty.lift1_of ((Corr.castSwap_eq _).trans (if_pos ⟨hb, hi⟩))
  | check _ hb ih => rw [typeOf_check_eq, ih]; exact Ty.lift1_of ((Corr.castCheck_eq _).trans (if_pos hb))
  | dupIf _ hb hi ih => rw [typeOf_dupIf_eq, ih]; exact Ty.lift1_of ((Corr.castDupIf_eq _).trans (if_pos ⟨hb, hi⟩))
  | verify _ hb ih => rw [typeOf_verify_eq, ih]; exact Ty.lift1_of ((Corr.castVerify_eq _).trans (if_pos hb))
  | nonZero _ hb hi ih =>
    rw [typeOf_nonZero_eq, ih]; exact Ty.lift1_of ((Corr.castNonZero_eq _).trans (if_pos ⟨hi, hb⟩))
  | zeroNotEqual _ hb ih =>
    rw [typeOf_zeroNotEqual_eq, ih]; exact Ty.lift1_of ((Corr.castZeroNotEqual_eq _).trans (if_pos hb))
  | andV _ _ ha hb ihl ihr =>
    rw [typeOf_andV_eq, ihl, ihr]; exact Ty.lift2_of ((Corr.andV_eq _ _).trans (if_pos ⟨ha, hb⟩))
  | andB _ _ ha hb ihl ihr =>
    rw [typeOf_andB_eq, ihl, ihr]; exact Ty.lift2_of ((Corr.andB_eq _ _).trans (if_pos ⟨ha, hb⟩))
  | orB _ _ ha hb hda hdb ihl ihr =>
    rw [typeOf_orB_eq, ihl, ihr]; exact Ty.lift2_of ((Corr.orB_eq _ _).trans (if_pos ⟨ha, hda, hb, hdb⟩))
  | orD _ _ ha hb hda hua ihl ihr =>
    rw [typeOf_orD_eq, ihl, ihr]; exact Ty.lift2_of ((Corr.orD_eq _ _).trans (if_pos ⟨ha, hda, hua, hb⟩))
  | orC _ _ ha hb hda hua ihl ihr =>
    rw [typeOf_orC_eq, ihl, ihr]; exact Ty.lift2_of ((Corr.orC_eq _ _).trans (if_pos ⟨ha, hda, hua, hb⟩))
  | orI _ _ hab ha ihl ihr =>
    rw [typeOf_orI_eq, ihl, ihr]; exact Ty.lift2_of ((Corr.orI_eq _ _).trans (if_pos ⟨hab, ha⟩))
  | andOr _ _ _ ha hda hua hbc hb ihx ihy ihz =>
    rw [typeOf_andOr_eq, ihx, ihy, ihz]
    exact Ty.andOr_of ((Corr.andOr_eq _ _ _).trans (if_pos ⟨ha, hda, hua, hbc, hb⟩))
  | threshNil => rfl
  | @thresh k x xs t ts _ _ hB hu hd hrest ihx ihxs =>
    have hall : (ts.map (·.corr)).all (fun s => decide (s.base = .W) && s.unit && s.dissat) = true := by
      simp only [List.all_map, List.all_eq_true, Function.comp_def, Bool.and_eq_true, decide_eq_true_eq]
      exact fun s hs => ⟨⟨(hrest s hs).1, (hrest s hs).2.1⟩, (hrest s hs).2.2⟩
    simp only [typeOf_thresh_eq, typesOf_cons_eq, ihx, ihxs, Option.bind, Ty.threshold_eq, Corr.threshold_eq, List.map_cons,
      Corr.threshLoop_zero, hB, hu, hd, hall, decide_true, Bool.and_self, if_true, List.sum_cons, List.map_map,
      Function.comp_def]
    rfl
  | nil => rfl
  | cons _ _ ihx ihxs => rw [typesOf_cons_eq, ihx, ihxs]; rfl

/-- the fragment case of `HasTypes.typesOf_eq`: the one-element list -/
theorem HasType.typeOf_eq {ms : Ms} {τ : Ty} (h : HasType ms τ) : typeOf ms = some τ := by
  obtain ⟨_, _, ht, _, e⟩ := typesOf_cons (HasTypes.typesOf_eq (.cons h .nil))
  cases e
  exact ht

theorem typeOf_iff {ms : Ms} {τ : Ty} : typeOf ms = some τ ↔ HasType ms τ :=
  ⟨HasType.of_typeOf ms, HasType.typeOf_eq⟩

theorem HasTypes.length_eq {xs : MsList} {ts : List Ty} (h : HasTypes xs ts) : ts.length = xs.length := by
  induction h using HasTypes.rec (motive_1 := fun _ _ _ => True) with
  | nil => rfl
  | cons _ _ _ ih => simp only [List.length_cons, MsList.length, ih]
  | _ => trivial

/-- the list of types is determined by the list of children: it is `typeOf` mapped over them -/
theorem HasTypes.eq_map {xs : MsList} {ts : List Ty} (h : HasTypes xs ts) :
    ts = xs.toList.map (fun x => (typeOf x).getD default)
      ∧ ∀ x ∈ xs.toList, HasType x ((typeOf x).getD default) := by
  induction h using HasTypes.rec (motive_1 := fun _ _ _ => True) with
  | nil => exact ⟨rfl, nofun⟩
  | cons hx _ _ ih =>
    refine ⟨by rw [MsList.toList, List.map_cons, hx.typeOf_eq, ← ih.1]; rfl, fun y hy => ?_⟩
    rcases List.mem_cons.1 hy with rfl | hy
    · rw [hx.typeOf_eq]; exact hx
    · exact ih.2 y hy
  | _ => trivial

namespace HasType

theorem alt_inv {x : Ms} {τ : Ty} (h : HasType (.alt x) τ) :
    ∃ a, HasType x a ∧ a.corr.base = .B ∧
      τ = ⟨⟨.W, .any, a.corr.dissat, a.corr.unit⟩, Mall.castAlt a.mall⟩ := by
  cases h with | alt hx hb => exact ⟨_, hx, hb, rfl⟩

theorem swap_inv {x : Ms} {τ : Ty} (h : HasType (.swap x) τ) :
    ∃ a, HasType x a ∧ a.corr.base = .B ∧ (a.corr.input = .one ∨ a.corr.input = .oneNonZero) ∧
      τ = ⟨⟨.W, .any, a.corr.dissat, a.corr.unit⟩, Mall.castSwap a.mall⟩ := by
  cases h with | swap hx hb hi => exact ⟨_, hx, hb, hi, rfl⟩

theorem check_inv {x : Ms} {τ : Ty} (h : HasType (.check x) τ) :
    ∃ a, HasType x a ∧ a.corr.base = .K ∧
      τ = ⟨⟨.B, a.corr.input, a.corr.dissat, true⟩, Mall.castCheck a.mall⟩ := by
  cases h with | check hx hb => exact ⟨_, hx, hb, rfl⟩

theorem dupIf_inv {x : Ms} {τ : Ty} (h : HasType (.dupIf x) τ) :
    ∃ a, HasType x a ∧ a.corr.base = .V ∧ a.corr.input = .zero ∧
      τ = ⟨⟨.B, .oneNonZero, true, false⟩, Mall.castDupIf a.mall⟩ := by
  cases h with | dupIf hx hb hi => exact ⟨_, hx, hb, hi, rfl⟩

theorem verify_inv {x : Ms} {τ : Ty} (h : HasType (.verify x) τ) :
    ∃ a, HasType x a ∧ a.corr.base = .B ∧
      τ = ⟨⟨.V, a.corr.input, false, false⟩, Mall.castVerify a.mall⟩ := by
  cases h with | verify hx hb => exact ⟨_, hx, hb, rfl⟩

theorem nonZero_inv {x : Ms} {τ : Ty} (h : HasType (.nonZero x) τ) :
    ∃ a, HasType x a ∧ a.corr.base = .B ∧ (a.corr.input = .oneNonZero ∨ a.corr.input = .anyNonZero) ∧
      τ = ⟨⟨.B, a.corr.input, true, a.corr.unit⟩, Mall.castNonZero a.mall⟩ := by
  cases h with | nonZero hx hb hi => exact ⟨_, hx, hb, hi, rfl⟩

theorem zeroNotEqual_inv {x : Ms} {τ : Ty} (h : HasType (.zeroNotEqual x) τ) :
    ∃ a, HasType x a ∧ a.corr.base = .B ∧
      τ = ⟨⟨.B, a.corr.input, a.corr.dissat, true⟩, Mall.castZeroNotEqual a.mall⟩ := by
  cases h with | zeroNotEqual hx hb => exact ⟨_, hx, hb, rfl⟩

theorem andV_inv {l r : Ms} {τ : Ty} (h : HasType (.andV l r) τ) :
    ∃ a b, HasType l a ∧ HasType r b ∧ a.corr.base = .V ∧ b.corr.base ≠ .W ∧
      τ = ⟨⟨b.corr.base, Corr.andInput a.corr.input b.corr.input, false, b.corr.unit⟩, Mall.andV a.mall b.mall⟩ := by
  cases h with | andV hl hr ha hb => exact ⟨_, _, hl, hr, ha, hb, rfl⟩

theorem andB_inv {l r : Ms} {τ : Ty} (h : HasType (.andB l r) τ) :
    ∃ a b, HasType l a ∧ HasType r b ∧ a.corr.base = .B ∧ b.corr.base = .W ∧
      τ = ⟨⟨.B, Corr.andInput a.corr.input b.corr.input, a.corr.dissat && b.corr.dissat, true⟩,
        Mall.andB a.mall b.mall⟩ := by
  cases h with | andB hl hr ha hb => exact ⟨_, _, hl, hr, ha, hb, rfl⟩

theorem orB_inv {l r : Ms} {τ : Ty} (h : HasType (.orB l r) τ) :
    ∃ a b, HasType l a ∧ HasType r b ∧ a.corr.base = .B ∧ b.corr.base = .W ∧ a.corr.dissat = true ∧
      b.corr.dissat = true ∧
      τ = ⟨⟨.B, Corr.orBInput a.corr.input b.corr.input, true, true⟩, Mall.orB a.mall b.mall⟩ := by
  cases h with | orB hl hr ha hb hda hdb => exact ⟨_, _, hl, hr, ha, hb, hda, hdb, rfl⟩

theorem orD_inv {l r : Ms} {τ : Ty} (h : HasType (.orD l r) τ) :
    ∃ a b, HasType l a ∧ HasType r b ∧ a.corr.base = .B ∧ b.corr.base = .B ∧ a.corr.dissat = true ∧
      a.corr.unit = true ∧
      τ = ⟨⟨.B, Corr.orDInput a.corr.input b.corr.input, b.corr.dissat, b.corr.unit⟩, Mall.orD a.mall b.mall⟩ := by
  cases h with | orD hl hr ha hb hd hu => exact ⟨_, _, hl, hr, ha, hb, hd, hu, rfl⟩

theorem orC_inv {l r : Ms} {τ : Ty} (h : HasType (.orC l r) τ) :
    ∃ a b, HasType l a ∧ HasType r b ∧ a.corr.base = .B ∧ b.corr.base = .V ∧ a.corr.dissat = true ∧
      a.corr.unit = true ∧
      τ = ⟨⟨.V, Corr.orDInput a.corr.input b.corr.input, false, false⟩, Mall.orC a.mall b.mall⟩ := by
  cases h with | orC hl hr ha hb hd hu => exact ⟨_, _, hl, hr, ha, hb, hd, hu, rfl⟩

theorem orI_inv {l r : Ms} {τ : Ty} (h : HasType (.orI l r) τ) :
    ∃ a b, HasType l a ∧ HasType r b ∧ a.corr.base = b.corr.base ∧ a.corr.base ≠ .W ∧
      τ = ⟨⟨a.corr.base, Corr.orIInput a.corr.input b.corr.input, a.corr.dissat || b.corr.dissat,
        a.corr.unit && b.corr.unit⟩, Mall.orI a.mall b.mall⟩ := by
  cases h with | orI hl hr hab ha => exact ⟨_, _, hl, hr, hab, ha, rfl⟩

theorem andOr_inv {x y z : Ms} {τ : Ty} (h : HasType (.andOr x y z) τ) :
    ∃ a b c, HasType x a ∧ HasType y b ∧ HasType z c ∧ a.corr.base = .B ∧ a.corr.dissat = true ∧
      a.corr.unit = true ∧ b.corr.base = c.corr.base ∧ b.corr.base ≠ .W ∧
      τ = ⟨⟨b.corr.base, Corr.andOrInput a.corr.input b.corr.input c.corr.input, c.corr.dissat,
        b.corr.unit && c.corr.unit⟩, Mall.andOr a.mall b.mall c.mall⟩ := by
  cases h with | andOr hx hy hz ha hd hu hbc hb => exact ⟨_, _, _, hx, hy, hz, ha, hd, hu, hbc, hb, rfl⟩

theorem thresh_inv {k : Nat} {x : Ms} {xs : MsList} {τ : Ty} (h : HasType (.thresh k (.cons x xs)) τ) :
    ∃ t ts, HasType x t ∧ HasTypes xs ts ∧ t.corr.base = .B ∧ t.corr.unit = true ∧ t.corr.dissat = true ∧
      (∀ s ∈ ts, s.corr.base = .W ∧ s.corr.unit = true ∧ s.corr.dissat = true) ∧
      τ = ⟨⟨.B, (match Corr.numArgs t.corr.input + (ts.map fun s => Corr.numArgs s.corr.input).sum with
          | 0 => .zero | 1 => .one | _ => .any), true, true⟩, Mall.threshold k ((t :: ts).map (·.mall))⟩ := by
  cases h with | thresh hx hxs hb hu hd hr => exact ⟨_, _, hx, hxs, hb, hu, hd, hr, rfl⟩

end HasType

theorem HasTypes.cons_inv {x : Ms} {xs : MsList} {ts : List Ty} (h : HasTypes (.cons x xs) ts) :
    ∃ t ts', HasType x t ∧ HasTypes xs ts' ∧ ts = t :: ts' := by
  cases h with | cons hx hxs => exact ⟨_, _, hx, hxs, rfl⟩

namespace Mall

theorem andB_nonMall {a b : Mall} (h : (andB a b).nonMall = true) : a.nonMall = true ∧ b.nonMall = true := by
  simpa only [andB, Bool.and_eq_true] using h

theorem andV_nonMall {a b : Mall} (h : (andV a b).nonMall = true) : a.nonMall = true ∧ b.nonMall = true := by
  simpa only [andV, Bool.and_eq_true] using h

theorem orB_nonMall {a b : Mall} (h : (orB a b).nonMall = true) :
    a.nonMall = true ∧ b.nonMall = true ∧ a.dissat = .unique ∧ b.dissat = .unique
      ∧ (a.signed = true ∨ b.signed = true) := by
  simp only [orB, Bool.and_eq_true, Bool.or_eq_true, beq_iff_eq] at h
  obtain ⟨⟨⟨⟨ha, hda⟩, hb⟩, hdb⟩, hs⟩ := h
  exact ⟨ha, hb, hda, hdb, hs⟩

theorem orD_nonMall {a b : Mall} (h : (orD a b).nonMall = true) :
    a.nonMall = true ∧ b.nonMall = true ∧ a.dissat = .unique ∧ (a.signed = true ∨ b.signed = true) := by
  simp only [orD, Bool.and_eq_true, Bool.or_eq_true, beq_iff_eq] at h
  obtain ⟨⟨⟨ha, hda⟩, hb⟩, hs⟩ := h
  exact ⟨ha, hb, hda, hs⟩

theorem orC_nonMall {a b : Mall} (h : (orC a b).nonMall = true) :
    a.nonMall = true ∧ b.nonMall = true ∧ a.dissat = .unique ∧ (a.signed = true ∨ b.signed = true) := by
  simp only [orC, Bool.and_eq_true, Bool.or_eq_true, beq_iff_eq] at h
  obtain ⟨⟨⟨ha, hda⟩, hb⟩, hs⟩ := h
  exact ⟨ha, hb, hda, hs⟩

theorem orI_nonMall {a b : Mall} (h : (orI a b).nonMall = true) :
    a.nonMall = true ∧ b.nonMall = true ∧ (a.signed = true ∨ b.signed = true) := by
  simp only [orI, Bool.and_eq_true, Bool.or_eq_true] at h
  obtain ⟨⟨ha, hb⟩, hs⟩ := h
  exact ⟨ha, hb, hs⟩

theorem andOr_nonMall {a b c : Mall} (h : (andOr a b c).nonMall = true) :
    a.nonMall = true ∧ b.nonMall = true ∧ c.nonMall = true ∧ a.dissat = .unique
      ∧ ((a.signed = true ∨ b.signed = true) ∨ c.signed = true) := by
  simp only [andOr, Bool.and_eq_true, Bool.or_eq_true, beq_iff_eq] at h
  obtain ⟨⟨⟨⟨ha, hc⟩, hda⟩, hb⟩, hs⟩ := h
  exact ⟨ha, hb, hc, hda, hs⟩

theorem threshold_nonMall {k : Nat} {ms : List Mall} (h : (threshold k ms).nonMall = true) :
    ms.all (·.nonMall) = true ∧ ms.all (fun s => s.dissat == .unique) = true ∧
    ms.length - ms.countP (·.signed) ≤ k ∧
    ((threshold k ms).signed = true → ms.length - ms.countP (·.signed) < k) ∧
    (threshold k ms).dissat ≠ .none := by
  unfold threshold at *
  rw [threshFold_eq, ← List.countP_eq_length_filter] at h ⊢
  simp only [Bool.and_eq_true, decide_eq_true_eq] at h ⊢
  have hle : ms.countP (·.signed) ≤ ms.length := List.countP_le_length
  refine ⟨h.1.1, h.2, by omega, fun hs => by omega, ?_⟩
  split <;> simp

/-! the `dissat` letter (`none`: no dissatisfaction a third party can produce; `unique`: one, signature-free) through the
rules, read backwards: what the node's letter says of the children's -/

theorem andB_none (a b : Mall) (h : (Mall.andB a b).dissat = .none) :
    (a.dissat = .none ∧ b.dissat = .none) ∨ (a.dissat = .none ∧ a.signed = true) ∨
      (b.dissat = .none ∧ b.signed = true) := by
  obtain ⟨ad, as, am⟩ := a; obtain ⟨bd, bs, bm⟩ := b
  cases ad <;> cases bd <;> cases as <;> cases bs <;> simp [Mall.andB] at h ⊢

theorem andB_unique (a b : Mall) (h : (Mall.andB a b).dissat = .unique) :
    a.dissat = .unique ∧ b.dissat = .unique := by
  obtain ⟨ad, as, am⟩ := a; obtain ⟨bd, bs, bm⟩ := b
  cases ad <;> cases bd <;> cases as <;> cases bs <;> simp [Mall.andB] at h ⊢

theorem andV_none (a b : Mall) (h : (Mall.andV a b).dissat = .none) :
    b.dissat = .none ∨ a.signed = true := by
  obtain ⟨ad, as, am⟩ := a; obtain ⟨bd, bs, bm⟩ := b
  cases bd <;> cases as <;> simp [Mall.andV] at h ⊢

theorem andV_not_unique (a b : Mall) : (Mall.andV a b).dissat ≠ .unique := by
  obtain ⟨ad, as, am⟩ := a; obtain ⟨bd, bs, bm⟩ := b
  cases bd <;> cases as <;> simp [Mall.andV]

theorem orI_none (a b : Mall) (h : (Mall.orI a b).dissat = .none) :
    a.dissat = .none ∧ b.dissat = .none := by
  obtain ⟨ad, as, am⟩ := a; obtain ⟨bd, bs, bm⟩ := b
  cases ad <;> cases bd <;> simp [Mall.orI] at h ⊢

theorem orI_unique (a b : Mall) (h : (Mall.orI a b).dissat = .unique) :
    (a.dissat = .unique ∧ b.dissat = .none) ∨ (a.dissat = .none ∧ b.dissat = .unique) := by
  obtain ⟨ad, as, am⟩ := a; obtain ⟨bd, bs, bm⟩ := b
  cases ad <;> cases bd <;> simp [Mall.orI] at h ⊢

theorem andOr_none (a b c : Mall) (h : (Mall.andOr a b c).dissat = .none) :
    c.dissat = .none ∧ (b.dissat = .none ∨ a.signed = true) := by
  obtain ⟨ad, as, am⟩ := a; obtain ⟨bd, bs, bm⟩ := b; obtain ⟨cd, cs, cm⟩ := c
  cases bd <;> cases cd <;> cases as <;> simp [Mall.andOr] at h ⊢

theorem andOr_unique (a b c : Mall) (h : (Mall.andOr a b c).dissat = .unique) :
    c.dissat = .unique := by
  obtain ⟨ad, as, am⟩ := a; obtain ⟨bd, bs, bm⟩ := b; obtain ⟨cd, cs, cm⟩ := c
  cases bd <;> cases cd <;> cases as <;> simp [Mall.andOr] at h ⊢

theorem wrapD_not_none (d : Dissat) : (if d = .none then Dissat.unique else Dissat.unknown) ≠ .none := by
  cases d <;> simp

end Mall

end MsVerif
