/-
Execution lemmas for the structured fragment semantics `frag` with limits disabled: one lemma
per fragment and scenario, independent of the satisfier, stated with `Runs` of `Spec/SatSpec.lean` (its rules: `Runs.bind`,
`.eq`, `.sk`, `.of_eq`, `.congr`); the conditionals follow from four rules about `ifThen` / `ifElse`.  First the opcodes
`CoreOpc` has no equation for: the hashes, CLTV, CSV.
-/
import MsVerif.Lemmas.SatNum
import MsVerif.Lemmas.CoreOpc

namespace MsVerif.SatSpec
open MsVerif Script
open MsVerif.InterpSound (NoLimits)

variable {env : Env} {ke : KeyEnv} {ctx : Ctx}

theorem EnvOk.nl (h : EnvOk env ctx) : NoLimits env := ⟨h.opLimit, h.stackLimits⟩

theorem Runs.bind {f g : Core → Except Err Core} {s s' s'' : List Bytes}
    (hf : Runs f s s') (hg : Runs g s' s'') : Runs (fun c => f c >>= g) s s'' := by
  intro alt ops
  obtain ⟨c1, h1, h1s, h1a⟩ := hf alt ops
  obtain ⟨c2, h2, h3, h4⟩ := hg alt c1.ops
  refine ⟨c2, ?_, h3, h4⟩
  have : c1 = ⟨s', alt, c1.ops⟩ := by cases c1; simp_all
  rw [this] at h1
  show f _ >>= g = _
  rw [h1]; exact h2

theorem Runs.eq {f : Core → Except Err Core} {s s' : List Bytes} (h : Runs f s s') (alt : List Bytes) (ops : Nat) :
    ∃ o, f ⟨s, alt, ops⟩ = .ok ⟨s', alt, o⟩ := by
  obtain ⟨c1, h1, rfl, rfl⟩ := h alt ops
  exact ⟨c1.ops, h1⟩

/-- Skolemised form, convenient as a rewrite rule -/
theorem Runs.sk {f : Core → Except Err Core} {s s' : List Bytes} (h : Runs f s s') :
    ∃ g : List Bytes → Nat → Nat, ∀ alt ops, f ⟨s, alt, ops⟩ = .ok ⟨s', alt, g alt ops⟩ :=
  let ⟨g, hg⟩ := Classical.axiomOfChoice fun p : List Bytes × Nat => h.eq p.1 p.2
  ⟨fun a o => g (a, o), fun a o => hg (a, o)⟩

theorem Runs.of_eq {f : Core → Except Err Core} {s s' : List Bytes}
    (h : ∀ alt ops, ∃ o, f ⟨s, alt, ops⟩ = .ok ⟨s', alt, o⟩) : Runs f s s' := by
  intro alt ops
  obtain ⟨o, e⟩ := h alt ops
  exact ⟨_, e, rfl, rfl⟩

theorem Runs.congr {f g : Core → Except Err Core} {s s' : List Bytes} (e : ∀ c, g c = f c) (hf : Runs f s s') :
    Runs g s s' := fun alt ops => by rw [e]; exact hf alt ops

theorem pshOp_code (env : Env) (o : Opc) (c : Core) : pshOp env (.code o) c = opc env o c := rfl

theorem pshOp_push (env : Env) (b : Bytes) (c : Core) : pshOp env (.push b) c = psh env b c := rfl

theorem NumOk.num4 {n : Nat} (hn : NumOk n) (env : Env) :
    num4 env (numEncode (n : Int)) = .ok (n : Int) := by
  simp [Script.num4, hn.1]

theorem hash_nl (h : NoLimits env) (k : HashKind) (a : Bytes) (r alt : List Bytes) (ops : Nat) :
    opc env (hashOpc k) ⟨a :: r, alt, ops⟩ = .ok ⟨env.hash (hashOpOf k) a :: r, alt, ops + 1⟩ := by
  cases k <;> exact (opc_eq h.op _ _).trans (pushElem_ok h.st _ _)

theorem hash160_nl (h : NoLimits env) (a : Bytes) (r alt : List Bytes) (ops : Nat) :
    opc env .hash160 ⟨a :: r, alt, ops⟩ = .ok ⟨env.hash .hash160 a :: r, alt, ops + 1⟩ :=
  hash_nl h .hash160 a r alt ops

theorem execOpc_cltv {a : Bytes} {n : Nat} (hd : numDecode env.flags.minimalNum 5 a = some (n : Int))
    (st alt : List Bytes) (ops : Nat) :
    execOpc env .cltv ⟨a :: st, alt, ops⟩
      = if checkLockTime env n then .ok ⟨a :: st, alt, ops⟩ else .error .unsatisfiedLocktime := by
  show (match numDecode env.flags.minimalNum 5 a with | none => _ | some v => _) = _
  rw [hd]
  simp only [Int.toNat_natCast, if_neg (Int.not_lt.mpr (Int.natCast_nonneg n))]

theorem execOpc_csv {a : Bytes} {n : Nat} (hd : numDecode env.flags.minimalNum 5 a = some (n : Int))
    (st alt : List Bytes) (ops : Nat) :
    execOpc env .csv ⟨a :: st, alt, ops⟩
      = if (n / SEQ_DISABLE) % 2 == 1 then .ok ⟨a :: st, alt, ops⟩
        else if checkSequence env n then .ok ⟨a :: st, alt, ops⟩ else .error .unsatisfiedLocktime := by
  show (match numDecode env.flags.minimalNum 5 a with | none => _ | some v => _) = _
  rw [hd]
  simp only [Int.toNat_natCast, if_neg (Int.not_lt.mpr (Int.natCast_nonneg n))]

theorem frag_pkK (h : NoLimits env) (k : Key) (s : List Bytes) :
    Runs (frag env ke ctx (.pkK k)) s (ke.ser k :: s) :=
  .of_eq fun _ _ => ⟨_, (MsVerif.frag_pkK env ke ctx k _).trans (psh_ok h.st _ _)⟩

theorem pkh_ops (h : NoLimits env) (pk : Bytes) (r alt : List Bytes) (ops : Nat) :
    seqOps env [.code .dup, .code .hash160, .push (env.hash .hash160 pk), .code .equalverify]
      ⟨pk :: r, alt, ops⟩ = .ok ⟨pk :: r, alt, ops + 3⟩ := by
  simp only [seqOps_cons, seqOps_nil, pshOp_code, pshOp_push, Except.bind_ok, dup_nl h, hash160_nl h, psh_ok h.st,
    equalverify_nl h]

theorem frag_pkH (h : NoLimits env) (k : Key) (pk : Bytes) (s : List Bytes)
    (hh : env.hash .hash160 pk = ke.pkh k) :
    Runs (frag env ke ctx (.pkH k)) (pk :: s) (pk :: s) :=
  .of_eq fun alt ops => ⟨_, (MsVerif.frag_pkH env ke ctx k _).trans (hh ▸ pkh_ops h pk s alt ops)⟩

theorem frag_rawPkH (h : NoLimits env) (a : Nat) (pk : Bytes) (s : List Bytes)
    (hh : env.hash .hash160 pk = ke.rawPkh a) :
    Runs (frag env ke ctx (.rawPkH a)) (pk :: s) (pk :: s) :=
  .of_eq fun alt ops => ⟨_, (MsVerif.frag_rawPkH env ke ctx a _).trans (hh ▸ pkh_ops h pk s alt ops)⟩

theorem frag_tru (h : NoLimits env) (s : List Bytes) :
    Runs (frag env ke ctx .tru) s ([1] :: s) :=
  .of_eq fun _ _ => ⟨_, (MsVerif.frag_tru env ke ctx _).trans (pushElem_ok h.st _ _)⟩

theorem frag_fls (h : NoLimits env) (s : List Bytes) :
    Runs (frag env ke ctx .fls) s ([] :: s) :=
  .of_eq fun _ _ => ⟨_, (MsVerif.frag_fls env ke ctx _).trans (pushElem_ok h.st _ _)⟩

theorem frag_after (h : NoLimits env) {n : Nat} (hn : NumOk n) (hl : checkLockTime env n = true)
    (s : List Bytes) :
    Runs (frag env ke ctx (.after n)) s (numEncode (n : Int) :: s) :=
  .of_eq fun alt ops => ⟨ops + 1, by
    simp only [MsVerif.frag_after, seqOps_cons, seqOps_nil, pshOp_pushInt h.st, Except.bind_ok, pshOp_code, opc_eq h.op,
      execOpc_cltv (numDecode_5_of_4 (hn.1 _)), hl, if_true]⟩

theorem frag_older (h : NoLimits env) {n : Nat} (hn : NumOk n) (hl : checkSequence env n = true)
    (s : List Bytes) :
    Runs (frag env ke ctx (.older n)) s (numEncode (n : Int) :: s) :=
  .of_eq fun alt ops => ⟨ops + 1, by
    simp only [MsVerif.frag_older, seqOps_cons, seqOps_nil, pshOp_pushInt h.st, Except.bind_ok, pshOp_code, opc_eq h.op,
      execOpc_csv (numDecode_5_of_4 (hn.1 _)), hl, if_true, ite_self]⟩

theorem frag_hash (h : NoLimits env) (kind : HashKind) (a : Nat) (x : Bytes) (s : List Bytes)
    (hlen : x.length = 32) :
    Runs (frag env ke ctx (.hash kind a)) (x :: s)
      (boolBytes (ke.hashVal kind a == env.hash (hashOpOf kind) x) :: s) :=
  .of_eq fun alt ops => ⟨ops + 4, by
    simp only [MsVerif.frag_hash, seqOps_cons, seqOps_nil, pshOp_pushInt h.st, pshOp_code, pshOp_push, Except.bind_ok,
      size_nl h, hlen, psh_ok h.st, equalverify_nl h, hash_nl h, equal_nl h]⟩

theorem frag_alt (h : NoLimits env) {x : Ms} {t : Bytes} {s s' : List Bytes}
    (hx : Runs (frag env ke ctx x) s s') : Runs (frag env ke ctx (.alt x)) (t :: s) (t :: s') :=
  .of_eq fun alt ops => by
    -- the child runs with `t` on the alt stack
    obtain ⟨o, e⟩ := hx.eq (t :: alt) (ops + 1)
    exact ⟨o + 1, by simp only [MsVerif.frag_alt, toalt_nl h, Except.bind_ok, e, fromalt_nl h]⟩

theorem frag_swap (h : NoLimits env) {x : Ms} {a t : Bytes} {s s' : List Bytes}
    (hx : Runs (frag env ke ctx x) (a :: t :: s) s') :
    Runs (frag env ke ctx (.swap x)) (t :: a :: s) s' :=
  .congr (MsVerif.frag_swap env ke ctx x) (.bind (.of_eq fun _ _ => ⟨_, swap_nl h _ _ _ _ _⟩) hx)

theorem frag_check (h : NoLimits env) {x : Ms} {pk sig : Bytes} {b : Bool} {s s' : List Bytes}
    (hx : Runs (frag env ke ctx x) s (pk :: sig :: s')) (hc : checkSig env sig pk = .ok b) :
    Runs (frag env ke ctx (.check x)) s (boolBytes b :: s') :=
  .congr (MsVerif.frag_check env ke ctx x) (hx.bind (.of_eq fun _ _ => ⟨_, checksig_nl h _ _ _ _ _ hc⟩))

theorem frag_verify (h : NoLimits env) {x : Ms} {v : Bytes} {s s' : List Bytes}
    (hx : Runs (frag env ke ctx x) s (v :: s')) (hv : castToBool v = true) :
    Runs (frag env ke ctx (.verify x)) s s' := by
  refine .congr (MsVerif.frag_verify env ke ctx x) (hx.bind (.of_eq fun _ ops => ?_))
  cases endsFusable (encode ke ctx x)
  · exact ⟨_, verify_nl h _ _ _ _ hv⟩
  · exact ⟨ops, if_pos hv⟩

theorem frag_zeroNotEqual (h : NoLimits env) {x : Ms} {v : Bytes} {n : Int} {s s' : List Bytes}
    (hx : Runs (frag env ke ctx x) s (v :: s')) (hv : num4 env v = .ok n) :
    Runs (frag env ke ctx (.zeroNotEqual x)) s (boolBytes (n != 0) :: s') :=
  .congr (MsVerif.frag_zeroNotEqual env ke ctx x) (hx.bind (.of_eq fun _ _ => ⟨_, zne_nl h _ _ _ _ hv⟩))

theorem frag_andV {l r : Ms} {s s1 s2 : List Bytes}
    (hl : Runs (frag env ke ctx l) s s1) (hr : Runs (frag env ke ctx r) s1 s2) :
    Runs (frag env ke ctx (.andV l r)) s s2 :=
  .congr (MsVerif.frag_andV env ke ctx l r) (hl.bind hr)

theorem frag_andB (h : NoLimits env) {l r : Ms} {a b : Bytes} {x y : Int} {s s1 s2 : List Bytes}
    (hl : Runs (frag env ke ctx l) s s1) (hr : Runs (frag env ke ctx r) s1 (a :: b :: s2))
    (ha : num4 env a = .ok x) (hb : num4 env b = .ok y) :
    Runs (frag env ke ctx (.andB l r)) s (boolBytes (x != 0 && y != 0) :: s2) :=
  .congr (MsVerif.frag_andB env ke ctx l r)
    (hl.bind (hr.bind (.of_eq fun _ _ => ⟨_, booland_nl h _ _ _ _ _ ha hb⟩)))

theorem frag_orB (h : NoLimits env) {l r : Ms} {a b : Bytes} {x y : Int} {s s1 s2 : List Bytes}
    (hl : Runs (frag env ke ctx l) s s1) (hr : Runs (frag env ke ctx r) s1 (a :: b :: s2))
    (ha : num4 env a = .ok x) (hb : num4 env b = .ok y) :
    Runs (frag env ke ctx (.orB l r)) s (boolBytes (x != 0 || y != 0) :: s2) :=
  .congr (MsVerif.frag_orB env ke ctx l r)
    (hl.bind (hr.bind (.of_eq fun _ _ => ⟨_, boolor_nl h _ _ _ _ _ ha hb⟩)))

/-! ### conditionals

The rules of `IF/NOTIF … ENDIF` and `IF/NOTIF … ELSE … ENDIF` (`ifThen`, `ifElse`) for runs: the flag is
`[1]` or `[]`; `IF` (`nf = false`) takes its branch on `[1]`, `NOTIF` on `[]`; the branch not taken only
counts. -/

section rules
variable (h : NoLimits env) {nf : Bool} {X Y : List Op} {f g : Core → Except Err Core} {s s' : List Bytes}
include h

theorem cnd_taken (alt : List Bytes) (ops : Nat) :
    cnd env nf ⟨(if nf then [] else [1]) :: s, alt, ops⟩ = .ok (true, ⟨s, alt, ops + 1⟩) := by
  rw [cnd_eq h.op]
  cases nf <;> simp [condPop, castToBool]

theorem cnd_skipped (alt : List Bytes) (ops : Nat) :
    cnd env nf ⟨(if nf then [1] else []) :: s, alt, ops⟩ = .ok (false, ⟨s, alt, ops + 1⟩) := by
  rw [cnd_eq h.op]
  cases nf <;> simp [condPop, castToBool]

theorem Runs.ifThen_taken (hf : Runs f s s') : Runs (ifThen env nf X f) ((if nf then [] else [1]) :: s) s' :=
  fun alt ops => by
    obtain ⟨o, e⟩ := hf.eq alt (ops + 1)
    simp only [ifThen_eq, cnd_taken h, Except.bind_ok, thenTail, if_true, e, countOp_ok h.op]
    exact ⟨_, rfl, rfl, rfl⟩

theorem Runs.ifThen_skipped : Runs (ifThen env nf X f) ((if nf then [1] else []) :: s) s :=
  fun alt ops => by
    simp only [ifThen_eq, cnd_skipped h, Except.bind_ok, thenTail, Bool.false_eq_true, if_false,
      skipCount_ok h.st h.op, countOp_ok h.op]
    exact ⟨_, rfl, rfl, rfl⟩

theorem Runs.ifElse_then (hf : Runs f s s') :
    Runs (ifElse env nf X Y f g) ((if nf then [] else [1]) :: s) s' :=
  fun alt ops => by
    obtain ⟨o, e⟩ := hf.eq alt (ops + 1)
    simp only [ifElse_eq, cnd_taken h, Except.bind_ok, elseTail, if_true, e, skipCount_ok h.st h.op,
      countOp_ok h.op]
    exact ⟨_, rfl, rfl, rfl⟩

theorem Runs.ifElse_else (hg : Runs g s s') :
    Runs (ifElse env nf X Y f g) ((if nf then [1] else []) :: s) s' :=
  fun alt ops => by
    obtain ⟨o, e⟩ := hg.eq alt (ops + 1 + codeCount X + 1)
    simp only [ifElse_eq, cnd_skipped h, Except.bind_ok, elseTail, Bool.false_eq_true, if_false,
      skipCount_ok h.st h.op, countOp_ok h.op, e]
    exact ⟨_, rfl, rfl, rfl⟩

end rules

section conditionals
variable (h : NoLimits env) {x l r a b c : Ms} {s s' s1 s2 : List Bytes}
include h

theorem runs_dup (a : Bytes) (s : List Bytes) : Runs (opc env .dup) (a :: s) (a :: a :: s) :=
  .of_eq fun _ _ => ⟨_, dup_nl h _ _ _ _⟩

theorem frag_dupIf_true (hx : Runs (frag env ke ctx x) ([1] :: s) s') :
    Runs (frag env ke ctx (.dupIf x)) ([1] :: s) s' :=
  .congr (frag_dupIf env ke ctx x) ((runs_dup h _ _).bind (.ifThen_taken h (nf := false) hx))

theorem frag_dupIf_false (x : Ms) (s : List Bytes) : Runs (frag env ke ctx (.dupIf x)) ([] :: s) ([] :: s) :=
  .congr (frag_dupIf env ke ctx x) ((runs_dup h _ _).bind (.ifThen_skipped h (nf := false)))

theorem runs_size (a : Bytes) (s : List Bytes) :
    Runs (opc env .size) (a :: s) (numEncode (a.length : Int) :: a :: s) :=
  .of_eq fun _ _ => ⟨_, size_nl h _ _ _ _⟩

theorem runs_zne_size (a : Bytes) (s : List Bytes) (hn : NumOk a.length) :
    Runs (opc env .zeronotequal) (numEncode (a.length : Int) :: s) ((if a = [] then [] else [1]) :: s) :=
  .of_eq fun _ ops => ⟨ops + 1, by
    rw [zne_nl h _ _ _ _ (hn.num4 env)]
    cases a <;> simp [boolBytes]
    omega⟩

theorem frag_nonZero_sat {a : Bytes} (ha : a ≠ []) (hn : NumOk a.length)
    (hx : Runs (frag env ke ctx x) (a :: s) s') : Runs (frag env ke ctx (.nonZero x)) (a :: s) s' := by
  have hz := runs_zne_size (env := env) h a (a :: s) hn
  rw [if_neg ha] at hz
  exact .congr (frag_nonZero env ke ctx x) ((runs_size h a s).bind (hz.bind (.ifThen_taken h (nf := false) hx)))

theorem frag_nonZero_dis (x : Ms) (s : List Bytes) : Runs (frag env ke ctx (.nonZero x)) ([] :: s) ([] :: s) :=
  .congr (frag_nonZero env ke ctx x) ((runs_size h [] s).bind
    ((runs_zne_size h [] _ (numOk_of_lt 0 (by decide))).bind (.ifThen_skipped h (nf := false))))

theorem frag_andOr_true (ha : Runs (frag env ke ctx a) s ([1] :: s1)) (hb : Runs (frag env ke ctx b) s1 s2) :
    Runs (frag env ke ctx (.andOr a b c)) s s2 :=
  .congr (frag_andOr env ke ctx a b c) (ha.bind (.ifElse_else h (nf := true) hb))

theorem frag_andOr_false (ha : Runs (frag env ke ctx a) s ([] :: s1)) (hc : Runs (frag env ke ctx c) s1 s2) :
    Runs (frag env ke ctx (.andOr a b c)) s s2 :=
  .congr (frag_andOr env ke ctx a b c) (ha.bind (.ifElse_then h (nf := true) hc))

theorem runs_ifdup (a : Bytes) (s : List Bytes) :
    Runs (opc env .ifdup) (a :: s) (if castToBool a then a :: a :: s else a :: s) :=
  .of_eq fun _ _ => ⟨_, ifdup_nl h _ _ _ _⟩

theorem frag_orD_left (hl : Runs (frag env ke ctx l) s ([1] :: s1)) :
    Runs (frag env ke ctx (.orD l r)) s ([1] :: s1) :=
  .congr (frag_orD env ke ctx l r) (hl.bind ((runs_ifdup h [1] s1).bind (.ifThen_skipped h (nf := true))))

theorem frag_orD_right (hl : Runs (frag env ke ctx l) s ([] :: s1)) (hr : Runs (frag env ke ctx r) s1 s2) :
    Runs (frag env ke ctx (.orD l r)) s s2 :=
  .congr (frag_orD env ke ctx l r) (hl.bind ((runs_ifdup h [] s1).bind (.ifThen_taken h (nf := true) hr)))

theorem frag_orC_left (hl : Runs (frag env ke ctx l) s ([1] :: s1)) : Runs (frag env ke ctx (.orC l r)) s s1 :=
  .congr (frag_orC env ke ctx l r) (hl.bind (.ifThen_skipped h (nf := true)))

theorem frag_orC_right (hl : Runs (frag env ke ctx l) s ([] :: s1)) (hr : Runs (frag env ke ctx r) s1 s2) :
    Runs (frag env ke ctx (.orC l r)) s s2 :=
  .congr (frag_orC env ke ctx l r) (hl.bind (.ifThen_taken h (nf := true) hr))

theorem frag_orI_left (hl : Runs (frag env ke ctx l) s s1) : Runs (frag env ke ctx (.orI l r)) ([1] :: s) s1 :=
  .congr (frag_orI env ke ctx l r) (.ifElse_then h (nf := false) hl)

theorem frag_orI_right (hr : Runs (frag env ke ctx r) s s1) : Runs (frag env ke ctx (.orI l r)) ([] :: s) s1 :=
  .congr (frag_orI env ke ctx l r) (.ifElse_else h (nf := false) hr)

end conditionals

end MsVerif.SatSpec
