/-
Selections are exactly the ways of satisfying a policy: a policy holds under an assignment iff
all atoms of one of its selections are true.
-/
import MsVerif.Lemmas.PolicyBasic

namespace MsVerif.Pol

/-- some alternative is fully satisfied -/
def good (v : Atom → Bool) (al : List (List Atom)) : Bool := al.any (fun s => s.all v)

theorem good_all_false_iff (S : List (List Atom)) : (∀ v, good v S = false) ↔ S = [] := by
  constructor
  · intro h
    have := h (fun _ => true)
    cases S <;> simp_all [good]
  · rintro rfl v; rfl

theorem any_product (v : Atom → Bool) (al R : List (List Atom)) :
    (al.flatMap (fun a => R.map (a ++ ·))).any (fun s => s.all v) = (good v al && good v R) := by
  rw [Bool.eq_iff_iff]
  simp only [good, List.any_eq_true, List.mem_flatMap, List.mem_map, Bool.and_eq_true]
  constructor
  · rintro ⟨_, ⟨a, ha, r, hr, rfl⟩, h⟩
    rw [List.all_append, Bool.and_eq_true] at h
    exact ⟨⟨a, ha, h.1⟩, r, hr, h.2⟩
  · rintro ⟨⟨a, ha, h1⟩, r, hr, h2⟩
    exact ⟨a ++ r, ⟨a, ha, r, hr, rfl⟩, by rw [List.all_append, h1, h2]; rfl⟩

theorem good_chooseK (v : Atom → Bool) (alts : List (List (List Atom))) :
    ∀ k, good v (chooseK alts k) = decide (k ≤ alts.countP (good v)) := by
  induction alts with
  | nil =>
    intro k
    cases k <;> simp [chooseK, good]
  | cons al rest ih =>
    intro k
    cases k with
    | zero => simp [chooseK, good]
    | succ k =>
      have h1 := ih (k + 1)
      have h2 := ih k
      simp only [good] at h1 h2 ⊢
      rw [chooseK, List.any_append, h1, any_product, List.countP_cons]
      simp only [good]
      rw [h2, Bool.eq_iff_iff]
      by_cases hg : al.any (fun s => s.all v) = true <;> simp [hg] <;> omega

theorem holdsA_eq_good (v : Atom → Bool) : ∀ p, holdsA v p = good v (sels p) := by
  intro p
  induction p using Policy.induct' with
  | unsat | trivial | atom _ => simp [holdsA, sels, good]
  | thresh k subs ih =>
    rw [holdsA_thresh, sels, selsList_eq, good_chooseK,
      countP_map_congr sels (holdsA v) (good v) subs fun p hp => (ih p hp).symm]

theorem holdsC_eq_good (v : Atom → Bool) : ∀ c, holdsC v c = good v (selsC false c) := by
  intro c
  induction c using CPolicy.inductNode with
  | unsat | trivial | atom _ => simp [holdsC, selsC, good]
  | node c k subs hn ih =>
    rw [holdsC_node hn, selsC_node hn, good_chooseK,
      countP_map_congr (selsC false) (holdsC v) (good v) subs fun p hp => (ih p hp).symm]

end MsVerif.Pol
