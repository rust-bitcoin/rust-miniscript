/-
C06: what a type means for a completed run (`Sound`: alt stack restored, the stack shape of the base
type with `u`, and the letters `n`, `s`, `f`, each under the side conditions its rules rely on), and the
induction on the typing derivation that proves it (`sound_hasType`, stack limits off; `sound_frag` for the type `typeOf`
computes), after the lemmas on the further children of `thresh` (`signedTail_of`, `soundTail_of`) and on BOOLAND / BOOLOR it uses.
The theorems per letter (`shapeN`, `shape`, `nonzero`, `signed`, `forced`; C02's `AccSat.sound`, Lemmas/AccSatThm.lean: a
satisfied run has a satisfaction in the specification's table) are read off its fields.
A second induction, with no hypothesis on limits: a K fragment leaves a `keyTop` on top (`key_hasType`, `key_top`).
-/
import MsVerif.Lemmas.AccSatOps
import MsVerif.Lemmas.FragInv
import MsVerif.Lemmas.CoreHasType

namespace MsVerif.TypeSound
open MsVerif MsVerif.Script MsVerif.SatTable MsVerif.Complete MsVerif.AccSat

/-- everything the type `⟨t, m⟩` of `ms` predicts about one completed run of `ms` from stacks `s`, `al`
to the state `⟨s', al', n'⟩` (in full: what is claimed of a K fragment speaks of the CHECKSIG run on that state); each
letter under the side conditions of the library its rule relies on -/
structure Sound (env : Env) (ke : KeyEnv) (ms : Ms) (t : Corr) (m : Mall) (s al s' al' : List Bytes) (n' : Nat) :
    Prop where
  alt : al' = al
  shape : PostN t (maxArgs ms) s s'
  nonzero : wfK ms = true → isN t.input → ∀ stk, s = [] :: stk → Unsat env t.base ⟨s', al', n'⟩
  signed : NoSig env → wfS ms = true → m.signed = true → UnsatS env t.base s ⟨s', al', n'⟩
  forced : NoSig env → wfS ms = true → wfT ms = true → m.dissat = .none → ForcedS t.base s ⟨s', al', n'⟩
  sat : ∀ av, EnvOK env ke av → WF ms → SatS env (satEx av ms = true) t.base s ⟨s', al', n'⟩

theorem wrapW {c' : Core} {x v : Bytes} {tl r : List Bytes}
    (e : c'.stack = x :: v :: r ∨ c'.stack = v :: x :: r) {Q : Bytes → Prop} (hq : Q v) :
    ∀ y tl', x :: tl = y :: tl' → ∃ v r, (c'.stack = y :: v :: r ∨ c'.stack = v :: y :: r) ∧ Q v := by
  intro y tl' hy
  cases hy
  exact ⟨v, r, e, hq⟩

theorem signedTail_of {env : Env} (hns : NoSig env) (ke : KeyEnv) (ctx : Ctx) :
    (xs : MsList) → (∀ x ∈ xs.toList, wf x = true → ∀ (τ : Ty), typeOf x = some τ →
      ∀ (s al : List Bytes) (n : Nat) (s' al' : List Bytes) (n' : Nat),
        frag env ke ctx x ⟨s, al, n⟩ = .ok ⟨s', al', n'⟩ → Sound env ke x τ.corr τ.mall s al s' al' n') →
    wfL xs = true → wfSL xs = true → ∀ (ts : List Ty), typesOf xs = some ts →
      ∀ (i acc n : Nat), i ≠ 0 → Corr.threshLoop i acc (ts.map (·.corr)) = some n →
        ∀ (a : Bytes) (tl al : List Bytes) (m : Nat) (s' al' : List Bytes) (m' : Nat),
          fragThresh env ke ctx false xs ⟨a :: tl, al, m⟩ = .ok ⟨s', al', m'⟩ → (∀ y, num4 env a = .ok y → 0 ≤ y) →
          (xs = .nil ∧ (⟨s', al', m'⟩ : Core) = ⟨a :: tl, al, m⟩) ∨
          (∃ (y t : Int) (r : List Bytes), num4 env a = .ok y ∧ 0 ≤ t ∧ t ≤ (unsg (ts.map (·.mall)) : Int) ∧
            s' = numEncode (y + t) :: r)
  | .nil, _, _, _, ts, _, i, acc, n, _, _, a, tl, al, m, s', al', m', hr, _ => by
    cases hr
    exact Or.inl ⟨rfl, rfl⟩
  | .cons x xs', hch, hw, hk, ts, hts, i, acc, n, hi, hloop, a, tl, al, m, s', al', m', hr, ha => by
    obtain ⟨t0, ts', hx, hxs, rfl⟩ := typesOf_cons hts
    simp only [List.map_cons] at hloop
    obtain ⟨_, hW, hu0, _, htail⟩ := Corr.threshLoop_cons hloop
    have hbW := hW hi
    simp only [wfL, Bool.and_eq_true] at hw
    simp only [wfSL, Bool.and_eq_true] at hk
    obtain ⟨p, q, r', al1, m1, xp, xq, m2, h1, hp, hq, h3⟩ := fragThresh_add_inv hr
    have X := hch x (List.mem_cons_self ..) hw.1 t0 hx _ _ _ _ _ _ h1
    obtain ⟨x0, tl0, w, k, _, e0, e1, hunit⟩ := (PostN.W hbW).1 X.shape
    cases e0
    have hunit' := hunit hu0
    -- a signed child leaves a false value
    have hsw : t0.mall.signed = true → castToBool w = false := by
      intro hs0
      obtain ⟨v, r, e2, hvf⟩ := (UnsatS.W hbW).1 (X.signed hns hk.1 hs0) a tl rfl
      cases W_same_value e1 e2
      exact hvf
    -- the two operands of ADD are the accumulator and the child's result
    have hops : ∃ y d, num4 env a = .ok y ∧ num4 env w = .ok d ∧ xq + xp = y + d := by
      rcases e1 with e1 | e1 <;> cases e1
      · exact ⟨xp, xq, hp, hq, by omega⟩
      · exact ⟨xq, xp, hq, hp, rfl⟩
    obtain ⟨y, d, hy0, hd0, hsum⟩ := hops
    rw [hsum] at h3
    obtain ⟨hd01, hdf⟩ := unit_decode hunit' hd0
    have hy_nn := ha y hy0
    have hd_nn : 0 ≤ d := by rcases hd01 with h0 | h0 <;> omega
    have hdle : d ≤ ((if t0.mall.signed then 0 else 1 : Nat) : Int) := by
      cases hm : t0.mall.signed
      · rcases hd01 with h0 | h0 <;> simp [h0]
      · have := hdf (hsw hm); simp [this]
    have hyd : 0 ≤ y + d := Int.add_nonneg hy_nn hd_nn
    have ih := signedTail_of hns ke ctx xs'
      (fun z hz => hch z (List.mem_cons_of_mem _ hz)) hw.2 hk.2 ts' hxs (i + 1) _ n (by omega) htail _ _ _ _ _ _ _ h3
      (fun y' hy' => num4_numEncode_inv hyd hy' ▸ hyd)
    right
    simp only [List.map_cons]
    rw [unsg_cons]
    rcases ih with ⟨_, hc⟩ | ⟨y', t', r'', hy', ht0, ht1, rfl⟩
    · cases hc
      exact ⟨y, d, r', hy0, hd_nn, by push_cast; omega, rfl⟩
    · cases num4_numEncode_inv hyd hy'
      exact ⟨y, d + t', r'', hy0, by omega, by push_cast; omega, by rw [Int.add_assoc]⟩

/-- each further child adds its (unit) result to the counter, so the counter ends at most `countCanSat` above
where it started -/
theorem soundTail_of {env : Env} {ke : KeyEnv} {av : Avail} (henv : EnvOK env ke av) (ctx : Ctx) :
    (xs : MsList) → (∀ x ∈ xs.toList, wf x = true → ∀ (τ : Ty), typeOf x = some τ →
      ∀ (s al : List Bytes) (n : Nat) (s' al' : List Bytes) (n' : Nat),
        frag env ke ctx x ⟨s, al, n⟩ = .ok ⟨s', al', n'⟩ → Sound env ke x τ.corr τ.mall s al s' al' n') →
    WFL xs → ∀ (ts : List Ty), typesOf xs = some ts →
      ∀ (i acc n : Nat), i ≠ 0 → Corr.threshLoop i acc (ts.map (·.corr)) = some n →
        ∀ (a : Bytes) (tl al : List Bytes) (m : Nat) (s' al' : List Bytes) (m' : Nat),
          fragThresh env ke ctx false xs ⟨a :: tl, al, m⟩ = .ok ⟨s', al', m'⟩ → (∀ y, num4 env a = .ok y → 0 ≤ y) →
          (xs = .nil ∧ (⟨s', al', m'⟩ : Core) = ⟨a :: tl, al, m⟩) ∨
          (∃ (y t : Int) (r : List Bytes), num4 env a = .ok y ∧ 0 ≤ t ∧ t ≤ (countCanSat av xs : Int) ∧
            s' = numEncode (y + t) :: r)
  | .nil, _, _, ts, _, i, acc, n, _, _, a, tl, al, m, s', al', m', hr, _ => by
    cases hr
    exact Or.inl ⟨rfl, rfl⟩
  | .cons x xs', hs, hw, ts, hts, i, acc, n, hi, hloop, a, tl, al, m, s', al', m', hr, ha => by
    obtain ⟨t0, ts', hx, hxs, rfl⟩ := typesOf_cons hts
    simp only [List.map_cons] at hloop
    obtain ⟨_, hW, hu0, _, htail⟩ := Corr.threshLoop_cons hloop
    have hbW := hW hi
    obtain ⟨hwx, hwxs⟩ := hw.cons
    obtain ⟨p, q, r', al1, m1, xp, xq, m2, h1, hp, hq, h3⟩ := fragThresh_add_inv hr
    have X := hs x (List.mem_cons_self ..) hwx.w t0 hx _ _ _ _ _ _ h1
    obtain ⟨x0, tl0, w, k, _, e0, e1, hunit⟩ := (PostN.W hbW).1 X.shape
    cases e0
    have hunit' := hunit hu0
    have hsw : castToBool w = true → satEx av x = true := by
      intro hwt
      obtain ⟨v, r, e2, hvP⟩ := (SatS.W hbW).1 (X.sat av henv hwx) a tl rfl
      cases W_same_value e1 e2
      exact hvP hwt
    have hops : ∃ y d, num4 env a = .ok y ∧ num4 env w = .ok d ∧ xq + xp = y + d := by
      rcases e1 with e1 | e1 <;> cases e1
      · exact ⟨xp, xq, hp, hq, Int.add_comm _ _⟩
      · exact ⟨xq, xp, hq, hp, rfl⟩
    obtain ⟨y, d, hy0, hd0, hsum⟩ := hops
    rw [hsum] at h3
    obtain ⟨hd_nn, hd1, hdle⟩ := unit_count hunit' hsw hd0
    have hy_nn := ha y hy0
    have hyd : 0 ≤ y + d := Int.add_nonneg hy_nn hd_nn
    have ih := soundTail_of henv ctx xs' (fun z hz => hs z (List.mem_cons_of_mem _ hz)) hwxs ts' hxs (i + 1) _ n
      (Nat.succ_ne_zero i) htail _ _ _ _ _ _ _ h3 (fun y' hy' => num4_numEncode_inv hyd hy' ▸ hyd)
    right
    simp only [countCanSat]
    rcases ih with ⟨_, hc⟩ | ⟨y', t', r'', hy', ht0, ht1, rfl⟩
    · cases hc
      exact ⟨y, d, r', hy0, hd_nn, by push_cast; omega, rfl⟩
    · cases num4_numEncode_inv hyd hy'
      exact ⟨y, d + t', r'', hy0, by omega, by push_cast; omega, by rw [Int.add_assoc]⟩

/-! ### BOOLAND / BOOLOR on the values `z` (of the B child) and `w` (of the W child), which lie on top
in either order; `x`, `y` are the numbers the two top elements decode to -/

section bool2
variable {env : Env} {a b z w : Bytes} {r r' : List Bytes} {x y : Int}

theorem and_falsy (hx : num4 env a = .ok x) (hy : num4 env b = .ok y)
    (e : a :: b :: r' = z :: w :: r ∨ a :: b :: r' = w :: z :: r) (hf : castToBool z = false) :
    (x != 0 && y != 0) = false := by
  rcases e with e | e <;> cases e
  · cases falsy_decodes_zero hf (num4_ok hx); rfl
  · cases falsy_decodes_zero hf (num4_ok hy); simp

theorem and_truthy (hx : num4 env a = .ok x) (hy : num4 env b = .ok y)
    (e : a :: b :: r' = z :: w :: r ∨ a :: b :: r' = w :: z :: r) (hz : castToBool z = true) (hw : castToBool w = true) :
    (x != 0 && y != 0) = true := by
  rcases e with e | e <;> cases e
  · simp [truthy_decodes_nonzero hz (num4_ok hx), truthy_decodes_nonzero hw (num4_ok hy)]
  · simp [truthy_decodes_nonzero hw (num4_ok hx), truthy_decodes_nonzero hz (num4_ok hy)]

theorem or_falsy (hx : num4 env a = .ok x) (hy : num4 env b = .ok y)
    (e : a :: b :: r' = z :: w :: r ∨ a :: b :: r' = w :: z :: r) (hz : castToBool z = false) (hw : castToBool w = false) :
    (x != 0 || y != 0) = false := by
  rcases e with e | e <;> cases e
  · cases falsy_decodes_zero hz (num4_ok hx); cases falsy_decodes_zero hw (num4_ok hy); rfl
  · cases falsy_decodes_zero hw (num4_ok hx); cases falsy_decodes_zero hz (num4_ok hy); rfl

theorem and_true_inv (hx : num4 env a = .ok x) (hy : num4 env b = .ok y)
    (e : a :: b :: r' = z :: w :: r ∨ a :: b :: r' = w :: z :: r) (h : (x != 0 && y != 0) = true) :
    castToBool z = true ∧ castToBool w = true := by
  have hb : x ≠ 0 ∧ y ≠ 0 := by simpa using h
  rcases e with e | e <;> cases e
  · exact ⟨truthy_ne_zero hx hb.1, truthy_ne_zero hy hb.2⟩
  · exact ⟨truthy_ne_zero hy hb.2, truthy_ne_zero hx hb.1⟩

theorem or_true_inv (hx : num4 env a = .ok x) (hy : num4 env b = .ok y)
    (e : a :: b :: r' = z :: w :: r ∨ a :: b :: r' = w :: z :: r) (h : (x != 0 || y != 0) = true) :
    castToBool z = true ∨ castToBool w = true := by
  have hb : x ≠ 0 ∨ y ≠ 0 := by simpa using h
  rcases e with e | e <;> cases e
  · exact hb.imp (truthy_ne_zero hx) (truthy_ne_zero hy)
  · exact hb.symm.imp (truthy_ne_zero hy) (truthy_ne_zero hx)

end bool2

theorem hashOpOf_eq (k : HashKind) : AccSat.hashOpOf k = SatSpec.hashOpOf k := by cases k <;> rfl

theorem threshLoop_of_rule {ts : List Ty}
    (hrest : ∀ s ∈ ts, s.corr.base = .W ∧ s.corr.unit = true ∧ s.corr.dissat = true) (acc : Nat) :
    ∃ n, Corr.threshLoop 1 acc (ts.map (·.corr)) = some n := by
  have hall : (ts.map (·.corr)).all (fun s => decide (s.base = .W) && s.unit && s.dissat) = true := by
    simp only [List.all_map, List.all_eq_true, Function.comp_def, Bool.and_eq_true, decide_eq_true_eq]
    exact fun s hs => ⟨⟨(hrest s hs).1, (hrest s hs).2.1⟩, (hrest s hs).2.2⟩
  exact ⟨_, by rw [Corr.threshLoop_succ, if_pos hall]⟩

/- By induction on the typing derivation.  The list motive is "every element satisfies the statement", which is
what `shapeThreshN_of`, `signedTail_of` and `soundTail_of` ask for.  Those three speak of `typesOf` and
`Corr.threshLoop` from a running index on, not of `HasTypes`: that is the form of the theorems `shapeThreshN`, `signedTail` (below) and
`AccSat.soundTail` (Lemmas/AccSatThm.lean), which are their instances; `threshLoop_of_rule` is what the `thresh` case pays for it. -/
theorem sound_hasType {env : Env} (hlim : env.flags.stackLimits = false) (ke : KeyEnv) (ctx : Ctx) {ms : Ms} {τ : Ty}
    (h : HasType ms τ) : wf ms = true → ∀ (s al : List Bytes) (n : Nat) (s' al' : List Bytes) (n' : Nat),
      frag env ke ctx ms ⟨s, al, n⟩ = .ok ⟨s', al', n'⟩ → Sound env ke ms τ.corr τ.mall s al s' al' n' := by
  induction h using HasType.rec (motive_2 := fun xs _ _ => ∀ x ∈ xs.toList, wf x = true → ∀ (τ : Ty),
    typeOf x = some τ → ∀ (s al : List Bytes) (n : Nat) (s' al' : List Bytes) (n' : Nat),
      frag env ke ctx x ⟨s, al, n⟩ = .ok ⟨s', al', n'⟩ → Sound env ke x τ.corr τ.mall s al s' al' n') with
  | tru =>
    intro _ s al n s' al' n' hr
    obtain ⟨rfl, rfl⟩ := frag_tru_inv hr
    exact ⟨rfl, (PostN.B rfl).2 ⟨_, 0, Nat.zero_le _, rfl, fun _ _ => rfl⟩,
      fun _ hn => hn.elim nofun nofun, fun _ _ hs' => by simp [Ty.TRUE, Mall.TRUE] at hs',
      fun _ _ _ _ => bool_head rfl (by decide), fun _ _ _ _ _ _ _ => by simp only [satEx]⟩
  | fls =>
    intro _ s al n s' al' n' hr
    obtain ⟨rfl, rfl⟩ := frag_fls_inv hr
    exact ⟨rfl, (PostN.B rfl).2 ⟨_, 0, Nat.zero_le _, rfl, fun _ hv => by simp [castToBool] at hv⟩,
      fun _ hn => hn.elim nofun nofun, fun _ _ _ => nil_head rfl,
      fun _ _ _ hd => by simp [Ty.FALSE, Mall.FALSE] at hd,
      fun _ _ _ v r hv ht => by cases hv; simp [castToBool] at ht⟩
  | @pkK k =>
    intro _ s al n s' al' n' hr
    obtain ⟨rfl, rfl⟩ := frag_pkK_inv hr
    refine ⟨rfl, (PostN.K rfl).2 ⟨_, 0, Nat.zero_le _, rfl⟩, fun _ _ stk hst c'' hc v r hv => ?_,
      fun hns _ _ _ hc _ _ hv => checksig_nosig hns hc hv, fun _ _ _ hd => by simp [Ty.pkK, Mall.pkK] at hd,
      fun av henv _ pk sg r hst hok => ?_⟩
    · -- the signature CHECKSIG finds below the key is the empty vector
      subst hst
      obtain ⟨pk, sg, r', b, e1, e2, e3, _⟩ := checksig_ok' hc
      cases e1
      cases checkSig_empty_inv e2
      exact nil_head e3 v r hv
    · cases hst
      simp only [satEx]
      exact henv.sigK k sg hok
  | @pkH k =>
    intro _ s al n s' al' n' hr
    obtain ⟨a, r, rfl, rfl, hh, rfl⟩ := frag_pkH_inv hr
    refine ⟨rfl, (PostN.K rfl).2 ⟨a, 1, by simp only [maxArgs]; omega, rfl⟩,
      fun _ _ stk hst c'' hc v r' hv => ?_, fun hns _ _ _ hc _ _ hv => checksig_nosig hns hc hv,
      fun _ _ _ hd => by simp [Ty.pkH, Mall.pkH] at hd, fun av henv _ pk sg r' hst hok => ?_⟩
    · -- the key CHECKSIG finds on top is the empty vector
      cases hst
      obtain ⟨pk, sg, r'', b, e3, e4, _, _⟩ := checksig_ok' hc
      cases e3
      exact (checkSig_nil_key e4).elim
    · cases hst
      simp only [satEx]
      exact henv.sigH k a sg hh hok
  | @rawPkH k =>
    intro _ s al n s' al' n' hr
    obtain ⟨a, r, rfl, rfl, _, rfl⟩ := frag_rawPkH_inv hr
    refine ⟨rfl, (PostN.K rfl).2 ⟨a, 1, by simp only [maxArgs]; omega, rfl⟩,
      fun _ _ stk hst c'' hc v r' hv => ?_, fun hns _ _ _ hc _ _ hv => checksig_nosig hns hc hv,
      fun _ _ _ hd => by simp [Ty.pkH, Mall.pkH] at hd, fun _ _ hW => nomatch allNodes_leaf hW.r rfl⟩
    cases hst
    obtain ⟨pk, sg, r'', b, e3, e4, _, _⟩ := checksig_ok' hc
    cases e3
    exact (checkSig_nil_key e4).elim
  | @after k =>
    intro _ s al n s' al' n' hr
    obtain ⟨rfl, rfl, v, hv, _, hmet⟩ := frag_after_inv hr
    exact ⟨rfl, (PostN.B rfl).2 ⟨_, 0, Nat.zero_le _, rfl, fun hu => by simp [Ty.time, Corr.time] at hu⟩,
      fun _ hn => hn.elim nofun nofun, fun _ _ hs => by simp [Ty.time, Mall.time] at hs,
      fun _ _ ht _ => by
        simp only [wfT, Bool.and_eq_true, decide_eq_true_eq] at ht
        exact bool_head rfl (castToBool_numEncode (by omega) ht.2),
      fun av henv hW _ _ _ _ => by
        have ht := hW.t
        simp only [wfT, Bool.and_eq_true, decide_eq_true_eq] at ht
        cases decode_any_numEncode ht.2 hv
        simp only [satEx]
        exact henv.after k (by simpa using hmet)⟩
  | @older k =>
    intro _ s al n s' al' n' hr
    obtain ⟨rfl, rfl, v, hv, _, hmet⟩ := frag_older_inv hr
    exact ⟨rfl, (PostN.B rfl).2 ⟨_, 0, Nat.zero_le _, rfl, fun hu => by simp [Ty.time, Corr.time] at hu⟩,
      fun _ hn => hn.elim nofun nofun, fun _ _ hs => by simp [Ty.time, Mall.time] at hs,
      fun _ _ ht _ => by
        simp only [wfT, Bool.and_eq_true, decide_eq_true_eq] at ht
        exact bool_head rfl (castToBool_numEncode (by omega) ht.2),
      fun av henv hW _ _ _ _ => by
        have ht := hW.t
        simp only [wfT, Bool.and_eq_true, decide_eq_true_eq] at ht
        cases decode_any_numEncode ht.2 hv
        simp only [satEx]
        refine henv.older k ?_
        rcases hmet with hd | hc
        · -- the disable bit of a number below 2³¹ is not set
          exfalso
          have : k / SEQ_DISABLE = 0 := by unfold SEQ_DISABLE; omega
          simp [Int.toNat_natCast, this] at hd
        · simpa using hc⟩
  | @hash kind hh =>
    intro _ s al n s' al' n' hr
    obtain ⟨a, r, rfl, hlen, rfl, rfl⟩ := frag_hash_inv hr
    refine ⟨rfl, (PostN.B rfl).2 ⟨_, 1, by simp only [maxArgs]; omega, rfl, fun _ hv => boolBytes_unit _ hv⟩,
      fun _ _ stk hst => ?_, fun _ _ hs => by simp [Ty.hash, Mall.hash] at hs,
      fun _ _ _ hd => by simp [Ty.hash, Mall.hash] at hd, fun av henv _ v r' hst ht => ?_⟩
    · -- SIZE of the empty vector is not 32
      cases hst
      exact absurd hlen (by decide)
    · -- EQUAL gave true: the hash of the 32-byte element is the committed value
      have h32 : a.length = 32 := numEncode_eq32 hlen
      have hb := top_boolBytes rfl hst ht
      simp only [satEx]
      exact henv.pre kind hh a h32 (by rw [hashOpOf_eq]; exact (beq_iff_eq.mp hb).symm)
  | @multi k ks =>
    intro _ s al n s' al' n' hr
    rw [frag_multi] at hr
    obtain ⟨ha, ⟨b, hs⟩, hz⟩ := multi_sound ke k ks hr
    exact ⟨ha, (PostN.B rfl).2 ⟨_, k + 1, by simp only [maxArgs]; omega, hs, fun _ hv => boolBytes_unit _ hv⟩,
      fun hk _ stk hst => by
        simp only [wfK, decide_eq_true_eq] at hk
        obtain ⟨r, e⟩ := hz hk (.inr ⟨stk, hst⟩)
        exact nil_head e,
      fun hns hk _ => by
        simp only [wfS, decide_eq_true_eq] at hk
        obtain ⟨r, e⟩ := hz hk (.inl hns)
        exact nil_head e,
      fun _ _ _ hd => by simp [Ty.multi, Mall.multi] at hd,
      fun av henv _ v r hst ht => by
        have := multi_true henv k ks hr hst ht
        simp only [satEx, decide_eq_true_eq]
        exact this⟩
  | @sortedMulti k ks =>
    intro _ s al n s' al' n' hr
    rw [frag_sortedMulti, ← sortKeys_length ke ks] at hr
    obtain ⟨ha, ⟨b, hs⟩, hz⟩ := multi_sound ke k (sortKeys ke ks) hr
    exact ⟨ha, (PostN.B rfl).2 ⟨_, k + 1, by simp only [maxArgs]; omega, hs, fun _ hv => boolBytes_unit _ hv⟩,
      fun hk _ stk hst => by
        simp only [wfK, decide_eq_true_eq] at hk
        obtain ⟨r, e⟩ := hz hk (.inr ⟨stk, hst⟩)
        exact nil_head e,
      fun hns hk _ => by
        simp only [wfS, decide_eq_true_eq] at hk
        obtain ⟨r, e⟩ := hz hk (.inl hns)
        exact nil_head e,
      fun _ _ _ hd => by simp [Ty.sortedmulti, Mall.sortedmulti] at hd,
      fun av henv _ v r hst ht => by
        have := multi_true henv k (sortKeys ke ks) hr hst ht
        simp only [satEx, decide_eq_true_eq]
        rw [← sortKeys_filter ke ks av.sig]
        exact this⟩
  | @multiA k ks =>
    intro _ s al n s' al' n' hr
    rw [frag_multiA] at hr
    obtain ⟨ha, b, m, hm, hs⟩ := multiA_shape ke k ks hr
    refine ⟨ha, (PostN.B rfl).2 ⟨_, m, by simp only [maxArgs]; omega, hs, fun _ hv => boolBytes_unit _ hv⟩,
      fun _ hn => hn.elim nofun nofun, fun hns hk _ => ?_,
      fun _ _ _ hd => by simp [Ty.multiA, Mall.multiA] at hd,
      fun av henv hW v r hst ht => by
        have h2 := hW.s
        simp only [wfS, Bool.and_eq_true, decide_eq_true_eq] at h2
        have := multiA_true henv k ks h2.2 hr hst ht
        simp only [satEx, decide_eq_true_eq]
        exact this⟩
    simp only [wfS, Bool.and_eq_true, decide_eq_true_eq] at hk
    obtain ⟨r, e⟩ := multiA_nosig hns ke k hk.1 ks hk.2 hr
    exact nil_head e
  | @sortedMultiA k ks =>
    intro _ s al n s' al' n' hr
    rw [frag_sortedMultiA] at hr
    obtain ⟨ha, b, m, hm, hs⟩ := multiA_shape ke k (sortKeys ke ks) hr
    rw [sortKeys_length] at hm
    refine ⟨ha, (PostN.B rfl).2 ⟨_, m, by simp only [maxArgs]; omega, hs, fun _ hv => boolBytes_unit _ hv⟩,
      fun _ hn => hn.elim nofun nofun, fun hns hk _ => ?_,
      fun _ _ _ hd => by simp [Ty.sortedmultiA, Mall.sortedmultiA] at hd,
      fun av henv hW v r hst ht => by
        have h2 := hW.s
        simp only [wfS, Bool.and_eq_true, decide_eq_true_eq] at h2
        have := multiA_true henv k (sortKeys ke ks) (by rw [sortKeys_length]; exact h2.2) hr hst ht
        simp only [satEx, decide_eq_true_eq]
        rw [← sortKeys_filter ke ks av.sig]
        exact this⟩
    simp only [wfS, Bool.and_eq_true, decide_eq_true_eq] at hk
    obtain ⟨r, e⟩ := multiA_nosig hns ke k hk.1 (sortKeys ke ks) (by rw [sortKeys_length]; exact hk.2) hr
    exact nil_head e
  | @alt x a hx hb ih =>
    intro hw s al n s' al' n' hr
    obtain ⟨e, r, b, r', m, m', rfl, rfl, hX⟩ := frag_alt_inv hr
    have X := ih hw _ _ _ _ _ _ hX
    cases X.alt
    obtain ⟨v, k, hbd, rfl, hu⟩ := (PostN.B hb).1 X.shape
    exact ⟨rfl, (PostN.W rfl).2 ⟨e, r, v, k, by simp only [maxArgs]; omega, rfl, .inl rfl, hu⟩,
      fun _ hn => hn.elim nofun nofun,
      fun hns hk hs => wrapW (.inl rfl) ((UnsatS.B hb).1 (X.signed hns hk hs) v _ rfl),
      fun hns hk ht hd => wrapW (.inl rfl) ((ForcedS.B hb).1
        (X.forced hns hk ht hd) v _ rfl),
      fun av henv hW => wrapW (.inl rfl) fun ht => by
        simp only [satEx]
        exact (SatS.B hb).1 (X.sat av henv (hW.un (f := .alt) (by simp))) v _ rfl ht⟩
  | @swap x a hx hb hi ih =>
    intro hw s al n s' al' n' hr
    have hwx : wf x = true := hw
    obtain ⟨p, q, r, m, rfl, hX⟩ := frag_swap_inv hr
    have X := ih hwx _ _ _ _ _ _ hX
    obtain ⟨v, k, _, e2, hu⟩ := (PostN.B hb).1 X.shape
    -- `X` is one-arg: it consumes exactly `q` and leaves exactly one element
    have hc := args_hasType hlim ke ctx hx hwx 1 (by rcases hi with h1 | h1 <;> rw [h1] <;> rfl)
    rw [hb] at hc
    obtain ⟨out, ho, hs⟩ := (hc.at ⟨q :: p :: r, al, m⟩ [q] (p :: r) rfl rfl).2 _ hX
    obtain ⟨w, rfl⟩ := len1 ho
    cases (show s' = w :: p :: r from hs)
    cases List.head_eq_of_cons_eq e2
    exact ⟨X.alt, (PostN.W rfl).2 ⟨p, q :: r, v, 1, by simp only [maxArgs]; omega, rfl, .inr rfl, hu⟩,
      fun _ hn => hn.elim nofun nofun,
      fun hns hk hs' => wrapW (.inr rfl) ((UnsatS.B hb).1 (X.signed hns hk hs') v _ rfl),
      fun hns hk ht hd => wrapW (.inr rfl) ((ForcedS.B hb).1
        (X.forced hns hk ht hd) v _ rfl),
      fun av henv hW => wrapW (.inr rfl) fun ht => by
        simp only [satEx]
        exact (SatS.B hb).1 (X.sat av henv (hW.un (f := .swap) (by simp))) v _ rfl ht⟩
  | @check x a hx hb ih =>
    intro hw s al n s' al' n' hr
    obtain ⟨pk, sg, r, b, m, hX, hcs, rfl, h2⟩ := frag_check_inv hr
    have X := ih hw _ _ _ _ _ _ hX
    obtain ⟨k0, j, hbd, e1⟩ := (PostN.K hb).1 X.shape
    refine ⟨X.alt, (PostN.B rfl).2 ⟨boolBytes b, j + 1, by simp only [maxArgs]; omega,
        by rw [drop_succ_of_drop_cons (List.tail_eq_of_cons_eq e1).symm], fun _ hv => boolBytes_unit _ hv⟩,
      fun hk hn stk hst => ?_, fun hns _ _ v r' hv => checksig_nosig hns h2 hv, fun hns hk ht hd => ?_,
      fun av henv hW v r' hst ht => ?_⟩
    · have ih := X.nonzero hk hn stk hst
      rw [hb] at ih
      exact ih _ h2
    · exact ((ForcedS.K hb).1 (X.forced hns hk ht hd)).elim
    · cases top_boolBytes rfl hst ht
      simp only [satEx]
      exact (SatS.K hb).1 (X.sat av henv (hW.un (f := .check) (by simp))) pk sg r rfl (checkSig_true hcs)
  | @dupIf x a hx hb hz ih =>
    intro hw s al n s' al' n' hr
    have hwx : wf x = true := hw
    have hfc : (Mall.castDupIf a.mall).dissat = .none → False := Mall.wrapD_not_none _
    obtain ⟨p, r, rfl, ⟨hp, m, m', hX⟩ | ⟨hp, rfl, rfl⟩⟩ := frag_dupIf_inv hr
    · -- IF taken: `X` (V, zero-arg) runs below the copy and leaves the stack as it is
      have X := ih hwx _ _ _ _ _ _ hX
      have hc := args_hasType hlim ke ctx hx hwx 0 (by rw [hz]; rfl)
      rw [hb] at hc
      obtain ⟨out, ho, hs⟩ := (hc.at ⟨p :: r, al, m⟩ [] (p :: r) rfl rfl).2 _ hX
      cases List.eq_nil_of_length_eq_zero ho
      cases (show s' = p :: r from hs)
      refine ⟨X.alt, (PostN.B rfl).2 ⟨p, 1, by simp only [maxArgs]; omega, rfl, fun hu => by simp at hu⟩,
        fun _ _ stk hst => ?_,
        fun hns hk hs' => ((UnsatS.V hb).1 (X.signed hns hk hs')).elim,
        fun _ _ _ hd => (hfc hd).elim,
        fun av henv hW _ _ _ _ => by
          simp only [satEx]
          exact (SatS.V hb).1 (X.sat av henv (hW.un (f := .dupIf) (by simp)))⟩
      cases hst
      simp [castToBool] at hp
    · -- IF not taken: the copy was false and stays
      exact ⟨rfl, (PostN.B rfl).2 ⟨p, 1, by simp only [maxArgs]; omega, rfl, fun hu => by simp at hu⟩,
        fun _ _ _ _ => bool_head rfl hp, fun _ _ _ => bool_head rfl hp, fun _ _ _ hd => (hfc hd).elim,
        fun _ _ _ v r' hv ht => by cases hv; rw [hp] at ht; cases ht⟩
  | @verify x a hx hb ih =>
    intro hw s al n s' al' n' hr
    -- VERIFY found a true value `v`, so `X` was satisfied
    obtain ⟨v, m, hX, hv⟩ := frag_verify_inv hr
    have X := ih hw _ _ _ _ _ _ hX
    obtain ⟨v', k, hbd, e1, _⟩ := (PostN.B hb).1 X.shape
    cases e1
    refine ⟨X.alt, (PostN.V rfl).2 ⟨k, by simp only [maxArgs]; omega, rfl⟩,
      fun hk hn stk hst => ?_, fun hns hk hs => ?_, fun _ _ _ _ => trivial,
      fun av henv hW => by
        simp only [satEx]
        exact (SatS.B hb).1 (X.sat av henv (hW.un (f := .verify) (by simp))) v _ rfl hv⟩
    · have ih := X.nonzero hk hn stk hst
      rw [hb] at ih
      rw [ih v _ rfl] at hv
      cases hv
    · rw [(UnsatS.B hb).1 (X.signed hns hk hs) v _ rfl] at hv
      cases hv
  | @nonZero x a hx hb hi ih =>
    intro hw s al n s' al' n' hr
    have hfc : (Mall.castNonZero a.mall).dissat = .none → False := Mall.wrapD_not_none _
    obtain ⟨p, r, rfl, ⟨rfl, rfl, rfl⟩ | ⟨m, m', hX⟩⟩ := frag_nonZero_inv hr
    · exact ⟨rfl, (PostN.B rfl).2 ⟨[], 1, by simp only [maxArgs]; omega, rfl, fun _ hv => by simp [castToBool] at hv⟩,
        fun _ _ _ _ => nil_head rfl, fun _ _ _ => nil_head rfl, fun _ _ _ hd => (hfc hd).elim,
        fun _ _ _ v r' hv ht => by cases hv; simp [castToBool] at ht⟩
    · have X := ih hw _ _ _ _ _ _ hX
      obtain ⟨v, k, hbd, rfl, hu⟩ := (PostN.B hb).1 X.shape
      refine ⟨X.alt, (PostN.B rfl).2 ⟨v, k, by simp only [maxArgs]; omega, rfl, hu⟩,
        fun hk _ stk hst => ?_,
        fun hns hk hs v0 r' hv => (UnsatS.B hb).1 (X.signed hns hk hs) v0 r' hv,
        fun _ _ _ hd => (hfc hd).elim,
        fun av henv hW v0 r' hv ht => by
          simp only [satEx]
          exact (SatS.B hb).1 (X.sat av henv (hW.un (f := .nonZero) (by simp))) v0 r' hv ht⟩
      -- `X` is itself typed `n` and ran on the stack as it was
      have ih := X.nonzero hk hi stk hst
      rw [hb] at ih
      exact ih
  | @zeroNotEqual x a hx hb ih =>
    intro hw s al n s' al' n' hr
    obtain ⟨v, r, m, hX, rfl⟩ := frag_zeroNotEqual_inv hr
    have X := ih hw _ _ _ _ _ _ hX
    obtain ⟨v', k, hbd, e0, _⟩ := (PostN.B hb).1 X.shape
    cases e0
    refine ⟨X.alt, (PostN.B rfl).2 ⟨_, k, by simp only [maxArgs]; omega, rfl, fun _ hv => boolBytes_unit _ hv⟩,
      fun hk hn stk hst => ?_, fun hns hk hs => ?_, fun hns hk ht hd => ?_,
      fun av henv hW v0 r0 hst ht => by
        simp only [satEx]
        exact (SatS.B hb).1 (X.sat av henv (hW.un (f := .zeroNotEqual) (by simp))) v _ rfl (top_boolBytes rfl hst ht)⟩
    · have ih := X.nonzero hk hn stk hst
      rw [hb] at ih
      rw [ih v _ rfl]
      exact nil_head rfl
    · rw [(UnsatS.B hb).1 (X.signed hns hk hs) v _ rfl]
      exact nil_head rfl
    · rw [(ForcedS.B hb).1 (X.forced hns hk ht hd) v _ rfl]
      exact bool_head rfl (by decide)
  | @andV l r a b hl hr' ha hbw ihl ihr =>
    intro hw s al n s' al' n' hr
    simp only [wf, Bool.and_eq_true] at hw
    obtain ⟨s1, al1, m, h1, h2⟩ := frag_andV_inv hr
    have L := ihl hw.1 _ _ _ _ _ _ h1
    have R := ihr hw.2 _ _ _ _ _ _ h2
    cases L.alt
    obtain ⟨k, hbd, rfl⟩ := (PostN.V ha).1 L.shape
    refine ⟨R.alt, PostN.shift k R.shape rfl (fun hu => hu) hbw (by simp only [maxArgs]; omega),
      fun hk hn stk hst => ?_, fun hns hk hs => ?_, fun hns hk ht hd => ?_,
      fun av henv hW => by
        obtain ⟨hwl, hwr⟩ := hW.bin (f := .andV) (by simp)
        have hsl := (SatS.V ha).1 (L.sat av henv hwl)
        exact ((R.sat av henv hwr).mono fun hr' => by simp only [satEx, hsl, hr', Bool.and_self]).move rfl hbw rfl⟩
    · simp only [wfK, Bool.and_eq_true] at hk
      rcases andInput_isN hn with hna | ⟨haz, hnb⟩
      · have ih := L.nonzero hk.1 hna stk hst
        rw [ha] at ih
        exact ih.elim
      · -- `l` is zero-arg: it leaves the stack as it is
        have hc := args_hasType hlim ke ctx hl hw.1 0 (by rw [haz]; rfl)
        rw [ha] at hc
        obtain ⟨out, ho, hs⟩ := (hc.at ⟨s, al, n⟩ [] s rfl rfl).2 _ h1
        cases List.eq_nil_of_length_eq_zero ho
        exact R.nonzero hk.2 hnb stk (hs.trans hst)
    · simp only [wfS, Bool.and_eq_true] at hk
      simp only [Mall.andV, Bool.or_eq_true] at hs
      rcases hs with hs | hs
      · exact ((UnsatS.V ha).1 (L.signed hns hk.1 hs)).elim
      · exact (R.signed hns hk.2 hs).stack hns (by rfl) hbw
    · simp only [wfS, Bool.and_eq_true] at hk
      simp only [wfT, Bool.and_eq_true] at ht
      by_cases hrd : b.mall.dissat = .none
      · exact (R.forced hns hk.2 ht.2 hrd).move hbw rfl
      · -- otherwise `l` is signed, and cannot complete
        have hls : a.mall.signed = true := (Mall.andV_none _ _ hd).resolve_left hrd
        exact ((UnsatS.V ha).1 (L.signed hns hk.1 hls)).elim
  | @andB l r a b hl hr' ha hb ihl ihr =>
    intro hw s al n s' al' n' hr
    simp only [wf, Bool.and_eq_true] at hw
    obtain ⟨s1, al1, m, p, q, r', x, y, m', h1, h2, hx, hy, rfl⟩ := frag_andB_inv hr
    have L := ihl hw.1 _ _ _ _ _ _ h1
    have R := ihr hw.2 _ _ _ _ _ _ h2
    cases L.alt
    -- `z` is the value of `l`; `r` puts its own value `w` next to it
    obtain ⟨z, tl, w, j, _, rfl, e3, _⟩ := (PostN.W hb).1 R.shape
    refine ⟨R.alt, by simp only [maxArgs]; exact PostN.bool2 ha hb rfl L.shape R.shape rfl rfl,
      fun hk hn stk hst => ?_, fun hns hk hs => ?_, fun hns hk ht hd => ?_, fun av henv hW v0 r0 hst ht => ?_⟩
    · simp only [wfK, Bool.and_eq_true] at hk
      have hna : isN a.corr.input := by
        rw [W_any hr' hb] at hn
        rcases andInput_isN hn with h1 | ⟨_, h2⟩
        · exact h1
        · simp [isN] at h2
      have ih := L.nonzero hk.1 hna stk hst
      rw [ha] at ih
      rw [and_falsy hx hy e3 (ih z tl rfl)]
      exact nil_head rfl
    · -- one of the two operands of BOOLAND is a false value
      simp only [wfS, Bool.and_eq_true] at hk
      simp only [Mall.andB, Bool.or_eq_true] at hs
      rcases hs with hs | hs
      · rw [and_falsy hx hy e3 ((UnsatS.B ha).1 (L.signed hns hk.1 hs) z tl rfl)]
        exact nil_head rfl
      · obtain ⟨w', r'', e5, hwf⟩ := (UnsatS.W hb).1 (R.signed hns hk.2 hs) z tl rfl
        cases W_same_value e3 e5
        rw [and_falsy hx hy e3.symm hwf]
        exact nil_head rfl
    · simp only [wfS, Bool.and_eq_true] at hk
      simp only [wfT, Bool.and_eq_true] at ht
      rcases Mall.andB_none _ _ hd with ⟨hda, hdb⟩ | ⟨hda, hsa⟩ | ⟨hdb, hsb⟩
      · have hvt := (ForcedS.B ha).1 (L.forced hns hk.1 ht.1 hda) z tl rfl
        obtain ⟨w1, r'', e5, hwt⟩ := (ForcedS.W hb).1 (R.forced hns hk.2 ht.2 hdb) z tl rfl
        cases W_same_value e3 e5
        rw [and_truthy hx hy e3 hvt hwt]
        exact bool_head rfl (by decide)
      · have h1 := (ForcedS.B ha).1 (L.forced hns hk.1 ht.1 hda) z tl rfl
        have h2 := (UnsatS.B ha).1 (L.signed hns hk.1 hsa) z tl rfl
        rw [h1] at h2; cases h2
      · obtain ⟨w1, r1, e5, hwt⟩ := (ForcedS.W hb).1 (R.forced hns hk.2 ht.2 hdb) z tl rfl
        obtain ⟨w2, r2, e6, hwf⟩ := (UnsatS.W hb).1 (R.signed hns hk.2 hsb) z tl rfl
        cases W_same_value e5 e6
        rw [hwt] at hwf; cases hwf
    · -- BOOLAND gave true: both operands are true values
      obtain ⟨hwl, hwr⟩ := hW.bin (f := .andB) (by simp)
      obtain ⟨hzT, hwT⟩ := and_true_inv hx hy e3 (top_boolBytes rfl hst ht)
      obtain ⟨w', r'', e5, hwP⟩ := (SatS.W hb).1 (R.sat av henv hwr) z tl rfl
      cases W_same_value e3 e5
      simp only [satEx, (SatS.B ha).1 (L.sat av henv hwl) z tl rfl hzT, hwP hwT, Bool.and_self]
  | @orB l r a b hl hr' ha hb hda hdb ihl ihr =>
    intro hw s al n s' al' n' hr
    simp only [wf, Bool.and_eq_true] at hw
    obtain ⟨s1, al1, m, p, q, r', x, y, m', h1, h2, hx, hy, rfl⟩ := frag_orB_inv hr
    have L := ihl hw.1 _ _ _ _ _ _ h1
    have R := ihr hw.2 _ _ _ _ _ _ h2
    cases L.alt
    obtain ⟨z, tl, w, j, _, rfl, e3, _⟩ := (PostN.W hb).1 R.shape
    refine ⟨R.alt, by simp only [maxArgs]; exact PostN.bool2 ha hb rfl L.shape R.shape rfl rfl,
      fun _ hn => (orBInput_not_isN _ _ hn).elim, fun hns hk hs => ?_, fun _ _ _ hd => by simp [Mall.orB] at hd,
      fun av henv hW v0 r0 hst ht => ?_⟩
    · -- both operands of BOOLOR are false values
      simp only [wfS, Bool.and_eq_true] at hk
      simp only [Mall.orB, Bool.and_eq_true] at hs
      obtain ⟨w', r'', e5, hwf⟩ := (UnsatS.W hb).1 (R.signed hns hk.2 hs.2) z tl rfl
      cases W_same_value e3 e5
      rw [or_falsy hx hy e3 ((UnsatS.B ha).1 (L.signed hns hk.1 hs.1) z tl rfl) hwf]
      exact nil_head rfl
    · -- BOOLOR gave true: one operand is a true value; the other child is `d`
      obtain ⟨hwl, hwr⟩ := hW.bin (f := .orB) (by simp)
      obtain ⟨w', r'', e5, hwP⟩ := (SatS.W hb).1 (R.sat av henv hwr) z tl rfl
      cases W_same_value e3 e5
      simp only [satEx, dsat_of_d av l a hl.typeOf_eq hda hwl.r, dsat_of_d av r b hr'.typeOf_eq hdb hwr.r, Bool.and_true,
        Bool.true_and, Bool.or_eq_true]
      exact (or_true_inv hx hy e3 (top_boolBytes rfl hst ht)).imp ((SatS.B ha).1 (L.sat av henv hwl) z tl rfl) hwP
  | @orD l r a b hl hr' ha hb hda hua ihl ihr =>
    intro hw s al n s' al' n' hr
    simp only [wf, Bool.and_eq_true] at hw
    obtain ⟨v, s1, al1, m, h1, hcase⟩ := frag_orD_inv hr
    have L := ihl hw.1 _ _ _ _ _ _ h1
    cases L.alt
    obtain ⟨v', k, hbd, e1, hu⟩ := (PostN.B ha).1 L.shape
    cases e1
    rcases hcase with ⟨hv, rfl, rfl⟩ | ⟨hv, m1, m2, h2⟩
    · -- `l` left a true value: IFDUP doubles it, NOTIF takes one copy and skips `r`
      refine ⟨rfl, (PostN.B rfl).2 ⟨v, k, by simp only [maxArgs]; omega, rfl, fun _ _ => hu hua hv⟩,
        fun _ hn => (orDInput_not_isN _ _ hn).elim, fun hns hk hs => ?_, fun _ _ _ _ => bool_head rfl hv,
        fun av henv hW _ _ _ _ => by
          have hsl := (SatS.B ha).1 (L.sat av henv (hW.bin (f := .orD) (by simp)).1) v _ rfl hv
          simp only [satEx, hsl, Bool.true_or]⟩
      simp only [wfS, Bool.and_eq_true] at hk
      simp only [Mall.orD, Bool.and_eq_true] at hs
      rw [(UnsatS.B ha).1 (L.signed hns hk.1 hs.1) v _ rfl] at hv
      cases hv
    · -- `l` left a false value: NOTIF takes it and `r` runs on what `l` left below it
      have R := ihr hw.2 _ _ _ _ _ _ h2
      refine ⟨R.alt, PostN.shift k R.shape hb.symm (fun hu' => hu') (by rw [hb]; simp) (by simp only [maxArgs]; omega),
        fun _ hn => (orDInput_not_isN _ _ hn).elim, fun hns hk hs => ?_, fun hns hk ht hd => ?_,
        fun av henv hW v0 r0 hst ht => by
          obtain ⟨hwl, hwr⟩ := hW.bin (f := .orD) (by simp)
          have := (SatS.B hb).1 (R.sat av henv hwr) v0 r0 hst ht
          simp only [satEx, dsat_of_d av l a hl.typeOf_eq hda hwl.r, this, Bool.and_self, Bool.or_true]⟩
      · simp only [wfS, Bool.and_eq_true] at hk
        simp only [Mall.orD, Bool.and_eq_true] at hs
        exact fun v0 r0 hv0 => (UnsatS.B hb).1 (R.signed hns hk.2 hs.2) v0 r0 hv0
      · simp only [wfS, Bool.and_eq_true] at hk
        simp only [wfT, Bool.and_eq_true] at ht
        exact fun v0 r0 hv0 => (ForcedS.B hb).1 (R.forced hns hk.2 ht.2 hd) v0 r0 hv0
  | @orC l r a b hl hr' ha hb hda hua ihl ihr =>
    intro hw s al n s' al' n' hr
    simp only [wf, Bool.and_eq_true] at hw
    -- the input of rule `orC` is `Corr.orDInput`, hence `orDInput_not_isN` for `n`
    obtain ⟨v, s1, al1, m, h1, hcase⟩ := frag_orC_inv hr
    have L := ihl hw.1 _ _ _ _ _ _ h1
    cases L.alt
    obtain ⟨v', k, hbd, e1, _⟩ := (PostN.B ha).1 L.shape
    cases e1
    rcases hcase with ⟨hv, rfl, rfl⟩ | ⟨hv, m1, m2, h2⟩
    · -- `l` left a true value: `r` is skipped
      refine ⟨rfl, (PostN.V rfl).2 ⟨k, by simp only [maxArgs]; omega, rfl⟩,
        fun _ hn => (orDInput_not_isN _ _ hn).elim, fun hns hk hs => ?_, fun _ _ _ _ => trivial,
        fun av henv hW => by
          have hsl := (SatS.B ha).1 (L.sat av henv (hW.bin (f := .orC) (by simp)).1) v _ rfl hv
          refine (SatS.V rfl).2 ?_
          simp only [satEx, hsl, Bool.true_or]⟩
      simp only [wfS, Bool.and_eq_true] at hk
      simp only [Mall.orC, Bool.and_eq_true] at hs
      rw [(UnsatS.B ha).1 (L.signed hns hk.1 hs.1) v _ rfl] at hv
      cases hv
    · have R := ihr hw.2 _ _ _ _ _ _ h2
      refine ⟨R.alt,
        PostN.shift k R.shape hb.symm (fun hu' => by simp at hu') (by rw [hb]; simp) (by simp only [maxArgs]; omega),
        fun _ hn => (orDInput_not_isN _ _ hn).elim, fun hns hk hs => ?_, fun _ _ _ _ => trivial,
        fun av henv hW => by
          obtain ⟨hwl, hwr⟩ := hW.bin (f := .orC) (by simp)
          have ihr := (SatS.V hb).1 (R.sat av henv hwr)
          refine (SatS.V rfl).2 ?_
          simp only [satEx, dsat_of_d av l a hl.typeOf_eq hda hwl.r, ihr, Bool.and_self, Bool.or_true]⟩
      simp only [wfS, Bool.and_eq_true] at hk
      simp only [Mall.orC, Bool.and_eq_true] at hs
      exact (UnsatS.V hb).1 (R.signed hns hk.2 hs.2)
  | @orI l r a b hl hr' hab hbw ihl ihr =>
    intro hw s al n s' al' n' hr
    simp only [wf, Bool.and_eq_true] at hw
    have hboth := Mall.orI_none a.mall b.mall
    obtain ⟨v, s1, m, m', rfl, ⟨_, h3⟩ | ⟨_, h3⟩⟩ := frag_orI_inv hr
    · have L := ihl hw.1 _ _ _ _ _ _ h3
      refine ⟨L.alt, PostN.shift 1 L.shape rfl (fun hu => ?_) hbw (by simp only [maxArgs]; omega),
        fun _ hn => (orIInput_not_isN _ _ hn).elim, fun hns hk hs => ?_, fun hns hk ht hd => ?_,
        fun av henv hW => ((L.sat av henv (hW.bin (f := .orI) (by simp)).1).mono fun hs => by
          simp only [satEx, hs, Bool.true_or]).move rfl hbw rfl⟩
      · simp only [Bool.and_eq_true] at hu
        exact hu.1
      · simp only [wfS, Bool.and_eq_true] at hk
        simp only [Mall.orI, Bool.and_eq_true] at hs
        exact (L.signed hns hk.1 hs.1).stack hns (by rfl) hbw
      · simp only [wfS, Bool.and_eq_true] at hk
        simp only [wfT, Bool.and_eq_true] at ht
        exact (L.forced hns hk.1 ht.1 (hboth hd).1).move hbw rfl
    · have R := ihr hw.2 _ _ _ _ _ _ h3
      refine ⟨R.alt, PostN.shift 1 R.shape hab (fun hu => ?_) (hab ▸ hbw) (by simp only [maxArgs]; omega),
        fun _ hn => (orIInput_not_isN _ _ hn).elim, fun hns hk hs => ?_, fun hns hk ht hd => ?_,
        fun av henv hW => by
          have ih := R.sat av henv (hW.bin (f := .orI) (by simp)).2
          rw [← hab] at ih
          exact (ih.mono fun hs => by simp only [satEx, hs, Bool.or_true]).move rfl hbw rfl⟩
      · simp only [Bool.and_eq_true] at hu
        exact hu.2
      · simp only [wfS, Bool.and_eq_true] at hk
        simp only [Mall.orI, Bool.and_eq_true] at hs
        have ih := R.signed hns hk.2 hs.2
        rw [← hab] at ih
        exact ih.stack hns (by rfl) hbw
      · simp only [wfS, Bool.and_eq_true] at hk
        simp only [wfT, Bool.and_eq_true] at ht
        have ih := R.forced hns hk.2 ht.2 (hboth hd).2
        rw [← hab] at ih
        exact ih.move hbw rfl
  | @andOr x y z a b c hx hy hz ha hda hua hbc hbw ihx ihy ihz =>
    intro hw s al n s' al' n' hr
    simp only [wf, Bool.and_eq_true] at hw
    obtain ⟨v, s1, al1, m, m1, m2, h1, hcase⟩ := frag_andOr_inv hr
    have A := ihx hw.1.1 _ _ _ _ _ _ h1
    cases A.alt
    obtain ⟨v', k, hbd, e1, _⟩ := (PostN.B ha).1 A.shape
    cases e1
    have hfacts := Mall.andOr_none a.mall b.mall c.mall
    -- a signed `x` leaves a false value, so NOTIF takes the `z` branch
    have hxs : NoSig env → wfS x = true → a.mall.signed = true → castToBool v = true → False := fun hns hk hsa hv => by
      rw [(UnsatS.B ha).1 (A.signed hns hk hsa) v _ rfl] at hv
      cases hv
    rcases hcase with ⟨hv, h3⟩ | ⟨hv, h3⟩
    · have Y := ihy hw.1.2 _ _ _ _ _ _ h3
      refine ⟨Y.alt, PostN.shift k Y.shape rfl (fun hu => ?_) hbw (by simp only [maxArgs]; omega),
        fun _ hn => (andOrInput_not_isN _ _ _ hn).elim, fun hns hk hs => ?_, fun hns hk ht hd => ?_,
        fun av henv hW => by
          obtain ⟨hwx, hwy, _⟩ := hW.andOr
          have hsx := (SatS.B ha).1 (A.sat av henv hwx) v _ rfl hv
          exact ((Y.sat av henv hwy).mono fun hs => by
            simp only [satEx, hsx, hs, Bool.and_self, Bool.true_or]).move rfl hbw rfl⟩
      · simp only [Bool.and_eq_true] at hu
        exact hu.1
      · simp only [wfS, Bool.and_eq_true] at hk
        simp only [Mall.andOr, Bool.and_eq_true, Bool.or_eq_true] at hs
        rcases hs.1 with hsa | hsb
        · exact (hxs hns hk.1.1 hsa hv).elim
        · exact (Y.signed hns hk.1.2 hsb).stack hns (by rfl) hbw
      · simp only [wfS, Bool.and_eq_true] at hk
        simp only [wfT, Bool.and_eq_true] at ht
        rcases (hfacts hd).2 with hdb | hsa
        · exact (Y.forced hns hk.1.2 ht.1.2 hdb).move hbw rfl
        · exact (hxs hns hk.1.1 hsa hv).elim
    · have Z := ihz hw.2 _ _ _ _ _ _ h3
      refine ⟨Z.alt, PostN.shift k Z.shape hbc (fun hu => ?_) (hbc ▸ hbw) (by simp only [maxArgs]; omega),
        fun _ hn => (andOrInput_not_isN _ _ _ hn).elim, fun hns hk hs => ?_, fun hns hk ht hd => ?_,
        fun av henv hW => by
          obtain ⟨hwx, _, hwz⟩ := hW.andOr
          have ih := Z.sat av henv hwz
          rw [← hbc] at ih
          exact (ih.mono fun hs => by
            simp only [satEx, dsat_of_d av x a hx.typeOf_eq hda hwx.r, hs, Bool.and_self, Bool.or_true]).move rfl hbw rfl⟩
      · simp only [Bool.and_eq_true] at hu
        exact hu.2
      · simp only [wfS, Bool.and_eq_true] at hk
        simp only [Mall.andOr, Bool.and_eq_true, Bool.or_eq_true] at hs
        have ih := Z.signed hns hk.2 hs.2
        rw [← hbc] at ih
        exact ih.stack hns (by rfl) hbw
      · simp only [wfS, Bool.and_eq_true] at hk
        simp only [wfT, Bool.and_eq_true] at ht
        have ih := Z.forced hns hk.2 ht.2 (hfacts hd).1
        rw [← hbc] at ih
        exact ih.move hbw rfl
  | threshNil =>
    intro hw
    simp [wf, MsList.length] at hw
  | @thresh k x xs t ts hx hxs hB hu hd hrest ihx ihxs =>
    intro hw s al n s' al' n' hr
    obtain ⟨nargs', htail⟩ := threshLoop_of_rule hrest 0
    simp only [wf, wfL, MsList.length, Bool.and_eq_true] at hw
    have hlen : ts.length = xs.length := hxs.length_eq
    obtain ⟨vT, rT, mT, hT, rfl⟩ := frag_thresh_inv hr
    obtain ⟨s1, al1, m1, h1, hT'⟩ := fragThresh_first_inv hT
    have X := ihx hw.2.1 _ _ _ _ _ _ h1
    cases X.alt
    obtain ⟨v1, n1, hn1, rfl, hunit⟩ := (PostN.B hB).1 X.shape
    have hunit' := hunit hu
    obtain ⟨rfl, ih2⟩ := shapeThreshN_of ke ctx xs
      (fun x0 hx0 hw0 τ0 h0 _ _ _ _ _ _ hr0 => ⟨(ihxs x0 hx0 hw0 τ0 h0 _ _ _ _ _ _ hr0).alt, (ihxs x0 hx0 hw0 τ0 h0 _ _ _ _ _ _ hr0).shape⟩)
      hw.2.2 ts hxs.typesOf_eq false 1 _ nargs' (by simp) htail _ _ _ _ _ _ hT'
    refine ⟨rfl, ?_, fun _ hn => ?_, fun hns hk hs => ?_, fun _ _ _ hd' => ?_, fun av henv hW v0 r0 hst ht => ?_⟩
    · obtain ⟨m, hm, rfl⟩ : ∃ m, m ≤ maxArgsL xs ∧ rT = (s.drop n1).drop m := by
        rcases ih2 with ⟨_, e⟩ | ih2
        · exact ⟨0, Nat.zero_le _, (List.cons.inj e).2⟩
        · simp only [ThreshPost, Bool.false_eq_true, if_false] at ih2
          obtain ⟨a, tl, v, m, hm, e0, e1⟩ := ih2
          cases e0
          exact ⟨m, hm, (List.cons.inj e1).2⟩
      exact (PostN.B rfl).2 ⟨_, n1 + m, by simp only [maxArgs, maxArgsL]; omega, by rw [List.drop_drop],
        fun _ hv => boolBytes_unit _ hv⟩
    · have : ∀ N : Nat, ¬ isN (match N with | 0 => Input.zero | 1 => .one | _ => .any) := fun N => by
        match N with
        | 0 => simp [isN]
        | 1 => simp [isN]
        | _ + 2 => simp [isN]
      exact (this _ hn).elim
    · -- the counter the children leave is below `k`
      rw [threshold_signed] at hs
      simp only [List.map_cons, List.length_cons, List.length_map, decide_eq_true_eq] at hs
      simp only [wfS, wfSL, Bool.and_eq_true, decide_eq_true_eq] at hk
      simp only [MsList.length] at hk
      have hsx : t.mall.signed = true → castToBool v1 = false :=
        fun hs0 => (UnsatS.B hB).1 (X.signed hns hk.2.1 hs0) v1 _ rfl
      have hpos : ∀ y, num4 env v1 = .ok y → 0 ≤ y := by
        intro y hy0
        rcases (unit_decode hunit' hy0).1 with h0 | h0 <;> omega
      have htl := signedTail_of hns ke ctx xs
        ihxs hw.2.2 hk.2.2 ts hxs.typesOf_eq 1 _ nargs' (by omega) htail
        _ _ _ _ _ _ _ hT' hpos
      have hsum := sgn_add_unsg (t.mall :: ts.map (·.mall))
      simp only [List.length_cons, List.length_map] at hsum
      have hfalse : (numEncode (k : Int) == vT) = false := by
        apply Classical.byContradiction
        intro hne
        have heq : numEncode (k : Int) = vT := by simpa using hne
        rcases htl with ⟨hnil, hc⟩ | ⟨y, t', r', hy0, ht0, ht1, eT⟩
        · -- a single child
          subst hnil
          cases hc
          cases hxs
          simp only [MsList.length, List.length_nil, List.map_nil] at hk hs hsum
          have hk1 : k ≤ 1 := by omega
          have hsg : sgn [t.mall] ≤ 1 := by unfold sgn; exact (List.length_filter_le _ _)
          have hk' : k = 1 := by omega
          subst hk'
          have hs0 : t.mall.signed = true := by
            cases hm : t.mall.signed
            · simp [sgn, hm] at hs
            · rfl
          have := hsx hs0
          rw [← heq, castToBool_numEncode (by omega) (by omega)] at this
          cases this
        · cases eT
          obtain ⟨hy01, hyf⟩ := unit_decode hunit' hy0
          have hyle : y ≤ (if t.mall.signed then 0 else 1 : Nat) := by
            cases hm : t.mall.signed
            · rcases hy01 with h0 | h0 <;> simp [h0]
            · have := hyf (hsx hm); simp [this]
          rw [unsg_cons] at hsum
          have hT0 : 0 ≤ y + t' := by have := hpos y hy0; omega
          have hTk : (y + t').toNat < k := by
            have : xs.length = ts.length := hlen.symm
            omega
          have hcast : y + t' = ((y + t').toNat : Int) := by omega
          rw [hcast] at heq
          have := numEncode_inj (by omega) (by omega) heq
          omega
      rw [hfalse]
      exact nil_head rfl
    · simp only [Mall.threshold] at hd'
      split at hd' <;> cases hd'
    · -- a true result: the counter is `k`, and it counts only children that can be satisfied
      obtain ⟨hwL, _, hkn, hn31⟩ := hW.thresh
      obtain ⟨hwx, hwxs⟩ := hwL.cons
      simp only [MsList.length] at hkn hn31
      have hallD : allDsatEx av (.cons x xs) = true :=
        dsat_of_d av _ _ (HasType.thresh (k := k) hx hxs hB hu hd hrest).typeOf_eq rfl hW.r
      have hsx : castToBool v1 = true → satEx av x = true := (SatS.B hB).1 (X.sat av henv hwx) v1 _ rfl
      have hpos : ∀ y, num4 env v1 = .ok y → 0 ≤ y := fun y hy0 => (unit_count hunit' hsx hy0).1
      have htl := soundTail_of henv ctx xs ihxs hwxs ts hxs.typesOf_eq 1 _ nargs'
        (by omega) htail _ _ _ _ _ _ _ hT' hpos
      have heq : numEncode (k : Int) = vT := beq_iff_eq.mp (top_boolBytes rfl hst ht)
      have hk31 : k < 2 ^ 31 := Nat.lt_of_le_of_lt hkn hn31
      have hk : k ≤ countCanSat av (.cons x xs) := by
        simp only [countCanSat]
        rcases htl with ⟨hnil, hc⟩ | ⟨y, t', r', hy0, ht0, ht1, eT⟩
        · subst hnil
          cases hc
          have hy0 : num4 env vT = .ok (k : Int) := by
            rw [← heq]; exact num4_numEncode hk31 env
          have := (unit_count hunit' hsx hy0).2.2
          simp only [countCanSat, Nat.add_zero]
          omega
        · cases eT
          obtain ⟨hy_nn, hy1, hyle⟩ := unit_count hunit' hsx hy0
          have hT0 : 0 ≤ y + t' := Int.add_nonneg hy_nn ht0
          rw [← Int.toNat_of_nonneg hT0] at heq
          have hcs : countCanSat av xs ≤ xs.length := by
            rw [countCanSat_eq, ← MsList.length_toList]
            exact List.countP_le_length
          have := Script.numEncode_inj hk31 (by omega) heq
          omega
      rw [satEx_thresh_of_allDsat _ _ _ hallD]
      exact decide_eq_true hk
  | nil => exact absurd ‹_ ∈ MsList.nil.toList› List.not_mem_nil
  | @cons x xs t ts hx hxs ihx ihxs =>
    rename_i x0 hx0 hw0 τ0 h0 s al n s' al' n' hr
    rcases List.mem_cons.mp hx0 with rfl | hx0
    · cases hx.typeOf_eq.symm.trans h0
      exact ihx hw0 _ _ _ _ _ _ hr
    · exact ihxs x0 hx0 hw0 τ0 h0 _ _ _ _ _ _ hr

theorem sound_frag {env : Env} (hlim : env.flags.stackLimits = false) (ke : KeyEnv) (ctx : Ctx) :
    (ms : Ms) → wf ms = true → ∀ (τ : Ty), typeOf ms = some τ → ∀ (c c' : Core),
      frag env ke ctx ms c = .ok c' → Sound env ke ms τ.corr τ.mall c.stack c.alt c'.stack c'.alt c'.ops :=
  fun ms hw _ h _ _ hr => sound_hasType hlim ke ctx (.of_typeOf ms h) hw _ _ _ _ _ _ hr

theorem shapeN {env : Env} (hlim : env.flags.stackLimits = false) (ke : KeyEnv) (ctx : Ctx) :
    (ms : Ms) → wf ms = true → ∀ (τ : Ty), typeOf ms = some τ → ∀ (c c' : Core),
      frag env ke ctx ms c = .ok c' → c'.alt = c.alt ∧ PostN τ.corr (maxArgs ms) c.stack c'.stack :=
  fun ms hw τ h c c' hr => ⟨(sound_frag hlim ke ctx ms hw τ h c c' hr).alt, (sound_frag hlim ke ctx ms hw τ h c c' hr).shape⟩

theorem shapeThreshN {env : Env} (hlim : env.flags.stackLimits = false) (ke : KeyEnv) (ctx : Ctx) :
    (xs : MsList) → wfL xs = true → ∀ (ts : List Ty), typesOf xs = some ts →
      ∀ (first : Bool) (i acc n : Nat), (first = true ↔ i = 0) →
        Corr.threshLoop i acc (ts.map (·.corr)) = some n → ∀ (c c' : Core),
          fragThresh env ke ctx first xs c = .ok c' →
            c'.alt = c.alt ∧ ((xs = .nil ∧ c'.stack = c.stack) ∨ ThreshPost first (maxArgsL xs) c.stack c'.stack) :=
  fun xs hw ts hts first i acc n hfi hl _ _ hr =>
    shapeThreshN_of ke ctx xs (fun x _ hw τ h _ _ _ _ _ _ hr => shapeN hlim ke ctx x hw τ h _ _ hr)
      hw ts hts first i acc n hfi hl _ _ _ _ _ _ hr

theorem shape {env : Env} (hlim : env.flags.stackLimits = false) (ke : KeyEnv) (ctx : Ctx)
    (ms : Ms) (hwf : wf ms = true) (τ : Ty) (hty : typeOf ms = some τ) (c c' : Core)
    (hrun : frag env ke ctx ms c = .ok c') : c'.alt = c.alt ∧ Post τ.corr c.stack c'.stack :=
  ⟨(shapeN hlim ke ctx ms hwf τ hty c c' hrun).1, (shapeN hlim ke ctx ms hwf τ hty c c' hrun).2.toPost⟩

theorem nonzero {env : Env} (hlim : env.flags.stackLimits = false) (ke : KeyEnv) (ctx : Ctx) :
    (ms : Ms) → wf ms = true → wfK ms = true → ∀ (τ : Ty), typeOf ms = some τ → isN τ.corr.input →
      ∀ (stk alt : List Bytes) (ops : Nat) (c' : Core),
        frag env ke ctx ms ⟨[] :: stk, alt, ops⟩ = .ok c' → Unsat env τ.corr.base c' :=
  fun ms hw hk τ h hn stk _ _ c' hr => (sound_frag hlim ke ctx ms hw τ h _ c' hr).nonzero hk hn stk rfl

theorem signed {env : Env} (hlim : env.flags.stackLimits = false) (hns : NoSig env) (ke : KeyEnv) (ctx : Ctx) :
    (ms : Ms) → wf ms = true → wfS ms = true → ∀ (τ : Ty), typeOf ms = some τ → τ.mall.signed = true →
      ∀ (c c' : Core), frag env ke ctx ms c = .ok c' → UnsatS env τ.corr.base c.stack c' :=
  fun ms hw hk τ h hs c c' hr => (sound_frag hlim ke ctx ms hw τ h c c' hr).signed hns hk hs

theorem signedTail {env : Env} (hlim : env.flags.stackLimits = false) (hns : NoSig env) (ke : KeyEnv) (ctx : Ctx) :
    (xs : MsList) → wfL xs = true → wfSL xs = true → ∀ (ts : List Ty), typesOf xs = some ts →
      ∀ (i acc n : Nat), i ≠ 0 → Corr.threshLoop i acc (ts.map (·.corr)) = some n →
        ∀ (c c' : Core) (a : Bytes) (tl : List Bytes), fragThresh env ke ctx false xs c = .ok c' →
          c.stack = a :: tl → (∀ y, num4 env a = .ok y → 0 ≤ y) →
          (xs = .nil ∧ c' = c) ∨
          (∃ (y t : Int) (r : List Bytes), num4 env a = .ok y ∧ 0 ≤ t ∧ t ≤ (unsg (ts.map (·.mall)) : Int) ∧
            c'.stack = numEncode (y + t) :: r) :=
  fun xs hw hk ts hts i acc n hi hl c c' a tl hr hst ha => by
    obtain ⟨s, al, m⟩ := c
    cases (show s = a :: tl from hst)
    exact signedTail_of hns ke ctx xs (fun x _ hw τ h _ _ _ _ _ _ hr => sound_frag hlim ke ctx x hw τ h _ _ hr)
      hw hk ts hts i acc n hi hl _ _ _ _ _ _ _ hr ha

theorem forced {env : Env} (hlim : env.flags.stackLimits = false) (hns : NoSig env) (ke : KeyEnv) (ctx : Ctx) :
    (ms : Ms) → wf ms = true → wfS ms = true → wfT ms = true → ∀ (τ : Ty), typeOf ms = some τ →
      τ.mall.dissat = .none → ∀ (c c' : Core), frag env ke ctx ms c = .ok c' →
        ForcedS τ.corr.base c.stack c' :=
  fun ms hw hk ht τ h hd c c' hr => (sound_frag hlim ke ctx ms hw τ h c c' hr).forced hns hk ht hd

theorem key_hasType {env : Env} (ke : KeyEnv) (ctx : Ctx) {ms : Ms} {τ : Ty} (h : HasType ms τ) :
    τ.corr.base = .K → ∀ (s al : List Bytes) (n : Nat) (s' al' : List Bytes) (n' : Nat),
      frag env ke ctx ms ⟨s, al, n⟩ = .ok ⟨s', al', n'⟩ → ∃ k r, s' = k :: r ∧ keyTop env ke ms k := by
  induction h using HasType.rec (motive_2 := fun _ _ _ => True) with
  | @pkK k =>
    intro _ s al n s' al' n' hr
    exact ⟨_, _, (frag_pkK_inv hr).1, rfl⟩
  | @pkH k =>
    intro _ s al n s' al' n' hr
    obtain ⟨a, r, _, e, hh, _⟩ := frag_pkH_inv hr
    exact ⟨a, r, e, hh⟩
  | @rawPkH k =>
    intro _ s al n s' al' n' hr
    obtain ⟨a, r, _, e, hh, _⟩ := frag_rawPkH_inv hr
    exact ⟨a, r, e, hh⟩
  | @andV l r a b _ _ _ _ _ ihr =>
    intro hb s al n s' al' n' hr
    obtain ⟨s1, al1, m, _, h2⟩ := frag_andV_inv hr
    exact ihr hb _ _ _ _ _ _ h2
  | @orI l r a b _ _ hab _ ihl ihr =>
    intro hb s al n s' al' n' hr
    obtain ⟨v, s1, m, m', _, ⟨_, h3⟩ | ⟨_, h3⟩⟩ := frag_orI_inv hr
    · obtain ⟨k, r', e, hk⟩ := ihl hb _ _ _ _ _ _ h3
      exact ⟨k, r', e, .inl hk⟩
    · obtain ⟨k, r', e, hk⟩ := ihr (hab.symm.trans hb) _ _ _ _ _ _ h3
      exact ⟨k, r', e, .inr hk⟩
  | @andOr x y z a b c _ _ _ _ _ _ hbc _ _ ihy ihz =>
    intro hb s al n s' al' n' hr
    obtain ⟨v, s1, al1, m, m1, m2, _, ⟨_, h3⟩ | ⟨_, h3⟩⟩ := frag_andOr_inv hr
    · obtain ⟨k, r', e, hk⟩ := ihy hb _ _ _ _ _ _ h3
      exact ⟨k, r', e, .inl hk⟩
    · obtain ⟨k, r', e, hk⟩ := ihz (hbc.symm.trans hb) _ _ _ _ _ _ h3
      exact ⟨k, r', e, .inr hk⟩
  | nil | cons => trivial
  | _ => intro hb; cases hb

theorem key_top {env : Env} (ke : KeyEnv) (ctx : Ctx) :
    (ms : Ms) → ∀ (τ : Ty), typeOf ms = some τ → τ.corr.base = .K → ∀ (c c' : Core),
      frag env ke ctx ms c = .ok c' → ∃ k r, c'.stack = k :: r ∧ keyTop env ke ms k :=
  fun ms _ h hb _ _ hr => key_hasType ke ctx (.of_typeOf ms h) hb _ _ _ _ _ _ hr

end MsVerif.TypeSound
