/-
For C07's execution-level theorems: the locks a (dis)satisfaction REPORTS come from lock fragments
the asset provider accepted (`check_after` / `check_older` answered true) — `Src`, over the lists the tracked
satisfier of `PlanLocks` carries; and the assets a world offers: one transaction, so no mixed lock units.
-/
import MsVerif.Lemmas.PlanLocks
import MsVerif.Lemmas.CompleteFixed
import MsVerif.Spec.MsSem

namespace MsVerif.LiftExec
open MsVerif MsVerif.Sat MsVerif.PlanLocks

def Src (P Q : Nat → Prop) (t : TSat) : Prop := (∀ n ∈ t.A, P n) ∧ (∀ n ∈ t.R, Q n)

variable {P Q : Nat → Prop}

theorem src_nil (s : Sat) : Src P Q ⟨s, [], []⟩ := ⟨by simp, by simp⟩

theorem src_lockFree (s : Sat) : Src P Q (lockFree s) := src_nil s

theorem src_concat (a b : TSat) (ha : Src P Q a) (hb : Src P Q b) :
    Src P Q (tConcatenateRev a b) := by
  by_cases h : Sat.concatenateRev a.s b.s = Sat.IMPOSSIBLE
  · rw [tConcatenateRev_impossible h]
    exact src_lockFree _
  · unfold Src
    rw [(tConcatenateRev_lists h).1, (tConcatenateRev_lists h).2]
    exact ⟨List.forall_mem_append.mpr ⟨hb.1, ha.1⟩, List.forall_mem_append.mpr ⟨hb.2, ha.2⟩⟩

/-- `Src` only looks at the tracked lists -/
theorem src_of_like {t a : TSat} (h : t.Like a) (ha : Src P Q a) : Src P Q t := by
  unfold Src
  rw [h.A, h.R]
  exact ha

theorem src_push (p : Ph) (t : TSat) (h : Src P Q t) : Src P Q (tPush p t) := h

theorem tSatDissat_src (c : SatCfg) (ms : Ms) :
    Src (fun n => c.assets.checkAfter n = true) (fun n => c.assets.checkOlder (relCanon n) = true)
        (tSatDissat c ms).dissat ∧
    Src (fun n => c.assets.checkAfter n = true) (fun n => c.assets.checkOlder (relCanon n) = true)
        (tSatDissat c ms).sat := by
  refine tSatDissat_ind c (fun s _ _ => src_lockFree s) (fun n => ?_) (fun n => ?_) src_push src_concat
    (fun _ _ => src_of_like) ms
  · simp only [tSatDissat]
    refine ⟨fun m hm => ?_, by simp⟩
    by_cases h : c.assets.checkAfter n = true
    · simp only [h, if_true, List.mem_singleton] at hm; subst hm; exact h
    · simp [h] at hm
  · simp only [tSatDissat]
    refine ⟨by simp, fun m hm => ?_⟩
    by_cases h : c.assets.checkOlder (relCanon n) = true
    · simp only [h, if_true, List.mem_singleton] at hm; subst hm; exact h
    · simp [h] at hm

theorem tSatDissats_src (c : SatCfg) : (xs : MsList) →
    ∀ sd ∈ tSatDissats c xs,
      Src (fun n => c.assets.checkAfter n = true)
          (fun n => c.assets.checkOlder (relCanon n) = true) sd.dissat ∧
      Src (fun n => c.assets.checkAfter n = true)
          (fun n => c.assets.checkOlder (relCanon n) = true) sd.sat
  | .nil => by simp [tSatDissats]
  | .cons x xs => by
    simp only [tSatDissats, List.forall_mem_cons]
    exact ⟨tSatDissat_src c x, tSatDissats_src c xs⟩

theorem reported_locks_accepted (c : SatCfg) (ms : Ms) :
    (∀ m, (satDissat c ms).sat.abs = some m → c.assets.checkAfter m = true) ∧
    (∀ m, (satDissat c ms).sat.rel = some m → c.assets.checkOlder (relCanon m) = true) := by
  have hs := (tSatDissat_s c ms).2
  have hi := (tSatDissat_inv c ms).2
  have hsrc := (tSatDissat_src c ms).2
  rw [← hs]
  constructor
  · intro m hm
    have h := hi.1
    simp only [hm, AbsInv] at h
    exact hsrc.1 m h.1
  · intro m hm
    have h := hi.2
    simp only [hm, RelInv] at h
    exact hsrc.2 m h.1

open MsVerif.Pol MsVerif.MsSem

/-- what a spender in world `W` hands to the satisfier: a signature (ECDSA, resp. a 64-byte
Schnorr one) for every key the world can sign for, the preimages it knows, lock answers from
the transaction's nLockTime / nSequence by the consensus rules; nothing for raw key hashes -/
def assetsOfWorld (W : World) : Assets where
  ecdsaSig := W.canSign
  schnorrSig k := if W.canSign k then some 64 else none
  rawPkhPk _ := none
  rawPkhEcdsa _ := none
  rawPkhSchnorr _ := none
  preimage kind h := W.preimage (polHash kind) h
  checkOlder n := csvOk W.nSequence n
  checkAfter n := cltvOk W.nLockTime n

theorem relIsTime_relCanon (n : Nat) : Pol.relIsTime (relCanon n) = Pol.relIsTime n :=
  Sat.relIsTime_base _ _ (Nat.mod_lt n (by decide))

theorem relValue_relCanon (n : Nat) : Pol.relValue (relCanon n) = Pol.relValue n :=
  Sat.relVal_base _ _ (Nat.mod_lt n (by decide))

/-- CHECKSEQUENCEVERIFY only looks at the type flag and the 16 value bits of its argument -/
theorem csvOk_relCanon (sq n : Nat) : csvOk sq (relCanon n) = csvOk sq n := by
  unfold csvOk
  rw [relIsTime_relCanon, relValue_relCanon]

/-- one transaction: the locks it satisfies have one unit per kind -/
theorem lockCompat_world (W : World) (s t : Ms) :
    Complete.lockCompat (assetsOfWorld W) s t = true := by
  unfold Complete.lockCompat
  split
  · rename_i x y
    simp only [assetsOfWorld, cltvOk, Complete.absUnit, absIsHeight, LOCKTIME_THRESHOLD]
    by_cases hx : x < 500000000 <;> by_cases hy : y < 500000000 <;>
      by_cases hl : W.nLockTime < 500000000 <;> simp [hx, hy, hl]
  · rename_i x y
    simp only [assetsOfWorld, csvOk_relCanon]
    simp only [csvOk]
    have e : ∀ n, Sat.relIsTime n = Pol.relIsTime n := fun n => rfl
    rw [e x, e y]
    cases Pol.relIsTime x <;> cases Pol.relIsTime y <;> cases Pol.relIsTime W.nSequence <;> simp
  · rfl

theorem checkLockTime_iff_cltvOk (env : Script.Env) (n : Nat)
    (hnf : env.nSequence ≠ Script.SEQ_FINAL) :
    Script.checkLockTime env n = true ↔ cltvOk env.nLockTime n = true := by
  rw [checkLockTime_iff, cltvOk_iff]
  exact and_iff_left hnf

/-- both sides compare the type flag and the 16 value bits -/
theorem checkSequence_iff_csvOk (env : Script.Env) (n : Nat) (hv : env.txVersion ≥ 2)
    (hu : env.nSequence < 4294967296) :
    Script.checkSequence env n = true ↔ csvOk env.nSequence n = true := by
  rw [checkSequence_iff, csvOk_iff, seqEnabled_iff hu]
  exact and_iff_right hv

end MsVerif.LiftExec
