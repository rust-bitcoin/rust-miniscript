/-
Lemma for C16/T2: `encode` is compositional, so replacing a sub-miniscript by one with the same
script (e.g. a `sortedmulti` by the same `sortedmulti` with its keys listed in another order)
anywhere inside a miniscript does not change the script.  (Nothing here sorts; the module and the namespace
`MsVerif.Sorted`, shared with `SortKeys`, are named after that use.)
-/
import MsVerif.Model.Encode

namespace MsVerif.Sorted
open MsVerif MsVerif.Script

mutual
def replaceMs (o n : Ms) (m : Ms) : Ms :=
  if m = o then n else
  match m with
  | .alt x => .alt (replaceMs o n x)
  | .swap x => .swap (replaceMs o n x)
  | .check x => .check (replaceMs o n x)
  | .dupIf x => .dupIf (replaceMs o n x)
  | .verify x => .verify (replaceMs o n x)
  | .nonZero x => .nonZero (replaceMs o n x)
  | .zeroNotEqual x => .zeroNotEqual (replaceMs o n x)
  | .andV l r => .andV (replaceMs o n l) (replaceMs o n r)
  | .andB l r => .andB (replaceMs o n l) (replaceMs o n r)
  | .orB l r => .orB (replaceMs o n l) (replaceMs o n r)
  | .orD l r => .orD (replaceMs o n l) (replaceMs o n r)
  | .orC l r => .orC (replaceMs o n l) (replaceMs o n r)
  | .orI l r => .orI (replaceMs o n l) (replaceMs o n r)
  | .andOr a b c => .andOr (replaceMs o n a) (replaceMs o n b) (replaceMs o n c)
  | .thresh k xs => .thresh k (replaceMsList o n xs)
  | m => m
def replaceMsList (o n : Ms) : MsList → MsList
  | .nil => .nil
  | .cons x xs => .cons (replaceMs o n x) (replaceMsList o n xs)
end

mutual
theorem encode_replaceMs (env : KeyEnv) (ctx : Ctx) (o n : Ms)
    (h : encode env ctx o = encode env ctx n) :
    ∀ m : Ms, encode env ctx (replaceMs o n m) = encode env ctx m := fun m => by
  unfold replaceMs
  split
  · rename_i hm; rw [hm]; exact h.symm
  · -- below the replaced node `encode` is compositional: its equation for each constructor
    -- rewrites with the statement for the children
    cases m <;> simp only [encode, encode_replaceMs env ctx o n h, encodeThresh_replaceMsList env ctx o n h]
theorem encodeThresh_replaceMsList (env : KeyEnv) (ctx : Ctx) (o n : Ms)
    (h : encode env ctx o = encode env ctx n) :
    ∀ (xs : MsList) (first : Bool),
      encodeThresh env ctx first (replaceMsList o n xs) = encodeThresh env ctx first xs
  | .nil, _ => by simp only [replaceMsList]
  | .cons x xs, first => by
    simp only [replaceMsList, encodeThresh, encode_replaceMs env ctx o n h x,
      encodeThresh_replaceMsList env ctx o n h xs]
end

end MsVerif.Sorted
