/-
Pass 1 of the expression parser (`parse_pre_check`): its step by class of character, and the quantities it
computes, which bound what the builder pass allocates.
-/
import MsVerif.Model.Expr

namespace MsVerif.Expr
open MsVerif.Checksum

def isOpen (ch : Char) : Prop := ch = '(' ∨ ch = '{'
def isClose (ch : Char) : Prop := ch = ')' ∨ ch = '}'

/-- the characters allowed after a close-paren that is not the last one -/
def isSep (ch : Char) : Prop := ch = ',' ∨ ch = ')' ∨ ch = '}'

theorem isSep_iff (c : Char) : isSep c ↔ ¬ (c ≠ ')' ∧ c ≠ '}' ∧ c ≠ ',') := by
  unfold isSep
  by_cases h1 : c = ',' <;> by_cases h2 : c = ')' <;> by_cases h3 : c = '}' <;> simp [h1, h2, h3]

theorem afterClose_ok_iff (len pos : Nat) (tail : List Char) (rest : List (Char × Nat)) :
    afterClose len pos tail rest = .ok () ↔
      (rest ≠ [] → pos ≠ len - 1 ∧ ∃ nb, tail.head? = some nb ∧ isSep nb) ∧
      (rest = [] → ¬ pos < len - 1) := by
  unfold afterClose
  cases rest with
  | nil =>
    simp only [ne_eq, not_true_eq_false, false_implies, true_and, forall_const]
    split
    · rename_i h
      cases tail.head? <;> simp [h, throw, throwThe, MonadExceptOf.throw]
    · rename_i h; simp [h, pure, Except.pure]
  | cons r rs =>
    obtain ⟨rc, rp⟩ := r
    simp only [ne_eq, reduceCtorEq, not_false_eq_true, forall_const, false_implies, and_true]
    split
    · rename_i h; simp [h, throw, throwThe, MonadExceptOf.throw]
    · rename_i h
      cases hh : tail.head? with
      | none => simp [throw, throwThe, MonadExceptOf.throw]
      | some nb =>
        simp only [Option.some.injEq, exists_eq_left', h, not_false_eq_true, true_and]
        rw [isSep_iff]
        split <;> simp_all [throw, throwThe, MonadExceptOf.throw, pure, Except.pure]

theorem afterClose_ne_panic {len pos : Nat} {tail : List Char} (rest : List (Char × Nat))
    (hlen : len = pos + 1 + tail.length) : afterClose len pos tail rest ≠ .error .panic := by
  unfold afterClose
  cases rest with
  | nil =>
    simp only
    split
    · rename_i h
      cases tail with
      | nil => simp only [List.length_nil] at hlen; omega
      | cons c cs => intro h; cases h
    · intro h; cases h
  | cons r rs =>
    obtain ⟨rc, rp⟩ := r
    simp only
    split
    · intro h; cases h
    · rename_i h
      cases tail with
      | nil => simp only [List.length_nil] at hlen; omega
      | cons c cs =>
        simp only [List.head?_cons]
        split <;> (intro h; cases h)

theorem isSep_not_open {ch : Char} (h : isSep ch) : ¬ isOpen ch := by
  unfold isSep at h; unfold isOpen
  rcases h with h | h | h <;> rw [h] <;> decide

theorem open_not_close {ch : Char} (h : isOpen ch) : ¬ isClose ch := by
  unfold isOpen at h; unfold isClose
  rcases h with h | h <;> rw [h] <;> decide

theorem ite_max (a b : Nat) : (if a < b then b else a) = max a b := by
  simp only [Nat.max_def]; split <;> split <;> omega

/-- one iteration of pass 1, by class of character.  With `PStep.ok` and `preStep_outcome` this IS `preStep`. -/
inductive PStep (len pos : Nat) (tail : List Char) : PreSt → Char → PreSt → Prop
  | opn {st : PreSt} {ch : Char} (hc : isOpen ch) :
    PStep len pos tail st ch { st with stack := (ch, pos) :: st.stack
                                       maxDepth := max st.maxDepth (st.stack.length + 1) }
  | cls {st : PreSt} {ch : Char} {o : Char × Nat} {rest : List (Char × Nat)} (hc : isClose ch)
    (hs : st.stack = o :: rest) (hm : ¬ ((o.1 = '(' ∧ ch = '}') ∨ (o.1 = '{' ∧ ch = ')')))
    (hlook : rest ≠ [] → pos ≠ len - 1 ∧ ∃ nb, tail.head? = some nb ∧ isSep nb)
    (hlast : rest = [] → ¬ pos < len - 1) :
    PStep len pos tail st ch { st with stack := rest, nNodes := st.nNodes + 1 }
  | comma {st : PreSt} (h : st.stack ≠ []) : PStep len pos tail st ',' { st with nNodes := st.nNodes + 1 }
  | other {st : PreSt} {ch : Char} (h1 : ¬ isOpen ch) (h2 : ¬ isClose ch) (h3 : ch ≠ ',') :
    PStep len pos tail st ch st

theorem PStep.ok {len pos : Nat} {tail : List Char} {st st' : PreSt} {ch : Char}
    (h : PStep len pos tail st ch st') : preStep len st pos ch tail = .ok st' := by
  unfold preStep
  cases h with
  | opn hc =>
    unfold isOpen at hc
    simp only [hc, if_true, List.length_cons, ite_max]; rfl
  | cls hc hs hm hlook hlast =>
    rename_i o rest
    have hno : ¬ (ch = '(' ∨ ch = '{') := fun ho => open_not_close ho hc
    unfold isClose at hc
    obtain ⟨oc, op⟩ := o
    simp only [hno, if_false, hc, if_true, hs, if_neg hm,
      (afterClose_ok_iff len pos tail rest).2 ⟨hlook, hlast⟩]
    rfl
  | comma h =>
    have h1 : ¬ (',' = '(' ∨ ',' = '{') := by decide
    have h2 : ¬ (',' = ')' ∨ ',' = '}') := by decide
    have h3 : st.stack.isEmpty = false := by cases hs : st.stack <;> simp_all
    simp only [h1, h2, if_false, if_true, h3, Bool.false_eq_true]; rfl
  | other h1 h2 h3 =>
    unfold isOpen at h1; unfold isClose at h2
    simp only [h1, h2, h3, if_false]; rfl

def PGood (len pos : Nat) (tail : List Char) (st : PreSt) (ch : Char) : R PreSt → Prop
  | .ok st' => PStep len pos tail st ch st'
  | .error e => len = pos + 1 + tail.length → e ≠ .panic

theorem preStep_outcome {len pos : Nat} {tail : List Char} {st : PreSt} {ch : Char} :
    PGood len pos tail st ch (preStep len st pos ch tail) := by
  unfold preStep
  by_cases ho : ch = '(' ∨ ch = '{'
  · simp only [ho, if_true, List.length_cons, ite_max]
    exact PStep.opn ho
  · rw [if_neg ho]
    by_cases hc : ch = ')' ∨ ch = '}'
    · rw [if_pos hc]
      cases hs : st.stack with
      | nil => exact fun _ => nofun
      | cons o rest =>
        obtain ⟨oc, op⟩ := o
        dsimp only
        by_cases hm : (oc = '(' ∧ ch = '}') ∨ (oc = '{' ∧ ch = ')')
        · rw [if_pos hm]; exact fun _ => nofun
        · rw [if_neg hm]
          cases hac : afterClose len pos tail rest with
          | error e => exact fun hlen he => afterClose_ne_panic rest hlen (he ▸ hac)
          | ok u =>
            obtain ⟨h1, h2⟩ := (afterClose_ok_iff len pos tail rest).1 hac
            exact PStep.cls hc hs hm h1 h2
    · rw [if_neg hc]
      by_cases hcm : ch = ','
      · subst hcm
        rw [if_pos rfl]
        by_cases he : st.stack.isEmpty = true
        · rw [if_pos he]; exact fun _ => nofun
        · rw [if_neg he]; exact PStep.comma (fun e => he (by rw [e]; rfl))
      · rw [if_neg hcm]; exact PStep.other ho hc hcm

theorem preStep_trans {len : Nat} {st st' : PreSt} {pos : Nat} {ch : Char} {tail : List Char}
    (h : preStep len st pos ch tail = .ok st') : PStep len pos tail st ch st' := by
  have := preStep_outcome (len := len) (pos := pos) (tail := tail) (st := st) (ch := ch)
  rwa [h] at this

theorem preLoop_cons_ok {len pos : Nat} {ch : Char} {tail : List Char} {st st' : PreSt}
    (h : preStep len st pos ch tail = .ok st') :
    preLoop len pos (ch :: tail) st = preLoop len (pos + 1) tail st' := by
  rw [preLoop, h]

theorem preLoop_cons {len pos : Nat} {ch : Char} {tail : List Char} {st stF : PreSt}
    (h : preLoop len pos (ch :: tail) st = .ok stF) :
    ∃ st', PStep len pos tail st ch st' ∧ preLoop len (pos + 1) tail st' = .ok stF := by
  cases hs : preStep len st pos ch tail with
  | error e => rw [preLoop, hs] at h; cases h
  | ok st' => exact ⟨st', preStep_trans hs, preLoop_cons_ok hs ▸ h⟩

/-- potential that never decreases: nodes counted so far + parens still open -/
def PreSt.phi (st : PreSt) : Nat := st.nNodes + st.stack.length

theorem PStep.mono {len : Nat} {st st' : PreSt} {pos : Nat} {ch : Char} {tail : List Char}
    (h : PStep len pos tail st ch st') (hd : st.stack.length ≤ st.maxDepth) :
    st.phi ≤ st'.phi ∧ st.maxDepth ≤ st'.maxDepth ∧ st'.stack.length ≤ st'.maxDepth := by
  cases h with
  | opn => simp only [PreSt.phi, List.length_cons]; omega
  | cls _ hs => rw [hs] at hd; simp only [PreSt.phi, hs, List.length_cons] at hd ⊢; omega
  | comma => simp only [PreSt.phi]; omega
  | other => exact ⟨Nat.le_refl _, Nat.le_refl _, hd⟩

theorem preLoop_mono {len : Nat} {rest : List Char} {pos : Nat} {st stF : PreSt}
    (h : preLoop len pos rest st = .ok stF) (hd : st.stack.length ≤ st.maxDepth) :
    st.phi ≤ stF.phi ∧ st.maxDepth ≤ stF.maxDepth ∧ stF.stack.length ≤ stF.maxDepth := by
  induction rest generalizing pos st with
  | nil => simp only [preLoop, pure, Except.pure] at h; cases h; exact ⟨Nat.le_refl _, Nat.le_refl _, hd⟩
  | cons ch tail ih =>
    obtain ⟨st', hs, h⟩ := preLoop_cons h
    obtain ⟨a, b, c⟩ := hs.mono hd
    obtain ⟨a', b', c'⟩ := ih h c
    exact ⟨Nat.le_trans a a', Nat.le_trans b b', c'⟩

theorem PStep.linear {len : Nat} {st st' : PreSt} {pos : Nat} {ch : Char} {tail : List Char}
    (h : PStep len pos tail st ch st') (h1 : st.nNodes ≤ 1 + pos) (h2 : st.maxDepth ≤ pos)
    (h3 : st.stack.length ≤ pos) :
    st'.nNodes ≤ 1 + (pos + 1) ∧ st'.maxDepth ≤ pos + 1 ∧ st'.stack.length ≤ pos + 1 := by
  cases h with
  | opn => simp only [List.length_cons]; omega
  | cls _ hs => rw [hs] at h3; simp only [List.length_cons] at h3 ⊢; omega
  | comma => simp only; omega
  | other => omega

theorem preLoop_linear {len : Nat} {rest : List Char} {pos : Nat} {st stF : PreSt}
    (h : preLoop len pos rest st = .ok stF) (h1 : st.nNodes ≤ 1 + pos) (h2 : st.maxDepth ≤ pos)
    (h3 : st.stack.length ≤ pos) :
    stF.nNodes ≤ 1 + (pos + rest.length) ∧ stF.maxDepth ≤ pos + rest.length := by
  induction rest generalizing pos st with
  | nil =>
    simp only [preLoop, pure, Except.pure] at h; cases h
    simp only [List.length_nil, Nat.add_zero]; exact ⟨h1, h2⟩
  | cons ch tail ih =>
    obtain ⟨st', hs, h⟩ := preLoop_cons h
    obtain ⟨a, b, c⟩ := hs.linear h1 h2 h3
    have := ih h a b c
    simp only [List.length_cons]
    omega

/-- the error of an outcome, for stating concrete examples decidably -/
def err? {ε α : Type} : Except ε α → Option ε
  | .error e => some e
  | .ok _ => none

theorem preStep_ne_panic {len : Nat} {st : PreSt} {pos : Nat} {ch : Char} {tail : List Char}
    (hlen : len = pos + 1 + tail.length) : preStep len st pos ch tail ≠ .error .panic := fun h => by
  have := preStep_outcome (len := len) (pos := pos) (tail := tail) (st := st) (ch := ch)
  rw [h] at this
  exact this hlen rfl

theorem preLoop_ne_panic {len : Nat} (rest : List Char) (pos : Nat) (st : PreSt)
    (hlen : len = pos + rest.length) : preLoop len pos rest st ≠ .error .panic := by
  induction rest generalizing pos st with
  | nil => simp [preLoop, pure, Except.pure]
  | cons ch tail ih =>
    unfold preLoop
    have hl : len = pos + 1 + tail.length := by simp only [List.length_cons] at hlen; omega
    cases hs : preStep len st pos ch tail with
    | error e =>
      have := preStep_ne_panic (st := st) (ch := ch) hl
      rw [hs] at this
      simp only [throw, throwThe, MonadExceptOf.throw, ne_eq, Except.error.injEq]
      intro e'; exact this (by rw [e'])
    | ok st' => exact ih (pos + 1) st' hl

theorem parsePreCheck_ok {s body : List Char} {D N : Nat} (h : parsePreCheck s = .ok (body, D, N)) :
    verifyChecksumL s = .ok body ∧ ∃ pst, preLoop body.length 0 body ⟨1, 0, []⟩ = .ok pst ∧
      pst.stack = [] ∧ pst.maxDepth = D ∧ pst.nNodes = N ∧ D ≤ MAX_RECURSION_DEPTH + 1 := by
  unfold parsePreCheck at h
  split at h
  · cases h
  · cases h
  · rename_i b hv
    split at h
    · cases h
    · rename_i st hp
      split at h
      · cases h
      · rename_i hst
        split at h
        · cases h
        · rename_i hle
          cases h
          exact ⟨hv, st, hp, hst, rfl, rfl, by omega⟩
end MsVerif.Expr
