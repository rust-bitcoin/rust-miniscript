/-
The sample trees and the Boolean round-trip test of `C11.parse_print_roundtrip_partial`.
-/
import MsVerif.Model.Expr

namespace MsVerif.Expr

/-- all child lists of length 1..2 over `ts` -/
def childLists (ts : List Tree) : List (List Tree) :=
  ts.map (fun t => [t]) ++ ts.flatMap (fun a => ts.map (fun b => [a, b]))

/-- all trees of depth ≤ d with leaves "" / "a:b", inner nodes `(…)` (empty name) / `a{…}`,
1–2 children -/
def smallTrees : Nat → List Tree
  | 0 => [.node [] .none [], .node ['a', ':', 'b'] .none []]
  | d + 1 =>
    let sub := smallTrees d
    smallTrees 0 ++
      (childLists sub).flatMap fun cs => [.node [] .round cs, .node ['a'] .curly cs]

def leaf (s : String) : Tree := .node s.toList .none []
def rnd (s : String) (cs : List Tree) : Tree := .node s.toList .round cs
def crl (s : String) (cs : List Tree) : Tree := .node s.toList .curly cs

/-- descriptor-shaped samples (nested round and curly children, wrappers, empty names) -/
def sampleTrees : List Tree := smallTrees 1 ++ [
  rnd "wsh" [rnd "or_d" [rnd "pk" [leaf "A"], rnd "and_v" [rnd "v:pkh" [leaf "B"], rnd "older" [leaf "144"]]]],
  rnd "tr" [leaf "K", crl "" [rnd "pk" [leaf "A"], crl "" [rnd "pk" [leaf "B"], rnd "multi_a" [leaf "2", leaf "C", leaf "D"]]]],
  rnd "sh" [rnd "multi" [leaf "2", leaf "[00000000/111'/222]xpub/0", leaf "xpub/<0;1>/*"]],
  rnd "thresh" [leaf "3", rnd "" [leaf ""], rnd "s:pk" [leaf ""], crl "a" [crl "" [leaf "", leaf ""]]],
  rnd "a" [rnd "b" [rnd "c" [rnd "d" [rnd "e" [crl "f" [leaf "g", leaf "h", leaf "i", leaf "j"]]]]]]]

/-- `Tree::from_str (print t)` succeeds and decodes to `t` again -/
def roundtripOk (t : Tree) : Bool :=
  match fromStrInner t.print with
  | .ok nodes =>
    match toTree nodes with
    | some t' => Tree.beq t t'
    | none => false
  | .error _ => false

end MsVerif.Expr
