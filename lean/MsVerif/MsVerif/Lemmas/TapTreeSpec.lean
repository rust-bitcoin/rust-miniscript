/-
Helper lemmas for C15 about the specification (`Spec/Merkle.lean`) alone: depth lists,
sibling paths, path verification.
-/
import MsVerif.Spec.Merkle

namespace MsVerif.Spec
namespace Tree
variable {α ν : Type}

theorem depthsFrom_succ (t : Tree α) : ∀ d,
    depthsFrom (d + 1) t = (depthsFrom d t).map (fun p => (p.1 + 1, p.2)) := by
  induction t with
  | leaf s => intro d; rfl
  | node l r ihl ihr => intro d; simp only [depthsFrom, List.map_append, ihl, ihr]

theorem depthsFrom_eq_map (t : Tree α) (d : Nat) :
    depthsFrom d t = (depths t).map (fun p => (p.1 + d, p.2)) := by
  induction d with
  | zero => simp [depths]
  | succ d ih =>
    rw [depthsFrom_succ, ih, List.map_map]
    apply List.map_congr_left
    intro p _
    simp [Nat.add_assoc]

theorem depthsFrom_ne_nil (t : Tree α) (d : Nat) : depthsFrom d t ≠ [] := by
  induction t generalizing d with
  | leaf s => simp [depthsFrom]
  | node l r ihl _ => simp [depthsFrom, ihl]

theorem depthsFrom_le (t : Tree α) : ∀ d p, p ∈ depthsFrom d t → p.1 ≤ d + height t := by
  induction t with
  | leaf s => intro d p hp; simp [depthsFrom] at hp; simp [hp, height]
  | node l r ihl ihr =>
    intro d p hp
    simp only [depthsFrom, List.mem_append] at hp
    simp only [height]
    rcases hp with hp | hp
    · have := ihl _ _ hp; omega
    · have := ihr _ _ hp; omega

theorem depthsFrom_ge (t : Tree α) : ∀ d p, p ∈ depthsFrom d t → d ≤ p.1 := by
  induction t with
  | leaf s => intro d p hp; simp [depthsFrom] at hp; simp [hp]
  | node l r ihl ihr =>
    intro d p hp
    simp only [depthsFrom, List.mem_append] at hp
    rcases hp with hp | hp
    · have := ihl _ _ hp; omega
    · have := ihr _ _ hp; omega

theorem depthsFrom_max (t : Tree α) : ∀ d, ∃ p, p ∈ depthsFrom d t ∧ p.1 = d + height t := by
  induction t with
  | leaf s => intro d; exact ⟨(d, s), by simp [depthsFrom], by simp [height]⟩
  | node l r ihl ihr =>
    intro d
    simp only [depthsFrom, List.mem_append, height]
    by_cases h : height l ≤ height r
    · obtain ⟨p, hp, he⟩ := ihr (d + 1)
      exact ⟨p, Or.inr hp, by omega⟩
    · obtain ⟨p, hp, he⟩ := ihl (d + 1)
      exact ⟨p, Or.inl hp, by omega⟩

theorem leaves_eq_depths (t : Tree α) (d : Nat) : leaves t = (depthsFrom d t).map (·.2) := by
  induction t generalizing d with
  | leaf s => rfl
  | node l r ihl ihr => simp only [leaves, depthsFrom, List.map_append, ← ihl, ← ihr]

theorem siblingPaths_length (H : HashAlg α ν) (t : Tree α) :
    (siblingPaths H t).length = (leaves t).length := by
  induction t with
  | leaf s => rfl
  | node l r ihl ihr => simp [siblingPaths, leaves, ihl, ihr]

theorem siblingPaths_depths (H : HashAlg α ν) (t : Tree α) : ∀ d,
    (siblingPaths H t).map (fun p => (p.2.length + d, p.1)) = depthsFrom d t := by
  induction t with
  | leaf s => intro d; simp [siblingPaths, depthsFrom]
  | node l r ihl ihr =>
    intro d
    simp only [siblingPaths, depthsFrom, List.map_append, List.map_map, ← ihl, ← ihr]
    congr 1 <;> (apply List.map_congr_left; intro p _; simp [Nat.add_assoc, Nat.add_comm 1 d])

end Tree

theorem verifyPath_append {α ν : Type} (H : HashAlg α ν) (n : ν) (p : List ν) (x : ν) :
    verifyPath H n (p ++ [x]) = H.branch (verifyPath H n p) x := by
  simp [verifyPath, List.foldl_append]

end MsVerif.Spec
