/-
Lemmas for C15 about `TapTree` values as depth lists: the step of `combine` that pushes a subtree one level down (`bump`:
it fails exactly above depth 128), `translate_pk` keeps depths and order and reports the first error, `Display`
prints the tree's own `{l,r}` text, and Kraft's equality
(Σ 2^(H - depth) = 2^H for every H ≥ height) bounds the number of leaves.
-/
import MsVerif.Model.TapTree
import MsVerif.Lemmas.TapTreeDecode


namespace MsVerif.Tap
open MsVerif.Spec MsVerif.Spec.Tree

variable {α β κ κ' : Type}

def bump (p : Nat × α) : Option (Nat × α) := if p.1 > MAXN - 1 then none else some (p.1 + 1, p.2)

theorem mapM_bump_ok (L : List (Nat × α)) (h : ∀ p ∈ L, p.1 ≤ 127) :
    L.mapM bump = some (L.map (fun p => (p.1 + 1, p.2))) := by
  induction L with
  | nil => rfl
  | cons p L ih =>
    have hp : ¬ p.1 > MAXN - 1 := by have := h p (by simp); simp [MAXN]; omega
    have := ih (fun q hq => h q (by simp [hq]))
    simp [List.mapM_cons, bump, hp, this]

theorem mapM_bump_fail (L : List (Nat × α)) (h : ∃ p ∈ L, p.1 > 127) :
    L.mapM bump = none := by
  induction L with
  | nil => obtain ⟨p, hp, _⟩ := h; simp at hp
  | cons q L ih =>
    by_cases hq : q.1 > MAXN - 1
    · simp [List.mapM_cons, bump, hq]
    · have : ∃ p ∈ L, p.1 > 127 := by
        obtain ⟨p, hp, hgt⟩ := h
        simp at hp
        rcases hp with rfl | hp
        · simp [MAXN] at hq; omega
        · exact ⟨p, hp, hgt⟩
      simp [List.mapM_cons, bump, hq, ih this]

/-- the Kraft weight of a depth list relative to the horizon `H` -/
def kraft (H : Nat) (l : List (Nat × α)) : Nat := (l.map (fun p => 2 ^ (H - p.1))).sum

theorem kraft_append (H : Nat) (a b : List (Nat × α)) : kraft H (a ++ b) = kraft H a + kraft H b := by
  simp [kraft, List.map_append, List.sum_append]

theorem kraft_depthsFrom (t : Tree α) : ∀ (d H : Nat), d + height t ≤ H →
    kraft H (depthsFrom d t) = 2 ^ (H - d) := by
  induction t with
  | leaf s => intro d H _; simp [kraft, depthsFrom]
  | node l r ihl ihr =>
    intro d H h
    simp only [height] at h
    have hl : (d + 1) + height l ≤ H := by omega
    have hr : (d + 1) + height r ≤ H := by omega
    simp only [depthsFrom, kraft_append, ihl (d + 1) H hl, ihr (d + 1) H hr]
    have e : H - d = (H - (d + 1)) + 1 := by omega
    rw [e, Nat.pow_succ]; omega

theorem length_le_kraft (H : Nat) (l : List (Nat × α)) : l.length ≤ kraft H l := by
  induction l with
  | nil => simp [kraft]
  | cons p l ih =>
    have : 1 ≤ 2 ^ (H - p.1) := Nat.one_le_two_pow
    simp only [kraft, List.map_cons, List.sum_cons, List.length_cons] at *
    omega

theorem depths_length_le (t : Tree α) : (depths t).length ≤ 2 ^ height t := by
  have h := kraft_depthsFrom t 0 (height t) (by omega)
  have h2 := length_le_kraft (height t) (depthsFrom 0 t)
  simp only [Nat.sub_zero] at h
  unfold depths; omega

theorem fmt_subtree (t : Tree α) : ∀ (j : Nat) (out : List (Tok α)) (cc : List Nat),
    (depthsFrom (cc.length + j) t).foldl fmtStep (out, cc) =
      (out ++ (if cc.isEmpty then [] else [Tok.comma]) ++ List.replicate j Tok.lbrace ++ tokens t ++
          (fmtBump (List.replicate j 0 ++ cc)).1,
        (fmtBump (α := α) (List.replicate j 0 ++ cc)).2) := by
  induction t with
  | leaf s =>
    intro j out cc
    cases cc <;> simp [depthsFrom, fmtStep, tokens, List.append_assoc]
  | node l r ihl ihr =>
    intro j out cc
    simp only [depthsFrom, List.foldl_append]
    rw [Nat.add_assoc, ihl (j + 1) out cc]
    have hb : fmtBump (α := α) (List.replicate (j + 1) 0 ++ cc) =
        ([], 1 :: (List.replicate j 0 ++ cc)) := by
      simp [List.replicate_succ, fmtBump]
    rw [hb]
    have hlen : cc.length + (j + 1) = (1 :: (List.replicate j 0 ++ cc)).length + 0 := by
      simp; omega
    rw [hlen, ihr 0]
    simp [fmtBump, tokens, List.replicate_succ', List.append_assoc]

def leafLoop (f : α → Except TrErr β) (t : TapTree α) : Except TrErr (TapTree β) :=
  t.mapM (fun p => (f p.2).map (fun s => (p.1, s)))

theorem leafLoop_cons (f : α → Except TrErr β) (p : Nat × α) (t : TapTree α) :
    leafLoop f (p :: t) =
      match f p.2 with
      | .error e => .error e
      | .ok s => match leafLoop f t with
        | .error e => .error e
        | .ok t' => .ok ((p.1, s) :: t') := by
  simp only [leafLoop, List.mapM_cons]
  generalize List.mapM (fun p => Except.map (fun s => (p.1, s)) (f p.2)) t = r
  cases f p.2 <;> cases r <;> rfl

theorem leafLoop_ok (f : α → Except TrErr β) : ∀ (t : TapTree α) (t' : TapTree β),
    leafLoop f t = .ok t' →
    t'.map (·.1) = t.map (·.1) ∧ t'.map (fun p => Except.ok p.2) = t.map (fun p => f p.2) := by
  intro t
  induction t with
  | nil => intro t' h; cases h; simp
  | cons p t ih =>
    intro t' h
    rw [leafLoop_cons] at h
    cases hf : f p.2 with
    | error e => simp [hf] at h
    | ok s =>
      cases hl : leafLoop f t with
      | error e => simp [hf, hl] at h
      | ok t'' =>
        simp [hf, hl] at h
        subst h
        have := ih t'' hl
        simp [this.1, this.2, hf]

theorem leafLoop_ok_iff (f : α → Except TrErr β) : ∀ (t : TapTree α),
    (∃ t', leafLoop f t = .ok t') ↔ ∀ p ∈ t, ∃ s, f p.2 = .ok s := by
  intro t
  induction t with
  | nil => exact ⟨fun _ _ h => (nomatch h), fun _ => ⟨[], rfl⟩⟩
  | cons p t ih =>
    rw [leafLoop_cons, List.forall_mem_cons, ← ih]
    cases f p.2 with
    | error e => exact ⟨fun ⟨_, h⟩ => (nomatch h), fun ⟨⟨_, h⟩, _⟩ => nomatch h⟩
    | ok s =>
      cases leafLoop f t with
      | error e => exact ⟨fun ⟨_, h⟩ => (nomatch h), fun ⟨_, _, h⟩ => nomatch h⟩
      | ok t'' => exact ⟨fun _ => ⟨⟨s, rfl⟩, t'', rfl⟩, fun _ => ⟨_, rfl⟩⟩

theorem trTranslate_some (f : α → Except TrErr β) (fk : κ → Except TrErr κ') (ik : κ) (t : TapTree α) :
    trTranslate f fk ik (some t) =
      match leafLoop f t with
      | .error e => .error e
      | .ok t' => match fk ik with
        | .error e => .error e
        | .ok k => .ok (k, some t') := rfl

end MsVerif.Tap
