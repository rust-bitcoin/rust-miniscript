/-
Termination of the decoder loop: a measure that strictly decreases with every iteration of
`decode`'s `loop`, hence `decodeFuel` (20·|tokens| + 6) is never exhausted.

No static weight per nonterminal works (`AndV` re-pushes itself plus `MaybeAndV` without
consuming a token when `is_and_v` holds); the measure therefore carries a bonus of 4 while an
`AndV` is on top and the next token allows an `and_v`.
-/
import MsVerif.Lemmas.DecodeBasic

namespace MsVerif
namespace DecodeL

def wt : NonTerm → Nat
  | .expression => 1 | .maybeAndV => 3 | .andV => 1 | .wExpression => 10
  | .threshW _ _ => 7 | .endIfNotIf => 7 | .endIfElse => 1 | .endIf => 1
  | _ => 5

def wsum : List NonTerm → Nat
  | [] => 0
  | x :: l => wt x + wsum l

def bonus (toks : List Token) : List NonTerm → Nat
  | .andV :: _ => if isAndV toks then 4 else 0
  | _ => 0

def measure (s : DState) : Nat := 20 * s.toks.length + wsum s.nt + bonus s.toks s.nt

theorem bonus_le (toks : List Token) (nt : List NonTerm) : bonus toks nt ≤ 4 := by
  unfold bonus; split
  · split <;> omega
  · omega

theorem bonus_of_not {toks : List Token} (h : isAndV toks = false) (nt : List NonTerm) :
    bonus toks nt = 0 := by
  unfold bonus; split
  · simp [h]
  · rfl

theorem wsum_append (a b : List NonTerm) : wsum (a ++ b) = wsum a + wsum b := by
  induction a with
  | nil => simp [wsum]
  | cons x a ih => simp [wsum, ih]; omega

/-- what an `Expression` arm pushes weighs at most 16: with the bonus (at most 4, `bonus_le`) that is below the 20 of the token
consumed plus the 1 of the `Expression` popped (`stepNT_measure`) -/
theorem exprShape_wsum {p : List NonTerm} {q : Nat} (h : ExprShape p q) : wsum p ≤ 16 := by
  cases h <;> simp [wsum, wt]

@[simp] theorem bonus_andV (toks : List Token) (l : List NonTerm) :
    bonus toks (.andV :: l) = if isAndV toks then 4 else 0 := rfl
theorem bonus_cons_ne {top : NonTerm} (h : top ≠ .andV) (toks : List Token) (l : List NonTerm) :
    bonus toks (top :: l) = 0 := by
  cases top <;> first | rfl | exact absurd rfl h

@[simp] theorem bonus_expression (toks : List Token) (l : List NonTerm) : bonus toks (.expression :: l) = 0 := rfl
@[simp] theorem bonus_wExpression (toks : List Token) (l : List NonTerm) : bonus toks (.wExpression :: l) = 0 := rfl
@[simp] theorem bonus_swap (toks : List Token) (l : List NonTerm) : bonus toks (.swap :: l) = 0 := rfl
@[simp] theorem bonus_maybeAndV (toks : List Token) (l : List NonTerm) : bonus toks (.maybeAndV :: l) = 0 := rfl
@[simp] theorem bonus_alt (toks : List Token) (l : List NonTerm) : bonus toks (.alt :: l) = 0 := rfl
@[simp] theorem bonus_check (toks : List Token) (l : List NonTerm) : bonus toks (.check :: l) = 0 := rfl
@[simp] theorem bonus_dupIf (toks : List Token) (l : List NonTerm) : bonus toks (.dupIf :: l) = 0 := rfl
@[simp] theorem bonus_verify (toks : List Token) (l : List NonTerm) : bonus toks (.verify :: l) = 0 := rfl
@[simp] theorem bonus_nonZero (toks : List Token) (l : List NonTerm) : bonus toks (.nonZero :: l) = 0 := rfl
@[simp] theorem bonus_zeroNotEqual (toks : List Token) (l : List NonTerm) : bonus toks (.zeroNotEqual :: l) = 0 := rfl
@[simp] theorem bonus_andB (toks : List Token) (l : List NonTerm) : bonus toks (.andB :: l) = 0 := rfl
@[simp] theorem bonus_tern (toks : List Token) (l : List NonTerm) : bonus toks (.tern :: l) = 0 := rfl
@[simp] theorem bonus_orB (toks : List Token) (l : List NonTerm) : bonus toks (.orB :: l) = 0 := rfl
@[simp] theorem bonus_orD (toks : List Token) (l : List NonTerm) : bonus toks (.orD :: l) = 0 := rfl
@[simp] theorem bonus_orC (toks : List Token) (l : List NonTerm) : bonus toks (.orC :: l) = 0 := rfl
@[simp] theorem bonus_endIf (toks : List Token) (l : List NonTerm) : bonus toks (.endIf :: l) = 0 := rfl
@[simp] theorem bonus_endIfNotIf (toks : List Token) (l : List NonTerm) : bonus toks (.endIfNotIf :: l) = 0 := rfl
@[simp] theorem bonus_endIfElse (toks : List Token) (l : List NonTerm) : bonus toks (.endIfElse :: l) = 0 := rfl
@[simp] theorem bonus_threshW (toks : List Token) (k n : Nat) (l : List NonTerm) : bonus toks (.threshW k n :: l) = 0 := rfl
@[simp] theorem bonus_threshE (toks : List Token) (k n : Nat) (l : List NonTerm) : bonus toks (.threshE k n :: l) = 0 := rfl

theorem stepNT_measure {dec : AtomDec} {env : KeyEnv} {ctx : Ctx} {top : NonTerm}
    {toks : List Token} {nt : List NonTerm} {term : List Ms} {s' : DState}
    (h : stepNT dec env ctx top ⟨toks, nt, term⟩ = .ok s') :
    measure s' < measure ⟨toks, top :: nt, term⟩ := by
  have hb := bonus_le s'.toks nt
  -- every arm of the table either consumes a token or pushes less weight than it pops; the
  -- bonus pays for `AndV` re-pushing itself
  cases stepNT_trans h with
  | @expr _ _ _ o ha =>
    have ⟨h1, h2⟩ := ha.armOk
    have := exprShape_wsum h1
    have := bonus_le o.toks (o.pushNt ++ nt)
    simp only [measure, wsum_append, wsum, wt, bonus_expression]
    omega
  | maybeNo hav | andVNo hav =>
    have := bonus_of_not hav nt
    simp only [measure, wsum, wt, bonus_andV, bonus_maybeAndV, hav, this]
    simp
  | andVYes hav =>
    simp only [measure, wsum, wt, bonus_andV, bonus_maybeAndV, hav, if_true]
    omega
  | _ =>
    simp only [measure, wsum, wt, List.length_cons, bonus_expression, bonus_wExpression, bonus_dupIf,
      bonus_nonZero, bonus_endIfNotIf, bonus_check, bonus_verify, bonus_zeroNotEqual, bonus_swap,
      bonus_alt, bonus_andB, bonus_orB, bonus_orC, bonus_orD, bonus_tern, bonus_threshW, bonus_threshE,
      bonus_endIf, bonus_endIfElse, bonus_maybeAndV] at hb ⊢
    omega

theorem decodeLoop_fuel {dec : AtomDec} {env : KeyEnv} {ctx : Ctx} :
    ∀ (fuel : Nat) (s : DState), measure s < fuel → decodeLoop dec env ctx fuel s ≠ none := by
  intro fuel
  induction fuel with
  | zero => intro s h; omega
  | succ f ih =>
    intro s h
    obtain ⟨toks, nt, term⟩ := s
    cases nt with
    | nil =>
      simp only [decodeLoop]
      split <;> simp
    | cons top nt =>
      cases hs : stepNT dec env ctx top ⟨toks, nt, term⟩ with
      | error e => rw [decodeLoop_error hs]; nofun
      | ok s' =>
        rw [decodeLoop_ok hs]
        have := stepNT_measure hs
        exact ih s' (by omega)

theorem measure_init (toks : List Token) : measure (initState toks) = 20 * toks.length + 4 := by
  simp [measure, initState, wsum, wt]

end DecodeL
end MsVerif
