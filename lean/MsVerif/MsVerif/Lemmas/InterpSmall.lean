/-
The interpreter never invents a `Push` element: every `Push b` on its result stack was on its
input stack.  So a size bound on the witness elements is preserved along the evaluation (`SmallA.interp`, Lemmas/InterpSound.lean) — what
`j:` (`SIZE 0NOTEQUAL`) needs in the soundness proof.
-/
import MsVerif.Lemmas.InterpRules

namespace MsVerif.InterpSound
open MsVerif Interp

def PushSub (a st : AStack) : Prop := ∀ b, Elem.push b ∈ a → Elem.push b ∈ st

theorem PushSub.refl (st : AStack) : PushSub st st := fun _ h => h

theorem PushSub.trans {a b c : AStack} (h1 : PushSub a b) (h2 : PushSub b c) : PushSub a c :=
  fun x hx => h2 x (h1 x hx)

theorem PushSub.tail {e : Elem} {a st : AStack} (h : PushSub (e :: a) st) : PushSub a st :=
  fun x hx => h x (List.mem_cons_of_mem _ hx)

theorem PushSub.ofTail {e : Elem} {st : AStack} : PushSub st (e :: st) :=
  fun _ hx => List.mem_cons_of_mem _ hx

theorem PushSub.sat {a st : AStack} (h : PushSub a st) : PushSub (.sat :: a) st := fun x hx => by
  rcases List.mem_cons.mp hx with e | e
  · cases e
  · exact h x e

theorem PushSub.dissat {a st : AStack} (h : PushSub a st) : PushSub (.dissat :: a) st := fun x hx => by
  rcases List.mem_cons.mp hx with e | e
  · cases e
  · exact h x e

theorem PushSub.bool {a st : AStack} {c : Prop} [Decidable c] (h : PushSub a st) :
    PushSub ((if c then Elem.sat else Elem.dissat) :: a) st := by
  split
  · exact h.sat
  · exact h.dissat

theorem PushSub.drop (n : Nat) (st : AStack) : PushSub (st.drop n) st :=
  fun _ hx => List.mem_of_mem_drop hx

variable {ke : KeyEnv} {ie : IEnv}

theorem evalSig_sub {pk : Bytes} {mk : Bytes → Constraint} {st a' : AStack} {cs : List Constraint}
    (h : evalSig ie pk mk st = .ok (a', cs)) : PushSub a' st := by
  rcases evalSig_ok h with ⟨_, rfl, rfl, _⟩ | ⟨_, _, rfl, _, rfl, _⟩
  · exact PushSub.refl _
  · exact PushSub.ofTail.sat

theorem evaluatePkh_sub {hh : Bytes} {st a' : AStack} {cs : List Constraint}
    (h : evaluatePkh ie hh st = .ok (a', cs)) : PushSub a' st := by
  obtain ⟨_, _, rfl, _, _, hs⟩ := evaluatePkh_ok h
  exact (evalSig_sub hs).trans PushSub.ofTail

theorem evaluateHash_sub {k : HashKind} {hh : Bytes} {st a' : AStack} {cs : List Constraint}
    (h : evaluateHash ie k hh st = .ok (a', cs)) : PushSub a' st := by
  obtain ⟨_, _, rfl, _, ⟨_, rfl, _⟩ | ⟨_, rfl, _⟩⟩ := evaluateHash_ok h
  · exact PushSub.ofTail.sat
  · exact PushSub.ofTail.dissat

theorem multiLoop_sub {k : Nat} : ∀ (keys : List Bytes) (nSat : Nat) (st a' : AStack) (cs : List Constraint),
    multiLoop ie k keys nSat st = .ok (a', cs) → PushSub a' st :=
  multiLoop_induct (P := fun _ _ st a _ => PushSub a st)
    (fun _ _ => PushSub.ofTail.sat)
    (fun _ _ _ _ _ _ _ _ _ _ ih => ih.trans PushSub.ofTail)
    (fun _ _ _ _ _ _ _ _ _ _ ih => ih)

theorem evalMulti_sub {k : Nat} {keys : List Bytes} {st a' : AStack} {cs : List Constraint}
    (h : evalMulti ie k keys st = .ok (a', cs)) : PushSub a' st := by
  obtain ⟨_, ⟨_, _, _, rfl, _⟩ | ⟨_, hm⟩⟩ := evalMulti_ok h
  · exact (PushSub.drop _ _).dissat
  · exact multiLoop_sub _ _ _ _ _ hm

theorem multiALoop_sub {k : Nat} : ∀ (keys : List Bytes) (nSat : Nat) (st a' : AStack) (cs : List Constraint),
    multiALoop ie k keys nSat st = .ok (a', cs) → PushSub a' st :=
  multiALoop_induct (P := fun _ _ st a _ => PushSub a st)
    (fun _ _ => (PushSub.refl _).bool)
    (fun _ _ _ _ _ _ _ _ _ ih => ih.trans PushSub.ofTail)
    (fun _ _ _ _ _ _ _ ih => ih.trans PushSub.ofTail)

theorem subRules : Rules ke ie (fun _ st a _ => PushSub a st) (fun _ _ st a _ _ => PushSub a st) where
  tru _ := (PushSub.refl _).sat
  fls _ := (PushSub.refl _).dissat
  pkK _ _ _ _ h := evalSig_sub h
  pkH _ _ _ _ h := evaluatePkh_sub h
  rawPkH _ _ _ _ h := evaluatePkh_sub h
  after _ _ _ _ h := by obtain ⟨rfl, _⟩ := evaluateAfter_ok h; exact (PushSub.refl _).sat
  older _ _ _ _ h := by obtain ⟨rfl, _⟩ := evaluateOlder_ok h; exact (PushSub.refl _).sat
  hash _ _ _ _ _ h := evaluateHash_sub h
  alt _ _ _ _ _ ih := ih
  swap _ _ _ _ _ ih := ih
  check _ _ _ _ _ ih := ih
  dupIf_dis _ _ := PushSub.refl _
  dupIf_sat _ _ _ _ _ ih := (ih.trans PushSub.ofTail).sat
  verify _ _ _ _ _ ih := ih.tail
  zne_dis _ _ _ _ _ ih := ih
  zne_sat _ _ _ _ _ _ _ ih := ih.tail.sat
  nonZero_dis _ _ := PushSub.refl _
  nonZero _ _ _ _ _ _ _ ih := ih
  andV _ _ _ _ _ _ _ _ ihl _ ihr := ihr.trans ihl
  andB _ _ _ _ _ _ _ _ _ _ _ ihl _ ihr := (ihr.tail.trans ihl.tail).bool
  orB _ _ _ _ _ _ _ _ _ _ _ ihl _ ihr := by
    split
    · exact (ihr.tail.trans ihl.tail).dissat
    · exact (ihr.tail.trans ihl.tail).sat
  andOr_sat _ _ _ _ _ _ _ _ _ ihx _ ihy := ihy.trans ihx.tail
  andOr_dis _ _ _ _ _ _ _ _ _ ihx _ ihz := ihz.trans ihx.tail
  orC_sat _ _ _ _ _ _ ih := ih.tail
  orC_dis _ _ _ _ _ _ _ _ ihl _ ihr := ihr.trans ihl.tail
  orD_sat _ _ _ _ _ _ ih := ih
  orD_dis _ _ _ _ _ _ _ _ ihl _ ihr := ihr.trans ihl.tail
  orI_left _ _ _ _ _ _ ih := ih.trans PushSub.ofTail
  orI_right _ _ _ _ _ _ ih := ih.trans PushSub.ofTail
  thresh _ _ _ _ _ _ _ _ _ _ _ _ ihx _ ihr := (ihr.tail.trans ihx).bool
  multi _ _ _ _ _ h := evalMulti_sub h
  sortedMulti _ _ _ _ _ h := evalMulti_sub h
  multiA _ _ _ _ _ h := multiALoop_sub _ _ _ _ _ h
  sortedMultiA _ _ _ _ _ h := multiALoop_sub _ _ _ _ _ h
  rest_nil _ _ := PushSub.refl _
  rest_cons _ _ _ _ _ _ _ _ _ _ _ _ ihx _ ihr := (ihr.trans ihx).trans PushSub.ofTail

theorem interp_sub : (ms : Ms) → ∀ (st a' : AStack) (cs : List Constraint),
    interp ke ie ms st = .ok (a', cs) → PushSub a' st :=
  subRules.interp

theorem interpRest_sub : (xs : MsList) → ∀ (n : Nat) (st a' : AStack) (n' : Nat) (cs : List Constraint),
    interpRest ke ie xs n st = .ok (a', n', cs) → PushSub a' st :=
  subRules.interpRest

end MsVerif.InterpSound
