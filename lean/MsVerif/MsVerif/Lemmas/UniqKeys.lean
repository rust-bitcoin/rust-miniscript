/-
C03 (uniqueness): keys of a script, the map from the satisfier's placeholders to the
specification table's items, and the invariant "every signature placeholder of a returned stack
names a key of the script" (`StackQ (Qk K)`), an instance of `MalleLattice.Closed`.
-/
import MsVerif.Lemmas.MalleLattice
import MsVerif.Lemmas.CoreSort
import MsVerif.Spec.SatTable

namespace MsVerif.Uniq
open MsVerif Sat SatTable MalleLattice

def phItem : Ph → Item
  | .pubkey k _ => .key k
  | .pubkeyHash h _ => .rawKey h
  | .ecdsaSig k | .schnorrSig k _ => .sig k
  | .ecdsaSigPkh h | .schnorrSigPkh h _ => .rawSig h
  | .preimage kind h => .pre kind h
  | .hashDissat => .zero32
  | .pushOne => .one
  | .pushZero => .empty

def items (w : List Ph) : List Item := w.map phItem

@[simp] theorem items_nil : items [] = [] := rfl
@[simp] theorem items_append (a b : List Ph) : items (a ++ b) = items a ++ items b := by
  simp [items]
@[simp] theorem items_cons (p : Ph) (w : List Ph) : items (p :: w) = phItem p :: items w := rfl

mutual
/-- the keys of a script, in `iter_pk` order -/
def keysOf : Ms → List Key
  | .pkK k | .pkH k => [k]
  | .multi _ ks | .sortedMulti _ ks | .multiA _ ks | .sortedMultiA _ ks => ks
  | .alt x | .swap x | .check x | .dupIf x | .verify x | .nonZero x | .zeroNotEqual x => keysOf x
  | .andV l r | .andB l r | .orB l r | .orD l r | .orC l r | .orI l r => keysOf l ++ keysOf r
  | .andOr a b c => keysOf a ++ (keysOf b ++ keysOf c)
  | .thresh _ xs => keysOfL xs
  | _ => []
def keysOfL : MsList → List Key
  | .nil => []
  | .cons x xs => keysOf x ++ keysOfL xs
end

theorem keysOfL_mem {x : Ms} : (xs : MsList) → x ∈ xs.toList → ∀ k ∈ keysOf x, k ∈ keysOfL xs
  | .nil, h => by simp [MsList.toList] at h
  | .cons y ys, h => by
    intro k hk
    simp only [MsList.toList, List.mem_cons] at h
    simp only [keysOfL, List.mem_append]
    rcases h with rfl | h
    · exact .inl hk
    · exact .inr (keysOfL_mem ys h k hk)

theorem nodup_left {a b : List Key} (h : (a ++ b).Nodup) : a.Nodup := (List.nodup_append.mp h).1
theorem nodup_right {a b : List Key} (h : (a ++ b).Nodup) : b.Nodup := (List.nodup_append.mp h).2.1

theorem keysOfL_nodup_mem : (xs : MsList) → (keysOfL xs).Nodup → ∀ x ∈ xs.toList, (keysOf x).Nodup
  | .nil, _, _, hx => nomatch hx
  | .cons _ ys, h, x, hx => by
    simp only [keysOfL] at h
    rcases List.mem_cons.mp hx with rfl | hx
    · exact nodup_left h
    · exact keysOfL_nodup_mem ys (nodup_right h) x hx

theorem keysOfL_eq : (xs : MsList) → keysOfL xs = (xs.toList.map keysOf).flatten
  | .nil => rfl
  | .cons x xs => by simp [keysOfL, MsList.toList, keysOfL_eq xs]

theorem mem_flatten_keys (X : List Ms) (j : Nat) (hj : j < X.length) (k : Key) (hk : k ∈ keysOf X[j]) :
    k ∈ (X.map keysOf).flatten :=
  List.mem_flatten.mpr ⟨keysOf X[j], List.mem_map.mpr ⟨X[j], List.getElem_mem hj, rfl⟩, hk⟩

theorem keys_index_disj : ∀ (X : List Ms), (X.map keysOf).flatten.Nodup →
    ∀ (i j : Nat) (hi : i < X.length) (hj : j < X.length), i ≠ j → ∀ k, k ∈ keysOf X[i] → k ∈ keysOf X[j] → False
  | [] => by intro _ i _ hi; simp at hi
  | x :: X => by
    intro hnd i j hi hj hij k h1 h2
    simp only [List.map_cons, List.flatten_cons] at hnd
    have hdis := (List.nodup_append.mp hnd).2.2
    have hnd' := (List.nodup_append.mp hnd).2.1
    cases i with
    | zero =>
      cases j with
      | zero => exact hij rfl
      | succ j =>
        simp only [List.getElem_cons_zero] at h1
        simp only [List.getElem_cons_succ] at h2
        exact hdis k h1 k (mem_flatten_keys X j (by simpa using hj) k h2) rfl
    | succ i =>
      cases j with
      | zero =>
        simp only [List.getElem_cons_zero] at h2
        simp only [List.getElem_cons_succ] at h1
        exact hdis k h2 k (mem_flatten_keys X i (by simpa using hi) k h1) rfl
      | succ j =>
        simp only [List.getElem_cons_succ] at h1 h2
        exact keys_index_disj X hnd' i j (by simpa using hi) (by simpa using hj) (by omega) k h1 h2

theorem keysOf_kids : ∀ m x : Ms, x ∈ kids m → ∀ k ∈ keysOf x, k ∈ keysOf m
  | .alt y | .swap y | .check y | .dupIf y | .verify y | .nonZero y | .zeroNotEqual y => by
    intro x hx k hk
    rw [List.mem_singleton.mp hx] at hk; simpa only [keysOf] using hk
  | .andV l r | .andB l r | .orB l r | .orD l r | .orC l r | .orI l r => by
    intro x hx k hk
    simp only [keysOf, List.mem_append]
    rcases List.mem_cons.mp hx with rfl | hx
    · exact .inl hk
    · rw [List.mem_singleton.mp hx] at hk; exact .inr hk
  | .andOr a b c => by
    intro x hx k hk
    simp only [keysOf, List.mem_append]
    rcases List.mem_cons.mp hx with rfl | hx
    · exact .inl hk
    · rcases List.mem_cons.mp hx with rfl | hx
      · exact .inr (.inl hk)
      · rw [List.mem_singleton.mp hx] at hk; exact .inr (.inr hk)
  | .thresh _ xs => by
    intro x hx k hk
    simpa only [keysOf] using keysOfL_mem xs hx k hk
  | .fls | .tru | .pkK _ | .pkH _ | .rawPkH _ | .multi _ _ | .sortedMulti _ _ | .multiA _ _
  | .sortedMultiA _ _ | .after _ | .older _ | .hash _ _ => by
    intro _ hx; cases hx

theorem isSig_of_sigItem {p : Ph} {k : Key} (h : phItem p = .sig k) : isSig p = true := by
  cases p with
  | ecdsaSig _ | schnorrSig _ _ => rfl
  | _ => cases h

theorem no_sig_item {w : List Ph} (h : hasSigPh w = false) (k : Key) : Item.sig k ∉ items w := by
  intro hk
  obtain ⟨p, hp, hpk⟩ := List.mem_map.mp hk
  rw [hasSigPh_of_mem hp (isSig_of_sigItem hpk)] at h; cases h

def StackQ (Q : Ph → Prop) (s : Sat) : Prop := ∀ l, s.stack = .stack l → ∀ p ∈ l, Q p

def Qk (ks : List Key) (p : Ph) : Prop := ∀ k, phItem p = .sig k → k ∈ ks

theorem qk_of_noSig {K : List Key} {l : List Ph} (h : hasSigPh l = false) : ∀ p ∈ l, Qk K p :=
  fun p hp k hk => by rw [hasSigPh_of_mem hp (isSig_of_sigItem hk)] at h; cases h

theorem stackQ_closed (c : SatCfg) (K : List Key) : Closed c (StackQ (Qk K)) where
  notStack h := fun l hl => absurd hl (h l)
  unflagged _ _ h := by intro l' hl; cases hl; exact qk_of_noSig h
  concat {s o} hs ho := by
    rcases concatenateRev_cases s o with e | ⟨abs, rel, -, -, e⟩ <;> rw [e]
    · intro l hl; cases hl
    · intro l hl p hp
      obtain ⟨lo, ls, ho', hs', rfl⟩ := Wit.combine_stack hl
      rcases List.mem_append.mp hp with h | h
      · exact ho lo ho' p h
      · exact hs ls hs' p h
  min {s1 s2} h1 h2 := fun l hl => (SatCfg.minFn_stack hl).elim (h1 l) (h2 l)
  push {s l} he h := by
    intro l' hl p hp
    obtain ⟨la, lb, h1, h2, rfl⟩ := Wit.combine_stack hl
    cases h2
    rcases List.mem_append.mp hp with h' | h'
    · exact h la h1 p h'
    · exact qk_of_noSig he p h'

theorem sigWit_item (ctx : Ctx) (a : Assets) (k : Key) :
    sigWit ctx a k = .impossible ∨ ∃ p, phItem p = .sig k ∧ sigWit ctx a k = .stack [p] := by
  rcases sigWit_cases ctx a k with h | ⟨sz, _, _, h⟩ | ⟨_, _, h⟩
  · exact .inl h
  · exact .inr ⟨_, rfl, h⟩
  · exact .inr ⟨_, rfl, h⟩

theorem qk_sigWit {K : List Key} {ctx : Ctx} {a : Assets} {x : Key} (hx : x ∈ K) {l : List Ph}
    (h : sigWit ctx a x = .stack l) : ∀ p ∈ l, Qk K p := by
  rcases sigWit_item ctx a x with hw | ⟨q, hq, hw⟩
  · rw [hw] at h; cases h
  · rw [hw] at h; cases h
    intro p hp k hk
    rw [List.mem_singleton.mp hp, hq] at hk
    cases hk; exact hx

theorem stackQ_multiSD {K : List Key} (ctx : Ctx) (a : Assets) (k : Nat) (ks : List Key)
    (hk : ∀ x ∈ ks, x ∈ K) : StackQ (Qk K) (multiSD ctx a k ks).sat := by
  intro l hl p hp
  obtain ⟨ss, hsub, -, hss, rfl⟩ := SatSpec.multiSD_stack ctx a k ks hl
  rcases List.mem_cons.mp hp with rfl | hp
  · exact fun _ h => nomatch h
  · obtain ⟨q, hq, rfl⟩ := List.mem_map.mp hp
    exact qk_sigWit (hk _ (hsub.subset (List.mem_map_of_mem hq))) (hss q hq) _ (List.mem_singleton.mpr rfl)

theorem stackQ_multiASD {K : List Key} (ctx : Ctx) (a : Assets) (k : Nat) (ks : List Key)
    (hk : ∀ x ∈ ks, x ∈ K) : StackQ (Qk K) (multiASD ctx a k ks).sat := by
  intro l hl p hp
  obtain ⟨sigs, hall, rfl, -⟩ := SatSpec.multiASD_slots ctx a k ks hl
  obtain ⟨e, he, hpe⟩ := List.mem_flatten.mp hp
  obtain ⟨pk, hpk, rfl | hw⟩ := hall.of_mem_right he
  · exact qk_of_noSig (l := [.pushZero]) rfl p hpe
  · exact qk_sigWit (hk pk (by simpa using hpk)) hw p hpe

theorem stackQ_leaves (c : SatCfg) (K : List Key) :
    Leaves c (StackQ (Qk K)) (fun m => ∀ k ∈ keysOf m, k ∈ K) where
  pkK k h := by
    intro l hl
    simp only [satDissat_pkK] at hl
    exact qk_sigWit (h k (by simp [keysOf])) hl
  pkH k h := by
    intro l hl p hp
    simp only [satDissat_pkH] at hl
    obtain ⟨la, lb, h1, h2, rfl⟩ := Wit.combine_stack hl
    cases h2
    rcases List.mem_append.mp hp with hp | hp
    · exact qk_sigWit (h k (by simp [keysOf])) h1 p hp
    · exact qk_of_noSig (l := [.pubkey k (pkLen c.env c.ctx k)]) rfl p hp
  rawPkH h := by
    intro l hl p hp k hk
    simp only [satDissat_rawPkH] at hl
    -- the stack is a signature for the key hash and the key: neither item is `.sig k`
    have two : ∀ {x y : Ph}, p ∈ [x, y] → (∀ k, phItem x ≠ .sig k) → (∀ k, phItem y ≠ .sig k) → False :=
      fun hp hx hy => by
        rcases List.mem_cons.mp hp with rfl | hp
        · exact hx k hk
        · exact hy k (List.mem_singleton.mp hp ▸ hk)
    split at hl
    · split at hl
      · cases hl
        exact (two hp (fun _ h => by cases h) (fun _ h => by cases h)).elim
      · cases hl
    · split at hl
      · cases hl
        exact (two hp (fun _ h => by cases h) (fun _ h => by cases h)).elim
      · cases hl
  multi k ks h := stackQ_multiSD _ _ k ks (by simpa only [keysOf] using h)
  sortedMulti k ks h := stackQ_multiSD _ _ k _ (fun x hx =>
    h x (by simpa only [keysOf] using (sortKeys'_perm c.env ks).mem_iff.mp hx))
  multiA k ks h := stackQ_multiASD _ _ k ks (by simpa only [keysOf] using h)
  sortedMultiA k ks h := stackQ_multiASD _ _ k _ (fun x hx =>
    h x (by simpa only [keysOf] using (sortKeys'_perm c.env ks).mem_iff.mp hx))

theorem keys_kids (K : List Key) (m : Ms) (h : ∀ k ∈ keysOf m, k ∈ K) :
    ∀ x ∈ kids m, ∀ k ∈ keysOf x, k ∈ K :=
  fun x hx k hk => h k (keysOf_kids m x hx k hk)

theorem stackQ_satDissat (c : SatCfg) (ms : Ms) :
    StackQ (Qk (keysOf ms)) (satDissat c ms).sat ∧ StackQ (Qk (keysOf ms)) (satDissat c ms).dissat :=
  (stackQ_closed c _).satDissat (keys_kids _) (stackQ_leaves c _) ms (fun _ h => h)

theorem stackQ_satDissats (c : SatCfg) (hc : c.mall = false) :
    ∀ xs : MsList, ∀ sd ∈ satDissats c xs,
      StackQ (Qk (keysOfL xs)) sd.sat ∧ StackQ (Qk (keysOfL xs)) sd.dissat :=
  have _ := hc  -- holds in either mode
  fun xs => (stackQ_closed c _).satDissats (keys_kids _) (stackQ_leaves c _) xs
    (fun _ hx => keysOfL_mem xs hx)

theorem sig_in_keys (c : SatCfg) (ms : Ms) :
    (∀ w, (satDissat c ms).sat.stack = .stack w → ∀ k, Item.sig k ∈ items w → k ∈ keysOf ms) ∧
    (∀ w, (satDissat c ms).dissat.stack = .stack w → ∀ k, Item.sig k ∈ items w → k ∈ keysOf ms) := by
  have h := stackQ_satDissat c ms
  constructor
  · intro w hw k hk
    obtain ⟨p, hp, hpk⟩ := List.mem_map.mp hk
    exact h.1 w hw p hp k hpk
  · intro w hw k hk
    obtain ⟨p, hp, hpk⟩ := List.mem_map.mp hk
    exact h.2 w hw p hp k hpk

end MsVerif.Uniq
