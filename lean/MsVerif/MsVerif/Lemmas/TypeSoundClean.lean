/-
C06: executions that never see a valid signature.

`Clean env v`: `v` verifies under no key.  `OracleSane env ke`: no value the script can put on
the stack BY ITSELF (numbers, booleans, its key / hash constants, hash outputs) is a valid
signature.  Under a sane oracle, a run that starts from a state whose stacks hold only clean
elements stays among clean elements, and is — step by step, errors included — the run under the
oracle that accepts nothing (`noSigEnv`).  Hence `signed` and `forced`, proved for `NoSig` oracles, hold for
ALL sane oracles on signature-free stacks (`signed_clean`, `forced_clean`).
-/
import MsVerif.Lemmas.TypeSoundMain

namespace MsVerif.TypeSound
open MsVerif MsVerif.Script

def Clean (env : Env) (v : Bytes) : Prop := ∀ pk, env.sigOk pk v = false

/-- the values a Miniscript script generates by itself -/
inductive Gen (env : Env) (ke : KeyEnv) : Bytes → Prop
  | num (n : Int) : Gen env ke (numEncode n)
  | small (n : Nat) : Gen env ke (if n = 0 then [] else [UInt8.ofNat n])
  | bool (b : Bool) : Gen env ke (boolBytes b)
  | ser (k : Key) : Gen env ke (ke.ser k)
  | pkh (k : Key) : Gen env ke (ke.pkh k)
  | rawPkh (h : Nat) : Gen env ke (ke.rawPkh h)
  | hashVal (kind : HashKind) (h : Nat) : Gen env ke (ke.hashVal kind h)
  | hash (op : HashOp) (a : Bytes) : Gen env ke (env.hash op a)

def OracleSane (env : Env) (ke : KeyEnv) : Prop := ∀ v, Gen env ke v → Clean env v

def AllClean (env : Env) (c : Core) : Prop := (∀ e ∈ c.stack, Clean env e) ∧ (∀ e ∈ c.alt, Clean env e)

def noSigEnv (env : Env) : Env := { env with sigOk := fun _ _ => false }

theorem noSigEnv_noSig (env : Env) : NoSig (noSigEnv env) := fun _ _ => rfl

/-- `f` (under `env`) and `f'` (under the empty oracle) agree on clean states, errors included,
and `f` keeps the state clean -/
def Same (env : Env) (f f' : Core → Except Err Core) : Prop :=
  ∀ c, AllClean env c → f c = f' c ∧ ∀ c', f c = .ok c' → AllClean env c'

def SameP (env : Env) (f f' : Core → Except Err (Bool × Core)) : Prop :=
  ∀ c, AllClean env c → f c = f' c ∧ ∀ p, f c = .ok p → AllClean env p.2

theorem same_bind {env : Env} {f f' g g' : Core → Except Err Core} (hf : Same env f f') (hg : Same env g g') :
    Same env (fun c => f c >>= g) (fun c => f' c >>= g') := by
  intro c hc
  obtain ⟨h1, h2⟩ := hf c hc
  show (f c >>= g) = (f' c >>= g') ∧ ∀ c', (f c >>= g) = .ok c' → AllClean env c'
  rw [← h1]
  cases hfc : f c with
  | error e => exact ⟨rfl, fun c' h => by cases h⟩
  | ok c1 =>
    obtain ⟨h3, h4⟩ := hg c1 (h2 c1 hfc)
    exact ⟨h3, fun c' h => h4 c' h⟩

theorem sameP_bind {env : Env} {f f' : Core → Except Err (Bool × Core)} {g g' : Bool → Core → Except Err Core}
    (hf : SameP env f f') (hg : ∀ v, Same env (g v) (g' v)) :
    Same env (fun c => f c >>= fun p => g p.1 p.2) (fun c => f' c >>= fun p => g' p.1 p.2) := by
  intro c hc
  obtain ⟨h1, h2⟩ := hf c hc
  show (f c >>= fun p => g p.1 p.2) = (f' c >>= fun p => g' p.1 p.2) ∧
    ∀ c', (f c >>= fun p => g p.1 p.2) = .ok c' → AllClean env c'
  rw [← h1]
  cases hfc : f c with
  | error e => exact ⟨rfl, fun c' h => by cases h⟩
  | ok p =>
    obtain ⟨h3, h4⟩ := hg p.1 p.2 (h2 p hfc)
    exact ⟨h3, fun c' h => h4 c' h⟩

theorem same_congr {env : Env} {f f' g g' : Core → Except Err Core} (h : ∀ c, f c = g c) (h' : ∀ c, f' c = g' c)
    (hg : Same env g g') : Same env f f' := by
  intro c hc
  rw [h, h']
  exact hg c hc

theorem same_of_eq {env : Env} {f f' : Core → Except Err Core} (heq : ∀ c, f c = f' c)
    (hcl : ∀ c c', AllClean env c → f c = .ok c' → AllClean env c') : Same env f f' :=
  fun c hc => ⟨heq c, fun c' h => hcl c c' hc h⟩

theorem allClean_cons {env : Env} {v : Bytes} {s alt : List Bytes} {ops ops' : Nat}
    (hv : Clean env v) (h : AllClean env ⟨s, alt, ops⟩) : AllClean env ⟨v :: s, alt, ops'⟩ :=
  ⟨fun e he => by
      rcases List.mem_cons.mp he with rfl | he
      · exact hv
      · exact h.1 e he, h.2⟩

theorem allClean_of_stack {env : Env} {c c' : Core} (h : AllClean env c)
    (hs : ∀ e ∈ c'.stack, e ∈ c.stack ∨ Clean env e) (ha : ∀ e ∈ c'.alt, e ∈ c.alt ∨ e ∈ c.stack) :
    AllClean env c' :=
  ⟨fun e he => (hs e he).elim (h.1 e) id, fun e he => (ha e he).elim (h.2 e) (h.1 e)⟩

theorem skipCount_noSig (env : Env) (s : List Op) (c : Core) : skipCount (noSigEnv env) s c = skipCount env s c := rfl
theorem condPop_noSig (env : Env) (nf : Bool) (c : Core) : condPop (noSigEnv env) nf c = condPop env nf c := rfl
theorem cnd_noSig (env : Env) (nf : Bool) (c : Core) : cnd (noSigEnv env) nf c = cnd env nf c := rfl
theorem num4_noSig (env : Env) (b : Bytes) : num4 (noSigEnv env) b = num4 env b := rfl

theorem same_countOp (env : Env) (n : Nat) : Same env (fun c => countOp env c n) (fun c => countOp (noSigEnv env) c n) :=
  same_of_eq (fun _ => rfl) (fun c c' hc h => by
    obtain ⟨h1, h2⟩ := countOp_stack h
    exact ⟨fun e he => hc.1 e (h1 ▸ he), fun e he => hc.2 e (h2 ▸ he)⟩)

theorem same_skipCount (env : Env) (s : List Op) : Same env (skipCount env s) (skipCount (noSigEnv env) s) :=
  same_of_eq (fun _ => rfl) (fun c c' hc h => by
    obtain ⟨h1, h2⟩ := skipCount_stack h
    exact ⟨fun e he => hc.1 e (h1 ▸ he), fun e he => hc.2 e (h2 ▸ he)⟩)

theorem sameP_cnd (env : Env) (nf : Bool) : SameP env (cnd env nf) (cnd (noSigEnv env) nf) := by
  intro c hc
  refine ⟨rfl, ?_⟩
  intro p h
  obtain ⟨v, c'⟩ := p
  obtain ⟨a, hs, ha, _⟩ := cnd_inv h
  exact ⟨fun e he => hc.1 e (by rw [hs]; exact List.mem_cons_of_mem _ he), fun e he => hc.2 e (ha ▸ he)⟩

theorem same_pushGen {env : Env} {ke : KeyEnv} (hs : OracleSane env ke) {b : Bytes} (hb : Gen env ke b) :
    Same env (fun c => pushElem env c b) (fun c => pushElem (noSigEnv env) c b) :=
  same_of_eq (fun _ => rfl) (fun c c' hc h => by
    obtain ⟨h1, h2⟩ := pushElem_stack h
    refine ⟨fun e he => ?_, fun e he => hc.2 e (h2 ▸ he)⟩
    rw [h1] at he
    rcases List.mem_cons.mp he with rfl | he
    · exact hs _ hb
    · exact hc.1 e he)

theorem same_pshGen {env : Env} {ke : KeyEnv} (hs : OracleSane env ke) {b : Bytes} (hb : Gen env ke b) :
    Same env (psh env b) (psh (noSigEnv env) b) := by
  intro c hc
  by_cases h : (env.flags.stackLimits && decide (b.length > 520)) = true
  · have e1 : psh env b c = .error .pushSize := by unfold psh; rw [if_pos h]
    have e2 : psh (noSigEnv env) b c = .error .pushSize := by
      unfold psh; exact if_pos h
    rw [e1, e2]
    exact ⟨rfl, fun c' h' => by cases h'⟩
  · have e1 : psh env b c = pushElem env c b := by unfold psh; rw [if_neg h]
    have e2 : psh (noSigEnv env) b c = pushElem (noSigEnv env) c b := by
      unfold psh; exact if_neg h
    rw [e1, e2]
    exact same_pushGen hs hb c hc

theorem checkSig_clean {env : Env} {sg : Bytes} (h : Clean env sg) (pk : Bytes) :
    checkSig (noSigEnv env) sg pk = checkSig env sg pk := by
  unfold checkSig
  have hp : pubkeyOk (noSigEnv env) pk = pubkeyOk env pk := rfl
  rw [hp]
  simp only [h pk, noSigEnv]
  rfl

theorem multisigLoop_clean {env : Env} : ∀ (sigs keys : List Bytes), (∀ s ∈ sigs, Clean env s) →
    multisigLoop (noSigEnv env) sigs keys = multisigLoop env sigs keys
  | [], keys, _ => by unfold multisigLoop; rfl
  | _ :: _, [], _ => by unfold multisigLoop; rfl
  | sg :: sigs, key :: keys, h => by
    unfold multisigLoop
    have hp : pubkeyOk (noSigEnv env) key = pubkeyOk env key := rfl
    have hsg : env.sigOk key sg = false := h sg (List.mem_cons_self) key
    have hsg' : (noSigEnv env).sigOk key sg = false := rfl
    rw [hp]
    simp only [hsg, hsg', Bool.and_false, Bool.false_eq_true, if_false]
    rw [multisigLoop_clean (sg :: sigs) keys h]
termination_by s k => s.length + k.length

theorem mem_of_drop_eq_cons {α : Type} {l r : List α} {n : Nat} {d e : α} (h : l.drop n = d :: r) (he : e ∈ r) : e ∈ l :=
  List.mem_of_mem_drop (h ▸ List.mem_cons_of_mem d he)

theorem allClean_multisig {env : Env} {ke : KeyEnv} (hs : OracleSane env ke) {c c' : Core} {v : Bool}
    (hc : AllClean env c) (h : multisig env c v = .ok c') : AllClean env c' := by
  obtain ⟨nB, r, nI, mB, r1, mI, dummy, r2, b, h1, _, h4, _, h6, _, h7, h8⟩ := multisig_ok h
  have hsub : ∀ e ∈ r2, Clean env e := fun e he =>
    hc.1 e (h1 ▸ List.mem_cons_of_mem _ (mem_of_drop_eq_cons h4 (mem_of_drop_eq_cons h6 he)))
  refine ⟨fun e he => ?_, fun e he => hc.2 e (h7 ▸ he)⟩
  cases v with
  | true => exact hsub e ((show c'.stack = r2 from h8) ▸ he)
  | false =>
    rw [show c'.stack = boolBytes b :: r2 from h8] at he
    rcases List.mem_cons.mp he with rfl | he
    · exact hs _ (Gen.bool b)
    · exact hsub e he

theorem gen_of_made {env : Env} (ke : KeyEnv) {b : Bytes} (h : Made env b) : Gen env ke b := by
  cases h with
  | num n => exact .num n
  | bool v => exact .bool v
  | hash op a => exact .hash op a

/-- old elements stay old and the new one is old or made by the opcode (`ActOk`), hence clean under a sane oracle -/
theorem allClean_execOpc {env : Env} {ke : KeyEnv} (hs : OracleSane env ke) (o : Opc) {c : Core}
    (hc : AllClean env c) : Holds (AllClean env) (execOpc env o c) := by
  induction o using Opc.multisig_or with
  | h1 => rw [execOpc_cms]; exact fun _ h => allClean_multisig hs hc h
  | h2 => rw [execOpc_cmsv]; exact fun _ h => allClean_multisig hs hc h
  | h ho =>
    refine holds_execOpc ho c fun pre rest r hst hr c' hf => ?_
    obtain ⟨out, al', p⟩ := r
    have hpre : ∀ e ∈ pre, Clean env e := fun e he => hc.1 e (hst ▸ List.mem_append_left _ he)
    have hout : ∀ e ∈ out ++ rest, Clean env e := fun e he =>
      (List.mem_append.mp he).elim (fun h => hpre e (hr.old_out e h)) fun h => hc.1 e (hst ▸ List.mem_append_right _ h)
    have halt : ∀ e ∈ al', Clean env e := fun e he => (hr.old_alt e he).elim (hc.2 e) (hpre e)
    cases p with
    | none => cases hf; exact ⟨hout, halt⟩
    | some b =>
      cases pushElem_inv hf
      refine ⟨fun e he => ?_, halt⟩
      rcases List.mem_cons.mp he with rfl | he
      · rcases hr.pushed _ rfl with h | h | h
        · exact hpre _ h
        · exact hc.2 _ h
        · exact hs _ (gen_of_made ke h)
      · exact hout e he

theorem flags_noSig (env : Env) : (noSigEnv env).flags = env.flags := rfl

theorem msArgs_sigs {env : Env} {nI : Int} {r : List Bytes} {a : List Bytes × List Bytes × Bytes × List Bytes}
    (h : msArgs env nI r = .ok a) : ∀ s ∈ a.2.1, s ∈ r := by
  obtain ⟨keys, sigs, dummy, rest⟩ := a
  obtain ⟨mB, mI, _, _, _, _, _, rfl⟩ := msArgs_ok h
  exact fun s hs => List.mem_append_right _ (List.mem_cons_of_mem _ (List.mem_append_left _ hs))

/-- the oracle is consulted by the matching loop alone, on the signatures `msArgs` reads off the stack -/
theorem multisig_eq_noSig {env : Env} {c : Core} (hc : ∀ e ∈ c.stack, Clean env e) (v : Bool) :
    multisig (noSigEnv env) c v = multisig env c v := by
  obtain ⟨st, al, ops⟩ := c
  rw [multisig_eq, multisig_eq]
  cases st with
  | nil => rfl
  | cons nB r =>
    have key : ∀ nI alt ops, (msArgs (noSigEnv env) nI r >>= msTail (noSigEnv env) v alt ops) =
        (msArgs env nI r >>= msTail env v alt ops) := by
      intro nI alt ops
      show (msArgs env nI r >>= _) = _
      cases ha : msArgs env nI r with
      | error e => rfl
      | ok a =>
        show msTail (noSigEnv env) v alt ops a = msTail env v alt ops a
        unfold msTail
        rw [multisigLoop_clean a.2.1 a.1 fun s hs => hc s (List.mem_cons_of_mem _ (msArgs_sigs ha s hs))]
        rfl
    simp only [key]
    rfl

theorem act_noSig {env : Env} {o : Opc} {pre : List Bytes} (hlen : pre.length = need o)
    (hc : ∀ e ∈ pre, Clean env e) (alt : List Bytes) : act (noSigEnv env) o pre alt = act env o pre alt := by
  obtain ⟨a, b, d, rfl⟩ := eq_take3 hlen (need_le o)
  cases o
  case checksig | checksigverify =>
    simp only [act, need, List.take] at hc ⊢
    rw [checkSig_clean (hc _ (by simp))]
  case checksigadd =>
    simp only [act, need, List.take] at hc ⊢
    rw [checkSig_clean (hc _ (by simp))]
    rfl
  all_goals rfl

theorem execOpc_eq_noSig {env : Env} (o : Opc) {c : Core} (hc : ∀ e ∈ c.stack, Clean env e) :
    execOpc (noSigEnv env) o c = execOpc env o c := by
  induction o using Opc.multisig_or with
  | h1 => rw [execOpc_cms, execOpc_cms]; exact multisig_eq_noSig hc false
  | h2 => rw [execOpc_cmsv, execOpc_cmsv]; exact multisig_eq_noSig hc true
  | h ho =>
    rcases execOpc_cases ho c with hu | ⟨pre, rest, hst, hlen, hl⟩
    · rw [hu, hu]
    · rw [hl, hl, act_noSig hlen fun e he => hc e (hst ▸ List.mem_append_left _ he)]
      rfl

theorem same_execOpc {env : Env} {ke : KeyEnv} (hs : OracleSane env ke) (o : Opc) :
    Same env (execOpc env o) (execOpc (noSigEnv env) o) :=
  fun _ hc => ⟨(execOpc_eq_noSig o hc.1).symm, allClean_execOpc hs o hc⟩

theorem same_opc {env : Env} {ke : KeyEnv} (hs : OracleSane env ke) (o : Opc) :
    Same env (opc env o) (opc (noSigEnv env) o) := by
  refine same_congr (g := fun c => countOp env c 1 >>= execOpc env o)
    (g' := fun c => countOp (noSigEnv env) c 1 >>= execOpc (noSigEnv env) o) ?_ ?_
    (same_bind (same_countOp env 1) (same_execOpc hs o))
  · intro c; unfold opc; cases countOp env c 1 <;> rfl
  · intro c; unfold opc; cases countOp (noSigEnv env) c 1 <;> rfl


def GenPushes (env : Env) (ke : KeyEnv) (ops : List Op) : Prop := ∀ bs, Op.push bs ∈ ops → Gen env ke bs

theorem same_pshOp {env : Env} {ke : KeyEnv} (hs : OracleSane env ke) (op : Op)
    (hg : ∀ bs, op = .push bs → Gen env ke bs) : Same env (pshOp env op) (pshOp (noSigEnv env) op) := by
  cases op with
  | small n => exact same_pushGen hs (Gen.small n)
  | push bs => exact same_pshGen hs (hg bs rfl)
  | code o => exact same_opc hs o
  | bad b => exact fun c _ => ⟨rfl, fun c' h => by cases h⟩

theorem same_seqOps {env : Env} {ke : KeyEnv} (hs : OracleSane env ke) :
    (ops : List Op) → GenPushes env ke ops → Same env (seqOps env ops) (seqOps (noSigEnv env) ops)
  | [], _ => fun c hc => ⟨(seqOps_nil env c).trans (seqOps_nil _ c).symm, fun c' h => seqOps_nil_ok h ▸ hc⟩
  | op :: ops, hg => by
    exact same_congr (seqOps_cons env op ops) (seqOps_cons (noSigEnv env) op ops)
      (same_bind (same_pshOp hs op (fun bs h => hg bs (h ▸ List.mem_cons_self)))
        (same_seqOps hs ops (fun bs h => hg bs (List.mem_cons_of_mem _ h))))

theorem genPushes_pushInt (env : Env) (ke : KeyEnv) (n : Nat) : ∀ bs, pushInt n = .push bs → Gen env ke bs := by
  intro bs h
  unfold pushInt at h
  split at h
  · cases h
  · cases h; exact Gen.num _

theorem same_ifThen {env : Env} (nf : Bool) (X : List Op) {f f' : Core → Except Err Core} (hf : Same env f f') :
    Same env (ifThen env nf X f) (ifThen (noSigEnv env) nf X f') := by
  refine same_congr (ifThen_eq env nf X f) (ifThen_eq (noSigEnv env) nf X f')
    (sameP_bind (g := thenTail env X f) (g' := thenTail (noSigEnv env) X f') (sameP_cnd env nf) ?_)
  intro v
  cases v
  · exact same_bind (same_skipCount env X) (same_countOp env 1)
  · exact same_bind hf (same_countOp env 1)

theorem same_ifElse {env : Env} (nf : Bool) (X Y : List Op) {f f' g g' : Core → Except Err Core}
    (hf : Same env f f') (hg : Same env g g') :
    Same env (ifElse env nf X Y f g) (ifElse (noSigEnv env) nf X Y f' g') := by
  refine same_congr (ifElse_eq env nf X Y f g) (ifElse_eq (noSigEnv env) nf X Y f' g')
    (sameP_bind (g := elseTail env X Y f g) (g' := elseTail (noSigEnv env) X Y f' g') (sameP_cnd env nf) ?_)
  intro v
  cases v
  · exact same_bind (same_skipCount env X)
      (same_bind (same_countOp env 1) (same_bind hg (same_countOp env 1)))
  · exact same_bind hf
      (same_bind (same_countOp env 1) (same_bind (same_skipCount env Y) (same_countOp env 1)))

theorem same_verifyTail {env : Env} {ke : KeyEnv} (hs : OracleSane env ke) (fused : Bool) :
    Same env (verifyTail env fused) (verifyTail (noSigEnv env) fused) := by
  cases fused
  · exact same_opc hs .verify
  · -- the fused form consults no environment (stated for two variables: against `noSigEnv env` the check by `rfl` is dear)
    have henv : ∀ (e e' : Env) (c : Core), verifyTail e true c = verifyTail e' true c := fun _ _ _ => by
      unfold verifyTail; rfl
    refine same_of_eq (henv _ _) ?_
    intro c c' hc h
    obtain ⟨a, e, _, ha⟩ := verifyTail_inv h
    exact ⟨fun x hx => hc.1 x (by rw [e]; exact List.mem_cons_of_mem _ hx), fun x hx => hc.2 x (ha ▸ hx)⟩

theorem genPushes_encodeMultiA (env : Env) (ke : KeyEnv) : (ks : List Key) → GenPushes env ke (encodeMultiA ke ks)
  | [] => fun bs h => by simp [encodeMultiA] at h
  | k :: ks => fun bs h => by
    simp only [encodeMultiA, List.cons_append, List.nil_append, List.mem_cons, Op.push.injEq, reduceCtorEq, false_or,
      List.mem_flatMap] at h
    rcases h with rfl | ⟨pk, _, h⟩
    · exact Gen.ser k
    · simp only [List.mem_cons, Op.push.injEq, reduceCtorEq, or_false, List.not_mem_nil] at h
      rw [h]; exact Gen.ser pk

theorem genPushes_multi (env : Env) (ke : KeyEnv) (k : Nat) (ks : List Key) :
    GenPushes env ke ([pushInt k] ++ ks.map (fun pk => Op.push (ke.ser pk)) ++ [pushInt ks.length, .code .checkmultisig]) := by
  intro bs h
  simp only [List.mem_append, List.mem_cons, List.mem_map, List.not_mem_nil, or_false, reduceCtorEq] at h
  rcases h with (h | ⟨pk, _, h⟩) | h
  · exact genPushes_pushInt env ke k bs h.symm
  · cases h; exact Gen.ser pk
  · exact genPushes_pushInt env ke ks.length bs h.symm

theorem genPushes_multiA (env : Env) (ke : KeyEnv) (k : Nat) (ks : List Key) :
    GenPushes env ke (encodeMultiA ke ks ++ [pushInt k, .code .numequal]) := by
  intro bs h
  simp only [List.mem_append, List.mem_cons, List.not_mem_nil, or_false, reduceCtorEq] at h
  rcases h with h | h
  · exact genPushes_encodeMultiA env ke ks bs h
  · exact genPushes_pushInt env ke k bs h.symm

mutual
theorem same_frag {env : Env} {ke : KeyEnv} (hs : OracleSane env ke) (ctx : Ctx) :
    (ms : Ms) → Same env (frag env ke ctx ms) (frag (noSigEnv env) ke ctx ms)
  | .pkK k => same_congr (fun _ => rfl) (fun _ => rfl) (same_pshGen hs (Gen.ser k))
  | .pkH k => same_congr (fun _ => rfl) (fun _ => rfl) (same_seqOps hs _ (fun bs h => by
      simp only [List.mem_cons, Op.push.injEq, reduceCtorEq, false_or, or_false, List.not_mem_nil] at h
      rw [h]; exact Gen.pkh k))
  | .rawPkH k => same_congr (fun _ => rfl) (fun _ => rfl) (same_seqOps hs _ (fun bs h => by
      simp only [List.mem_cons, Op.push.injEq, reduceCtorEq, false_or, or_false, List.not_mem_nil] at h
      rw [h]; exact Gen.rawPkh k))
  | .after n | .older n => same_congr (fun _ => rfl) (fun _ => rfl) (same_seqOps hs _ (fun bs h => by
      simp only [List.mem_cons, reduceCtorEq, or_false, List.not_mem_nil] at h
      exact genPushes_pushInt env ke n bs h.symm))
  | .hash kind hh => same_congr (fun _ => rfl) (fun _ => rfl) (same_seqOps hs _ (fun bs h => by
      simp only [List.mem_cons, Op.push.injEq, reduceCtorEq, false_or, or_false, List.not_mem_nil] at h
      rcases h with h | h
      · exact genPushes_pushInt env ke 32 bs h.symm
      · rw [h]; exact Gen.hashVal kind hh))
  | .tru | .fls => same_congr (fun _ => rfl) (fun _ => rfl) (same_pshOp hs _ (fun _ h => by cases h))
  | .multi k ks => same_congr (fun _ => rfl) (fun _ => rfl) (same_seqOps hs _ (genPushes_multi env ke k ks))
  | .sortedMulti k ks => same_congr (fun _ => rfl) (fun _ => rfl)
      (same_seqOps hs _ (by
        have := genPushes_multi env ke k (sortKeys ke ks)
        rw [sortKeys_length] at this
        exact this))
  | .multiA k ks => same_congr (fun _ => rfl) (fun _ => rfl) (same_seqOps hs _ (genPushes_multiA env ke k ks))
  | .sortedMultiA k ks => same_congr (fun _ => rfl) (fun _ => rfl)
      (same_seqOps hs _ (genPushes_multiA env ke k (sortKeys ke ks)))
  | .alt x => same_congr (frag_alt env ke ctx x) (frag_alt (noSigEnv env) ke ctx x)
      (same_bind (same_opc hs _) (same_bind (same_frag hs ctx x) (same_opc hs _)))
  | .swap x => same_congr (frag_swap env ke ctx x) (frag_swap (noSigEnv env) ke ctx x)
      (same_bind (same_opc hs _) (same_frag hs ctx x))
  | .check x => same_congr (frag_check env ke ctx x) (frag_check (noSigEnv env) ke ctx x)
      (same_bind (same_frag hs ctx x) (same_opc hs _))
  | .dupIf x => same_congr (frag_dupIf env ke ctx x) (frag_dupIf (noSigEnv env) ke ctx x)
      (same_bind (same_opc hs _) (same_ifThen _ _ (same_frag hs ctx x)))
  | .verify x => same_congr (frag_verify env ke ctx x) (frag_verify (noSigEnv env) ke ctx x)
      (same_bind (same_frag hs ctx x) (same_verifyTail hs _))
  | .nonZero x => same_congr (frag_nonZero env ke ctx x) (frag_nonZero (noSigEnv env) ke ctx x)
      (same_bind (same_opc hs _) (same_bind (same_opc hs _) (same_ifThen _ _ (same_frag hs ctx x))))
  | .zeroNotEqual x => same_congr (frag_zeroNotEqual env ke ctx x) (frag_zeroNotEqual (noSigEnv env) ke ctx x)
      (same_bind (same_frag hs ctx x) (same_opc hs _))
  | .andV l r => same_congr (frag_andV env ke ctx l r) (frag_andV (noSigEnv env) ke ctx l r)
      (same_bind (same_frag hs ctx l) (same_frag hs ctx r))
  | .andB l r => same_congr (frag_andB env ke ctx l r) (frag_andB (noSigEnv env) ke ctx l r)
      (same_bind (same_frag hs ctx l) (same_bind (same_frag hs ctx r) (same_opc hs _)))
  | .orB l r => same_congr (frag_orB env ke ctx l r) (frag_orB (noSigEnv env) ke ctx l r)
      (same_bind (same_frag hs ctx l) (same_bind (same_frag hs ctx r) (same_opc hs _)))
  | .andOr a b z => same_congr (frag_andOr env ke ctx a b z) (frag_andOr (noSigEnv env) ke ctx a b z)
      (same_bind (same_frag hs ctx a) (same_ifElse _ _ _ (same_frag hs ctx z) (same_frag hs ctx b)))
  | .orD l r => same_congr (frag_orD env ke ctx l r) (frag_orD (noSigEnv env) ke ctx l r)
      (same_bind (same_frag hs ctx l) (same_bind (same_opc hs _) (same_ifThen _ _ (same_frag hs ctx r))))
  | .orC l r => same_congr (frag_orC env ke ctx l r) (frag_orC (noSigEnv env) ke ctx l r)
      (same_bind (same_frag hs ctx l) (same_ifThen _ _ (same_frag hs ctx r)))
  | .orI l r => same_congr (frag_orI env ke ctx l r) (frag_orI (noSigEnv env) ke ctx l r)
      (same_ifElse _ _ _ (same_frag hs ctx l) (same_frag hs ctx r))
  | .thresh k xs => same_congr (frag_thresh env ke ctx k xs) (frag_thresh (noSigEnv env) ke ctx k xs)
      (same_bind (same_fragThresh hs ctx true xs) (same_seqOps hs _ (fun bs h => by
        simp only [List.mem_cons, reduceCtorEq, or_false, List.not_mem_nil] at h
        exact genPushes_pushInt env ke k bs h.symm)))
theorem same_fragThresh {env : Env} {ke : KeyEnv} (hs : OracleSane env ke) (ctx : Ctx) (first : Bool) :
    (xs : MsList) → Same env (fragThresh env ke ctx first xs) (fragThresh (noSigEnv env) ke ctx first xs)
  | .nil => fun c hc => by
    rw [fragThresh_nil, fragThresh_nil]
    exact ⟨rfl, fun c' h => by cases h; exact hc⟩
  | .cons x xs => same_congr (fragThresh_cons env ke ctx first x xs) (fragThresh_cons (noSigEnv env) ke ctx first x xs)
      (same_bind (same_frag hs ctx x)
        (same_bind (by
            cases first
            · exact same_opc hs .add
            · exact fun c hc => ⟨rfl, fun c' h => by cases h; exact hc⟩)
          (same_fragThresh hs ctx false xs)))
end

theorem unsatS_of_noSig {env : Env} {ke : KeyEnv} (hs : OracleSane env ke) {b : Base} {s : List Bytes} {c' : Core}
    (hc : AllClean env c') (h : UnsatS (noSigEnv env) b s c') : UnsatS env b s c' := by
  cases b with
  | B => exact h
  | V => exact h
  | W => exact h
  | K =>
    intro c'' hsig v r hv
    have := (same_opc hs .checksig c' hc).1
    rw [this] at hsig
    exact h c'' hsig v r hv

/-- `s`, stack-wise: under a sane oracle, from a state whose stacks hold no valid signature -/
theorem signed_clean {env : Env} (hlim : env.flags.stackLimits = false) {ke : KeyEnv} (hs : OracleSane env ke)
    (ctx : Ctx) (ms : Ms) (hwf : wf ms = true) (hws : wfS ms = true) (τ : Ty) (hty : typeOf ms = some τ)
    (hsg : τ.mall.signed = true) (c c' : Core) (hc : AllClean env c) (hrun : frag env ke ctx ms c = .ok c') :
    UnsatS env τ.corr.base c.stack c' := by
  obtain ⟨heq, hcl⟩ := same_frag hs ctx ms c hc
  rw [heq] at hrun
  have := signed (env := noSigEnv env) hlim (noSigEnv_noSig env) ke ctx ms hwf hws τ hty hsg c c' hrun
  exact unsatS_of_noSig hs (hcl c' (heq ▸ hrun)) this

theorem forced_clean {env : Env} (hlim : env.flags.stackLimits = false) {ke : KeyEnv} (hs : OracleSane env ke)
    (ctx : Ctx) (ms : Ms) (hwf : wf ms = true) (hws : wfS ms = true) (hwt : wfT ms = true) (τ : Ty)
    (hty : typeOf ms = some τ) (hd : τ.mall.dissat = .none) (c c' : Core) (hc : AllClean env c)
    (hrun : frag env ke ctx ms c = .ok c') : ForcedS τ.corr.base c.stack c' := by
  obtain ⟨heq, _⟩ := same_frag hs ctx ms c hc
  rw [heq] at hrun
  exact forced (env := noSigEnv env) hlim (noSigEnv_noSig env) ke ctx ms hwf hws hwt τ hty hd c c' hrun
end MsVerif.TypeSound
