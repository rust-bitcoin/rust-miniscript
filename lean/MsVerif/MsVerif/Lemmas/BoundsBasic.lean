/-
C09: measures of witness templates (`wsz`, `wss`), the bound predicates `Fits` / `SB`, and how the
satisfier's combinators (`concatenateRev`, `minimum`, `minimumMall`, `foldConcat`) act on them.
-/
import MsVerif.Model.Ext
import MsVerif.Model.Satisfy
import MsVerif.Lemmas.CoreSat

namespace MsVerif.C09
open MsVerif

/-- bytes a template element occupies in a push-only scriptSig (`witness_to_scriptsig`):
like `Ph.size` except that `1` is the single opcode `OP_1` -/
def phSs : Ph → Nat
  | .pubkey _ s | .pubkeyHash _ s => s
  | .ecdsaSig _ | .ecdsaSigPkh _ => 73
  | .schnorrSig _ s | .schnorrSigPkh _ s => s + 1
  | .preimage _ _ | .hashDissat => 33
  | .pushOne => 1
  | .pushZero => 1

/-- serialized size of the elements (each with its length prefix), without the count -/
def wsz (w : List Ph) : Nat := (w.map Ph.size).sum
def wss (w : List Ph) : Nat := (w.map phSs).sum

@[simp] theorem wsz_nil : wsz [] = 0 := rfl
@[simp] theorem wss_nil : wss [] = 0 := rfl
@[simp] theorem wsz_cons (a : Ph) (w : List Ph) : wsz (a :: w) = a.size + wsz w := by simp [wsz]
@[simp] theorem wss_cons (a : Ph) (w : List Ph) : wss (a :: w) = phSs a + wss w := by simp [wss]
@[simp] theorem wsz_append (a b : List Ph) : wsz (a ++ b) = wsz a + wsz b := by simp [wsz]
@[simp] theorem wss_append (a b : List Ph) : wss (a ++ b) = wss a + wss b := by simp [wss]

/-- the template `w` stays within the figures `d`; the scriptSig figure is only claimed
outside tapscript (`e`) -/
def Fits (e : Bool) (w : List Ph) (d : SatData) : Prop :=
  w.length ≤ d.wCount ∧ wsz w ≤ d.wSize ∧ (e = true → wss w ≤ d.ssSize)

/-- "`s` is bounded by `od`": whenever the (dis)satisfaction `s` is a stack, the figure `od` exists and the stack
stays within it -/
def SB (e : Bool) (s : Sat) (od : Option SatData) : Prop :=
  ∀ w, s.stack = .stack w → ∃ d, od = some d ∧ Fits e w d

theorem SB_of_not_stack {e : Bool} {s : Sat} {od : Option SatData}
    (h : ∀ w, s.stack ≠ .stack w) : SB e s od := fun w hw => absurd hw (h w)

def Additive (f : SatData → SatData → SatData) : Prop :=
  ∀ x y, (f x y).wCount = x.wCount + y.wCount ∧ (f x y).wSize = x.wSize + y.wSize
    ∧ (f x y).ssSize = x.ssSize + y.ssSize

theorem additive_catB : Additive catB := fun _ _ => ⟨rfl, rfl, rfl⟩
theorem additive_catV : Additive catV := fun _ _ => ⟨rfl, rfl, rfl⟩

theorem SB_concat {e : Bool} {a b : Sat} {da db : Option SatData} {f : SatData → SatData → SatData}
    (hf : Additive f) (ha : SB e a da) (hb : SB e b db) :
    SB e (a.concatenateRev b) (zipMap f da db) := by
  intro w hw
  obtain ⟨wa, wb, hsa, hsb, rfl⟩ := Sat.concatenateRev_stack hw
  obtain ⟨xa, rfl, ca, sa, ssa⟩ := ha wa hsa
  obtain ⟨xb, rfl, cb, sb, ssb⟩ := hb wb hsb
  obtain ⟨h1, h2, h3⟩ := hf xa xb
  refine ⟨f xa xb, rfl, ?_, ?_, ?_⟩
  · simp only [List.length_append]; omega
  · simp only [wsz_append]; omega
  · intro he; have := ssa he; have := ssb he; simp only [wss_append]; omega

theorem Fits_mono {e : Bool} {w : List Ph} {d d' : SatData} (h : Fits e w d)
    (h1 : d.wCount ≤ d'.wCount) (h2 : d.wSize ≤ d'.wSize) (h3 : d.ssSize ≤ d'.ssSize) :
    Fits e w d' :=
  ⟨Nat.le_trans h.1 h1, Nat.le_trans h.2.1 h2, fun he => Nat.le_trans (h.2.2 he) h3⟩

theorem SB_fmaxOpt_left {e : Bool} {a : Sat} {da : Option SatData} (db : Option SatData) (ha : SB e a da) :
    SB e a (SatData.fmaxOpt da db) := by
  intro w hw
  obtain ⟨x, rfl, hx⟩ := ha w hw
  cases db with
  | none => exact ⟨x, rfl, hx⟩
  | some z => exact ⟨x.fmax z, rfl, Fits_mono hx (Nat.le_max_left _ _) (Nat.le_max_left _ _) (Nat.le_max_left _ _)⟩

theorem SB_fmaxOpt_right {e : Bool} {b : Sat} (da : Option SatData) {db : Option SatData} (hb : SB e b db) :
    SB e b (SatData.fmaxOpt da db) := by
  intro w hw
  obtain ⟨x, rfl, hx⟩ := hb w hw
  cases da with
  | none => exact ⟨x, rfl, hx⟩
  | some z => exact ⟨z.fmax x, rfl, Fits_mono hx (Nat.le_max_right _ _) (Nat.le_max_right _ _) (Nat.le_max_right _ _)⟩

theorem SB_of_stack {e : Bool} {a r : Sat} {d : Option SatData}
    (hr : ∀ w, r.stack = .stack w → a.stack = .stack w) (ha : SB e a d) : SB e r d :=
  fun w hw => ha w (hr w hw)

theorem SB_of_stack_or {e : Bool} {a b r : Sat} {da db : Option SatData}
    (hr : ∀ w, r.stack = .stack w → a.stack = .stack w ∨ b.stack = .stack w)
    (ha : SB e a da) (hb : SB e b db) : SB e r (SatData.fmaxOpt da db) := by
  intro w hw
  rcases hr w hw with h | h
  · exact SB_fmaxOpt_left db ha w h
  · exact SB_fmaxOpt_right da hb w h

theorem SB_minFn {e : Bool} (c : SatCfg) {a b : Sat} {da db : Option SatData}
    (ha : SB e a da) (hb : SB e b db) : SB e (c.minFn a b) (SatData.fmaxOpt da db) :=
  SB_of_stack_or (fun _ => SatCfg.minFn_stack) ha hb

/-- appending fixed elements to the stack (`or_i`'s `1`/`0`, `d:`'s `1`) -/
theorem SB_push {e : Bool} {s : Sat} {od : Option SatData} (l : List Ph) (g : SatData → SatData)
    (hg : ∀ x, x.wCount + l.length ≤ (g x).wCount ∧ x.wSize + wsz l ≤ (g x).wSize
      ∧ x.ssSize + wss l ≤ (g x).ssSize)
    (h : SB e s od) :
    SB e { s with stack := Wit.combine s.stack (.stack l) } (od.map g) := by
  intro w hw
  obtain ⟨ws, wl, hs, hl, rfl⟩ := Wit.combine_stack hw
  cases hl
  obtain ⟨x, rfl, c1, c2, c3⟩ := h ws hs
  obtain ⟨g1, g2, g3⟩ := hg x
  refine ⟨g x, rfl, ?_, ?_, ?_⟩
  · simp only [List.length_append]; omega
  · simp only [wsz_append]; omega
  · intro he; have := c3 he; simp only [wss_append]; omega

def StacksOf : List Sat → List (List Ph) → Prop
  | [], [] => True
  | s :: l, w :: ws => s.stack = .stack w ∧ StacksOf l ws
  | _, _ => False

theorem foldl_concat_stacks (l : List Sat) : ∀ (acc : Sat) (w : List Ph),
    (l.foldl Sat.concatenateRev acc).stack = .stack w →
    ∃ wacc, acc.stack = .stack wacc ∧ ∃ ws : List (List Ph), StacksOf l ws
      ∧ w.length = wacc.length + (ws.map List.length).sum
      ∧ wsz w = wsz wacc + (ws.map wsz).sum ∧ wss w = wss wacc + (ws.map wss).sum := by
  induction l with
  | nil => intro acc w h; exact ⟨w, h, [], trivial, by simp, by simp, by simp⟩
  | cons x xs ih =>
    intro acc w h
    simp only [List.foldl_cons] at h
    obtain ⟨w1, h1, ws, hall, e1, e2, e3⟩ := ih _ _ h
    obtain ⟨wa, wx, hacc, hx, rfl⟩ := Sat.concatenateRev_stack h1
    refine ⟨wa, hacc, wx :: ws, ⟨hx, hall⟩, ?_, ?_, ?_⟩
    · simp only [List.length_append] at e1; simp only [List.map_cons, List.sum_cons]; omega
    · simp only [wsz_append] at e2; simp only [List.map_cons, List.sum_cons]; omega
    · simp only [wss_append] at e3; simp only [List.map_cons, List.sum_cons]; omega

theorem StacksOf.getElem : ∀ {l : List Sat} {ws : List (List Ph)}, StacksOf l ws →
    ws.length = l.length ∧ ∀ i (h1 : i < l.length) (h2 : i < ws.length), l[i].stack = .stack ws[i]
  | [], [], _ => ⟨rfl, fun i h => absurd h (Nat.not_lt_zero _)⟩
  | s :: l, w :: ws, h => by
    obtain ⟨hl, hg⟩ := StacksOf.getElem h.2
    refine ⟨by simp [hl], fun i h1 h2 => ?_⟩
    cases i with
    | zero => exact h.1
    | succ j => exact hg j (by simpa using h1) (by simpa using h2)
  | [], _ :: _, h => h.elim
  | _ :: _, [], h => h.elim

theorem foldl_concat_stack (l : List Sat) : ∀ (acc : Sat) (w : List Ph),
    (l.foldl Sat.concatenateRev acc).stack = .stack w →
    ∃ wacc, acc.stack = .stack wacc ∧ ∃ ws : List (List Ph),
      ws.length = l.length ∧ (∀ i (h1 : i < l.length) (h2 : i < ws.length), l[i].stack = .stack ws[i])
      ∧ w.length = wacc.length + (ws.map List.length).sum
      ∧ wsz w = wsz wacc + (ws.map wsz).sum ∧ wss w = wss wacc + (ws.map wss).sum := by
  intro acc w h
  obtain ⟨wacc, hacc, ws, hs, e⟩ := foldl_concat_stacks l acc w h
  exact ⟨wacc, hacc, ws, hs.getElem.1, hs.getElem.2, e⟩

end MsVerif.C09
