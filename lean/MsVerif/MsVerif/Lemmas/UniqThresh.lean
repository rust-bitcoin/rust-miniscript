/-
C03 (uniqueness): the threshold node.

The table offers, for every choice (mask) of `k` children, the product of the chosen children's
satisfactions and the other children's dissatisfactions.  The satisfier's result is the fold of
ONE mask (the first `k` children in its sort order).  A table entry of another mask needs the
satisfaction of a child the satisfier did not choose; such a child has no signature visible in
the result (keys are pairwise distinct), and its satisfaction is impossible or needs a signature
— otherwise `thresh`'s position-`k` test would have answered `Unavailable`.  So the result absorbs
the entries of the other masks (`AltInv.absorb`, through the rule `altInv_thresh`).
-/
import MsVerif.Lemmas.UniqLeaf


namespace MsVerif.Uniq
open MsVerif Sat SatTable SatAll MalleLattice Complete

variable {adv : Avail} {sortK : List Key → List Key}

def slotA (adv : Avail) (sortK : List Key → List Key) (p : Bool × Ms) : List (List Item) :=
  if p.1 then allSat adv sortK p.2 else allDsat adv sortK p.2

/-- the product of a masked child list; the LAST child's part is at the bottom (front) -/
def prodA (adv : Avail) (sortK : List Key → List Key) : List (Bool × Ms) → List (List Item)
  | [] => [[]]
  | p :: rest => cat (prodA adv sortK rest) (slotA adv sortK p)

theorem count_true_cons_false (l : List Bool) : (false :: l).count true = l.count true :=
  List.count_cons_of_ne (by decide)

/-! ### the threshold row below a mask

`threshAll need xs` is `e_need` of the children's tables (sum `++`, product `cat`).  If every child outside the mask
`bs` has an empty table of satisfactions, all monomials but those below `bs` vanish: there is none of a weight
above that of `bs`, and the one of the same weight is the product of `bs`.  (`Uniq.choose_mask` is the same
statement for `chooseK`, the `e_k` of the multisig rows.) -/

theorem threshAll_below : ∀ (xs : MsList) (bs : List Bool) (need : Nat) (t : List Item),
    bs.length = xs.toList.length →
    (∀ p ∈ bs.zip xs.toList, p.1 = false → allSat adv sortK p.2 = []) →
    t ∈ threshAll adv sortK need xs →
    need ≤ bs.count true ∧ (need = bs.count true → t ∈ prodA adv sortK (bs.zip xs.toList))
  | .nil, [], need, t, _, _, h => by
    simp only [threshAll] at h
    split at h
    · rename_i h0
      exact ⟨by simp [h0], fun _ => by simpa [MsList.toList, prodA] using h⟩
    · cases h
  | .nil, _ :: _, _, _, hl, _, _ => by simp [MsList.toList] at hl
  | .cons _ _, [], _, _, hl, _, _ => by simp [MsList.toList] at hl
  | .cons x xs, b :: bs, need, t, hl, he, h => by
    have hl' : bs.length = xs.toList.length := by simpa [MsList.toList] using hl
    have he' : ∀ p ∈ bs.zip xs.toList, p.1 = false → allSat adv sortK p.2 = [] :=
      fun p hp => he p (by simp [MsList.toList, hp])
    have hx := he (b, x) (by simp [MsList.toList])
    simp only [threshAll, List.mem_append] at h
    simp only [MsList.toList, List.zip_cons_cons, prodA, slotA]
    rcases h with h | h
    · -- the row takes the satisfaction of `x`
      cases need with
      | zero => simp at h
      | succ n =>
        obtain ⟨t', ht', a, ha, rfl⟩ := mem_cat.mp h
        cases b with
        | false => rw [hx rfl] at ha; cases ha
        | true =>
          obtain ⟨ih1, ih2⟩ := threshAll_below xs bs n t' hl' he' ht'
          rw [List.count_cons_self]
          exact ⟨by omega, fun e => mem_cat.mpr ⟨t', ih2 (by omega), a, by simpa using ha, rfl⟩⟩
    · -- the row takes the dissatisfaction of `x`
      obtain ⟨t', ht', a, ha, rfl⟩ := mem_cat.mp h
      obtain ⟨ih1, ih2⟩ := threshAll_below xs bs need t' hl' he' ht'
      cases b with
      | false =>
        rw [count_true_cons_false]
        exact ⟨ih1, fun e => mem_cat.mpr ⟨t', ih2 e, a, by simpa using ha, rfl⟩⟩
      | true =>
        rw [List.count_cons_self]
        exact ⟨by omega, fun e => by omega⟩

theorem threshAll_zero : ∀ (xs : MsList) (t : List Item), t ∈ threshAll adv sortK 0 xs →
    t ∈ prodA adv sortK ((List.replicate xs.toList.length false).zip xs.toList)
  | .nil, t, h => by simpa [threshAll, MsList.toList, prodA] using h
  | .cons x xs, t, h => by
    simp only [threshAll, List.nil_append] at h
    obtain ⟨t', ht', a, ha, rfl⟩ := mem_cat.mp h
    simp only [MsList.toList, List.length_cons, List.replicate_succ, List.zip_cons_cons, prodA, slotA]
    exact mem_cat.mpr ⟨t', threshAll_zero xs t' ht', a, by simpa using ha, rfl⟩


section
variable (c : SatCfg)

def slotS (p : Bool × Ms) : Sat := if p.1 then (satDissat c p.2).sat else (satDissat c p.2).dissat

def slotK (p : Bool × Ms) : List Key := if p.1 then keysOf p.2 else []

def foldA (adv : Avail) (sortK : List Key → List Key) : List (Bool × Ms) → List (List Item) → List (List Item)
  | [], B => B
  | p :: rest, B => foldA adv sortK rest (cat (slotA adv sortK p) B)

def foldK : List (Bool × Ms) → List Key → List Key
  | [], K => K
  | p :: rest, K => foldK rest (K ++ slotK p)

theorem mem_foldK : ∀ (slots : List (Bool × Ms)) (K : List Key) (k : Key),
    k ∈ foldK slots K ↔ k ∈ K ∨ ∃ p ∈ slots, k ∈ slotK p
  | [], K, k => by simp [foldK]
  | q :: rest, K, k => by
    simp only [foldK, mem_foldK rest, List.mem_append, List.mem_cons]
    constructor
    · rintro ((h | h) | ⟨p, hp, h⟩)
      · exact .inl h
      · exact .inr ⟨q, .inl rfl, h⟩
      · exact .inr ⟨p, .inr hp, h⟩
    · rintro (h | ⟨p, hp | hp, h⟩)
      · exact .inl (.inl h)
      · subst hp; exact .inl (.inr h)
      · exact .inr ⟨p, hp, h⟩

theorem mem_foldA : ∀ (slots : List (Bool × Ms)) (B : List (List Item)) (t : List Item),
    t ∈ foldA adv sortK slots B ↔ ∃ p ∈ prodA adv sortK slots, ∃ b ∈ B, t = p ++ b
  | [], B, t => by simp [foldA, prodA]
  | q :: rest, B, t => by
    simp only [foldA, mem_foldA rest, prodA]
    constructor
    · rintro ⟨p', hp', b', hb', rfl⟩
      obtain ⟨a, ha, b, hb, rfl⟩ := mem_cat.mp hb'
      exact ⟨p' ++ a, mem_cat.mpr ⟨p', hp', a, ha, rfl⟩, b, hb, by simp⟩
    · rintro ⟨p, hp, b, hb, rfl⟩
      obtain ⟨p', hp', a, ha, rfl⟩ := mem_cat.mp hp
      exact ⟨p', hp', a ++ b, mem_cat.mpr ⟨a, ha, b, hb, rfl⟩, by simp⟩

theorem altInv_addKeys {K K' : List Key} {A : List (List Item)} {s : Sat} (h : AltInv adv K A s)
    (hsub : ∀ k ∈ K, k ∈ K') : AltInv adv K' A s :=
  ⟨h.i1, fun hs hn => h.i2 hs (fun k hk => hn k (hsub k hk)),
   fun w hw hv => h.i3 w hw (fun k hk => hv k (hsub k hk)),
   fun w hw k hk => hsub k (h.kin w hw k hk), h.nos⟩

theorem altInv_foldl {ua ur : Bool} : ∀ (slots : List (Bool × Ms)) (acc : Sat) (Kacc Kfull : List Key)
    (Aacc : List (List Item)),
    AltInv adv Kacc Aacc acc → LockOK ua ur acc → (∀ k ∈ Kacc, k ∈ Kfull) →
    (Kfull ++ (slots.map (fun p => keysOf p.2)).flatten).Nodup →
    (∀ p ∈ slots, AltInv adv (slotK p) (slotA adv sortK p) (slotS c p) ∧ LockOK ua ur (slotS c p)) →
    AltInv adv (foldK slots Kacc) (foldA adv sortK slots Aacc)
      ((slots.map (slotS c)).foldl Sat.concatenateRev acc)
  | [] => by
    intro acc Kacc Kfull Aacc hacc _ _ _ _
    simpa [foldK, foldA] using hacc
  | q :: rest => by
    intro acc Kacc Kfull Aacc hacc lacc hsub hnd hslot
    obtain ⟨hq, lq⟩ := hslot q (by simp)
    simp only [List.map_cons, List.flatten_cons] at hnd
    have hdisj : Disj Kacc (slotK q) := by
      intro k h1 h2
      have h2' : k ∈ keysOf q.2 := by
        unfold slotK at h2; split at h2
        · exact h2
        · cases h2
      have := (List.nodup_append.mp hnd).2.2 k (hsub k h1) k (by simp [h2']) rfl
      exact this
    have hstep := altInv_concat hacc hq lacc lq hdisj
    simp only [List.map_cons, List.foldl_cons, foldK, foldA]
    refine altInv_foldl rest _ (Kacc ++ slotK q) (Kfull ++ keysOf q.2) _ hstep (concat_lockOK lacc lq)
      ?_ (by simpa [List.append_assoc] using hnd) (fun p hp => hslot p (by simp [hp]))
    intro k hk
    rcases List.mem_append.mp hk with h | h
    · simp [hsub k h]
    · unfold slotK at h; split at h
      · simp [h]
      · cases h

end

theorem zip_index {α β : Type} (l1 : List α) (l2 : List β) (p : α × β) (h : p ∈ l1.zip l2) :
    ∃ i, ∃ (h1 : i < l1.length) (h2 : i < l2.length), p = (l1[i], l2[i]) := by
  obtain ⟨i, hi, hp⟩ := List.mem_iff_getElem.mp h
  have hi' : i < l1.length ∧ i < l2.length := by
    have : i < min l1.length l2.length := by simpa [List.length_zip] using hi
    omega
  exact ⟨i, hi'.1, hi'.2, by rw [← hp, List.getElem_zip]⟩

def maskOf (ch : Nat → Bool) (n : Nat) : List Bool := (List.range n).map ch

theorem maskOf_length (ch : Nat → Bool) (n : Nat) : (maskOf ch n).length = n := by simp [maskOf]

theorem maskOf_get (ch : Nat → Bool) (n i : Nat) (h : i < (maskOf ch n).length) :
    (maskOf ch n)[i] = ch i := by simp [maskOf]

section
variable (c : SatCfg)

/-- the left side is the right side of `swapped_fst` (Lemmas/CoreSat.lean) with `ch i` for the membership test -/
theorem ret_eq (X : List Ms) (ch : Nat → Bool) :
    ((List.range X.length).map fun i =>
      if ch i then ((X.map (satDissat c)).map (·.sat))[i]! else ((X.map (satDissat c)).map (·.dissat))[i]!)
    = ((maskOf ch X.length).zip X).map (slotS c) := by
  apply List.ext_getElem
  · simp only [maskOf, List.length_map, List.length_range, List.length_zip, Nat.min_self]
  · intro i h1 h2
    have hi : i < X.length := by rwa [List.length_map, List.length_range] at h1
    simp only [List.getElem_map, List.getElem_range, List.getElem_zip, maskOf, slotS]
    rw [getElem!_pos _ i (by simpa using hi), getElem!_pos _ i (by simpa using hi)]
    simp

end

def chosen (k : Nat) (sds : List SatDissat) (i : Nat) : Bool := ((nmIdx sds).take k).contains i

theorem chosen_count (k : Nat) (sds : List SatDissat) (hk : k ≤ sds.length) :
    (maskOf (chosen k sds) sds.length).count true = k :=
  (MsVerif.chosen_count (sortIdx_perm (nmKey sds) sds.length) k).trans (Nat.min_eq_left hk)

/-- `thresh` did not answer `Unavailable` ⇒ no unchosen child has a possible signature-free
satisfaction: the child at position `k` is not one, so at most `k` children are, and those come first -/
theorem unchosen_not_free (k : Nat) (sds : List SatDissat) (hk : k < sds.length)
    (hcond : (!(nmSw k sds).2[(nmIdx sds)[k]!]!.hasSig
      && decide ((nmSw k sds).2[(nmIdx sds)[k]!]!.stack ≠ .impossible)) = false)
    (i : Nat) (hi : i < sds.length) (hni : chosen k sds i = false) : freeSat sds[i]! = false := by
  rw [nmSw_test_eq k sds hk] at hcond
  have hle : sds.countP freeSat ≤ k :=
    Nat.le_of_not_lt (fun h => by rw [(free_at_k k sds hk).mpr h] at hcond; cases hcond)
  have hnc : i ∉ (nmIdx sds).take k := by simpa [chosen] using hni
  exact drop_not_free k sds hle i (mem_drop_of_not_take _ _ _ _ hi hnc)

theorem zip_map_keys (bs : List Bool) (X : List Ms) (h : bs.length = X.length) :
    (bs.zip X).map (fun p => keysOf p.2) = X.map keysOf := by
  have : (bs.zip X).map (fun p => keysOf p.2) = ((bs.zip X).map Prod.snd).map keysOf := by
    rw [List.map_map]; rfl
  rw [this, List.map_snd_zip (by omega)]

section
variable (c : SatCfg)

theorem constMask_sat (X : List Ms) :
    (X.map (satDissat c)).map (·.sat) = ((maskOf (fun _ => true) X.length).zip X).map (slotS c) := by
  apply List.ext_getElem
  · simp [maskOf]
  · intro i h1 h2
    simp [maskOf, slotS]

theorem constMask_dissat (X : List Ms) :
    (X.map (satDissat c)).map (·.dissat) = ((maskOf (fun _ => false) X.length).zip X).map (slotS c) := by
  apply List.ext_getElem
  · simp [maskOf]
  · intro i h1 h2
    simp [maskOf, slotS]

end

section
variable (c : SatCfg) {ua ur : Bool}

theorem altInv_empty : AltInv adv [] [[]] Sat.empty := by
  have := altInv_lit (adv := adv) [] [] (fun k h => by simp [items] at h) none none
  simpa [Sat.empty, items] using this

theorem mask_fold (X : List Ms) (ty : Ms → Mall) (bs : List Bool) (hl : bs.length = X.length)
    (h : ∀ x ∈ X, UInv adv sortK x (ty x) (satDissat c x))
    (hn : ∀ x ∈ X, NMInv ua ur (availOf c.assets c.ctx) x (ty x) (satDissat c x))
    (hallU : ∀ x ∈ X, (ty x).dissat = .unique)
    (hnd : (X.map keysOf).flatten.Nodup) :
    AltInv adv (foldK (bs.zip X) []) (foldA adv sortK (bs.zip X) [[]])
      (foldConcat ((bs.zip X).map (slotS c))) := by
  unfold foldConcat
  refine altInv_foldl (sortK := sortK) (ua := ua) (ur := ur) c (bs.zip X) Sat.empty [] [] [[]] altInv_empty
    (lockOK_empty ua ur) (fun k hk => by cases hk) ?_ ?_
  · rw [zip_map_keys bs X hl]; simpa using hnd
  · intro p hp
    have hx : p.2 ∈ X := (List.of_mem_zip hp).2
    unfold slotK slotA slotS
    cases hb : p.1 with
    | true => simp only [if_true]; exact ⟨(h p.2 hx).sat, (hn p.2 hx).lockS⟩
    | false =>
      simp only [Bool.false_eq_true, if_false]
      exact ⟨(h p.2 hx).du (hallU p.2 hx), (hn p.2 hx).lockD⟩

theorem prodA_foldA (slots : List (Bool × Ms)) (t : List Item) (ht : t ∈ prodA adv sortK slots) :
    t ∈ foldA adv sortK slots [[]] :=
  (mem_foldA slots [[]] t).mpr ⟨t, ht, [], by simp, by simp⟩

theorem foldK_sub (X : List Ms) (bs : List Bool) (k : Key) (hk : k ∈ foldK (bs.zip X) []) :
    ∃ i, ∃ (h1 : i < bs.length) (h2 : i < X.length), bs[i] = true ∧ k ∈ keysOf X[i] := by
  rcases (mem_foldK _ _ _).mp hk with h | ⟨p, hp, h⟩
  · cases h
  · obtain ⟨i, h1, h2, rfl⟩ := zip_index _ _ _ hp
    unfold slotK at h
    simp only at h
    split at h
    · rename_i hb; exact ⟨i, h1, h2, hb, h⟩
    · cases h

end

/-- `r` is the fold of the mask `bs` of the children (`F`, from `Uniq.mask_fold`); a child outside the mask
has no table satisfaction for an adversary without signatures for its keys (`hout`: its satisfaction is impossible
or flagged).  Then `r` stands for the whole row of the weight of `bs`: the rows of the other masks are absorbed. -/
theorem altInv_thresh (xs : MsList) (bs : List Bool) (hl : bs.length = xs.toList.length) {r : Sat}
    (F : AltInv adv (foldK (bs.zip xs.toList) []) (foldA adv sortK (bs.zip xs.toList) [[]]) r)
    (hnd : (keysOfL xs).Nodup)
    (himp : r.stack = .impossible → threshAll adv sortK (bs.count true) xs = [])
    (hout : ∀ p ∈ bs.zip xs.toList, p.1 = false → (∀ k ∈ keysOf p.2, adv.sig k = false) →
      allSat adv sortK p.2 = []) :
    AltInv adv (keysOfL xs) (threshAll adv sortK (bs.count true) xs) r := by
  have hndX : (xs.toList.map keysOf).flatten.Nodup := by rw [← keysOfL_eq]; exact hnd
  have hK1 : ∀ k ∈ foldK (bs.zip xs.toList) [], k ∈ keysOfL xs := fun k hk => by
    obtain ⟨i, _, h2, _, hki⟩ := foldK_sub _ _ k hk
    rw [keysOfL_eq]; exact mem_flatten_keys _ i h2 k hki
  refine altInv_addKeys (AltInv.absorb F
    (K2 := (keysOfL xs).filter fun k => decide (k ∉ foldK (bs.zip xs.toList) []))
    (fun k h1 h2 => by simpa [h1] using (List.mem_filter.mp h2).2) himp fun hno t ht => ?_) ?_
  · refine prodA_foldA _ t
      ((threshAll_below xs bs _ t hl (fun p hp hb => hout p hp hb fun k hk => ?_) ht).2 rfl)
    -- a key of a child outside the mask is not a key of a child inside
    obtain ⟨i, h1, h2, rfl⟩ := zip_index _ _ _ hp
    refine hno k (List.mem_filter.mpr ⟨by rw [keysOfL_eq]; exact mem_flatten_keys _ i h2 k hk, ?_⟩)
    simp only [decide_eq_true_eq]
    intro hin
    obtain ⟨j, _, hj2, hjb, hkj⟩ := foldK_sub _ _ k hin
    exact keys_index_disj xs.toList hndX i j h2 hj2
      (fun e => by subst e; exact absurd (hb ▸ hjb : false = true) (by decide)) k hk hkj
  · intro k hk
    rcases List.mem_append.mp hk with h | h
    · exact hK1 k h
    · exact (List.mem_filter.mp h).1


theorem threshAll_nil (xs : MsList) (q : Ms → Bool)
    (hq : ∀ x ∈ xs.toList, q x = false → allSat adv sortK x = []) (need : Nat)
    (h : xs.toList.countP q < need) : threshAll adv sortK need xs = [] :=
  List.eq_nil_iff_forall_not_mem.mpr fun t ht => by
    have := (threshAll_below xs (xs.toList.map q) need t (List.length_map _) (fun p hp hb => by
      obtain ⟨i, h1, h2, rfl⟩ := zip_index _ _ _ hp
      rw [List.getElem_map] at hb
      exact hq _ (List.getElem_mem h2) hb) ht).1
    rw [List.count_eq_countP, List.countP_map] at this
    have e : xs.toList.countP ((· == true) ∘ q) = xs.toList.countP q :=
      List.countP_congr fun x _ => by simp
    omega

section
variable {ua ur : Bool}

/-- enough possible satisfactions ⇒ `thresh` does not answer `Impossible` -/
theorem thresh_ne_imp (k : Nat) (sds : List SatDissat) (hk1 : 1 ≤ k) (hkn : k ≤ sds.length)
    (hlock : ∀ sd ∈ sds, LockOK ua ur sd.sat ∧ LockOK ua ur sd.dissat)
    (hnu : ∀ sd ∈ sds, sd.sat.stack ≠ .unavailable)
    (hds : ∀ sd ∈ sds, isStk sd.dissat.stack = true)
    (hposs : k ≤ sds.countP (fun sd => decide (sd.sat.stack ≠ .impossible))) :
    (if k = sds.length then foldConcat (sds.map (·.sat))
      else threshNonMall k (sds.map (·.dissat)) (sds.map (·.sat))).stack ≠ .impossible := by
  rcases Nat.eq_or_lt_of_le hkn with hkeq | hk
  · -- every child is taken, and every child is counted
    rw [if_pos hkeq]
    have hall : ∀ sd ∈ sds, decide (sd.sat.stack ≠ .impossible) = true :=
      List.countP_eq_length.mp (Nat.le_antisymm List.countP_le_length (hkeq ▸ hposs))
    apply isStk_ne_imp
    rw [foldConcat_isStk (ua := ua) (ur := ur) _ (fun s hs => by
      obtain ⟨sd, hsd, rfl⟩ := List.mem_map.mp hs; exact (hlock sd hsd).1), List.all_eq_true]
    intro s hs
    obtain ⟨sd, hsd, rfl⟩ := List.mem_map.mp hs
    exact isStk_of_ne (by simpa using hall sd hsd) (hnu sd hsd)
  rw [if_neg (Nat.ne_of_lt hk), Complete.threshNonMall_eq, if_neg (nmSw_last_ne_imp k sds hk1 hk hds)]
  split
  · simp [Sat.UNAVAILABLE]
  · apply isStk_ne_imp
    rw [foldConcat_isStk _ (nmSw_lockOK k sds hlock), List.all_eq_true]
    exact nmSw_fst_isStk k sds hnu hds hposs

end

section
variable (c : SatCfg)

theorem maskOf_const (b : Bool) (n : Nat) : maskOf (fun _ => b) n = List.replicate n b := by
  rw [maskOf, List.map_const', List.length_range]

theorem thresh_uinv (k : Nat) (xs : MsList) (ty : Ms → Mall) (M : Mall)
    (ua ur : Bool)
    (h : ∀ x ∈ xs.toList, UInv adv sortK x (ty x) (satDissat c x))
    (hn : ∀ x ∈ xs.toList, NMInv ua ur (availOf c.assets c.ctx) x (ty x) (satDissat c x))
    (hallU : ∀ x ∈ xs.toList, (ty x).dissat = .unique)
    (hk1 : 1 ≤ k) (hkn : k ≤ xs.toList.length) (hnd : (keysOfL xs).Nodup) (hMd : M.dissat ≠ .none) :
    UInv adv sortK (.thresh k xs) M
      ⟨foldConcat ((xs.toList.map (satDissat c)).map (·.dissat)),
       if k = (xs.toList.map (satDissat c)).length then foldConcat ((xs.toList.map (satDissat c)).map (·.sat))
       else threshNonMall k ((xs.toList.map (satDissat c)).map (·.dissat)) ((xs.toList.map (satDissat c)).map (·.sat))⟩ := by
  have hndX : (xs.toList.map keysOf).flatten.Nodup := by rw [← keysOfL_eq]; exact hnd
  have hlenS : (xs.toList.map (satDissat c)).length = xs.toList.length := List.length_map _
  have hknS : k ≤ (xs.toList.map (satDissat c)).length := hlenS ▸ hkn
  have hlock : ∀ sd ∈ xs.toList.map (satDissat c), LockOK ua ur sd.sat ∧ LockOK ua ur sd.dissat :=
    List.forall_mem_map.mpr fun x hx => ⟨(hn x hx).lockS, (hn x hx).lockD⟩
  have hnu : ∀ sd ∈ xs.toList.map (satDissat c), sd.sat.stack ≠ .unavailable :=
    List.forall_mem_map.mpr fun x hx => (hn x hx).nu
  have hds : ∀ sd ∈ xs.toList.map (satDissat c), isStk sd.dissat.stack = true :=
    List.forall_mem_map.mpr fun x hx => ((hn x hx).du (hallU x hx)).1
  have F := fun bs hl => mask_fold (adv := adv) (sortK := sortK) (ua := ua) (ur := ur) c xs.toList ty bs hl h hn hallU hndX
  have hcT : (maskOf (fun _ => true) xs.toList.length).count true = xs.toList.length := by
    rw [maskOf_const, List.count_replicate_self]
  refine ⟨?_, fun _ => ?_, fun h0 => absurd h0 hMd⟩
  · simp only [allSat, keysOf]
    -- impossible ⇒ fewer than `k` children with a possible satisfaction ⇒ no row
    have himp : (if k = (xs.toList.map (satDissat c)).length
          then foldConcat ((xs.toList.map (satDissat c)).map (·.sat))
          else threshNonMall k ((xs.toList.map (satDissat c)).map (·.dissat))
            ((xs.toList.map (satDissat c)).map (·.sat))).stack = .impossible →
        threshAll adv sortK k xs = [] := fun hi =>
      threshAll_nil xs (fun x => decide ((satDissat c x).sat.stack ≠ .impossible))
        (fun x hx hq => (h x hx).sat.i1 (by simpa using hq)) k (Nat.lt_of_not_le fun hposs =>
          thresh_ne_imp (ua := ua) (ur := ur) k _ hk1 hknS hlock hnu hds
            (by simpa [List.countP_map, Function.comp_def] using hposs) hi)
    rcases Nat.eq_or_lt_of_le hknS with hkeq | hklt
    · -- every child is taken: the mask of weight `n`, nothing outside it
      rw [if_pos hkeq, constMask_sat] at himp ⊢
      have e : (maskOf (fun _ => true) xs.toList.length).count true = k := hcT.trans (hkeq.trans hlenS).symm
      have := altInv_thresh xs _ (maskOf_length _ _) (F _ (maskOf_length _ _)) hnd (e.symm ▸ himp) (fun p hp hb => by
        rw [maskOf_const] at hp
        rw [List.eq_of_mem_replicate (List.of_mem_zip hp).1] at hb; cases hb)
      rwa [e] at this
    · rw [if_neg (Nat.ne_of_lt hklt), Complete.threshNonMall_eq] at himp ⊢
      split
      · rename_i hA
        rw [if_pos hA] at himp
        rw [himp rfl]; exact altInv_imp _ rfl
      · rename_i hA
        split
        · exact altInv_unavailable _ _
        · rename_i hB
          have hcond := (Bool.not_eq_true _).mp hB
          rw [if_neg hA, if_neg hB] at himp
          -- the selection is the fold of the mask `chosen`
          have hsel1 : (nmSw k (xs.toList.map (satDissat c))).1 =
              ((maskOf (chosen k (xs.toList.map (satDissat c))) xs.toList.length).zip xs.toList).map (slotS c) := by
            unfold nmSw
            rw [swapped_fst]
            simp only [dissatsOf, satsOf, List.length_map]
            exact ret_eq c xs.toList (chosen k (xs.toList.map (satDissat c)))
          have hcC := chosen_count k _ hknS
          rw [hlenS] at hcC
          rw [hsel1] at himp ⊢
          have := altInv_thresh xs (maskOf (chosen k (xs.toList.map (satDissat c))) xs.toList.length)
            (maskOf_length _ _) (F _ (maskOf_length _ _)) hnd (fun hi => by rw [hcC]; exact himp hi)
            (fun p hp hb hno => ?_)
          · rwa [hcC] at this
          -- a child outside the selection is not free: impossible, or flagged and the adversary has no signature
          obtain ⟨i, h1, h2, rfl⟩ := zip_index _ _ _ hp
          rw [maskOf_get] at hb
          have hx : xs.toList[i] ∈ xs.toList := List.getElem_mem h2
          have hnf := unchosen_not_free k (xs.toList.map (satDissat c)) hklt hcond i (by rw [hlenS]; exact h2) hb
          rw [getElem!_pos _ i (by rw [hlenS]; exact h2), List.getElem_map] at hnf
          simp only [freeSat, Bool.and_eq_false_iff, decide_eq_false_iff_not, Decidable.not_not,
            Bool.not_eq_false'] at hnf
          exact hnf.elim (h _ hx).sat.i1 fun hf => (h _ hx).sat.i2 hf hno
  · simp only [allDsat]
    have F0 := F (maskOf (fun _ => false) xs.toList.length) (maskOf_length _ _)
    rw [← constMask_dissat] at F0
    refine F0.congr (fun k' => ⟨fun hk' => ?_, fun hk' => nomatch hk'⟩) (fun t ht => ?_)
    · obtain ⟨i, h1, _, hb, _⟩ := foldK_sub _ _ k' hk'
      rw [maskOf_get] at hb
      cases hb
    · exact prodA_foldA _ t (maskOf_const false _ ▸ threshAll_zero xs t ht)

end

end MsVerif.Uniq
