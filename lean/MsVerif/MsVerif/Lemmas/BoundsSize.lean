/-
C09: `Miniscript::script_size` equals the length of the encoded script; `pk_cost` against it.  On the way: the exact length of
`numEncode n` by the range of `n` (`numEncode_length_eq`, `pushInt_len`), and `has_free_verify` = "the encoding ends in a fusable
opcode" (`hfv_eq`, `pushVerify_measure`), which `BoundsOps` uses again for opcode counts.
-/
import MsVerif.Model.Ext
import MsVerif.Model.Encode
import MsVerif.Spec.Frag
import MsVerif.Lemmas.CoreMisc
import MsVerif.Lemmas.CoreNum
import MsVerif.Lemmas.CoreEncode
import MsVerif.Lemmas.CoreExt

namespace MsVerif.C09
open MsVerif Script

def slen (s : List Op) : Nat := (serialize s).length

@[simp] theorem slen_nil : slen [] = 0 := rfl
@[simp] theorem slen_append (a b : List Op) : slen (a ++ b) = slen a + slen b := by
  rw [slen, serialize_append, List.length_append]; rfl
@[simp] theorem slen_cons (o : Op) (s : List Op) : slen (o :: s) = o.bytes.length + slen s := by
  rw [slen, serialize_cons, List.length_append]; rfl

@[simp] theorem code_len (o : Opc) : (Op.code o).bytes.length = 1 := rfl

theorem small_len (n : Nat) : (Op.small n).bytes.length = 1 := by
  cases n <;> rfl

theorem push_len (bs : Bytes) (h : bs.length < 0x4c) : (Op.push bs).bytes.length = bs.length + 1 := by
  rw [Op.bytes_push_short bs h, List.length_cons]

theorem leBytes_of_range : ∀ (j fuel n : Nat), j < fuel → 256 ^ j ≤ n → n < 256 ^ (j + 1) →
    (leBytes fuel n).length = j + 1 ∧ (leBytes fuel n).getLast? = some (UInt8.ofNat (n / 256 ^ j)) := by
  intro j
  induction j with
  | zero =>
    intro fuel n hf h1 h2
    obtain ⟨f, rfl⟩ : ∃ f, fuel = f + 1 := ⟨fuel - 1, by omega⟩
    have h0 : n ≠ 0 := by omega
    have hd : n / 256 = 0 := by omega
    have hm : n % 256 = n := by omega
    rw [leBytes_succ h0, hd, leBytes_zero, hm]
    simp
  | succ j ih =>
    intro fuel n hf h1 h2
    obtain ⟨f, rfl⟩ : ∃ f, fuel = f + 1 := ⟨fuel - 1, by omega⟩
    have hp : 0 < 256 ^ (j + 1) := Nat.pow_pos (by omega)
    have h0 : n ≠ 0 := by omega
    obtain ⟨l, g⟩ := ih f (n / 256) (by omega)
      ((Nat.le_div_iff_mul_le (by omega)).2 (by rw [← Nat.pow_succ]; exact h1))
      ((Nat.div_lt_iff_lt_mul (by omega)).2 (by rw [← Nat.pow_succ]; exact h2))
    have hne : leBytes f (n / 256) ≠ [] := by intro e; rw [e] at l; cases l
    rw [Nat.div_div_eq_div_mul, Nat.mul_comm, ← Nat.pow_succ] at g
    rw [leBytes_succ h0, List.length_cons, l, List.getLast?_cons_of_ne_nil hne, g]
    trivial

theorem numEncode_length_of_range (j n : Nat) (hj : j < 9) (h1 : 256 ^ j ≤ n) (h2 : n < 256 ^ (j + 1)) :
    (numEncode (Int.ofNat n)).length = if n < 128 * 256 ^ j then j + 1 else j + 2 := by
  have hp : 0 < 256 ^ j := Nat.pow_pos (by omega)
  obtain ⟨l, g⟩ := leBytes_of_range j 9 n hj h1 h2
  have hlt : n / 256 ^ j < 256 := (Nat.div_lt_iff_lt_mul hp).2 (by rw [Nat.mul_comm, ← Nat.pow_succ]; exact h2)
  have hge : 128 ≤ n / 256 ^ j ↔ ¬ n < 128 * 256 ^ j := by rw [Nat.le_div_iff_mul_le hp]; omega
  rw [Int.ofNat_eq_natCast, numEncode_pos (by omega), g]
  simp only [UInt8.toNat_ofNat', Nat.mod_eq_of_lt hlt, ge_iff_le, hge, ite_not]
  split <;> simp [l]

/-- `n` with `2^(8j-1) ≤ n < 2^(8j+7)` takes `j + 1` bytes: `j` or `j + 1` magnitude bytes, and in the
first case one more because the top bit of the last is set -/
theorem numEncode_length_eq (j n : Nat) (hj : j < 9) (h1 : 128 * 256 ^ j ≤ 256 * n) (h2 : n < 128 * 256 ^ j) :
    (numEncode (Int.ofNat n)).length = j + 1 := by
  by_cases hc : n < 256 ^ j
  · cases j with
    | zero => omega
    | succ i =>
      have hp : 0 < 256 ^ i := Nat.pow_pos (by omega)
      rw [Nat.pow_succ] at h1 hc
      rw [numEncode_length_of_range i n (by omega) (by omega) (by rw [Nat.pow_succ]; exact hc), if_neg (by omega)]
  · rw [numEncode_length_of_range j n hj (by omega) (by rw [Nat.pow_succ]; omega), if_pos h2]

theorem pushInt_len (n : Nat) (h : n < 4294967296) : (pushInt n).bytes.length = scriptNumSize n := by
  unfold pushInt scriptNumSize
  split
  · exact small_len n
  · have key : ∀ j, j < 5 → 128 * 256 ^ j ≤ 256 * n → n < 128 * 256 ^ j →
        (Op.push (numEncode (Int.ofNat n))).bytes.length = j + 2 := by
      intro j hj h1 h2
      have hl := numEncode_length_eq j n (by omega) h1 h2
      rw [push_len _ (by omega), hl]
    split
    · exact key 0 (by omega) (by omega) (by omega)
    split
    · exact key 1 (by omega) (by omega) (by omega)
    split
    · exact key 2 (by omega) (by omega) (by omega)
    split
    · exact key 3 (by omega) (by omega) (by omega)
    · exact key 4 (by omega) (by omega) (by omega)

/-! ### `has_free_verify` is "the encoding ends in a fusable opcode" -/

theorem endsFusable_append_ne (a b : List Op) (hb : b ≠ []) : endsFusable (a ++ b) = endsFusable b := by
  unfold endsFusable
  rw [List.getLast?_append]
  cases h : b.getLast? with
  | none => exact absurd (List.getLast?_eq_none_iff.1 h) hb
  | some x => rfl

theorem endsFusable_append_cons (a : List Op) (o : Op) (b : List Op) :
    endsFusable (a ++ o :: b) = endsFusable (o :: b) :=
  endsFusable_append_ne a _ (List.cons_ne_nil o b)

theorem pushVerify_not_fusable (s : List Op) : endsFusable (pushVerify s) = false := by
  unfold pushVerify
  split <;> simp only [endsFusable_append_cons] <;> rfl

theorem hfv_eq (ke : KeyEnv) (ctx : Ctx) : (ms : Ms) →
    (extOf ke ctx ms).hasFreeVerify = endsFusable (encode ke ctx ms)
  | .tru | .fls | .pkK _ | .pkH _ | .rawPkH _ => by cases ctx <;> rfl
  | .after _ | .older _ => rfl
  | .hash kind _ => by cases kind <;> rfl
  | .swap x => by
    simp only [extOf, ExtData.castSwap, encode]
    rw [endsFusable_append_ne _ _ (encode_ne_nil ke ctx x)]; exact hfv_eq ke ctx x
  | .andV l r => by
    simp only [extOf, ExtData.andV, encode]
    rw [endsFusable_append_ne _ _ (encode_ne_nil ke ctx r)]; exact hfv_eq ke ctx r
  | .verify x => by simp only [extOf, ExtData.castVerify, encode, pushVerify_not_fusable]
  -- every other encoding ends in a fixed opcode
  | .alt _ | .check _ | .dupIf _ | .nonZero _ | .zeroNotEqual _ | .andB _ _ | .andOr _ _ _ | .orB _ _
  | .orD _ _ | .orC _ _ | .orI _ _ | .thresh _ _ | .multi _ _ | .sortedMulti _ _ | .multiA _ _
  | .sortedMultiA _ _ => by
    simp only [encode, endsFusable_append_cons]; rfl

/-- `push_verify` under a measure that is additive on `++` and gives every opcode 1 (bytes; number of
opcodes): fusing changes nothing, appending `OP_VERIFY` adds 1 -/
theorem pushVerify_measure (μ : List Op → Nat) (happ : ∀ a b, μ (a ++ b) = μ a + μ b)
    (hc : ∀ o, μ [.code o] = 1) (s : List Op) :
    μ (pushVerify s) = μ s + (if endsFusable s then 0 else 1) := by
  unfold pushVerify endsFusable
  cases h : s.getLast? with
  | none => simp only [happ, hc]; rfl
  | some op =>
    have hl : μ s = μ s.dropLast + μ [op] := by rw [← happ, ← List.eq_dropLast_append_of_getLast? s op h]
    cases op with
    | code o => cases o <;> simp [hl, happ, hc]
    | _ => simp [happ, hc]

theorem slen_pushVerify (s : List Op) :
    slen (pushVerify s) = slen s + (if endsFusable s then 0 else 1) :=
  pushVerify_measure slen slen_append (fun _ => rfl) s

def keyOk (ke : KeyEnv) (ctx : Ctx) (k : Key) : Bool :=
  match ctx with
  | .tap => (ke.ser k).length == 32
  | .segwitv0 => (ke.ser k).length == 33
  | _ => (ke.ser k).length == 33 || (ke.ser k).length == 65

def hashLen : HashKind → Nat
  | .sha256 | .hash256 => 32
  | .ripemd160 | .hash160 => 20

mutual
/-- in-range numbers (`u32`), at least one child in `thresh`, byte strings of the right length -/
def sizeOk (ke : KeyEnv) (ctx : Ctx) : Ms → Bool
  | .pkK k => keyOk ke ctx k
  | .pkH k => (ke.pkh k).length == 20
  | .rawPkH h => (ke.rawPkh h).length == 20
  | .after n | .older n => decide (n < 4294967296)
  | .hash kind h => (ke.hashVal kind h).length == hashLen kind
  | .alt x | .swap x | .check x | .dupIf x | .verify x | .nonZero x | .zeroNotEqual x => sizeOk ke ctx x
  | .andV l r | .andB l r | .orB l r | .orD l r | .orC l r | .orI l r => sizeOk ke ctx l && sizeOk ke ctx r
  | .andOr a b c => sizeOk ke ctx a && sizeOk ke ctx b && sizeOk ke ctx c
  | .thresh k xs => decide (k < 4294967296) && decide (0 < xs.length) && sizeOks ke ctx xs
  | .multi k ks | .sortedMulti k ks =>
    decide (k < 4294967296) && decide (ks.length < 4294967296) && ks.all (keyOk ke ctx)
  | .multiA k ks | .sortedMultiA k ks => decide (k < 4294967296) && ks.all (keyOk ke ctx)
  | .tru | .fls => true
def sizeOks (ke : KeyEnv) (ctx : Ctx) : MsList → Bool
  | .nil => true
  | .cons x xs => sizeOk ke ctx x && sizeOks ke ctx xs
end

theorem key_push_len {ke : KeyEnv} {ctx : Ctx} {k : Key} (h : keyOk ke ctx k = true) :
    (Op.push (ke.ser k)).bytes.length = pkLen ke ctx k := by
  cases ctx <;> simp only [keyOk, Bool.or_eq_true, beq_iff_eq] at h
  · rcases h with h | h <;> rw [push_len _ (by omega)] <;> simp [pkLen, h]
  · rcases h with h | h <;> rw [push_len _ (by omega)] <;> simp [pkLen, h]
  · rw [push_len _ (by omega)]; simp [pkLen, h]
  · rw [push_len _ (by omega)]; simp [pkLen, h]

theorem keys_push_len {ke : KeyEnv} {ctx : Ctx} : ∀ (ks : List Key), ks.all (keyOk ke ctx) = true →
    slen (ks.map (fun pk => Op.push (ke.ser pk))) = (ks.map (pkLen ke ctx)).sum := by
  intro ks
  induction ks with
  | nil => intro _; rfl
  | cons k ks ih =>
    intro h
    simp only [List.all_cons, Bool.and_eq_true] at h
    simp only [List.map_cons, slen_cons, List.sum_cons, key_push_len h.1, ih h.2]

theorem multiA_len {ke : KeyEnv} {ctx : Ctx} : ∀ (ks : List Key), ks.all (keyOk ke ctx) = true →
    slen (encodeMultiA ke ks) = (ks.map (pkLen ke ctx)).sum + ks.length := by
  intro ks h
  cases ks with
  | nil => rfl
  | cons k ks =>
    simp only [List.all_cons, Bool.and_eq_true] at h
    have : ∀ l : List Key, l.all (keyOk ke ctx) = true →
        slen (l.flatMap (fun pk => [Op.push (ke.ser pk), Op.code .checksigadd]))
          = (l.map (pkLen ke ctx)).sum + l.length := by
      intro l
      induction l with
      | nil => intro _; rfl
      | cons x xs ih =>
        intro hx
        simp only [List.all_cons, Bool.and_eq_true] at hx
        simp only [List.flatMap_cons, slen_append, slen_cons, slen_nil, key_push_len hx.1, code_len,
          ih hx.2, List.map_cons, List.sum_cons, List.length_cons]
        omega
    simp only [encodeMultiA, slen_append, slen_cons, slen_nil, key_push_len h.1, code_len, this ks h.2,
      List.map_cons, List.sum_cons, List.length_cons]
    omega

mutual
theorem scriptSize_eq (ke : KeyEnv) (ctx : Ctx) : (ms : Ms) → sizeOk ke ctx ms = true →
    scriptSize ke ctx ms = slen (encode ke ctx ms)
  | .tru, _ | .fls, _ => rfl
  | .pkK k, h => by
    simp only [sizeOk] at h
    simp only [scriptSize, encode, slen_cons, slen_nil, key_push_len h, Nat.add_zero]
  | .pkH k, h => by
    simp only [sizeOk, beq_iff_eq] at h
    simp [scriptSize, encode, push_len _ (by omega : (ke.pkh k).length < 0x4c), h]
  | .rawPkH k, h => by
    simp only [sizeOk, beq_iff_eq] at h
    simp [scriptSize, encode, push_len _ (by omega : (ke.rawPkh k).length < 0x4c), h]
  | .after n, h | .older n, h => by
    simp only [sizeOk, decide_eq_true_eq] at h
    simp [scriptSize, encode, pushInt_len n h]
  | .hash kind x, h => by
    simp only [sizeOk, beq_iff_eq] at h
    have h32 : (pushInt 32).bytes.length = 2 := by rw [pushInt_len 32 (by omega)]; rfl
    have hl : (ke.hashVal kind x).length < 0x4c := by rw [h]; cases kind <;> simp [hashLen]
    cases kind <;>
      simp [scriptSize, encode, h32, push_len _ hl, h, hashLen]
  | .swap x, h => by
    simp [scriptSize, encode, scriptSize_eq ke ctx x h]
  | .alt x, h | .check x, h | .zeroNotEqual x, h | .dupIf x, h | .nonZero x, h => by
    simp [scriptSize, encode, scriptSize_eq ke ctx x h]; omega
  | .verify x, h => by
    simp only [scriptSize, encode, slen_pushVerify, hfv_eq ke ctx x, scriptSize_eq ke ctx x h]; omega
  | .andV l r, h => by
    simp only [sizeOk, Bool.and_eq_true] at h
    simp only [scriptSize, encode, slen_append, scriptSize_eq ke ctx l h.1, scriptSize_eq ke ctx r h.2]
  | .andB l r, h | .orB l r, h | .orD l r, h | .orC l r, h | .orI l r, h => by
    simp only [sizeOk, Bool.and_eq_true] at h
    simp [scriptSize, encode, scriptSize_eq ke ctx l h.1, scriptSize_eq ke ctx r h.2]; omega
  | .andOr a b c, h => by
    simp only [sizeOk, Bool.and_eq_true] at h
    simp [scriptSize, encode, scriptSize_eq ke ctx a h.1.1, scriptSize_eq ke ctx b h.1.2, scriptSize_eq ke ctx c h.2]; omega
  | .thresh k xs, h => by
    simp only [sizeOk, Bool.and_eq_true, decide_eq_true_eq] at h
    have := encodeThresh_len ke ctx xs h.2 true
    simp [scriptSize, encode, pushInt_len k h.1.1]
    have hp := h.1.2
    simp only [hp, decide_true, Bool.and_true, if_true] at this
    omega
  | .multi k ks, h => by
    simp only [sizeOk, Bool.and_eq_true, decide_eq_true_eq] at h
    simp [scriptSize, encode, pushInt_len k h.1.1,
      pushInt_len ks.length h.1.2, keys_push_len ks h.2]; omega
  | .sortedMulti k ks, h => by
    simp only [sizeOk, Bool.and_eq_true, decide_eq_true_eq] at h
    have hp := sortKeys_perm ke ks
    have hall : (sortKeys ke ks).all (keyOk ke ctx) = true := by rw [hp.all_eq]; exact h.2
    simp [scriptSize, encode, pushInt_len k h.1.1,
      pushInt_len ks.length h.1.2, keys_push_len _ hall, (hp.map (pkLen ke ctx)).sum_nat]; omega
  | .multiA k ks, h => by
    simp only [sizeOk, Bool.and_eq_true, decide_eq_true_eq] at h
    simp [scriptSize, encode, pushInt_len k h.1,
      multiA_len ks h.2]; omega
  | .sortedMultiA k ks, h => by
    simp only [sizeOk, Bool.and_eq_true, decide_eq_true_eq] at h
    have hp := sortKeys_perm ke ks
    have hall : (sortKeys ke ks).all (keyOk ke ctx) = true := by rw [hp.all_eq]; exact h.2
    simp [scriptSize, encode, pushInt_len k h.1,
      multiA_len _ hall, (hp.map (pkLen ke ctx)).sum_nat, hp.length_eq]; omega
theorem encodeThresh_len (ke : KeyEnv) (ctx : Ctx) : (xs : MsList) → sizeOks ke ctx xs = true →
    ∀ first : Bool, slen (encodeThresh ke ctx first xs) + (if (first && decide (0 < xs.length)) = true then 1 else 0)
      = scriptSizes ke ctx xs + xs.length
  | .nil, _ => by intro first; cases first <;> simp [encodeThresh, scriptSizes, MsList.length]
  | .cons x xs, h => by
    intro first
    simp only [sizeOks, Bool.and_eq_true] at h
    have ih := encodeThresh_len ke ctx xs h.2 false
    simp only [Bool.false_and, Bool.false_eq_true, if_false, Nat.add_zero] at ih
    cases first <;>
      simp [encodeThresh, scriptSizes, MsList.length, ih, scriptSize_eq ke ctx x h.1] <;> omega
end

mutual
/-- by how much `pk_cost` over-estimates: only `multi_a`, whose `num_cost` table charges one byte
too many when `n > 16 ≥ k` or `16 < k ≤ 127` -/
def costSlack : Ms → Nat
  | .multiA k ks | .sortedMultiA k ks => ExtData.numCost k ks.length - (scriptNumSize k + 1)
  | .alt x | .swap x | .check x | .dupIf x | .verify x | .nonZero x | .zeroNotEqual x => costSlack x
  | .andV l r | .andB l r | .orB l r | .orD l r | .orC l r | .orI l r => costSlack l + costSlack r
  | .andOr a b c => costSlack a + costSlack b + costSlack c
  | .thresh _ xs => costSlacks xs
  | _ => 0
def costSlacks : MsList → Nat
  | .nil => 0
  | .cons x xs => costSlack x + costSlacks xs
end

mutual
/-- keys of the length the context prescribes; `multi` outside tapscript with `k, n ≤ 127`
(`Threshold` caps them at 20); `multi_a` in tapscript with `n ≥ 1` and `num_cost k n` not below
the bytes the script spends on `k` and `OP_NUMEQUAL`; `thresh` non-empty -/
def costOk (ke : KeyEnv) (ctx : Ctx) : Ms → Bool
  | .pkK k => keyOk ke ctx k
  | .multi k ks | .sortedMulti k ks =>
    decide (ctx ≠ .tap) && decide (k ≤ 127) && decide (ks.length ≤ 127) && ks.all (keyOk ke ctx)
  | .multiA k ks | .sortedMultiA k ks =>
    decide (ctx = .tap) && decide (1 ≤ ks.length) && decide (scriptNumSize k + 1 ≤ ExtData.numCost k ks.length)
  | .alt x | .swap x | .check x | .dupIf x | .verify x | .nonZero x | .zeroNotEqual x => costOk ke ctx x
  | .andV l r | .andB l r | .orB l r | .orD l r | .orC l r | .orI l r => costOk ke ctx l && costOk ke ctx r
  | .andOr a b c => costOk ke ctx a && costOk ke ctx b && costOk ke ctx c
  | .thresh _ xs => decide (0 < xs.length) && costOks ke ctx xs
  | _ => true
def costOks (ke : KeyEnv) (ctx : Ctx) : MsList → Bool
  | .nil => true
  | .cons x xs => costOk ke ctx x && costOks ke ctx xs
end

theorem pkLen_eq_keySig {ke : KeyEnv} {ctx : Ctx} {k : Key} (h : keyOk ke ctx k = true) :
    pkLen ke ctx k = (ExtData.keySig ctx (isUnc ke k)).1 := by
  cases ctx <;> simp only [keyOk, Bool.or_eq_true, beq_iff_eq] at h <;>
    simp only [pkLen, ExtData.keySig, Ctx.sigType, isUnc, beq_iff_eq] <;> (try split) <;> simp_all

theorem multi_keys_cost {ke : KeyEnv} {ctx : Ctx} (hc : ctx ≠ .tap) : ∀ ks : List Key,
    ks.all (keyOk ke ctx) = true →
    ((ks.map (isUnc ke)).map (fun u => if u then 66 else 34)).sum = (ks.map (pkLen ke ctx)).sum := by
  intro ks
  induction ks with
  | nil => intro _; rfl
  | cons k ks ih =>
    intro h
    simp only [List.all_cons, Bool.and_eq_true] at h
    have hk : (ExtData.keySig ctx (isUnc ke k)).1 = if isUnc ke k then 66 else 34 := by
      cases ctx
      case tap => exact absurd rfl hc
      all_goals cases isUnc ke k <;> rfl
    simp only [List.map_cons, List.sum_cons, ih h.2, pkLen_eq_keySig h.1, hk]

theorem tap_keys_len (ke : KeyEnv) (ks : List Key) : (ks.map (pkLen ke .tap)).sum = 33 * ks.length := by
  induction ks with
  | nil => rfl
  | cons a as ih => simp [pkLen] at ih ⊢; omega

theorem scriptNumSize_small {n : Nat} (h : n ≤ 127) : scriptNumSize n = if n ≤ 16 then 1 else 2 := by
  unfold scriptNumSize
  split
  · rfl
  · rw [if_pos (by omega)]

theorem numCost_eq (k n : Nat) (hk : k ≤ 127) (hn : n ≤ 127) :
    ExtData.numCost k n = scriptNumSize k + scriptNumSize n := by
  rw [scriptNumSize_small hk, scriptNumSize_small hn]
  unfold ExtData.numCost
  by_cases h1 : k ≤ 16 <;> by_cases h2 : n ≤ 16 <;> simp [← Nat.not_le, h1, h2]

mutual
theorem pkCost_eq (ke : KeyEnv) (ctx : Ctx) : (ms : Ms) → costOk ke ctx ms = true →
    (extOf ke ctx ms).pkCost = scriptSize ke ctx ms + costSlack ms
  | .tru, _ | .fls, _ => rfl
  | .pkK k, h => by
    simp only [costOk] at h
    have := pkLen_eq_keySig h
    simp only [extOf, scriptSize, costSlack, this]
    cases ctx <;> cases isUnc ke k <;> rfl
  | .pkH k, _ => by cases ctx <;> cases isUnc ke k <;> rfl
  | .rawPkH _, _ => by cases ctx <;> rfl
  | .after _, _ | .older _, _ => rfl
  | .hash kind _, _ => by cases kind <;> rfl
  | .alt x, h | .swap x, h | .check x, h | .zeroNotEqual x, h | .dupIf x, h | .nonZero x, h | .verify x, h => by
    simp only [extOf, ExtData.castAlt, ExtData.castSwap, ExtData.castCheck, ExtData.castZeroNotEqual,
      ExtData.castDupIf, ExtData.castNonZero, ExtData.castVerify, scriptSize, costSlack,
      pkCost_eq ke ctx x h]; omega
  | .andV l r, h | .andB l r, h | .orB l r, h | .orD l r, h | .orC l r, h | .orI l r, h => by
    simp only [costOk, Bool.and_eq_true] at h
    simp only [extOf, ExtData.andV, ExtData.andB, ExtData.orB, ExtData.orD, ExtData.orC, ExtData.orI,
      scriptSize, costSlack, pkCost_eq ke ctx l h.1, pkCost_eq ke ctx r h.2]; omega
  | .andOr a b c, h => by
    simp only [costOk, Bool.and_eq_true] at h
    simp only [extOf, ExtData.andOr, scriptSize, costSlack, pkCost_eq ke ctx a h.1.1,
      pkCost_eq ke ctx b h.1.2, pkCost_eq ke ctx c h.2]; omega
  | .thresh k xs, h => by
    simp only [costOk, Bool.and_eq_true, decide_eq_true_eq] at h
    have hl := pkCosts_eq ke ctx xs h.2
    have hn := extsOf_length ke ctx xs
    simp only [extOf, ExtData.threshold, scriptSize, costSlack, hl, hn]
    omega
  | .multi k ks, h | .sortedMulti k ks, h => by
    simp only [costOk, Bool.and_eq_true, decide_eq_true_eq] at h
    obtain ⟨⟨⟨hc, hk⟩, hn⟩, hks⟩ := h
    simp only [extOf, ExtData.multi, scriptSize, costSlack, List.length_map, numCost_eq k ks.length hk hn,
      multi_keys_cost hc ks hks]; omega
  | .multiA k ks, h | .sortedMultiA k ks, h => by
    simp only [costOk, Bool.and_eq_true, decide_eq_true_eq] at h
    obtain ⟨⟨rfl, hn⟩, hc⟩ := h
    have := tap_keys_len ke ks
    simp only [extOf, ExtData.multiA, scriptSize, costSlack, this]; omega
theorem pkCosts_eq (ke : KeyEnv) (ctx : Ctx) : (xs : MsList) → costOks ke ctx xs = true →
    ((extsOf ke ctx xs).map (·.pkCost)).sum = scriptSizes ke ctx xs + costSlacks xs
  | .nil, _ => rfl
  | .cons x xs, h => by
    simp only [costOks, Bool.and_eq_true] at h
    simp only [extsOf, List.map_cons, List.sum_cons, scriptSizes, costSlacks, pkCost_eq ke ctx x h.1,
      pkCosts_eq ke ctx xs h.2]; omega
end

end MsVerif.C09
