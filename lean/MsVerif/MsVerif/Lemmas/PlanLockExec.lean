/-
The link between the lock lists carried by the instrumented satisfier (Lemmas/PlanLocks.lean) and
what the emitted opcodes EXECUTE: a (dis)satisfaction whose lists contain a lock the transaction
does not meet makes the fragment end in `Err.unsatisfiedLocktime`, the error of
CHECKLOCKTIMEVERIFY / CHECKSEQUENCEVERIFY; what runs before the offending opcode runs as C01's
soundness theorem says.
-/
import MsVerif.Lemmas.SatSound
import MsVerif.Lemmas.CoreFrag
import MsVerif.Lemmas.CoreHasType
import MsVerif.Lemmas.PlanLocks

namespace MsVerif.PlanLockExec
open MsVerif Script SatSpec PlanLocks

variable {env : Env} {ke : KeyEnv} {ctx : Ctx}

def Fails (f : Core → Except Err Core) (s : List Bytes) : Prop :=
  ∀ alt ops, f ⟨s, alt, ops⟩ = .error .unsatisfiedLocktime

/-- `ms` starts by running `x` on the whole stack -/
def Head (env : Env) (ke : KeyEnv) (ctx : Ctx) (ms x : Ms) : Prop :=
  ∃ k, ∀ c, frag env ke ctx ms c = frag env ke ctx x c >>= k

namespace Head
variable {x l r a b c : Ms}
theorem check : Head env ke ctx (.check x) x := ⟨_, fun _ => rfl⟩
theorem verify : Head env ke ctx (.verify x) x := ⟨_, fun _ => rfl⟩
theorem zeroNotEqual : Head env ke ctx (.zeroNotEqual x) x := ⟨_, fun _ => rfl⟩
theorem andV : Head env ke ctx (.andV l r) l := ⟨_, fun _ => rfl⟩
theorem andB : Head env ke ctx (.andB l r) l := ⟨_, fun _ => rfl⟩
theorem orB : Head env ke ctx (.orB l r) l := ⟨_, fun _ => rfl⟩
theorem orD : Head env ke ctx (.orD l r) l := ⟨_, fun _ => rfl⟩
theorem orC : Head env ke ctx (.orC l r) l := ⟨_, fun _ => rfl⟩
theorem andOr : Head env ke ctx (.andOr a b c) a := ⟨_, fun _ => rfl⟩

theorem fails {ms x : Ms} {s : List Bytes} (hd : Head env ke ctx ms x)
    (hx : Fails (frag env ke ctx x) s) : Fails (frag env ke ctx ms) s := by
  obtain ⟨k, e⟩ := hd
  intro alt ops
  rw [e, hx]
  rfl
end Head

theorem frag_after_fail (h : InterpSound.NoLimits env) {n : Nat} (hd : n < 2147483648)
    (hl : checkLockTime env n = false) (s : List Bytes) :
    Fails (frag env ke ctx (.after n)) s := fun alt ops => by
  simp only [MsVerif.frag_after, seqOps_cons, pshOp_pushInt h.st, Except.bind_ok, pshOp_code, opc_eq h.op,
    execOpc_cltv (numDecode_5_of_4 ((numOk_of_lt n hd).1 _)), hl, Bool.false_eq_true, if_false]
  rfl

theorem frag_older_fail (h : InterpSound.NoLimits env) {n : Nat} (hd : n < 2147483648)
    (hl : checkSequence env n = false) (s : List Bytes) :
    Fails (frag env ke ctx (.older n)) s := fun alt ops => by
  have hdis : ((n / SEQ_DISABLE) % 2 == 1) = false := by
    simp only [SEQ_DISABLE, beq_eq_false_iff_ne]; omega
  simp only [MsVerif.frag_older, seqOps_cons, pshOp_pushInt h.st, Except.bind_ok, pshOp_code, opc_eq h.op,
    execOpc_csv (numDecode_5_of_4 ((numOk_of_lt n hd).1 _)), hl, hdis, Bool.false_eq_true, if_false]
  rfl

section rules
variable (h : InterpSound.NoLimits env)
include h

theorem cnd_if_one (s alt : List Bytes) (ops : Nat) :
    cnd env false ⟨[1] :: s, alt, ops⟩ = .ok (true, ⟨s, alt, ops + 1⟩) := cnd_taken h (nf := false) alt ops
theorem cnd_if_nil (s alt : List Bytes) (ops : Nat) :
    cnd env false ⟨[] :: s, alt, ops⟩ = .ok (false, ⟨s, alt, ops + 1⟩) := cnd_skipped h (nf := false) alt ops
theorem cnd_notif_nil (s alt : List Bytes) (ops : Nat) :
    cnd env true ⟨[] :: s, alt, ops⟩ = .ok (true, ⟨s, alt, ops + 1⟩) := cnd_taken h (nf := true) alt ops
theorem cnd_notif_one (s alt : List Bytes) (ops : Nat) :
    cnd env true ⟨[1] :: s, alt, ops⟩ = .ok (false, ⟨s, alt, ops + 1⟩) := cnd_skipped h (nf := true) alt ops

theorem frag_alt_fail {x : Ms} {t : Bytes} {s : List Bytes}
    (hx : Fails (frag env ke ctx x) s) : Fails (frag env ke ctx (.alt x)) (t :: s) := fun alt ops => by
  simp only [MsVerif.frag_alt, toalt_nl h, Except.bind_ok, hx _ _, Except.bind_error]

theorem frag_swap_fail {x : Ms} {a t : Bytes} {s : List Bytes}
    (hx : Fails (frag env ke ctx x) (a :: t :: s)) :
    Fails (frag env ke ctx (.swap x)) (t :: a :: s) := fun alt ops => by
  simp only [MsVerif.frag_swap, swap_nl h, Except.bind_ok, hx _ _]

theorem frag_dupIf_fail {x : Ms} {s : List Bytes}
    (hx : Fails (frag env ke ctx x) ([1] :: s)) :
    Fails (frag env ke ctx (.dupIf x)) ([1] :: s) := fun alt ops => by
  simp only [MsVerif.frag_dupIf, dup_nl h, Except.bind_ok, ifThen_eq, cnd_if_one h, thenTail, if_true, hx _ _,
    Except.bind_error]

theorem frag_nonZero_fail {x : Ms} {a : Bytes} {s : List Bytes}
    (ha : a ≠ []) (hn : NumOk a.length)
    (hx : Fails (frag env ke ctx x) (a :: s)) :
    Fails (frag env ke ctx (.nonZero x)) (a :: s) := fun alt ops => by
  have hb : boolBytes ((a.length : Int) != 0) = [1] := by
    cases a with
    | nil => exact absurd rfl ha
    | cons => simp [boolBytes]; omega
  simp only [MsVerif.frag_nonZero, size_nl h, Except.bind_ok, zne_nl h _ _ _ _ (hn.num4 env), hb, ifThen_eq,
    cnd_if_one h, thenTail, if_true, hx _ _, Except.bind_error]

omit h in
theorem frag_seq_fail {l r ms : Ms} {s s1 : List Bytes}
    (hms : ms = .andV l r ∨ ms = .andB l r ∨ ms = .orB l r)
    (hl : Runs (frag env ke ctx l) s s1) (hr : Fails (frag env ke ctx r) s1) :
    Fails (frag env ke ctx ms) s := by
  obtain ⟨g1, e1⟩ := hl.sk
  intro alt ops
  rcases hms with rfl | rfl | rfl
  · simp only [MsVerif.frag_andV, e1, Except.bind_ok, hr _ _]
  · simp only [MsVerif.frag_andB, e1, Except.bind_ok, hr _ _, Except.bind_error]
  · simp only [MsVerif.frag_orB, e1, Except.bind_ok, hr _ _, Except.bind_error]

omit h in
theorem head_of_seq {l r ms : Ms} (hms : ms = .andV l r ∨ ms = .andB l r ∨ ms = .orB l r) :
    Head env ke ctx ms l := by
  rcases hms with rfl | rfl | rfl
  · exact .andV
  · exact .andB
  · exact .orB

theorem frag_andOr_fail_b {a b c : Ms} {s s1 : List Bytes}
    (ha : Runs (frag env ke ctx a) s ([1] :: s1)) (hb : Fails (frag env ke ctx b) s1) :
    Fails (frag env ke ctx (.andOr a b c)) s := by
  obtain ⟨g1, e1⟩ := ha.sk
  intro alt ops
  simp only [MsVerif.frag_andOr, e1, Except.bind_ok, ifElse_eq, cnd_notif_one h, elseTail, Bool.false_eq_true,
    if_false, skipCount_ok h.st h.op, countOp_ok h.op, hb _ _, Except.bind_error]

theorem frag_else_fail {l y ms : Ms} {s s1 : List Bytes}
    (hms : ms = .orD l y ∨ ms = .orC l y ∨ ∃ b, ms = .andOr l b y)
    (hl : Runs (frag env ke ctx l) s ([] :: s1)) (hy : Fails (frag env ke ctx y) s1) :
    Fails (frag env ke ctx ms) s := by
  obtain ⟨g1, e1⟩ := hl.sk
  intro alt ops
  rcases hms with rfl | rfl | ⟨b, rfl⟩
  · have ei : opc env .ifdup ⟨[] :: s1, alt, g1 alt ops⟩ = .ok ⟨[] :: s1, alt, g1 alt ops + 1⟩ := ifdup_nl h _ _ _ _
    simp only [MsVerif.frag_orD, e1, Except.bind_ok, ei, ifThen_eq, cnd_notif_nil h, thenTail, if_true, hy _ _,
      Except.bind_error]
  · simp only [MsVerif.frag_orC, e1, Except.bind_ok, ifThen_eq, cnd_notif_nil h, thenTail, if_true, hy _ _,
      Except.bind_error]
  · simp only [MsVerif.frag_andOr, e1, Except.bind_ok, ifElse_eq, cnd_notif_nil h, elseTail, if_true, hy _ _,
      Except.bind_error]

omit h in
theorem head_of_else {l y ms : Ms} (hms : ms = .orD l y ∨ ms = .orC l y ∨ ∃ b, ms = .andOr l b y) :
    Head env ke ctx ms l := by
  rcases hms with rfl | rfl | ⟨b, rfl⟩
  · exact .orD
  · exact .orC
  · exact .andOr

theorem frag_orI_fail_l {l r : Ms} {s : List Bytes}
    (hl : Fails (frag env ke ctx l) s) : Fails (frag env ke ctx (.orI l r)) ([1] :: s) := fun alt ops => by
  simp only [MsVerif.frag_orI, ifElse_eq, cnd_if_one h, Except.bind_ok, elseTail, if_true, hl _ _, Except.bind_error]

theorem frag_orI_fail_r {l r : Ms} {s : List Bytes}
    (hr : Fails (frag env ke ctx r) s) : Fails (frag env ke ctx (.orI l r)) ([] :: s) := fun alt ops => by
  simp only [MsVerif.frag_orI, ifElse_eq, cnd_if_nil h, Except.bind_ok, elseTail, Bool.false_eq_true, if_false,
    skipCount_ok h.st h.op, countOp_ok h.op, hr _ _, Except.bind_error]

omit h in
theorem fragThresh_fail_x {first : Bool} {x : Ms} {xs : MsList} {s : List Bytes}
    (hx : Fails (frag env ke ctx x) s) : Fails (fragThresh env ke ctx first (.cons x xs)) s := fun alt ops => by
  simp only [fragThresh_cons, hx _ _, Except.bind_error]

omit h in
theorem fragThresh_first_fail_rest {x : Ms} {xs : MsList} {s s1 : List Bytes}
    (hx : Runs (frag env ke ctx x) s s1) (hxs : Fails (fragThresh env ke ctx false xs) s1) :
    Fails (fragThresh env ke ctx true (.cons x xs)) s := by
  obtain ⟨g1, e1⟩ := hx.sk
  intro alt ops
  simp only [fragThresh_cons, e1, Except.bind_ok, if_true, hxs _ _]

theorem fragThresh_add_fail_rest {x : Ms} {xs : MsList} {a b : Bytes} {m n : Int}
    {s s1 : List Bytes}
    (hx : Runs (frag env ke ctx x) s (a :: b :: s1))
    (ha : num4 env a = .ok m) (hb : num4 env b = .ok n)
    (hxs : Fails (fragThresh env ke ctx false xs) (numEncode (n + m) :: s1)) :
    Fails (fragThresh env ke ctx false (.cons x xs)) s := by
  obtain ⟨g1, e1⟩ := hx.sk
  intro alt ops
  simp only [fragThresh_cons, e1, Except.bind_ok, Bool.false_eq_true, if_false, add_nl h _ _ _ _ _ ha hb, hxs _ _]

omit h in
theorem frag_thresh_fail {k : Nat} {xs : MsList} {s : List Bytes}
    (hxs : Fails (fragThresh env ke ctx true xs) s) :
    Fails (frag env ke ctx (.thresh k xs)) s := fun alt ops => by
  simp only [MsVerif.frag_thresh, hxs _ _, Except.bind_error]

end rules

/-- some lock in the lists of `t` is not met by the transaction -/
def Blocks (env : Env) (t : TSat) : Prop :=
  (∃ n ∈ t.A, checkLockTime env n = false) ∨ (∃ n ∈ t.R, checkSequence env n = false)

theorem not_blocks_lockFree (s : Sat) : ¬ Blocks env (lockFree s) := by
  simp [Blocks, lockFree]

theorem like_blocks {t a : TSat} (h : t.Like a) : Blocks env t ↔ Blocks env a := by
  unfold Blocks
  rw [h.A, h.R]

theorem blocks_iff_not_locksMet {t : TSat} (hi : t.Inv) : Blocks env t ↔ ¬ LocksMet env t.s := by
  unfold LocksMet
  rw [← lockInv_forall (fun _ _ h => Sat.checkLockTime_mono h) (absInv_iff.mp hi.1),
    ← lockInv_forall (fun _ _ h => Sat.checkSequence_mono h) (relInv_iff.mp hi.2)]
  simp only [Blocks, Classical.not_and_iff_not_or_not, Classical.not_forall, Bool.not_eq_true, exists_prop]

theorem tconcat_blocks {a b : TSat} (hbl : Blocks env (tConcatenateRev a b)) :
    Blocks env a ∨ Blocks env b := by
  by_cases hne : Sat.concatenateRev a.s b.s = Sat.IMPOSSIBLE
  · rw [tConcatenateRev_impossible hne] at hbl
    exact absurd hbl (not_blocks_lockFree _)
  obtain ⟨hA, hR⟩ := tConcatenateRev_lists hne
  unfold Blocks at hbl
  simp only [hA, hR, List.mem_append] at hbl
  rcases hbl with ⟨n, hn | hn, hc⟩ | ⟨n, hn | hn, hc⟩
  · exact .inr (.inl ⟨n, hn, hc⟩)
  · exact .inl (.inl ⟨n, hn, hc⟩)
  · exact .inr (.inr ⟨n, hn, hc⟩)
  · exact .inl (.inr ⟨n, hn, hc⟩)

theorem tpush_split {p : Ph} {t : TSat} {w : List Ph} (h : (tPush p t).s.stack = .stack w) :
    ∃ w0, t.s.stack = .stack w0 ∧ w = w0 ++ [p] ∧ (Blocks env (tPush p t) → Blocks env t) := by
  simp only [tPush] at h
  obtain ⟨w0, wb, e0, eb, rfl⟩ := Wit.combine_stack h
  cases eb
  exact ⟨w0, e0, rfl, fun hb => hb⟩

section cases
variable {σ : Ph → Bytes} {cfg : SatCfg}

/-- running `ms` on the realised witness `w` ends in the lock-time error (W: with any element
on top, as in `SatRuns`) -/
def SatFails (env : Env) (ke : KeyEnv) (ctx : Ctx) (σ : Ph → Bytes) (c : Corr) (ms : Ms)
    (w : List Ph) : Prop :=
  match c.base with
  | .W => ∀ t rest, Fails (frag env ke ctx ms) (t :: (stk σ w ++ rest))
  | _ => ∀ rest, Fails (frag env ke ctx ms) (stk σ w ++ rest)

theorem satFails_nonW {c : Corr} {ms : Ms} {w : List Ph} (hb : c.base ≠ .W) :
    SatFails env ke ctx σ c ms w ↔ ∀ rest, Fails (frag env ke ctx ms) (stk σ w ++ rest) := by
  unfold SatFails
  cases h : c.base <;> simp_all

theorem satFails_W {c : Corr} {ms : Ms} {w : List Ph} (hb : c.base = .W) :
    SatFails env ke ctx σ c ms w ↔
      ∀ t rest, Fails (frag env ke ctx ms) (t :: (stk σ w ++ rest)) := by
  unfold SatFails
  simp [hb]

/-- both halves: a (dis)satisfaction whose lists contain a lock the transaction does not meet
makes the fragment fail with the lock-time error -/
structure FSound (env : Env) (ke : KeyEnv) (ctx : Ctx) (σ : Ph → Bytes) (c : Corr) (ms : Ms)
    (tsd : TSatDissat) : Prop where
  sat : ∀ w, tsd.sat.s.stack = .stack w → Blocks env tsd.sat → SatFails env ke ctx σ c ms w
  dis : ∀ w, tsd.dissat.s.stack = .stack w → Blocks env tsd.dissat → SatFails env ke ctx σ c ms w

/-- what each field of `FSound` says of its half `t` -/
def TFails (env : Env) (ke : KeyEnv) (ctx : Ctx) (σ : Ph → Bytes) (c : Corr) (ms : Ms)
    (t : TSat) : Prop :=
  ∀ w, t.s.stack = .stack w → Blocks env t → SatFails env ke ctx σ c ms w

theorem tfails_lockFree (c : Corr) (ms : Ms) (s : Sat) : TFails env ke ctx σ c ms (lockFree s) :=
  fun _ _ hb => absurd hb (not_blocks_lockFree s)

/-- `minimum` / `minimum_mall` return one of their arguments with its lists -/
theorem tfails_minFn (k : SatCfg) {c : Corr} {ms : Ms} {a b : TSat}
    (ha : TFails env ke ctx σ c ms a) (hb : TFails env ke ctx σ c ms b) :
    TFails env ke ctx σ c ms (tMinFn k a b) := by
  intro w hs hbl
  rcases tMinFn_like k a b with h | h | h
  · exact ha w (h.stack.symm.trans hs) ((like_blocks h).mp hbl)
  · exact hb w (h.stack.symm.trans hs) ((like_blocks h).mp hbl)
  · rw [h] at hbl
    exact absurd hbl (not_blocks_lockFree _)

theorem fsound_lockFree (c : Corr) (ms : Ms) (a b : Sat) :
    FSound env ke ctx σ c ms ⟨lockFree a, lockFree b⟩ :=
  ⟨tfails_lockFree c ms b, tfails_lockFree c ms a⟩

theorem good_sat (x : Ms) {w : List Ph} (hs : (tSatDissat cfg x).sat.s.stack = .stack w)
    (hb : ¬ Blocks env (tSatDissat cfg x).sat) : Good env (satDissat cfg x).sat w := by
  have hl := Classical.not_not.mp (mt (blocks_iff_not_locksMet (tSatDissat_inv cfg x).2).mpr hb)
  rw [(tSatDissat_s cfg x).2] at hs hl
  exact ⟨hs, hl⟩

theorem good_dis (x : Ms) {w : List Ph} (hs : (tSatDissat cfg x).dissat.s.stack = .stack w)
    (hb : ¬ Blocks env (tSatDissat cfg x).dissat) : Good env (satDissat cfg x).dissat w := by
  have hl := Classical.not_not.mp (mt (blocks_iff_not_locksMet (tSatDissat_inv cfg x).1).mpr hb)
  rw [(tSatDissat_s cfg x).1] at hs hl
  exact ⟨hs, hl⟩

theorem after_fcase (h : EnvOk env cfg.ctx) (n : Nat) (hwf : WF cfg.ctx (.after n)) :
    FSound env cfg.env cfg.ctx σ Corr.time (.after n) (tSatDissat cfg (.after n)) where
  dis := by simp only [tSatDissat]; exact tfails_lockFree _ _ _
  sat := fun w hs hb => by
    simp only [tSatDissat, satDissat_after] at hs hb
    rw [satFails_nonW (by simp [Corr.time])]
    intro rest
    rcases hb with ⟨m, hm, hf⟩ | ⟨m, hm, _⟩
    · by_cases hc : cfg.assets.checkAfter n = true
      · simp only [hc, if_true, List.mem_singleton] at hs hm
        subst hm
        cases hs
        exact frag_after_fail h.nl hwf.2 hf _
      · simp [hc] at hm
    · cases hm

theorem older_fcase (h : EnvOk env cfg.ctx) (n : Nat) (hwf : WF cfg.ctx (.older n)) :
    FSound env cfg.env cfg.ctx σ Corr.time (.older n) (tSatDissat cfg (.older n)) where
  dis := by simp only [tSatDissat]; exact tfails_lockFree _ _ _
  sat := fun w hs hb => by
    simp only [tSatDissat, satDissat_older] at hs hb
    rw [satFails_nonW (by simp [Corr.time])]
    intro rest
    rcases hb with ⟨m, hm, _⟩ | ⟨m, hm, hf⟩
    · cases hm
    · by_cases hc : cfg.assets.checkOlder (relCanon n) = true
      · simp only [hc, if_true, List.mem_singleton] at hs hm
        subst hm
        cases hs
        exact frag_older_fail h.nl hwf.2 hf _
      · simp [hc] at hm

variable {x : Ms} {cx c : Corr}

theorem tfails_wrap {ms : Ms} {t : TSat} (hx : cx.base ≠ .W) (hc : c.base ≠ .W)
    (hd : Head env ke ctx ms x) (F : TFails env ke ctx σ cx x t) : TFails env ke ctx σ c ms t := by
  intro w hs hbl
  rw [satFails_nonW hc]
  exact fun rest => hd.fails ((satFails_nonW hx).mp (F w hs hbl) rest)

/-- a selector byte on top of the witness of `x` (`or_i`): `ms` consumes it and runs `x` -/
theorem tfails_push {ms : Ms} {p : Ph} {b : Bytes} {t : TSat} (hp : σ p = b)
    (hx : cx.base ≠ .W) (hc : c.base ≠ .W)
    (hfail : ∀ s, Fails (frag env ke ctx x) s → Fails (frag env ke ctx ms) (b :: s))
    (F : TFails env ke ctx σ cx x t) : TFails env ke ctx σ c ms (tPush p t) := by
  intro w hs hbl
  obtain ⟨w0, hs0, rfl, hb0⟩ := tpush_split (env := env) hs
  rw [satFails_nonW hc]
  intro rest
  have := hfail _ ((satFails_nonW hx).mp (F _ hs0 (hb0 hbl)) rest)
  simpa [stk, hp] using this

section wrappers
variable (f : FSound env cfg.env cfg.ctx σ cx x (tSatDissat cfg x))
include f

theorem alt_fcase (h : EnvOk env cfg.ctx) (hx : cx.base = .B) (hc : c.base = .W) :
    FSound env cfg.env cfg.ctx σ c (.alt x) (tSatDissat cfg (.alt x)) := by
  have half : ∀ t, TFails env cfg.env cfg.ctx σ cx x t →
      TFails env cfg.env cfg.ctx σ c (.alt x) t := by
    intro t F w hs hbl
    rw [satFails_W hc]
    intro t' rest
    exact frag_alt_fail h.nl ((satFails_nonW (by simp [hx])).mp (F w hs hbl) rest)
  simp only [tSatDissat]
  exact ⟨half _ f.sat, half _ f.dis⟩

theorem swap_fcase (h : EnvOk env cfg.ctx) (hx : cx.base = .B)
    (hi : cx.input = .one ∨ cx.input = .oneNonZero) (hc : c.base = .W)
    (sh : Shape σ cx (satDissat cfg x)) :
    FSound env cfg.env cfg.ctx σ c (.swap x) (tSatDissat cfg (.swap x)) := by
  have half : ∀ t, (∀ w, t.s.stack = .stack w → w.length = 1) →
      TFails env cfg.env cfg.ctx σ cx x t →
      TFails env cfg.env cfg.ctx σ c (.swap x) t := by
    intro t hlen F w hs hbl
    obtain ⟨p, rfl⟩ : ∃ p, w = [p] := by
      match w, hlen w hs with
      | [p], _ => exact ⟨p, rfl⟩
    have := (satFails_nonW (by simp [hx])).mp (F _ hs hbl)
    rw [satFails_W hc]
    intro t' rest
    exact frag_swap_fail h.nl (by simpa [stk] using this (t' :: rest))
  have hs := tSatDissat_s cfg x
  simp only [tSatDissat]
  exact ⟨half _ (fun w hw => sh.one hi w (.inl (hs.2 ▸ hw))) f.sat,
    half _ (fun w hw => sh.one hi w (.inr (hs.1 ▸ hw))) f.dis⟩

/-- `c:`, `n:`, `v:` only add opcodes after `x` -/
theorem head_fcase {ms : Ms} (hd : Head env cfg.env cfg.ctx ms x) (hxW : cx.base ≠ .W) (hcW : c.base ≠ .W) :
    FSound env cfg.env cfg.ctx σ c ms (tSatDissat cfg x) :=
  ⟨tfails_wrap hxW hcW hd f.sat, tfails_wrap hxW hcW hd f.dis⟩

theorem dupIf_fcase (h : EnvOk env cfg.ctx) (hag : Agrees env cfg.env cfg.assets σ)
    (hx : cx.base = .V) (hi : cx.input = .zero) (hcW : c.base ≠ .W)
    (sh : Shape σ cx (satDissat cfg x)) :
    FSound env cfg.env cfg.ctx σ c (.dupIf x) (tSatDissat cfg (.dupIf x)) := by
  simp only [tSatDissat]
  refine ⟨fun w hs hbl => ?_, tfails_lockFree _ _ _⟩
  obtain ⟨w0, hs0, rfl, hb0⟩ := tpush_split (env := env) hs
  have : w0 = [] := sh.zero hi w0 (.inl ((tSatDissat_s cfg x).2 ▸ hs0))
  subst this
  have := (satFails_nonW (by simp [hx])).mp (f.sat _ hs0 (hb0 hbl))
  rw [satFails_nonW hcW]
  intro rest
  have := frag_dupIf_fail h.nl (by simpa [stk] using this ([1] :: rest))
  simpa [stk, hag.pushOne] using this

theorem nonZero_fcase (h : EnvOk env cfg.ctx) (hag : Agrees env cfg.env cfg.assets σ)
    (hx : cx.base = .B) (hi : cx.input = .oneNonZero ∨ cx.input = .anyNonZero) (hcW : c.base ≠ .W)
    (sh : Shape σ cx (satDissat cfg x)) :
    FSound env cfg.env cfg.ctx σ c (.nonZero x) (tSatDissat cfg (.nonZero x)) := by
  simp only [tSatDissat]
  refine ⟨fun w hs hbl => ?_, tfails_lockFree _ _ _⟩
  obtain ⟨w', p, rfl, hp⟩ := sh.nonzero hi w ((tSatDissat_s cfg x).2 ▸ hs)
  have := (satFails_nonW (by simp [hx])).mp (f.sat _ hs hbl)
  rw [satFails_nonW hcW]
  intro rest
  have hr' : Fails (frag env cfg.env cfg.ctx x) (σ p :: (stk σ w' ++ rest)) := by
    simpa [stk] using this rest
  have := frag_nonZero_fail h.nl hp (numOk_of_lt _ (hag.sizeOk p)) hr'
  simpa [stk] using this

end wrappers

variable {l r z : Ms} {cl cr cz : Corr}

/-- `concatenate_rev`: the part executed first fails, or it runs and what follows fails -/
theorem seq_fail {ms : Ms} {tl ty : TSat} (hlW : cl.base ≠ .W) (hcW : c.base ≠ .W) (hd : Head env ke ctx ms l)
    (FL : TFails env ke ctx σ cl l tl)
    (next : ∀ wl wy, tl.s.stack = .stack wl → ¬ Blocks env tl → ty.s.stack = .stack wy →
      Blocks env ty → ∀ rest, Fails (frag env ke ctx ms) (stk σ wl ++ (stk σ wy ++ rest))) :
    TFails env ke ctx σ c ms (tConcatenateRev tl ty) := by
  intro w hs hbl
  obtain ⟨wl, wy, hl, hy, rfl⟩ := Sat.concatenateRev_stack (tConcatenateRev_s tl ty ▸ hs)
  rw [satFails_nonW hcW]
  intro rest
  rw [stk_append, List.append_assoc]
  by_cases hL : Blocks env tl
  · exact hd.fails ((satFails_nonW hlW).mp (FL _ hl hL) _)
  · exact next wl wy hl hL hy ((tconcat_blocks hbl).resolve_left hL) rest

/-- common shape of `and_b` / `or_b`: left is B, right is W, the left result sits on top of
the right witness -/
theorem bw_fail {ms : Ms} {tl tr : TSat} (hms : ms = .andB l r ∨ ms = .orB l r)
    (hlB : cl.base = .B) (hrW : cr.base = .W) (hcB : c.base = .B)
    (FL : TFails env ke ctx σ cl l tl) (FR : TFails env ke ctx σ cr r tr)
    (RL : ∀ wl, tl.s.stack = .stack wl → ¬ Blocks env tl → ∀ rest,
      ∃ v, Runs (frag env ke ctx l) (stk σ wl ++ rest) (v :: rest)) :
    TFails env ke ctx σ c ms (tConcatenateRev tl tr) :=
  seq_fail (by simp [hlB]) (by simp [hcB]) (head_of_seq (.inr hms)) FL fun wl wr hl hL hr hR rest => by
    obtain ⟨v, hv⟩ := RL wl hl hL (stk σ wr ++ rest)
    exact frag_seq_fail (.inr hms) hv ((satFails_W hrW).mp (FR _ hr hR) v rest)

/- the induction hypotheses for the sub-fragments: C01's soundness of the left one (it runs
before the right one fails), and the failure statement of both -/
variable (ihl : Sound env cfg.env cfg.ctx σ cl l (satDissat cfg l))
  (fl : FSound env cfg.env cfg.ctx σ cl l (tSatDissat cfg l))
  (fr : FSound env cfg.env cfg.ctx σ cr r (tSatDissat cfg r))

section
include fl fr

theorem orI_fcase (h : EnvOk env cfg.ctx) (hag : Agrees env cfg.env cfg.assets σ)
    (hlW : cl.base ≠ .W) (hrW : cr.base ≠ .W) (hcW : c.base ≠ .W) :
    FSound env cfg.env cfg.ctx σ c (.orI l r) (tSatDissat cfg (.orI l r)) := by
  have L : ∀ t, TFails env cfg.env cfg.ctx σ cl l t →
      TFails env cfg.env cfg.ctx σ c (.orI l r) (tPush .pushOne t) :=
    fun _ => tfails_push hag.pushOne hlW hcW fun _ => frag_orI_fail_l h.nl
  have R : ∀ t, TFails env cfg.env cfg.ctx σ cr r t →
      TFails env cfg.env cfg.ctx σ c (.orI l r) (tPush .pushZero t) :=
    fun _ => tfails_push hag.pushZero hrW hcW fun _ => frag_orI_fail_r h.nl
  simp only [tSatDissat]
  exact ⟨tfails_minFn cfg (L _ fl.sat) (R _ fr.sat), tfails_minFn cfg (L _ fl.dis) (R _ fr.dis)⟩

end

include ihl

theorem sat_runs_B (hlB : cl.base = .B)
    {wl : List Ph} (hl : (tSatDissat cfg l).sat.s.stack = .stack wl)
    (hL : ¬ Blocks env (tSatDissat cfg l).sat) (rest : List Bytes) :
    ∃ v, Runs (frag env cfg.env cfg.ctx l) (stk σ wl ++ rest) (v :: rest) ∧
      (cl.unit = true → v = [1]) := by
  obtain ⟨v, hv, _, hu⟩ := (satRuns_B hlB).mp (ihl.sat _ (good_sat l hl hL)) rest
  exact ⟨v, hv, hu⟩

theorem dis_runs_B (hlB : cl.base = .B)
    {wl : List Ph} (hl : (tSatDissat cfg l).dissat.s.stack = .stack wl)
    (hL : ¬ Blocks env (tSatDissat cfg l).dissat) (rest : List Bytes) :
    Runs (frag env cfg.env cfg.ctx l) (stk σ wl ++ rest) ([] :: rest) :=
  (disRuns_B hlB).mp (ihl.dis _ (good_dis l hl hL)) rest

include fl

/-- the "left dissatisfied, then `y`" path shared by `or_d`, `or_c`, `andor` -/
theorem disl_then (h : EnvOk env cfg.ctx) {ms y : Ms} {cy : Corr} {ty : TSat}
    (hms : ms = .orD l y ∨ ms = .orC l y ∨ ∃ b, ms = .andOr l b y)
    (hlB : cl.base = .B) (hyW : cy.base ≠ .W) (hcW : c.base ≠ .W)
    (FY : TFails env cfg.env cfg.ctx σ cy y ty) :
    TFails env cfg.env cfg.ctx σ c ms (tConcatenateRev (tSatDissat cfg l).dissat ty) :=
  seq_fail (by simp [hlB]) hcW (head_of_else hms) fl.dis fun _ _ hl hL hy hY rest =>
    frag_else_fail h.nl hms (dis_runs_B ihl hlB hl hL _) ((satFails_nonW hyW).mp (FY _ hy hY) rest)

include fr

theorem andV_fcase (hlV : cl.base = .V) (hrW : cr.base ≠ .W) (hcW : c.base ≠ .W) :
    FSound env cfg.env cfg.ctx σ c (.andV l r) (tSatDissat cfg (.andV l r)) := by
  have half : ∀ ty, TFails env cfg.env cfg.ctx σ cr r ty →
      TFails env cfg.env cfg.ctx σ c (.andV l r) (tConcatenateRev (tSatDissat cfg l).sat ty) :=
    fun ty FY => seq_fail (by simp [hlV]) hcW .andV fl.sat fun wl wy hl hL hy hY rest =>
      frag_seq_fail (.inl rfl) ((satRuns_V hlV).mp (ihl.sat _ (good_sat l hl hL)) _)
        ((satFails_nonW hrW).mp (FY _ hy hY) rest)
  simp only [tSatDissat]
  exact ⟨half _ fr.sat, half _ fr.dis⟩

theorem andB_fcase (hlB : cl.base = .B) (hrW : cr.base = .W) (hcB : c.base = .B) :
    FSound env cfg.env cfg.ctx σ c (.andB l r) (tSatDissat cfg (.andB l r)) := by
  simp only [tSatDissat]
  exact ⟨bw_fail (.inl rfl) hlB hrW hcB fl.sat fr.sat
      fun _ hl hL rest => (sat_runs_B ihl hlB hl hL rest).imp fun _ => And.left,
    bw_fail (.inl rfl) hlB hrW hcB fl.dis fr.dis
      fun _ hl hL rest => ⟨[], dis_runs_B ihl hlB hl hL rest⟩⟩

theorem orB_fcase (hlB : cl.base = .B) (hrW : cr.base = .W) (hcB : c.base = .B) :
    FSound env cfg.env cfg.ctx σ c (.orB l r) (tSatDissat cfg (.orB l r)) := by
  have D : ∀ tr, TFails env cfg.env cfg.ctx σ cr r tr →
      TFails env cfg.env cfg.ctx σ c (.orB l r) (tConcatenateRev (tSatDissat cfg l).dissat tr) :=
    fun tr FR => bw_fail (.inr rfl) hlB hrW hcB fl.dis FR
      fun _ hl hL rest => ⟨[], dis_runs_B ihl hlB hl hL rest⟩
  simp only [tSatDissat]
  exact ⟨tfails_minFn cfg (D _ fr.sat)
      (bw_fail (.inr rfl) hlB hrW hcB fl.sat fr.dis
        fun _ hl hL rest => (sat_runs_B ihl hlB hl hL rest).imp fun _ => And.left),
    D _ fr.dis⟩

theorem orD_fcase (h : EnvOk env cfg.ctx) (hlB : cl.base = .B) (hrW : cr.base ≠ .W)
    (hcW : c.base ≠ .W) :
    FSound env cfg.env cfg.ctx σ c (.orD l r) (tSatDissat cfg (.orD l r)) := by
  have D : ∀ tr, TFails env cfg.env cfg.ctx σ cr r tr →
      TFails env cfg.env cfg.ctx σ c (.orD l r) (tConcatenateRev (tSatDissat cfg l).dissat tr) :=
    fun _ => disl_then ihl fl h (cy := cr) (.inl rfl) hlB hrW hcW
  simp only [tSatDissat]
  exact ⟨tfails_minFn cfg (tfails_wrap (by simp [hlB]) hcW .orD fl.sat)
    (D _ fr.sat), D _ fr.dis⟩

theorem orC_fcase (h : EnvOk env cfg.ctx) (hlB : cl.base = .B) (hrW : cr.base ≠ .W)
    (hcW : c.base ≠ .W) :
    FSound env cfg.env cfg.ctx σ c (.orC l r) (tSatDissat cfg (.orC l r)) := by
  simp only [tSatDissat]
  exact ⟨tfails_minFn cfg (tfails_wrap (by simp [hlB]) hcW .orC fl.sat)
      (disl_then ihl fl h (.inr (.inl rfl)) hlB hrW hcW fr.sat),
    tfails_lockFree _ _ _⟩

theorem andOr_fcase (h : EnvOk env cfg.ctx) (hlB : cl.base = .B) (hlu : cl.unit = true)
    (hrW : cr.base ≠ .W) (hzW : cz.base ≠ .W) (hcW : c.base ≠ .W)
    (fz : FSound env cfg.env cfg.ctx σ cz z (tSatDissat cfg z)) :
    FSound env cfg.env cfg.ctx σ c (.andOr l r z) (tSatDissat cfg (.andOr l r z)) := by
  have Z : ∀ tz, TFails env cfg.env cfg.ctx σ cz z tz →
      TFails env cfg.env cfg.ctx σ c (.andOr l r z) (tConcatenateRev (tSatDissat cfg l).dissat tz) :=
    fun _ => disl_then ihl fl h (cy := cz) (.inr (.inr ⟨_, rfl⟩)) hlB hzW hcW
  simp only [tSatDissat]
  refine ⟨tfails_minFn cfg ?_ (Z _ fz.sat), Z _ fz.dis⟩
  exact seq_fail (by simp [hlB]) hcW .andOr fl.sat
    fun wl wr hl hL hr hR rest => by
      obtain ⟨v, hv, hu⟩ := sat_runs_B ihl hlB hl hL (stk σ wr ++ rest)
      cases hu hlu
      exact frag_andOr_fail_b h.nl hv ((satFails_nonW hrW).mp (fr.sat _ hr hR) rest)

end cases

section thresh
variable {σ : Ph → Bytes} {cfg : SatCfg}

def Picks (sds : List TSatDissat) (l : List TSat) : Prop :=
  All2 (fun t sd => t = sd.sat ∨ t = sd.dissat) l sds

theorem picks_of_getElem : ∀ {sds : List TSatDissat} {l : List TSat}, l.length = sds.length →
    (∀ i (h1 : i < l.length) (h2 : i < sds.length), l[i] = sds[i].sat ∨ l[i] = sds[i].dissat) →
    Picks sds l
  | [], [], _, _ => .nil
  | _ :: _, _ :: _, hlen, h =>
    .cons (h 0 (Nat.zero_lt_succ _) (Nat.zero_lt_succ _))
      (picks_of_getElem (Nat.succ.inj hlen) fun i h1 h2 =>
        h (i + 1) (Nat.succ_lt_succ h1) (Nat.succ_lt_succ h2))
  | [], _ :: _, hlen, _ => nomatch hlen
  | _ :: _, [], hlen, _ => nomatch hlen

theorem picks_dissat (sds : List TSatDissat) : Picks sds (sds.map (·.dissat)) :=
  picks_of_getElem (by simp) fun i _ _ => .inr (by simp)

theorem tfoldConcat_split {l : List TSat} {w : List Ph} (h : (tFoldConcat l).s.stack = .stack w) :
    ∃ ws, All2 (fun t w => t.s.stack = .stack w) l ws ∧ w = ws.reverse.flatten := by
  rw [tFoldConcat_s] at h
  obtain ⟨ws, hl, e⟩ := foldConcat_split (G := fun s w => s.stack = .stack w)
    (fun _ _ _ => Sat.concatenateRev_stack) (fun _ h => (Wit.stack.inj h).symm) h
  exact ⟨ws, hl.of_map_left, e⟩

theorem tfoldConcat_blocks {l : List TSat} (h : Blocks env (tFoldConcat l)) : ∃ t ∈ l, Blocks env t :=
  tFoldConcat_ind (P := fun t => Blocks env t → ∃ t' ∈ l, Blocks env t')
    (fun h => absurd h (not_blocks_lockFree Sat.empty)) (fun _ _ ha hb h => (tconcat_blocks h).elim ha hb)
    l (fun t ht h => ⟨t, ht, h⟩) h

def FSoundList (env : Env) (σ : Ph → Bytes) (cfg : SatCfg) : MsList → List Corr → Prop
  | .nil, [] => True
  | .cons x xs, c :: cs =>
    FSound env cfg.env cfg.ctx σ c x (tSatDissat cfg x) ∧ FSoundList env σ cfg xs cs
  | _, _ => False

variable {x : Ms} {c : Corr} {t : TSat}

theorem tfails_pick (fx : FSound env cfg.env cfg.ctx σ c x (tSatDissat cfg x))
    (ht : t = (tSatDissat cfg x).sat ∨ t = (tSatDissat cfg x).dissat) :
    TFails env cfg.env cfg.ctx σ c x t := by
  rcases ht with rfl | rfl
  · exact fx.sat
  · exact fx.dis

/-- a selected half that carries no unmet lock is a good half of the plain satisfier, in the form
C01's `vote_W` / `vote_B` take it -/
theorem good_pick (ht : t = (tSatDissat cfg x).sat ∨ t = (tSatDissat cfg x).dissat) {w0 : List Ph}
    (hg : t.s.stack = .stack w0) (hB : ¬ Blocks env t) :
    ∃ b : Bool, Good env (if b then (satDissat cfg x).sat else (satDissat cfg x).dissat) w0 := by
  rcases ht with rfl | rfl
  · exact ⟨true, good_sat x hg hB⟩
  · exact ⟨false, good_dis x hg hB⟩

/-- a `W` child whose selected half carries no unmet lock leaves its vote (0 or 1) next to the
running count `top` -/
theorem pick_vote_W (hc : c.base = .W ∧ c.unit = true)
    (hx : Sound env cfg.env cfg.ctx σ c x (satDissat cfg x))
    (ht : t = (tSatDissat cfg x).sat ∨ t = (tSatDissat cfg x).dissat) {w0 : List Ph}
    (hg : t.s.stack = .stack w0) (hB : ¬ Blocks env t) (top : Bytes) (rest : List Bytes) :
    ∃ (k : Nat) (v : Bytes), k ≤ 1 ∧ num4 env v = .ok (k : Int) ∧
      (Runs (frag env cfg.env cfg.ctx x) (top :: (stk σ w0 ++ rest)) (top :: v :: rest) ∨
       Runs (frag env cfg.env cfg.ctx x) (top :: (stk σ w0 ++ rest)) (v :: top :: rest)) := by
  obtain ⟨b, hgood⟩ := good_pick ht hg hB
  obtain ⟨v, hv, hr⟩ := vote_W hc hx b hgood top rest
  exact ⟨b.toNat, v, Bool.toNat_le b, hv, hr⟩

theorem pick_vote_B (hc : c.base = .B ∧ c.unit = true)
    (hx : Sound env cfg.env cfg.ctx σ c x (satDissat cfg x))
    (ht : t = (tSatDissat cfg x).sat ∨ t = (tSatDissat cfg x).dissat) {w0 : List Ph}
    (hg : t.s.stack = .stack w0) (hB : ¬ Blocks env t) (rest : List Bytes) :
    ∃ (k : Nat) (v : Bytes), k ≤ 1 ∧ num4 env v = .ok (k : Int) ∧
      Runs (frag env cfg.env cfg.ctx x) (stk σ w0 ++ rest) (v :: rest) := by
  obtain ⟨b, hgood⟩ := good_pick ht hg hB
  refine ⟨b.toNat, _, Bool.toNat_le b, ?_, vote_B hc hx b hgood rest⟩
  cases b
  · exact Script.num4_nil env
  · exact Script.num4_one env

theorem exists_blocks_tail {l : List TSat} (hex : ∃ u ∈ t :: l, Blocks env u)
    (hB : ¬ Blocks env t) : ∃ u ∈ l, Blocks env u := by
  obtain ⟨u, hu, hb⟩ := hex
  rcases List.mem_cons.mp hu with rfl | hu
  · exact absurd hb hB
  · exact ⟨u, hu, hb⟩

theorem thresh_tail_fail (h : EnvOk env cfg.ctx) : (xs : MsList) → (cs : List Corr) →
    (l : List TSat) → (ws : List (List Ph)) → (acc : Nat) → (a : Bytes) → (rest : List Bytes) →
    SoundList env σ cfg xs cs → FSoundList env σ cfg xs cs →
    (∀ c ∈ cs, c.base = .W ∧ c.unit = true) → Picks (tSatDissats cfg xs) l →
    All2 (fun t w => t.s.stack = .stack w) l ws → (∃ t ∈ l, Blocks env t) →
    num4 env a = .ok (acc : Int) → (∀ j, j ≤ acc + xs.length → NumOk j) →
    Fails (fragThresh env cfg.env cfg.ctx false xs) (a :: (stk σ ws.reverse.flatten ++ rest))
  | .nil, _, _, _, _, _, _, _, _, _, hp, _, hex, _, _ => by
    cases hp
    obtain ⟨_, ht, _⟩ := hex
    cases ht
  | .cons x xs, [], _, _, _, _, _, hs, _, _, _, _, _, _, _ => hs.elim
  | .cons x xs, c :: cs, _, _, acc, a, rest, hs, hf, hcs, hp, hws, hex, ha, hnum => by
    have hc := hcs c (by simp)
    simp only [MsList.length] at hnum
    cases hp with
    | @cons t _ l _ ht hp =>
    cases hws with
    | @cons _ w0 _ ws hg hws =>
    rw [stk_flatten_cons, List.append_assoc]
    by_cases hB : Blocks env t
    · exact fragThresh_fail_x ((satFails_W hc.1).mp (tfails_pick hf.1 ht _ hg hB) _ _)
    · obtain ⟨k, v, hk, hv, hr⟩ := pick_vote_W hc hs.1 ht hg hB a (stk σ ws.reverse.flatten ++ rest)
      have ih := thresh_tail_fail h xs cs l ws (acc + k) (numEncode ((acc + k : Nat) : Int)) rest
        hs.2 hf.2 (fun c' hc' => hcs c' (by simp [hc'])) hp hws
        (exists_blocks_tail hex hB) ((hnum _ (by omega)).num4 env) (fun j hj => hnum j (by omega))
      rcases hr with hr | hr
      · refine fragThresh_add_fail_rest h.nl hr ha hv ?_
        rw [show (k : Int) + (acc : Int) = ((acc + k : Nat) : Int) by omega]
        exact ih
      · refine fragThresh_add_fail_rest h.nl hr hv ha ?_
        rw [show (acc : Int) + (k : Int) = ((acc + k : Nat) : Int) by omega]
        exact ih

theorem thresh_run_fail (h : EnvOk env cfg.ctx) (x : Ms) (xs : MsList) (c : Corr) (cs : List Corr)
    (l : List TSat) (ws : List (List Ph)) (rest : List Bytes)
    (hs : SoundList env σ cfg (.cons x xs) (c :: cs))
    (hf : FSoundList env σ cfg (.cons x xs) (c :: cs)) (hc0 : c.base = .B ∧ c.unit = true)
    (hcs : ∀ c ∈ cs, c.base = .W ∧ c.unit = true)
    (hp : Picks (tSatDissats cfg (.cons x xs)) l)
    (hws : All2 (fun t w => t.s.stack = .stack w) l ws) (hex : ∃ t ∈ l, Blocks env t)
    (hnum : ∀ j, j ≤ (MsList.cons x xs).length → NumOk j) :
    Fails (fragThresh env cfg.env cfg.ctx true (.cons x xs)) (stk σ ws.reverse.flatten ++ rest) := by
  simp only [MsList.length] at hnum
  cases hp with
  | @cons t _ l _ ht hp =>
  cases hws with
  | @cons _ w0 _ ws hg hws =>
  rw [stk_flatten_cons, List.append_assoc]
  by_cases hB : Blocks env t
  · exact fragThresh_fail_x ((satFails_nonW (by simp [hc0.1])).mp (tfails_pick hf.1 ht _ hg hB) _)
  · obtain ⟨k, v, hk, hv, hr⟩ := pick_vote_B hc0 hs.1 ht hg hB (stk σ ws.reverse.flatten ++ rest)
    exact fragThresh_first_fail_rest hr
      (thresh_tail_fail h xs cs l ws k v rest hs.2 hf.2 hcs hp hws (exists_blocks_tail hex hB) hv
        (fun j hj => hnum j (by omega)))

theorem thresh_fcase (h : EnvOk env cfg.ctx) (k : Nat) (x : Ms) (xs : MsList) (c0 : Corr)
    (cs : List Corr) (c : Corr) (hwf : WF cfg.ctx (.thresh k (.cons x xs)))
    (hc0 : c0.base = .B ∧ c0.unit = true) (hcs : ∀ c ∈ cs, c.base = .W ∧ c.unit = true)
    (hcW : c.base ≠ .W) (hs : SoundList env σ cfg (.cons x xs) (c0 :: cs))
    (hf : FSoundList env σ cfg (.cons x xs) (c0 :: cs)) :
    FSound env cfg.env cfg.ctx σ c (.thresh k (.cons x xs)) (tSatDissat cfg (.thresh k (.cons x xs))) := by
  simp only [WF] at hwf
  obtain ⟨-, -, hlt, -⟩ := hwf
  have hnum : ∀ j, j ≤ (MsList.cons x xs).length → NumOk j := fun j hj => numOk_of_lt j (by omega)
  have key : ∀ l, Picks (tSatDissats cfg (.cons x xs)) l →
      TFails env cfg.env cfg.ctx σ c (.thresh k (.cons x xs)) (tFoldConcat l) := by
    intro l hp w hst hbl
    rw [satFails_nonW hcW]
    intro rest
    obtain ⟨ws, hws, rfl⟩ := tfoldConcat_split hst
    exact frag_thresh_fail
      (thresh_run_fail h x xs c0 cs l ws rest hs hf hc0 hcs hp hws (tfoldConcat_blocks hbl) hnum)
  simp only [tSatDissat]
  refine ⟨?_, key _ (picks_dissat _)⟩
  rcases tThreshSat_cases cfg k (tSatDissats cfg (.cons x xs)) with ⟨s, _, _, e⟩ | ⟨l, hlen, hl, e⟩ <;> rw [e]
  · exact tfails_lockFree _ _ _
  · exact key l (picks_of_getElem hlen hl)

end thresh

variable {σ : Ph → Bytes} {cfg : SatCfg}

/-- rule induction on the typing of the children; the fragment statement is its one-element case -/
theorem fsounds_of_hasTypes (h : EnvOk env cfg.ctx) (hag : Agrees env cfg.env cfg.assets σ)
    {xs : MsList} {ts : List Ty} (ht : HasTypes xs ts) :
    WFs cfg.ctx xs → FSoundList env σ cfg xs (ts.map (·.corr)) := by
  induction ht using HasTypes.rec (motive_1 := fun ms τ _ => WF cfg.ctx ms →
    FSound env cfg.env cfg.ctx σ τ.corr ms (tSatDissat cfg ms)) with
  | tru | fls | pkK | pkH | rawPkH | hash | multi | sortedMulti | multiA | sortedMultiA =>
    simp only [tSatDissat]
    exact fsound_lockFree _ _ _ _
  | @after n => rename_i hwf; exact after_fcase h n hwf
  | @older n => rename_i hwf; exact older_fcase h n hwf
  | alt _ hb ih => rename_i hwf; exact alt_fcase (ih hwf) h hb rfl
  | swap hx hb hi ih =>
    rename_i hwf
    exact swap_fcase (ih hwf) h hb hi rfl (shape_of cfg hag hx hwf)
  | check _ hb ih => rename_i hwf; exact head_fcase (ih hwf) .check (by simp [hb]) (by simp)
  | dupIf hx hb hi ih =>
    rename_i hwf
    exact dupIf_fcase (ih hwf) h hag hb hi (by simp) (shape_of cfg hag hx hwf)
  | verify _ hb ih =>
    rename_i hwf
    exact ⟨(head_fcase (ih hwf) .verify (by simp [hb]) (by simp)).sat, tfails_lockFree _ _ _⟩
  | nonZero hx hb hi ih =>
    rename_i hwf
    exact nonZero_fcase (ih hwf) h hag hb hi (by simp) (shape_of cfg hag hx hwf)
  | zeroNotEqual _ hb ih => rename_i hwf; exact head_fcase (ih hwf) .zeroNotEqual (by simp [hb]) (by simp)
  | andV hl _ ha hb ihl ihr =>
    rename_i hwf
    exact andV_fcase (sound_of h hag hl hwf.1) (ihl hwf.1) (ihr hwf.2) ha hb hb
  | andB hl _ ha hb ihl ihr =>
    rename_i hwf
    exact andB_fcase (sound_of h hag hl hwf.1) (ihl hwf.1) (ihr hwf.2) ha hb rfl
  | orB hl _ ha hb _ _ ihl ihr =>
    rename_i hwf
    exact orB_fcase (sound_of h hag hl hwf.1) (ihl hwf.1) (ihr hwf.2) ha hb rfl
  | orD hl _ ha hb _ _ ihl ihr =>
    rename_i hwf
    exact orD_fcase (sound_of h hag hl hwf.1) (ihl hwf.1) (ihr hwf.2) h ha
      (by simp [hb]) (by simp)
  | orC hl _ ha hb _ _ ihl ihr =>
    rename_i hwf
    exact orC_fcase (sound_of h hag hl hwf.1) (ihl hwf.1) (ihr hwf.2) h ha
      (by simp [hb]) (by simp)
  | orI _ _ hab ha ihl ihr =>
    rename_i hwf
    exact orI_fcase (ihl hwf.1) (ihr hwf.2) h hag ha (hab ▸ ha) ha
  | andOr hx _ _ ha _ hua hbc hb ihx ihy ihz =>
    rename_i hwf
    exact andOr_fcase (sound_of h hag hx hwf.1) (ihx hwf.1) (ihy hwf.2.1) h ha hua hb
      (hbc ▸ hb) hb (ihz hwf.2.2)
  | threshNil =>
    rename_i hwf
    simp only [WF, MsList.length] at hwf
    omega
  | @thresh k x xs t ts hx hxs hB hu _ hrest ihx ihxs =>
    rename_i hwf
    have hwfs : WFs cfg.ctx (.cons x xs) := hwf.2.2.2
    exact thresh_fcase h k x xs t.corr (ts.map fun s : Ty => s.corr) _ hwf ⟨hB, hu⟩
      (List.forall_mem_map.mpr fun s hs => ⟨(hrest s hs).1, (hrest s hs).2.1⟩) (by simp)
      (sounds_of h hag (.cons hx hxs) hwfs) ⟨ihx hwfs.1, ihxs hwfs.2⟩
  | nil => exact fun _ => trivial
  | cons _ _ ihx ihxs => exact fun hwf => ⟨ihx hwf.1, ihxs hwf.2⟩

theorem fsound_all (h : EnvOk env cfg.ctx) (hag : Agrees env cfg.env cfg.assets σ) :
    (ms : Ms) → (τ : Ty) → WF cfg.ctx ms → typeOf ms = some τ →
    FSound env cfg.env cfg.ctx σ τ.corr ms (tSatDissat cfg ms) :=
  fun ms _ hwf hty => (fsounds_of_hasTypes h hag (.cons (.of_typeOf ms hty) .nil) ⟨hwf, trivial⟩).1

theorem fsounds_all (h : EnvOk env cfg.ctx) (hag : Agrees env cfg.env cfg.assets σ) :
    (xs : MsList) → (ts : List Ty) → WFs cfg.ctx xs → typesOf xs = some ts →
    FSoundList env σ cfg xs (ts.map (·.corr))
  | xs, _, hwf, hty => fsounds_of_hasTypes h hag (.of_typesOf xs hty) hwf

end MsVerif.PlanLockExec
