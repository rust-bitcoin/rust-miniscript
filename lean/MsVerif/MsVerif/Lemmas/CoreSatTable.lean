/-
The specification's table of canonical (dis)satisfactions (`Spec/SatTable.lean`) on well-typed fragments: the type
letter `d` gives a canonical dissatisfaction; the counters of the threshold row in list terms.
-/
import MsVerif.Lemmas.CoreHasType
import MsVerif.Spec.SatTable

namespace MsVerif
open SatTable

/-! ### `d` ⇒ a canonical dissatisfaction exists

Proved for the list of children of a `thresh` (`HasTypes`), by the mutual induction over typing derivations; the fact
about one fragment is the case of a one-element list. -/

theorem dsats_of_hasTypes (a : Avail) (ha : ∀ h, a.rawKey h = true) {xs : MsList} {ts : List Ty}
    (h : HasTypes xs ts) : (∀ t ∈ ts, t.corr.dissat = true) → allDsatEx a xs = true := by
  induction h using HasTypes.rec
    (motive_1 := fun ms ty _ => ty.corr.dissat = true → dsatEx a ms = true) with
  | tru | after | older | verify | andV | orC => rename_i hd; cases hd
  | fls | pkK | pkH | hash | multi | sortedMulti | multiA | sortedMultiA | dupIf | nonZero => simp [dsatEx]
  -- the one row whose dissatisfaction needs an asset: `expr_raw_pkh` is dissatisfied by ⟨empty, key⟩, so the key
  -- behind the hash must be known; `d` of the type does not see that, hence `ha`
  | rawPkH => simp [dsatEx, ha]
  | alt _ _ ih | swap _ _ _ ih | check _ _ ih | zeroNotEqual _ _ ih => rename_i hd; exact ih hd
  | andB _ _ _ _ ihl ihr =>
    rename_i hd
    simp only [Bool.and_eq_true] at hd
    simp only [dsatEx, Bool.and_eq_true]
    exact ⟨ihl hd.1, ihr hd.2⟩
  | orB _ _ _ _ hda hdb ihl ihr => simp only [dsatEx, Bool.and_eq_true]; exact ⟨ihl hda, ihr hdb⟩
  | orD _ _ _ _ hda _ ihl ihr => rename_i hd; simp only [dsatEx, Bool.and_eq_true]; exact ⟨ihl hda, ihr hd⟩
  | orI _ _ _ _ ihl ihr =>
    rename_i hd
    simp only [Bool.or_eq_true] at hd
    simp only [dsatEx, Bool.or_eq_true]
    exact hd.imp ihl ihr
  | andOr _ _ _ _ hda _ _ _ ihx _ ihz =>
    rename_i hd; simp only [dsatEx, Bool.and_eq_true]; exact ⟨ihx hda, ihz hd⟩
  | threshNil => simp [dsatEx, allDsatEx]
  | thresh _ _ _ _ hd hrest ihx ihxs =>
    simp only [dsatEx, allDsatEx, Bool.and_eq_true]
    exact ⟨ihx hd, ihxs fun t ht => (hrest t ht).2.2⟩
  | nil => simp [allDsatEx]
  | cons _ _ ihx ihxs =>
    intro hd
    simp only [allDsatEx, Bool.and_eq_true]
    exact ⟨ihx (hd _ (by simp)), ihxs fun t ht => hd t (by simp [ht])⟩

theorem dsat_of_hasType (a : Avail) (ha : ∀ h, a.rawKey h = true) {ms : Ms} {ty : Ty} (h : HasType ms ty)
    (hd : ty.corr.dissat = true) : dsatEx a ms = true := by
  simpa [allDsatEx] using dsats_of_hasTypes a ha (.cons h .nil) (by simpa using hd)

theorem dsat_of_type (a : Avail) (ha : ∀ h, a.rawKey h = true) : (ms : Ms) → ∀ ty,
    typeOf ms = some ty → ty.corr.dissat = true → dsatEx a ms = true :=
  fun ms _ h => dsat_of_hasType a ha (.of_typeOf ms h)

namespace Complete

theorem countOnlySat_eq (av : Avail) :
    (xs : MsList) → countOnlySat av xs = xs.toList.countP (fun x => satEx av x && !dsatEx av x)
  | .nil => by simp [countOnlySat, MsList.toList]
  | .cons x xs => by
    simp only [countOnlySat, MsList.toList, List.countP_cons, countOnlySat_eq av xs]
    cases (satEx av x && !dsatEx av x) <;> simp <;> omega

theorem countCanSat_eq (av : Avail) :
    (xs : MsList) → countCanSat av xs = xs.toList.countP (fun x => satEx av x)
  | .nil => by simp [countCanSat, MsList.toList]
  | .cons x xs => by
    simp only [countCanSat, MsList.toList, List.countP_cons, countCanSat_eq av xs]
    cases (satEx av x) <;> simp <;> omega

theorem countDead_eq (av : Avail) :
    (xs : MsList) → countDead av xs = xs.toList.countP (fun x => !satEx av x && !dsatEx av x)
  | .nil => by simp [countDead, MsList.toList]
  | .cons x xs => by
    simp only [countDead, MsList.toList, List.countP_cons, countDead_eq av xs]
    cases (!satEx av x && !dsatEx av x) <;> simp <;> omega

theorem allDsatEx_eq (av : Avail) :
    (xs : MsList) → allDsatEx av xs = xs.toList.all (fun x => dsatEx av x)
  | .nil => by simp [allDsatEx, MsList.toList]
  | .cons x xs => by simp [allDsatEx, MsList.toList, allDsatEx_eq av xs]

end Complete

theorem counts_of_allDsat (a : Avail) (xs : MsList) (h : allDsatEx a xs = true) :
    countDead a xs = 0 ∧ countOnlySat a xs = 0
      ∧ countCanSat a xs = (xs.toList.map (satEx a)).countP id := by
  rw [Complete.allDsatEx_eq, List.all_eq_true] at h
  rw [Complete.countDead_eq, Complete.countOnlySat_eq, Complete.countCanSat_eq, List.countP_eq_zero,
    List.countP_eq_zero, List.countP_map]
  exact ⟨fun x hx => by simp [h x hx], fun x hx => by simp [h x hx], rfl⟩

/-- the `thresh` row when every child can be dissatisfied: `k` of the satisfiable children are chosen -/
theorem satEx_thresh_of_allDsat (a : Avail) (k : Nat) (xs : MsList) (h : allDsatEx a xs = true) :
    satEx a (.thresh k xs) = decide (k ≤ countCanSat a xs) := by
  obtain ⟨c1, c2, -⟩ := counts_of_allDsat a xs h
  simp only [satEx, threshEx, c1, c2, beq_self_eq_true, Nat.zero_le, decide_true, Bool.true_and]

end MsVerif
