/-
T4 on bytes: lexer outputs are well-formed tokens (`lex_wf`), well-formed tokens of an encoding
mean well-sized atoms (`atomsOk_of_wf`), hence a script that `decode_with_validation_params`
accepts is byte for byte the encoding of the miniscript it returns.
-/
import MsVerif.Lemmas.DecodeCanon
import MsVerif.Lemmas.LexCanon
import MsVerif.Lemmas.LexEncode

namespace MsVerif
namespace DecodeL
open Script LexL

theorem pushToken_wf {bs : Bytes} {t : Token} (h : pushToken bs = .ok t) : Token.wf t = true := by
  rcases pushToken_ok h with ⟨hl, rfl⟩ | ⟨hl, rfl⟩ | ⟨hl, rfl⟩ | ⟨hl, rfl⟩ | ⟨hlen, _, hnn, rfl⟩
  iterate 4 exact beq_iff_eq.mpr hl
  -- a number of at most 4 bytes
  have := numDecodeRaw_natAbs_lt hlen
  simp only [Token.wf, decide_eq_true_eq]
  omega

theorem opTokens_wf {s : Bool} {prev : Option Token} {b : UInt8} {toks : List Token}
    (h : opTokens s prev b = .ok toks) : WfAll toks := by
  rcases opTokens_ok h with ⟨_, rfl, _⟩ | ⟨c, _, _, rfl⟩ | ⟨_, h16, rfl⟩
  · unfold WfAll; decide
  · unfold WfAll; cases c <;> decide
  · intro t ht
    have := u8_toNat_lt b
    simp only [List.mem_singleton] at ht
    subst ht
    simp only [Token.wf, decide_eq_true_eq]
    omega

theorem instrTokens_wf {s : Bool} {prev : Option Token} {ins : Instr} {toks : List Token}
    (h : instrTokens s prev ins = .ok toks) : WfAll toks := by
  cases ins with
  | push bs =>
    simp only [instrTokens] at h
    cases hp : pushToken bs with
    | error e => simp [hp, Except.map] at h
    | ok t =>
      simp only [hp, Except.map, Except.ok.injEq] at h
      subst h
      intro x hx; simp at hx; subst hx; exact pushToken_wf hp
  | op b => exact opTokens_wf h

theorem lexB_wf {s : Bool} : ∀ {bs : Bytes} {prev : Option Token} {ts : List Token},
    lexB s prev bs = .ok ts → WfAll ts := by
  refine lexB_induct (P := fun _ _ ts => WfAll ts) (fun _ t ht => nomatch ht) ?_
  intro prev b rest ins rest' toks ts' _ ht ih t htm
  rcases List.mem_append.mp htm with hm | hm
  · exact instrTokens_wf ht t hm
  · exact ih t hm

theorem lex_wf {bs : Bytes} {ts : List Token} (h : lex bs = .ok ts) : WfAll ts :=
  lexB_wf (s := true) h

theorem keyLenOk_of_wf {env : KeyEnv} {k : Key} (h : Token.wf (keyTok (env.ser k)) = true) :
    keyLenOk env k := by
  unfold keyTok at h
  unfold keyLenOk
  split at h
  · right; left; assumption
  · split at h
    · right; right; assumption
    · left; simpa [Token.wf] using h

theorem multiA_mem (env : KeyEnv) (ks : List Key) (x : Key) (h : x ∈ ks) :
    keyTok (env.ser x) ∈ multiATokens env ks := by
  cases ks with
  | nil => cases h
  | cons k ks =>
    simp only [multiATokens, List.mem_append, List.mem_cons, List.mem_flatMap]
    rcases List.mem_cons.mp h with rfl | h
    · exact .inl (.inl rfl)
    · exact .inr ⟨x, h, .inl rfl⟩

mutual
theorem atomsOk_of_wf (env : KeyEnv) (ctx : Ctx) : (ms : Ms) → WfAll (tokens env ctx ms) → AtomsOk env ms
  | .tru, _ => trivial
  | .fls, _ => trivial
  | .pkK k, h => keyLenOk_of_wf (h _ (by simp [tokens]))
  | .pkH k, h => by
    have := h (.hash20 (env.pkh k)) (by simp [tokens])
    simpa [Token.wf, AtomsOk] using this
  | .rawPkH k, h => by
    have := h (.hash20 (env.rawPkh k)) (by simp [tokens])
    simpa [Token.wf, AtomsOk] using this
  | .after n, h | .older n, h => by
    have := h (.num n) (by simp [tokens]); simpa [Token.wf, AtomsOk] using this
  | .hash kind hh, h => by
    have := h (hashValTok kind (env.hashVal kind hh)) (by simp [tokens])
    cases kind <;> simpa [Token.wf, AtomsOk, hashValTok, hashLen] using this
  | .alt x, h | .swap x, h | .check x, h | .dupIf x, h
  | .verify x, h | .nonZero x, h | .zeroNotEqual x, h =>
    atomsOk_of_wf env ctx x (fun t ht => h t (by simp [tokens, ht]))
  | .andV l r, h | .andB l r, h | .orB l r, h
  | .orD l r, h | .orC l r, h | .orI l r, h =>
    ⟨atomsOk_of_wf env ctx l (fun t ht => h t (by simp [tokens, ht])),
      atomsOk_of_wf env ctx r (fun t ht => h t (by simp [tokens, ht]))⟩
  | .andOr a b c, h => ⟨atomsOk_of_wf env ctx a (fun t ht => h t (by simp [tokens, ht])),
      atomsOk_of_wf env ctx b (fun t ht => h t (by simp [tokens, ht])),
      atomsOk_of_wf env ctx c (fun t ht => h t (by simp [tokens, ht]))⟩
  | .thresh k xs, h => by
    refine ⟨?_, atomsOkL_of_wf env ctx true xs (fun t ht => h t (by simp [tokens, ht]))⟩
    have := h (.num k) (by simp [tokens]); simpa [Token.wf] using this
  | .multi k ks, h => by
    refine ⟨?_, ?_, fun x hx => keyLenOk_of_wf (h _ (by simp [tokens]; exact .inr (.inl ⟨x, hx, rfl⟩)))⟩
    · have := h (.num k) (by simp [tokens]); simpa [Token.wf] using this
    · have := h (.num ks.length) (by simp [tokens]); simpa [Token.wf] using this
  | .sortedMulti k ks, h => by
    refine ⟨?_, ?_, fun x hx => keyLenOk_of_wf (h _ (by
      simp [tokens]; exact .inr (.inl ⟨x, (mem_sortKeys env ks x).mpr hx, rfl⟩)))⟩
    · have := h (.num k) (by simp [tokens]); simpa [Token.wf] using this
    · have := h (.num ks.length) (by simp [tokens]); simpa [Token.wf] using this
  | .multiA k ks, h => by
    have hk := h (.num k) (by simp [tokens])
    exact ⟨by simpa [Token.wf] using hk, fun x hx => keyLenOk_of_wf (h _ (by
      simp only [tokens, List.mem_append]; exact .inl (multiA_mem env ks x hx)))⟩
  | .sortedMultiA k ks, h => by
    have hk := h (.num k) (by simp [tokens])
    exact ⟨by simpa [Token.wf] using hk, fun x hx => keyLenOk_of_wf (h _ (by
      simp only [tokens, List.mem_append]
      exact .inl (multiA_mem env _ x ((mem_sortKeys env ks x).mpr hx))))⟩
theorem atomsOkL_of_wf (env : KeyEnv) (ctx : Ctx) (first : Bool) : (xs : MsList) →
    WfAll (threshTokens env ctx first xs) → AtomsOkL env xs
  | .nil, _ => trivial
  | .cons x xs, h => ⟨atomsOk_of_wf env ctx x (fun t ht => h t (by simp [threshTokens, ht])),
      atomsOkL_of_wf env ctx false xs (fun t ht => h t (by simp [threshTokens, ht]))⟩
end

/-- what `decode_with_validation_params` accepts: the script lexes, the decoder consumes every token, and the result
passes the global context check, the type check and `validate(params)` -/
theorem decodeScriptP_eq_ok {p : DecParams} {dec : AtomDec} {env : KeyEnv} {ctx : Ctx} {bs : Bytes} {ms : Ms} :
    decodeScriptP p dec env ctx bs = .ok ms ↔
      ∃ toks, lex bs = .ok toks ∧ decodeToks dec env ctx toks = .ok (ms, []) ∧
        checkGlobal env ctx ms = true ∧ (typeOf ms).isSome = true ∧ validateWith p env ctx ms = true := by
  constructor
  · intro h
    unfold decodeScriptP at h
    cases hl : lex bs with
    | error e => simp [hl] at h
    | ok toks =>
      simp only [hl] at h
      cases hd : decodeToks dec env ctx toks with
      | error e => simp [hd] at h
      | ok r =>
        obtain ⟨top, rest⟩ := r
        simp only [hd] at h
        -- the four tests in the order of the code: each refusal is an error
        by_cases h1 : (!checkGlobal env ctx top) = true
        · rw [if_pos h1] at h; cases h
        rw [if_neg h1] at h
        by_cases h2 : (typeOf top).isNone = true
        · rw [if_pos h2] at h; cases h
        rw [if_neg h2] at h
        by_cases h3 : (!rest.isEmpty) = true
        · rw [if_pos h3] at h; cases h
        rw [if_neg h3] at h
        by_cases h4 : (!validateWith p env ctx top) = true
        · rw [if_pos h4] at h; cases h
        rw [if_neg h4] at h
        cases h
        cases rest with
        | cons a r => exact absurd rfl h3
        | nil =>
          refine ⟨toks, rfl, hd, by simpa using h1, ?_, by simpa using h4⟩
          cases ht : typeOf ms with
          | none => simp [ht] at h2
          | some t => rfl
  · rintro ⟨toks, hl, hd, hg, ht, hv⟩
    obtain ⟨t, ht⟩ := Option.isSome_iff_exists.mp ht
    simp [decodeScriptP, hl, hd, hg, ht, hv]

/-- T4: an accepted script is the encoding of the miniscript returned for it -/
theorem decodeScriptP_canonical {p : DecParams} {dec : AtomDec} {env : KeyEnv} {ctx : Ctx}
    (hs : DecSound dec env ctx) {bs : Bytes} {ms : Ms} (h : decodeScriptP p dec env ctx bs = .ok ms) :
    serialize (encode env ctx ms) = bs := by
  obtain ⟨toks, hl, hd, _⟩ := decodeScriptP_eq_ok.mp h
  have hw := lex_wf hl
  have hc := decodeToks_canonical hs hw hd
  have ht : tokens env ctx ms = toks := by
    have := congrArg List.reverse hc
    simpa [rt] using this.symm
  have hat : AtomsOk env ms := atomsOk_of_wf env ctx ms (by rw [ht]; exact hw)
  have hl2 : lex (serialize (encode env ctx ms)) = .ok toks := by
    rw [← ht]; exact lexG_encode env ctx true ms hat
  have e1 := lexStrict_canonical bs toks hl
  have e2 := lexStrict_canonical _ toks hl2
  rw [← e1, e2]

end DecodeL
end MsVerif
