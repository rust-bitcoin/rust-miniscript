/-
`at_age`, `at_lock_time`: truth tables; which atoms can occur in a normalized policy;
the lists `relative_timelocks` / `absolute_timelocks`.
-/
import MsVerif.Lemmas.PolicyNorm

namespace MsVerif.Pol
open Sem

theorem relImplied_eq_csvOk {a : Nat} (ha : a < 2147483648) (t : Nat) :
    relImplied t a = csvOk a t := by
  simp [relImplied, csvOk, seqDisabled, ha]

theorem absImplied_eq_cltvOk (n t : Nat) : absImplied t n = cltvOk n t := rfl

/-- `f` replaces the atoms that fail `keep` by `UNSATISFIABLE` and changes nothing else: the loops
of `at_age` and `at_lock_time` -/
structure Prunes (f : Policy → Policy) (keep : Atom → Bool) : Prop where
  unsat : f .unsat = .unsat
  trivial : f .trivial = .trivial
  atom : ∀ a, f (.atom a) = if keep a then .atom a else .unsat
  thresh : ∀ k subs, f (.thresh k subs) = .thresh k (subs.map f)

theorem Prunes.truth {f : Policy → Policy} {keep : Atom → Bool} (h : Prunes f keep)
    (v : Atom → Bool) : ∀ p, holdsA v (f p) = holdsA (fun a => keep a && v a) p := by
  intro p
  induction p using Policy.induct' with
  | unsat => rw [h.unsat]; rfl
  | trivial => rw [h.trivial]; rfl
  | atom a => rw [h.atom]; cases hk : keep a <;> simp [holdsA, hk]
  | thresh k subs ih =>
    rw [h.thresh, holdsA_thresh, holdsA_thresh, countP_map_congr f _ (holdsA v) subs ih]

theorem Prunes.kept {f : Policy → Policy} {keep : Atom → Bool} (h : Prunes f keep) :
    ∀ p, ∀ a ∈ atomsOf (f p), keep a = true := by
  intro p
  induction p using Policy.induct' with
  | unsat => rw [h.unsat]; simp [atomsOf]
  | trivial => rw [h.trivial]; simp [atomsOf]
  | atom x => rw [h.atom]; cases hk : keep x <;> simp [atomsOf, hk]
  | thresh k subs ih =>
    intro a ha
    rw [h.thresh, atomsOf_thresh, List.flatMap_map] at ha
    obtain ⟨x, hx, hxa⟩ := List.mem_flatMap.mp ha
    exact ih x hx a hxa

/-- the atoms an input of relative age `a` can still satisfy: the filter of `restrictAge` -/
def keepAge (a : Nat) : Atom → Bool
  | .older t => csvOk a t
  | _ => true

/-- same for the absolute lock time `n`: the filter of `restrictLockTime` -/
def keepLockTime (n : Nat) : Atom → Bool
  | .after t => cltvOk n t
  | _ => true

theorem restrictAge_eq (a : Nat) (v : Atom → Bool) :
    restrictAge a v = fun x => keepAge a x && v x := by
  funext x; cases x <;> rfl

theorem restrictLockTime_eq (n : Nat) (v : Atom → Bool) :
    restrictLockTime n v = fun x => keepLockTime n x && v x := by
  funext x; cases x <;> rfl

theorem prunes_atAgeRaw {a : Nat} (ha : a < 2147483648) : Prunes (atAgeRaw a) (keepAge a) :=
  ⟨rfl, rfl, fun x => by cases x <;> simp [atAgeRaw, keepAge, relImplied_eq_csvOk ha] <;> rfl,
    fun k subs => by rw [atAgeRaw, atAgeRawList_eq]⟩

theorem prunes_atLockTimeRaw (n : Nat) : Prunes (atLockTimeRaw n) (keepLockTime n) :=
  ⟨rfl, rfl, fun x => by cases x <;> simp [atLockTimeRaw, keepLockTime, absImplied_eq_cltvOk] <;> rfl,
    fun k subs => by rw [atLockTimeRaw, atLockTimeRawList_eq]⟩

theorem nTerminals_eq : ∀ p, nTerminals p = (atomsOf p).length := by
  intro p
  induction p using Policy.induct' with
  | unsat | trivial | atom _ => rfl
  | thresh k subs ih =>
    rw [nTerminals, nTerminalsList_eq, atomsOf_thresh, List.length_flatMap]
    exact congrArg _ (List.map_congr_left ih)

theorem atoms_normSub (a o : Bool) (x : Policy) :
    ((normSub a o x).flatMap atomsOf).Sublist (atomsOf x) := by
  cases x with
  | thresh k' ss =>
    cases a <;> cases o <;> simp only [normSub] <;> (try split) <;> simp [atomsOf_thresh]
  | _ => simp [normSub]

theorem atoms_normFinish (m : Nat) (a o : Bool) (ret : List Policy) :
    (atomsOf (normFinish m a o ret)).Sublist (ret.flatMap atomsOf) := by
  unfold normFinish
  repeat' split
  all_goals simp [atomsOf, atomsOfList_eq]

theorem atoms_normThresh (k : Nat) (subs : List Policy) :
    (atomsOf (normThresh k subs)).Sublist (subs.flatMap atomsOf) := by
  unfold normThresh
  refine (atoms_normFinish _ _ _ _).trans ?_
  rw [List.flatMap_assoc]
  exact sublist_flatMap _ fun x _ => atoms_normSub _ _ x

theorem atoms_normalized : ∀ p, (atomsOf (normalized p)).Sublist (atomsOf p) := by
  intro p
  induction p using Policy.induct' with
  | unsat | trivial | atom _ => simp [normalized]
  | thresh k subs ih =>
    rw [normalized_thresh, atomsOf_thresh]
    refine (atoms_normThresh _ _).trans ?_
    rw [List.flatMap_map]
    exact sublist_flatMap _ ih

theorem nTerminals_normalized (p : Policy) : nTerminals (normalized p) ≤ nTerminals p := by
  rw [nTerminals_eq, nTerminals_eq]
  exact (atoms_normalized p).length_le

theorem mem_dedupAdj (x : Nat) : ∀ l : List Nat, x ∈ dedupAdj l ↔ x ∈ l
  | [] => by simp [dedupAdj]
  | [a] => by simp [dedupAdj]
  | a :: b :: rest => by
    have ih := mem_dedupAdj x (b :: rest)
    rw [dedupAdj]
    split
    · rename_i h
      have : a = b := by simpa using h
      subst this
      rw [ih]; simp
    · rw [List.mem_cons, ih]; simp

theorem dedupAdj_strict : ∀ l : List Nat, l.Pairwise (· ≤ ·) → (dedupAdj l).Pairwise (· < ·)
  | [], _ => by simp [dedupAdj]
  | [a], _ => by simp [dedupAdj]
  | a :: b :: rest, h => by
    obtain ⟨ha, hrest⟩ := List.pairwise_cons.mp h
    have ih := dedupAdj_strict (b :: rest) hrest
    rw [dedupAdj]
    split
    · exact ih
    · rename_i hne
      have hab : a ≠ b := by simpa using hne
      refine List.pairwise_cons.mpr ⟨?_, ih⟩
      intro y hy
      rw [mem_dedupAdj] at hy
      have hby : b ≤ y := by
        rcases List.mem_cons.mp hy with h1 | h1
        · omega
        · exact (List.pairwise_cons.mp hrest).1 y h1
      have := ha b (by simp)
      omega

theorem mem_sortDedup (x : Nat) (l : List Nat) : x ∈ sortDedup l ↔ x ∈ l := by
  rw [sortDedup, mem_dedupAdj, List.mem_mergeSort]

theorem sortDedup_strict (l : List Nat) : (sortDedup l).Pairwise (· < ·) :=
  dedupAdj_strict _ (mergeSort_le_sorted l)

theorem mem_relativeTimelocks (p : Policy) (t : Nat) :
    t ∈ relativeTimelocks p ↔ Atom.older t ∈ atomsOf p := by
  rw [relativeTimelocks, mem_sortDedup, List.mem_filterMap]
  constructor
  · rintro ⟨a, ha, h⟩
    cases a <;> simp at h
    subst h; exact ha
  · intro h; exact ⟨_, h, rfl⟩

theorem mem_absoluteTimelocks (p : Policy) (t : Nat) :
    t ∈ absoluteTimelocks p ↔ Atom.after t ∈ atomsOf p := by
  rw [absoluteTimelocks, mem_sortDedup, List.mem_filterMap]
  constructor
  · rintro ⟨a, ha, h⟩
    cases a <;> simp at h
    subst h; exact ha
  · intro h; exact ⟨_, h, rfl⟩

end MsVerif.Pol
