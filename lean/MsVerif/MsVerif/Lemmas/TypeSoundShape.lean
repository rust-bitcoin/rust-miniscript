/-
C06: the stack shape every base type promises (`Post`, `PostN`), with the unit property (`u`: a
true result is exactly `[1]`) carried along, the bound `maxArgs` on the number of elements a fragment removes (`PostN`'s `N`), and what
CHECKMULTISIG and the script of `multi` / `sortedmulti` do on success (`multisig_ok`, `multi_ok`).
-/
import MsVerif.Lemmas.TypeSoundArgsThm
import MsVerif.Lemmas.CoreNum

namespace MsVerif.TypeSound
open MsVerif MsVerif.Script

/-- what a successful run of a fragment of correctness type `t` does to the stack `s ↦ s'`: `n` input elements
go (no bound on `n` here; `PostN` has one), a W fragment keeps the top element `x` and puts its result `v` below
it (`a:`) or above it (`s:`) -/
def Post (t : Corr) (s s' : List Bytes) : Prop :=
  match t.base with
  | .B => ∃ v n, s' = v :: s.drop n ∧ (t.unit = true → castToBool v = true → v = [1])
  | .V => ∃ n, s' = s.drop n
  | .K => ∃ k n, s' = k :: s.drop n
  | .W => ∃ x tl v n, s = x :: tl ∧ (s' = x :: v :: tl.drop n ∨ s' = v :: x :: tl.drop n) ∧
      (t.unit = true → castToBool v = true → v = [1])

theorem Post.B {t : Corr} {s s' : List Bytes} (hb : t.base = .B) :
    Post t s s' ↔ ∃ v n, s' = v :: s.drop n ∧ (t.unit = true → castToBool v = true → v = [1]) := by
  simp only [Post, hb]
theorem Post.V {t : Corr} {s s' : List Bytes} (hb : t.base = .V) : Post t s s' ↔ ∃ n, s' = s.drop n := by
  simp only [Post, hb]
theorem Post.K {t : Corr} {s s' : List Bytes} (hb : t.base = .K) : Post t s s' ↔ ∃ k n, s' = k :: s.drop n := by
  simp only [Post, hb]
theorem Post.W {t : Corr} {s s' : List Bytes} (hb : t.base = .W) :
    Post t s s' ↔ ∃ x tl v n, s = x :: tl ∧ (s' = x :: v :: tl.drop n ∨ s' = v :: x :: tl.drop n) ∧
      (t.unit = true → castToBool v = true → v = [1]) := by
  simp only [Post, hb]

/-- `Post` with an explicit bound `N` on the number `n` of input elements that were removed -/
def PostN (t : Corr) (N : Nat) (s s' : List Bytes) : Prop :=
  match t.base with
  | .B => ∃ v n, n ≤ N ∧ s' = v :: s.drop n ∧ (t.unit = true → castToBool v = true → v = [1])
  | .V => ∃ n, n ≤ N ∧ s' = s.drop n
  | .K => ∃ k n, n ≤ N ∧ s' = k :: s.drop n
  | .W => ∃ x tl v n, n ≤ N ∧ s = x :: tl ∧ (s' = x :: v :: tl.drop n ∨ s' = v :: x :: tl.drop n) ∧
      (t.unit = true → castToBool v = true → v = [1])

theorem PostN.B {t : Corr} {N : Nat} {s s' : List Bytes} (hb : t.base = .B) :
    PostN t N s s' ↔ ∃ v n, n ≤ N ∧ s' = v :: s.drop n ∧ (t.unit = true → castToBool v = true → v = [1]) := by
  simp only [PostN, hb]
theorem PostN.V {t : Corr} {N : Nat} {s s' : List Bytes} (hb : t.base = .V) :
    PostN t N s s' ↔ ∃ n, n ≤ N ∧ s' = s.drop n := by
  simp only [PostN, hb]
theorem PostN.K {t : Corr} {N : Nat} {s s' : List Bytes} (hb : t.base = .K) :
    PostN t N s s' ↔ ∃ k n, n ≤ N ∧ s' = k :: s.drop n := by
  simp only [PostN, hb]
theorem PostN.W {t : Corr} {N : Nat} {s s' : List Bytes} (hb : t.base = .W) :
    PostN t N s s' ↔ ∃ x tl v n, n ≤ N ∧ s = x :: tl ∧ (s' = x :: v :: tl.drop n ∨ s' = v :: x :: tl.drop n) ∧
      (t.unit = true → castToBool v = true → v = [1]) := by
  simp only [PostN, hb]

theorem PostN.toPost {t : Corr} {N : Nat} {s s' : List Bytes} (h : PostN t N s s') : Post t s s' := by
  cases hb : t.base with
  | B => obtain ⟨v, n, _, e, u⟩ := (PostN.B hb).1 h; exact (Post.B hb).2 ⟨v, n, e, u⟩
  | V => obtain ⟨n, _, e⟩ := (PostN.V hb).1 h; exact (Post.V hb).2 ⟨n, e⟩
  | K => obtain ⟨k, n, _, e⟩ := (PostN.K hb).1 h; exact (Post.K hb).2 ⟨k, n, e⟩
  | W => obtain ⟨x, tl, v, n, _, e1, e2, u⟩ := (PostN.W hb).1 h; exact (Post.W hb).2 ⟨x, tl, v, n, e1, e2, u⟩

mutual
/-- an upper bound, computable from the AST, on the number of input elements a fragment removes
(for a W fragment: below the element it finds on top) -/
def maxArgs : Ms → Nat
  | .tru | .fls | .after _ | .older _ | .pkK _ => 0
  | .pkH _ | .rawPkH _ | .hash _ _ => 1
  | .multi k _ | .sortedMulti k _ => k + 1
  | .multiA _ ks | .sortedMultiA _ ks => max 1 ks.length
  | .alt x | .verify x | .zeroNotEqual x => maxArgs x
  | .swap _ | .dupIf _ => 1
  | .check x => maxArgs x + 1
  | .nonZero x => max 1 (maxArgs x)
  | .andV l r | .andB l r | .orB l r | .orD l r | .orC l r => maxArgs l + maxArgs r
  | .andOr a b c => maxArgs a + max (maxArgs b) (maxArgs c)
  | .orI l r => 1 + max (maxArgs l) (maxArgs r)
  | .thresh _ xs => maxArgsL xs
def maxArgsL : MsList → Nat
  | .nil => 0
  | .cons x xs => maxArgs x + maxArgsL xs
end

theorem seqOps_pushes_ok {env : Env} (bs : List Bytes) {c c' : Core}
    (h : seqOps env (bs.map Op.push) c = .ok c') : c'.stack = bs.reverse ++ c.stack ∧ c'.alt = c.alt := by
  induction bs generalizing c with
  | nil => rw [List.map_nil] at h; cases seqOps_nil_ok h; exact ⟨rfl, rfl⟩
  | cons b bs ih =>
    rw [List.map_cons] at h
    obtain ⟨c1, h1, h2⟩ := seqOps_cons_ok h
    obtain ⟨hs1, ha1⟩ := pushData_ok h1
    obtain ⟨hs2, ha2⟩ := ih h2
    exact ⟨by rw [hs2, hs1, List.reverse_cons, List.append_assoc]; rfl, ha2.trans ha1⟩

/-- a successful CHECKMULTISIG(VERIFY): below the key count `nI` lie `nI` keys, the signature count
`mI`, `mI` signatures and the dummy; the matching loop gave `ok`, which is pushed (resp. checked) -/
theorem multisig_ok {env : Env} {c c' : Core} {v : Bool} (h : multisig env c v = .ok c') :
    ∃ nB r nI mB r1 mI dummy r2 ok, c.stack = nB :: r ∧ numDecode env.flags.minimalNum 4 nB = some nI ∧
      r.drop nI.toNat = mB :: r1 ∧ numDecode env.flags.minimalNum 4 mB = some mI ∧
      r1.drop mI.toNat = dummy :: r2 ∧ multisigLoop env (r1.take mI.toNat) (r.take nI.toNat) = .ok ok ∧
      c'.alt = c.alt ∧ (if v then c'.stack = r2 else c'.stack = boolBytes ok :: r2) := by
  obtain ⟨st, al, ops⟩ := c
  obtain ⟨nB, nI, keys, mB, mI, sigs, dummy, r2, ok, rfl, hnd, _, _, hkl, hmd, _, _, hsl, hloop, _, rfl⟩ := multisig_inv h
  exact ⟨nB, _, nI, mB, sigs ++ dummy :: r2, mI, dummy, r2, ok, rfl, hnd, List.drop_left' hkl, hmd,
    List.drop_left' hsl, by rw [List.take_left' hsl, List.take_left' hkl]; exact hloop, rfl, by cases v <;> rfl⟩

theorem drop_succ_of_drop_cons {α : Type} {s : List α} {m : Nat} {d : α} {r : List α}
    (h : s.drop m = d :: r) : s.drop (m + 1) = r := by
  rw [← List.drop_drop, h]; rfl

/-- `multi` / `sortedmulti` with key list `kl`: CHECKMULTISIG matches the top `k`
elements of the input against the keys, removes them and the dummy below, and pushes the outcome -/
theorem multi_ok {env : Env} (ke : KeyEnv) (k : Nat) (kl : List Key) {c c' : Core}
    (h : seqOps env ([pushInt k] ++ kl.map (fun pk => Op.push (ke.ser pk)) ++ [pushInt kl.length, .code .checkmultisig]) c
      = .ok c') :
    ∃ b dummy r2, c'.alt = c.alt ∧ c.stack.drop k = dummy :: r2 ∧
      multisigLoop env (c.stack.take k) (kl.map ke.ser).reverse = .ok b ∧ c'.stack = boolBytes b :: r2 := by
  obtain ⟨c2, h12, h3⟩ := seqOps_append_ok h
  obtain ⟨c1, h1, h2⟩ := seqOps_cons_ok (show seqOps env (pushInt k :: kl.map (fun pk => Op.push (ke.ser pk))) c = .ok c2 from h12)
  obtain ⟨hs1, ha1⟩ := pushInt_ok h1
  have hmm : kl.map (fun pk => Op.push (ke.ser pk)) = (kl.map ke.ser).map Op.push := by
    rw [List.map_map]; rfl
  rw [hmm] at h2
  obtain ⟨hs2, ha2⟩ := seqOps_pushes_ok _ h2
  obtain ⟨c3, h4, h5⟩ := seqOps_cons_ok h3
  obtain ⟨hs3, ha3⟩ := pushInt_ok h4
  obtain ⟨c4, h6, h7⟩ := seqOps_cons_ok h5
  cases seqOps_nil_ok h7
  obtain ⟨c3', hs, ha, h6⟩ := opc_inv (show opc env .checkmultisig c3 = .ok c' from h6)
  rw [execOpc_cms] at h6
  obtain ⟨nB, r, nI, mB, r1, mI, dummy, r2, b, e1, e2, e4, e5, e6, e7, e8, e9⟩ := multisig_ok h6
  rw [hs, hs3, hs2, hs1] at e1
  simp only [List.cons.injEq] at e1
  obtain ⟨rfl, rfl⟩ := e1
  cases numDecode_numEncode_inv e2
  have hlen : ((kl.length : Nat) : Int).toNat = ((kl.map ke.ser).reverse).length := by simp
  rw [hlen, List.drop_left] at e4
  rw [hlen, List.take_left] at e7
  simp only [List.cons.injEq] at e4
  obtain ⟨rfl, rfl⟩ := e4
  cases numDecode_numEncode_inv e5
  exact ⟨b, dummy, r2, by rw [e8, ha, ha3, ha2, ha1], e6, e7, e9⟩

end MsVerif.TypeSound
