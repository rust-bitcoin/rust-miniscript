/-
The decoder normal form `norm` (Model/Tokens.lean) re-brackets: it floats `and_v` operands out to the left of
`c:` `v:` `n:` and of the first operand of `and_b` `or_b` `or_d` `or_c` `andor` `thresh`, and nests the chains to
the left.  So it is invisible to every relation that the constructors respect and that contains these ten
re-bracketings (`NormRel.norm_rel`); tokens, encoding, type and spending condition are instances.
-/
import MsVerif.Model.Tokens

namespace MsVerif
namespace NormL

theorem mkAndV_snoc (A : List Ms) (a z : Ms) : mkAndV (A ++ [a]) z = .andV (mkAndV A a) z := by
  cases A with
  | nil => simp [mkAndV]
  | cons a0 A => simp [mkAndV, List.foldl_append]

theorem mkAndV_cons (p0 : Ms) (ps : List Ms) (l : Ms) :
    mkAndV (p0 :: ps) l = .andV (ps.foldl Ms.andV p0) l := by
  simp [mkAndV, List.foldl_append]

theorem mkAndV_concat (A : List Ms) (a : Ms) (B : List Ms) (z : Ms) :
    mkAndV (A ++ [a] ++ B) z = (B ++ [z]).foldl Ms.andV (mkAndV A a) := by
  cases A with
  | nil => simp [mkAndV]
  | cons a0 A => simp [mkAndV, List.foldl_append]


/-- `R a b`: "`a` may stand for `b`".  A preorder that every constructor respects and that contains
the decoder's re-bracketings `W(and_v(x,y),…) ⇝ and_v(x,W(y,…))`; `RL` is the same on `thresh` lists. -/
structure NormRel (R : Ms → Ms → Prop) (RL : MsList → MsList → Prop) : Prop where
  refl : ∀ a, R a a
  trans : ∀ {a b c}, R a b → R b c → R a c
  alt : ∀ {a b}, R a b → R (.alt a) (.alt b)
  swap : ∀ {a b}, R a b → R (.swap a) (.swap b)
  check : ∀ {a b}, R a b → R (.check a) (.check b)
  dupIf : ∀ {a b}, R a b → R (.dupIf a) (.dupIf b)
  verify : ∀ {a b}, R a b → R (.verify a) (.verify b)
  nonZero : ∀ {a b}, R a b → R (.nonZero a) (.nonZero b)
  zeroNotEqual : ∀ {a b}, R a b → R (.zeroNotEqual a) (.zeroNotEqual b)
  andV : ∀ {a b c d}, R a b → R c d → R (.andV a c) (.andV b d)
  andB : ∀ {a b c d}, R a b → R c d → R (.andB a c) (.andB b d)
  orB : ∀ {a b c d}, R a b → R c d → R (.orB a c) (.orB b d)
  orD : ∀ {a b c d}, R a b → R c d → R (.orD a c) (.orD b d)
  orC : ∀ {a b c d}, R a b → R c d → R (.orC a c) (.orC b d)
  orI : ∀ {a b c d}, R a b → R c d → R (.orI a c) (.orI b d)
  andOr : ∀ {a b c d e f}, R a b → R c d → R e f → R (.andOr a c e) (.andOr b d f)
  thresh : ∀ {k xs ys}, RL xs ys → R (.thresh k xs) (.thresh k ys)
  nil : RL .nil .nil
  cons : ∀ {a b xs ys}, R a b → RL xs ys → RL (.cons a xs) (.cons b ys)
  assoc : ∀ {a b c}, R (.andV (.andV a b) c) (.andV a (.andV b c))
  fCheck : ∀ {x y}, R (.andV x (.check y)) (.check (.andV x y))
  fVerify : ∀ {x y}, R (.andV x (.verify y)) (.verify (.andV x y))
  fZne : ∀ {x y}, R (.andV x (.zeroNotEqual y)) (.zeroNotEqual (.andV x y))
  fAndB : ∀ {x y w}, R (.andV x (.andB y w)) (.andB (.andV x y) w)
  fOrB : ∀ {x y w}, R (.andV x (.orB y w)) (.orB (.andV x y) w)
  fOrD : ∀ {x y w}, R (.andV x (.orD y w)) (.orD (.andV x y) w)
  fOrC : ∀ {x y w}, R (.andV x (.orC y w)) (.orC (.andV x y) w)
  fAndOr : ∀ {x y v w}, R (.andV x (.andOr y v w)) (.andOr (.andV x y) v w)
  fThresh : ∀ {x y k xs}, R (.andV x (.thresh k (.cons y xs))) (.thresh k (.cons (.andV x y) xs))

namespace NormRel
variable {R : Ms → Ms → Prop} {RL : MsList → MsList → Prop} (h : NormRel R RL)
include h

theorem foldl_congr (Q : List Ms) : ∀ {s s' : Ms}, R s s' → R (Q.foldl Ms.andV s) (Q.foldl Ms.andV s') := by
  induction Q with
  | nil => intro s s' e; exact e
  | cons q Q ih => intro s s' e; exact ih (h.andV e (h.refl q))

/-- `((L ∧ b₀) ∧ q₁ … ∧ qₙ)` for `L ∧ (b₀ ∧ q₁ … ∧ qₙ)` -/
theorem foldl_shift (Q : List Ms) : ∀ (L b0 : Ms),
    R (Q.foldl Ms.andV (.andV L b0)) (.andV L (Q.foldl Ms.andV b0)) := by
  induction Q with
  | nil => intro L b0; exact h.refl _
  | cons q Q ih => intro L b0; exact h.trans (h.foldl_congr Q h.assoc) (ih L (.andV b0 q))

theorem concat (A : List Ms) (a : Ms) (B : List Ms) (z : Ms) :
    R (mkAndV (A ++ [a] ++ B) z) (.andV (mkAndV A a) (mkAndV B z)) := by
  cases B with
  | nil => rw [List.append_nil, mkAndV_snoc]; exact h.refl _
  | cons b0 B =>
    rw [mkAndV_concat]; exact h.foldl_shift (B ++ [z]) _ b0

/-- a context whose rule lets an `and_v` operand out lets the whole chain out -/
theorem float {W : Ms → Ms} (hW : ∀ x y, R (.andV x (W y)) (W (.andV x y))) (A : List Ms) (z : Ms) :
    R (mkAndV A (W z)) (W (mkAndV A z)) := by
  cases A with
  | nil => exact h.refl _
  | cons p ps => rw [mkAndV_cons, mkAndV_cons]; exact hW _ _

-- `norm (W x)` unfolds to `mkAndV (normSeq x).1 (W (normSeq x).2)` and `norm x` to `mkAndV (normSeq x).1 (normSeq x).2`
-- by definition: that is what the elided arguments of `concat` and `float` below are unified against
mutual
theorem norm_rel : (ms : Ms) → R (norm ms) ms
  | .andV l r => h.trans (h.concat ..) (h.andV (norm_rel l) (norm_rel r))
  | .check x => h.trans (h.float (fun _ _ => h.fCheck) ..) (h.check (norm_rel x))
  | .verify x => h.trans (h.float (fun _ _ => h.fVerify) ..) (h.verify (norm_rel x))
  | .zeroNotEqual x => h.trans (h.float (fun _ _ => h.fZne) ..) (h.zeroNotEqual (norm_rel x))
  | .andB l r => h.trans (h.float (W := (.andB · _)) (fun _ _ => h.fAndB) ..) (h.andB (norm_rel l) (norm_rel r))
  | .orB l r => h.trans (h.float (W := (.orB · _)) (fun _ _ => h.fOrB) ..) (h.orB (norm_rel l) (norm_rel r))
  | .orD l r => h.trans (h.float (W := (.orD · _)) (fun _ _ => h.fOrD) ..) (h.orD (norm_rel l) (norm_rel r))
  | .orC l r => h.trans (h.float (W := (.orC · _)) (fun _ _ => h.fOrC) ..) (h.orC (norm_rel l) (norm_rel r))
  | .andOr a b c =>
    h.trans (h.float (W := (.andOr · _ _)) (fun _ _ => h.fAndOr) ..)
      (h.andOr (norm_rel a) (norm_rel b) (norm_rel c))
  | .thresh _ .nil => h.refl _
  | .thresh k (.cons x xs) =>
    h.trans (h.float (W := fun y => .thresh k (.cons y _)) (fun _ _ => h.fThresh) ..)
      (h.thresh (h.cons (norm_rel x) (normList_rel xs)))
  | .alt x => h.alt (norm_rel x)
  | .swap x => h.swap (norm_rel x)
  | .dupIf x => h.dupIf (norm_rel x)
  | .nonZero x => h.nonZero (norm_rel x)
  | .orI l r => h.orI (norm_rel l) (norm_rel r)
  | .tru | .fls | .pkK _ | .pkH _ | .rawPkH _ | .after _ | .older _ | .hash _ _
  | .multi _ _ | .sortedMulti _ _ | .multiA _ _ | .sortedMultiA _ _ => h.refl _
theorem normList_rel : (xs : MsList) → RL (normList xs) xs
  | .nil => h.nil
  | .cons x xs => h.cons (norm_rel x) (normList_rel xs)
end

end NormRel

end NormL
end MsVerif
