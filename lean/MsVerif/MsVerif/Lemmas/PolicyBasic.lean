/-
What the policy lemmas (C07, C08, C18) start from: induction principles for the nested policy types, the
list forms of the mutually recursive "…List" functions, concrete `and` / `or` / `thresh` nodes as k-of-n,
`chooseK` / `subsets` by membership, the recursive predicates on the children as `∀ c ∈ l`.
-/
import MsVerif.Model.Concrete

namespace MsVerif.Pol
open Sem

mutual
theorem Policy.induct' {P : Policy → Prop} (unsat : P .unsat) (trivial : P .trivial)
    (atom : ∀ a, P (.atom a))
    (thresh : ∀ k subs, (∀ p ∈ subs, P p) → P (.thresh k subs)) : ∀ p, P p
  | .unsat => unsat
  | .trivial => trivial
  | .atom a => atom a
  | .thresh k subs => thresh k subs (Policy.inductList unsat trivial atom thresh subs)
theorem Policy.inductList {P : Policy → Prop} (unsat : P .unsat) (trivial : P .trivial)
    (atom : ∀ a, P (.atom a))
    (thresh : ∀ k subs, (∀ p ∈ subs, P p) → P (.thresh k subs)) : ∀ (l : List Policy), ∀ p ∈ l, P p
  | [] => by simp
  | q :: qs => by
    intro p hp
    rcases List.mem_cons.mp hp with h | h
    · exact h ▸ Policy.induct' unsat trivial atom thresh q
    · exact Policy.inductList unsat trivial atom thresh qs p h
end

mutual
theorem CPolicy.induct' {P : CPolicy → Prop} (unsat : P .unsat) (trivial : P .trivial)
    (atom : ∀ a, P (.atom a))
    (and : ∀ subs, (∀ p ∈ subs, P p) → P (.and subs))
    (or : ∀ subs, (∀ p ∈ subs, P p) → P (.or subs))
    (thresh : ∀ k subs, (∀ p ∈ subs, P p) → P (.thresh k subs)) : ∀ p, P p
  | .unsat => unsat
  | .trivial => trivial
  | .atom a => atom a
  | .and subs => and subs (CPolicy.inductList unsat trivial atom and or thresh subs)
  | .or subs => or subs (CPolicy.inductList unsat trivial atom and or thresh subs)
  | .thresh k subs => thresh k subs (CPolicy.inductList unsat trivial atom and or thresh subs)
theorem CPolicy.inductList {P : CPolicy → Prop} (unsat : P .unsat) (trivial : P .trivial)
    (atom : ∀ a, P (.atom a))
    (and : ∀ subs, (∀ p ∈ subs, P p) → P (.and subs))
    (or : ∀ subs, (∀ p ∈ subs, P p) → P (.or subs))
    (thresh : ∀ k subs, (∀ p ∈ subs, P p) → P (.thresh k subs)) : ∀ (l : List CPolicy), ∀ p ∈ l, P p
  | [] => by simp
  | q :: qs => by
    intro p hp
    rcases List.mem_cons.mp hp with h | h
    · exact h ▸ CPolicy.induct' unsat trivial atom and or thresh q
    · exact CPolicy.inductList unsat trivial atom and or thresh qs p h
end

theorem countA_eq (v : Atom → Bool) (l : List Policy) : countA v l = l.countP (holdsA v) := by
  induction l with
  | nil => simp [countA]
  | cons p ps ih => rw [countA, ih, List.countP_cons]; omega

theorem countC_eq (v : Atom → Bool) (l : List CPolicy) : countC v l = l.countP (holdsC v) := by
  induction l with
  | nil => simp [countC]
  | cons p ps ih => rw [countC, ih, List.countP_cons]; omega

theorem holdsA_thresh (v : Atom → Bool) (k : Nat) (subs : List Policy) :
    holdsA v (.thresh k subs) = decide (k ≤ subs.countP (holdsA v)) := by
  rw [holdsA, countA_eq]

theorem normalizedList_eq (l : List Policy) : normalizedList l = l.map normalized := by
  induction l with
  | nil => simp [normalizedList]
  | cons p ps ih => simp [normalizedList, ih]

theorem normalized_thresh (k : Nat) (subs : List Policy) :
    normalized (.thresh k subs) = normThresh k (subs.map normalized) := by
  rw [normalized, normalizedList_eq]

theorem sortedList_eq (l : List Policy) : sortedList l = l.map sorted := by
  induction l with
  | nil => simp [sortedList]
  | cons p ps ih => simp [sortedList, ih]

theorem atAgeRawList_eq (a : Nat) (l : List Policy) : atAgeRawList a l = l.map (atAgeRaw a) := by
  induction l with
  | nil => simp [atAgeRawList]
  | cons p ps ih => simp [atAgeRawList, ih]

theorem atLockTimeRawList_eq (a : Nat) (l : List Policy) :
    atLockTimeRawList a l = l.map (atLockTimeRaw a) := by
  induction l with
  | nil => simp [atLockTimeRawList]
  | cons p ps ih => simp [atLockTimeRawList, ih]

theorem minimumNKeysList_eq (l : List Policy) : minimumNKeysList l = l.map minimumNKeys := by
  induction l with
  | nil => simp [minimumNKeysList]
  | cons p ps ih => simp [minimumNKeysList, ih]

theorem selsList_eq (l : List Policy) : selsList l = l.map sels := by
  induction l with
  | nil => simp [selsList]
  | cons p ps ih => simp [selsList, ih]

theorem selsCList_eq (u : Bool) (l : List CPolicy) : selsCList u l = l.map (selsC u) := by
  induction l with
  | nil => simp [selsCList]
  | cons p ps ih => simp [selsCList, ih]

theorem atomsOfList_eq (l : List Policy) : atomsOfList l = l.flatMap atomsOf := by
  induction l with
  | nil => simp [atomsOfList]
  | cons p ps ih => simp [atomsOfList, ih]

theorem atomsOfCList_eq (l : List CPolicy) : atomsOfCList l = l.flatMap atomsOfC := by
  induction l with
  | nil => rfl
  | cons p ps ih => simp [atomsOfCList, ih]

theorem atomsOf_thresh (k : Nat) (subs : List Policy) :
    atomsOf (.thresh k subs) = subs.flatMap atomsOf := by
  rw [atomsOf, atomsOfList_eq]

theorem satisfyConstraintList_eq (w : Policy) (b : Bool) (l : List Policy) :
    satisfyConstraintList w b l = l.map (satisfyConstraint w b) := by
  induction l with
  | nil => simp [satisfyConstraintList]
  | cons p ps ih => simp [satisfyConstraintList, ih]

theorem nTerminalsList_eq (l : List Policy) : nTerminalsList l = (l.map nTerminals).sum := by
  induction l with
  | nil => simp [nTerminalsList]
  | cons p ps ih => simp [nTerminalsList, ih]

theorem nKeysList_eq (l : List Policy) : nKeysList l = (l.map nKeys).sum := by
  induction l with
  | nil => simp [nKeysList]
  | cons p ps ih => simp [nKeysList, ih]

theorem isSafeNonmalleableList_eq (l : List CPolicy) :
    Conc.isSafeNonmalleableList l = l.map Conc.isSafeNonmalleable := by
  induction l with
  | nil => simp [Conc.isSafeNonmalleableList]
  | cons p ps ih => simp [Conc.isSafeNonmalleableList, ih]

theorem liftUncheckedList_eq (l : List CPolicy) :
    Conc.liftUncheckedList l = l.map Conc.liftUnchecked := by
  induction l with
  | nil => simp [Conc.liftUncheckedList]
  | cons p ps ih => simp [Conc.liftUncheckedList, ih]

theorem timelockInfoList_eq (l : List CPolicy) :
    Conc.timelockInfoList l = l.map Conc.timelockInfo := by
  induction l with
  | nil => simp [Conc.timelockInfoList]
  | cons p ps ih => simp [Conc.timelockInfoList, ih]

/-- `c` is the node "`k` of `subs`": `and` takes all of its children, `or` one, `thresh` `k` -/
inductive IsNode : CPolicy → Nat → List CPolicy → Prop
  | and (subs : List CPolicy) : IsNode (.and subs) subs.length subs
  | or (subs : List CPolicy) : IsNode (.or subs) 1 subs
  | thresh (k : Nat) (subs : List CPolicy) : IsNode (.thresh k subs) k subs

theorem CPolicy.inductNode {P : CPolicy → Prop} (unsat : P .unsat) (trivial : P .trivial)
    (atom : ∀ a, P (.atom a))
    (node : ∀ c k subs, IsNode c k subs → (∀ p ∈ subs, P p) → P c) : ∀ c, P c :=
  CPolicy.induct' unsat trivial atom (fun subs => node _ _ _ (.and subs))
    (fun subs => node _ _ _ (.or subs)) (fun k subs => node _ _ _ (.thresh k subs))

section
variable {c : CPolicy} {k : Nat} {subs : List CPolicy}

theorem holdsC_node (h : IsNode c k subs) (v : Atom → Bool) :
    holdsC v c = decide (k ≤ subs.countP (holdsC v)) := by
  cases h <;> rw [holdsC, countC_eq]

theorem selsC_node (h : IsNode c k subs) (u : Bool) :
    selsC u c = chooseK (subs.map (selsC u)) k := by
  cases h <;> rw [selsC, selsCList_eq]

theorem timelockInfo_node (h : IsNode c k subs) :
    Conc.timelockInfo c = Conc.combineOpt k (subs.map Conc.timelockInfo) := by
  cases h <;> rw [Conc.timelockInfo, timelockInfoList_eq]

end

theorem countP_map_congr {α β} (f : α → β) (p : α → Bool) (q : β → Bool) (l : List α)
    (h : ∀ x ∈ l, q (f x) = p x) : (l.map f).countP q = l.countP p := by
  rw [List.countP_map]
  exact List.countP_congr fun x hx => by simp [h x hx]

theorem cnt_all {α} (p : α → Bool) (l : List α) : decide (l.length ≤ l.countP p) = l.all p := by
  have := List.countP_le_length (p := p) (l := l)
  rw [Bool.eq_iff_iff, decide_eq_true_iff, List.all_eq_true, ← List.countP_eq_length]
  omega

theorem cnt_any {α} (p : α → Bool) (l : List α) : decide (1 ≤ l.countP p) = l.any p := by
  rw [Bool.eq_iff_iff, decide_eq_true_iff, List.any_eq_true]
  exact List.countP_pos_iff

theorem flatMap_singleton_of {α} (f : α → List α) (l : List α) (h : ∀ p ∈ l, f p = [p]) :
    l.flatMap f = l := by
  induction l with
  | nil => simp
  | cons x xs ih =>
    rw [List.flatMap_cons, h x (by simp), ih (fun p hp => h p (by simp [hp]))]
    rfl

theorem any_congr_mem {α} {p q : α → Bool} {l : List α} (h : ∀ x ∈ l, p x = q x) :
    l.any p = l.any q := by
  induction l with
  | nil => rfl
  | cons x xs ih =>
    rw [List.any_cons, List.any_cons, h x (by simp), ih (fun y hy => h y (by simp [hy]))]

theorem all_congr_mem {α} {p q : α → Bool} {l : List α} (h : ∀ x ∈ l, p x = q x) :
    l.all p = l.all q := by
  induction l with
  | nil => rfl
  | cons x xs ih =>
    rw [List.all_cons, List.all_cons, h x (by simp), ih (fun y hy => h y (by simp [hy]))]

theorem sublist_flatMap {α β} {f g : α → List β} (l : List α)
    (h : ∀ x ∈ l, (f x).Sublist (g x)) : (l.flatMap f).Sublist (l.flatMap g) := by
  induction l with
  | nil => simp
  | cons x xs ih =>
    rw [List.flatMap_cons, List.flatMap_cons]
    exact (h x (by simp)).append (ih fun y hy => h y (by simp [hy]))

theorem countP_not {α} (p : α → Bool) (l : List α) :
    l.countP (fun x => !p x) = l.length - l.countP p := by
  have := List.length_eq_countP_add_countP p (l := l)
  simp only [Bool.not_eq_true, Bool.decide_eq_false] at this
  omega

theorem chooseK_zero (alts : List (List (List Atom))) : chooseK alts 0 = [[]] := by
  cases alts <;> rfl

theorem mem_chooseK_zero (alts : List (List (List Atom))) (s : List Atom) :
    s ∈ chooseK alts 0 ↔ s = [] := by
  simp [chooseK_zero]

theorem mem_chooseK_cons (al : List (List Atom)) (rest : List (List (List Atom))) (k : Nat)
    (s : List Atom) :
    s ∈ chooseK (al :: rest) (k + 1) ↔
      s ∈ chooseK rest (k + 1) ∨ ∃ a ∈ al, ∃ r ∈ chooseK rest k, s = a ++ r := by
  simp only [chooseK, List.mem_append, List.mem_flatMap, List.mem_map]
  grind

theorem mem_subsets_iff : ∀ (l s : List Atom), s ∈ subsets l ↔ s.Sublist l
  | [], s => by simp [subsets]
  | a :: l, s => by
    simp only [subsets, List.mem_append, List.mem_map, mem_subsets_iff l]
    constructor
    · rintro (h | ⟨s', hs', rfl⟩)
      · exact h.cons a
      · exact hs'.cons_cons a
    · intro h
      cases h with
      | cons _ h' => exact Or.inl h'
      | cons_cons _ h' => exact Or.inr ⟨_, h', rfl⟩

theorem mergeSort_le_sorted (l : List Nat) :
    (l.mergeSort (fun a b => decide (a ≤ b))).Pairwise (· ≤ ·) := by
  have := List.pairwise_mergeSort (le := fun (a b : Nat) => decide (a ≤ b))
    (by intro a b c; simp; omega) (by intro a b; simp; omega) l
  simpa using this

theorem WFC_go_iff (l : List CPolicy) : WFC.go l = true ↔ ∀ c ∈ l, WFC c = true := by
  induction l with
  | nil => simp [WFC.go]
  | cons p ps ih => simp [WFC.go, ih]

theorem unsatFree_go_iff (l : List CPolicy) :
    unsatFree.go l = true ↔ ∀ c ∈ l, unsatFree c = true := by
  induction l with
  | nil => simp [unsatFree.go]
  | cons p ps ih => simp [unsatFree.go, ih]

theorem threshKPos_go_iff (l : List CPolicy) :
    threshKPos.go l = true ↔ ∀ c ∈ l, threshKPos c = true := by
  induction l with
  | nil => simp [threshKPos.go]
  | cons p ps ih => simp [threshKPos.go, ih]

theorem andOrNonEmpty_go_iff (l : List CPolicy) :
    andOrNonEmpty.go l = true ↔ ∀ c ∈ l, andOrNonEmpty c = true := by
  induction l with
  | nil => simp [andOrNonEmpty.go]
  | cons p ps ih => simp [andOrNonEmpty.go, ih]

theorem trivialFree_go_iff (l : List CPolicy) :
    trivialFree.go l = true ↔ ∀ c ∈ l, trivialFree c = true := by
  induction l with
  | nil => simp [trivialFree.go]
  | cons p ps ih => simp [trivialFree.go, ih]

theorem threshKPos_node {c : CPolicy} {k : Nat} {subs : List CPolicy} (hn : IsNode c k subs)
    (h : threshKPos c = true) :
    (∀ c ∈ subs, threshKPos c = true) ∧ (1 ≤ k ∨ (k = 0 ∧ subs = [])) := by
  cases hn with
  | and =>
    simp only [threshKPos, threshKPos_go_iff] at h
    exact ⟨h, by cases subs <;> simp⟩
  | or => simp only [threshKPos, threshKPos_go_iff] at h; exact ⟨h, .inl (Nat.le_refl _)⟩
  | thresh =>
    simp only [threshKPos, Bool.and_eq_true, decide_eq_true_eq, threshKPos_go_iff] at h
    exact ⟨h.2, .inl h.1⟩

end MsVerif.Pol
