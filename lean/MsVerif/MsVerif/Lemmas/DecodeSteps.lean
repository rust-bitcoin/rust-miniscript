/-
Multi-step runs of the decoder loop (`Steps`) and how they relate to `decodeLoop` with fuel.
-/
import MsVerif.Lemmas.DecodeFuel

namespace MsVerif
namespace DecodeL

variable {dec : AtomDec} {env : KeyEnv} {ctx : Ctx}

def Step (dec : AtomDec) (env : KeyEnv) (ctx : Ctx) (s s' : DState) : Prop :=
  ∃ top nt, s.nt = top :: nt ∧ stepNT dec env ctx top { s with nt := nt } = .ok s'

inductive Steps (dec : AtomDec) (env : KeyEnv) (ctx : Ctx) : DState → DState → Prop
  | refl (s : DState) : Steps dec env ctx s s
  | head {s s₁ s₂ : DState} (h : Step dec env ctx s s₁) (t : Steps dec env ctx s₁ s₂) : Steps dec env ctx s s₂

theorem Steps.trans {a b c : DState} (h1 : Steps dec env ctx a b) (h2 : Steps dec env ctx b c) :
    Steps dec env ctx a c := by
  induction h1 with
  | refl => exact h2
  | head h _ ih => exact .head h (ih h2)

theorem Steps.one {a b : DState} (h : Step dec env ctx a b) : Steps dec env ctx a b := .head h (.refl _)

theorem step_mk {toks : List Token} {top : NonTerm} {nt : List NonTerm} {term : List Ms} {s' : DState}
    (h : stepNT dec env ctx top ⟨toks, nt, term⟩ = .ok s') :
    Step dec env ctx ⟨toks, top :: nt, term⟩ s' := ⟨top, nt, rfl, h⟩

theorem step_loop {s s' : DState} (h : Step dec env ctx s s') (f : Nat) :
    decodeLoop dec env ctx (f + 1) s = decodeLoop dec env ctx f s' := by
  obtain ⟨top, nt, e, hs⟩ := h
  obtain ⟨toks, nt0, term⟩ := s
  simp only at e; subst e
  exact decodeLoop_ok hs

theorem step_measure {s s' : DState} (h : Step dec env ctx s s') : measure s' < measure s := by
  obtain ⟨top, nt, e, hs⟩ := h
  obtain ⟨toks, nt0, term⟩ := s
  simp only at e; subst e
  exact stepNT_measure hs

theorem steps_loop {s s' : DState} (h : Steps dec env ctx s s') :
    ∃ n, n + measure s' ≤ measure s ∧
      ∀ f, decodeLoop dec env ctx (n + f) s = decodeLoop dec env ctx f s' := by
  induction h with
  | refl s => exact ⟨0, by omega, fun f => by simp⟩
  | head h _ ih =>
    obtain ⟨n, hn, hf⟩ := ih
    have hm := step_measure h
    refine ⟨n + 1, by omega, fun f => ?_⟩
    have : n + 1 + f = (n + f) + 1 := by omega
    rw [this, step_loop h, hf]

theorem decodeLoop_mono : ∀ (f k : Nat) (s : DState) (r : Except DecodeErr (Ms × List Token)),
    decodeLoop dec env ctx f s = some r → decodeLoop dec env ctx (f + k) s = some r := by
  intro f
  induction f with
  | zero => intro k s r h; simp [decodeLoop] at h
  | succ f ih =>
    intro k s r h
    have : f + 1 + k = (f + k) + 1 := by omega
    rw [this]
    obtain ⟨toks, nt, term⟩ := s
    cases nt with
    | nil => exact h
    | cons top nt =>
      cases hs : stepNT dec env ctx top ⟨toks, nt, term⟩ with
      | error e => rw [decodeLoop_error hs] at h ⊢; exact h
      | ok s' => rw [decodeLoop_ok hs] at h ⊢; exact ih k s' r h

theorem decodeToks_of_steps {toks rest : List Token} {ms : Ms}
    (h : Steps dec env ctx (initState toks.reverse) ⟨rest, [], [ms]⟩) :
    decodeToks dec env ctx toks = .ok (ms, rest) := by
  obtain ⟨n, hn, hf⟩ := steps_loop h
  have h1 : decodeLoop dec env ctx (n + 1) (initState toks.reverse) = some (.ok (ms, rest)) := by
    rw [hf 1]; rfl
  have hm := measure_init toks.reverse
  have hle : n + 1 ≤ decodeFuel toks := by
    simp only [decodeFuel]
    simp only [List.length_reverse] at hm
    omega
  obtain ⟨k, hk⟩ := Nat.exists_eq_add_of_le hle
  have := decodeLoop_mono (n + 1) k _ _ h1
  simp only [decodeToks, hk, this]

end DecodeL
end MsVerif
