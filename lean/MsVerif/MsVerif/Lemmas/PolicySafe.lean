/-
`is_safe_nonmalleable`, first component: "every satisfaction needs a signature" = the policy
does not hold when nobody signs.  Selections are sublists of the policy's atoms.
`minimum_n_keys` against assignments.
-/
import MsVerif.Lemmas.PolicySels

namespace MsVerif.Pol
open Sem Conc

theorem all_noKeys_iff (s : List Atom) : s.all noKeys = !decide (1 ≤ nSigs s) := by
  induction s with
  | nil => simp [nSigs]
  | cons a s ih =>
    simp only [List.all_cons, ih, nSigs, List.countP_cons, noKeys]
    cases h : a.isKey <;> simp

/-- the library's `signed` flag is exact on well-formed policies -/
theorem safe_exact : ∀ c, WFC c = true → (isSafeNonmalleable c).1 = !holdsC noKeys c := by
  intro c
  induction c using CPolicy.induct' with
  | unsat | trivial => intro _; rfl
  | atom a => intro _; cases a <;> rfl
  | and subs ih =>
    intro hw
    simp only [WFC, WFC_go_iff] at hw
    simp only [isSafeNonmalleable, isSafeNonmalleableList_eq, List.any_map, holdsC, countC_eq]
    rw [cnt_all, List.not_all_eq_any_not]
    exact any_congr_mem (fun c hc => by simp [ih c hc (hw c hc)])
  | or subs ih =>
    intro hw
    simp only [WFC, Bool.and_eq_true, decide_eq_true_eq, WFC_go_iff] at hw
    simp only [isSafeNonmalleable, isSafeNonmalleableList_eq, List.all_map, holdsC, countC_eq]
    rw [cnt_any, List.not_any_eq_all_not]
    exact all_congr_mem (fun c hc => by simp [ih c hc (hw.2 c hc)])
  | thresh k subs ih =>
    intro hw
    simp only [WFC, Bool.and_eq_true, decide_eq_true_eq, WFC_go_iff] at hw
    simp only [isSafeNonmalleable, isSafeNonmalleableList_eq, safeNonmallThresh, List.countP_map,
      holdsC, countC_eq]
    have hc : subs.countP ((fun x => x.1) ∘ isSafeNonmalleable)
        = subs.countP (fun c => !holdsC noKeys c) :=
      List.countP_congr (fun c hc => by simp [ih c hc (hw.2 c hc)])
    rw [hc, countP_not]
    have := List.countP_le_length (p := holdsC noKeys) (l := subs)
    obtain ⟨⟨hk1, hkn⟩, _⟩ := hw
    rw [Bool.eq_iff_iff]
    simp only [decide_eq_true_eq, Bool.not_eq_true', decide_eq_false_iff_not]
    omega

theorem chooseK_sublist (subs : List Policy)
    (ih : ∀ p ∈ subs, ∀ s ∈ sels p, s.Sublist (atomsOf p)) :
    ∀ k, ∀ s ∈ chooseK (subs.map sels) k, s.Sublist (subs.flatMap atomsOf) := by
  induction subs with
  | nil =>
    intro k s hs
    cases k with
    | zero => simp [chooseK] at hs; subst hs; simp
    | succ k => simp [chooseK] at hs
  | cons x xs ihx =>
    intro k s hs
    have ihx' := ihx (fun p hp => ih p (by simp [hp]))
    cases k with
    | zero => rw [List.map_cons, mem_chooseK_zero] at hs; subst hs; simp
    | succ k =>
      rw [List.map_cons, mem_chooseK_cons] at hs
      rw [List.flatMap_cons]
      rcases hs with h | ⟨a, ha, r, hr, rfl⟩
      · exact (ihx' _ s h).trans (List.sublist_append_right _ _)
      · exact List.Sublist.append (ih x (by simp) a ha) (ihx' _ r hr)

theorem sels_sublist : ∀ p, ∀ s ∈ sels p, s.Sublist (atomsOf p) := by
  intro p
  induction p using Policy.induct' with
  | unsat => intro s hs; simp [sels] at hs
  | trivial => intro s hs; simp [sels] at hs; subst hs; simp
  | atom a => intro s hs; simp [sels] at hs; subst hs; simp [atomsOf]
  | thresh k subs ih =>
    intro s hs
    rw [sels, selsList_eq] at hs
    rw [atomsOf_thresh]
    exact chooseK_sublist subs ih k s hs

theorem nSigs_le_trueKeys (v : Atom → Bool) (p : Policy) (s : List Atom) (hs : s ∈ sels p)
    (hv : s.all v = true) : nSigs s ≤ trueKeys v p := by
  have hsub := (sels_sublist p s hs).filter (fun a => a.isKey && v a)
  have : s.filter (fun a => a.isKey && v a) = s.filter Atom.isKey := by
    apply List.filter_congr
    intro a ha
    rw [List.all_eq_true] at hv
    simp [hv a ha]
  rw [this] at hsub
  have := hsub.length_le
  simpa [nSigs, List.countP_eq_length_filter, trueKeys] using this

theorem holdsA_valOf_sel (p : Policy) (s : List Atom) (hs : s ∈ sels p) :
    holdsA (valOf s) p = true := by
  rw [holdsA_eq_good, good, List.any_eq_true]
  exact ⟨s, hs, by simp [valOf]⟩

theorem nSigs_sel_mem (p : Policy) (s : List Atom) (hs : s ∈ sels p) :
    nSigs s ∈ ((subsets (atomsOf p)).filter (fun ts => holdsA (valOf ts) p)).map nSigs :=
  List.mem_map.mpr ⟨s, List.mem_filter.mpr ⟨(mem_subsets_iff _ _).mpr (sels_sublist p s hs),
    by simpa using holdsA_valOf_sel p s hs⟩, rfl⟩

theorem minTrueKeys_none (p : Policy) (h : ∀ v, holdsA v p = false) : minTrueKeys p = none := by
  have : (subsets (atomsOf p)).filter (fun ts => holdsA (valOf ts) p) = [] :=
    List.filter_eq_nil_iff.mpr (fun ts _ => by simp [h])
  simp [minTrueKeys, this]

theorem trueKeys_valOf (p : Policy) (ts : List Atom) (hts : ts.Sublist (atomsOf p))
    (hd : ((atomsOf p).filter Atom.isKey).Nodup) : trueKeys (valOf ts) p = nSigs ts := by
  -- the two lists of keys are duplicate-free and have the same members
  have hperm : ((atomsOf p).filter (fun a => a.isKey && valOf ts a)).Perm
      (ts.filter Atom.isKey) := by
    refine (List.perm_ext_iff_of_nodup ?_ ((hts.filter _).nodup hd)).mpr fun a => ?_
    · have e : (fun a : Atom => a.isKey && valOf ts a) = fun a => valOf ts a && a.isKey :=
        funext fun a => Bool.and_comm _ _
      rw [e, ← List.filter_filter]
      exact List.filter_sublist.nodup hd
    · simp only [List.mem_filter, valOf, Bool.and_eq_true, List.contains_eq_mem,
        decide_eq_true_eq]
      exact ⟨fun h => ⟨h.2.2, h.2.1⟩, fun h => ⟨hts.subset h.1, h.2, h.1⟩⟩
  rw [trueKeys, nSigs, List.countP_eq_length_filter, hperm.length_eq]

end MsVerif.Pol
