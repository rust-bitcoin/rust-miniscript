/-
The index sort of `Satisfaction::thresh{,_mall}`: the members of a `LowerSet` of the sort order are a prefix of the
sorted indices (`sortIdx_take_mem`, `sortIdx_drop_mem`, `sortIdx_get_class`); the `mem::swap` of the first `k`
sorted children, entry by entry (`swapped_snd_get`, `swapped_fst_mem`); list lemmas on `getElem!`, `countP` and
sums over `List.range`.
-/
import MsVerif.Lemmas.CoreSat
import MsVerif.Lemmas.CoreSort

namespace MsVerif.Complete
open MsVerif Sat

structure LowerSet (key : Nat → SortKey) (P : Nat → Bool) : Prop where
  strict : ∀ i j, P i = true → P j = false → (key j).le (key i) = false
  before : ∀ i j, P j = true → P i = false → (key j).le (key i) = true

def PrefixP (P : Nat → Bool) (l : List Nat) : Prop :=
  l.Pairwise (fun a b => P b = true → P a = true)

/-- members of a lower set come first in the sorted list: a non-member before a member would be both
`≤` it (sortedness) and not (`strict`) -/
theorem sortIdx_prefix {key : Nat → SortKey} {P : Nat → Bool} (hP : LowerSet key P) (n : Nat) :
    PrefixP P (sortIdx key n) := by
  refine (sortIdx_sorted key n).imp (fun {a b} hab hPb => ?_)
  cases hPa : P a with
  | true => rfl
  | false => rw [hP.strict b a hPb hPa] at hab; cases hab

theorem prefix_split {P : Nat → Bool} (l : List Nat) (hl : PrefixP P l) :
    (∀ x ∈ l.take (l.countP P), P x = true) ∧ ∀ x ∈ l.drop (l.countP P), P x = false := by
  induction l with
  | nil => simp
  | cons a t ih =>
    obtain ⟨ha, ht⟩ := List.pairwise_cons.mp hl
    cases hPa : P a with
    | true =>
      rw [List.countP_cons_of_pos (by simpa using hPa), List.take_succ_cons, List.drop_succ_cons]
      exact ⟨fun x hx => (List.mem_cons.mp hx).elim (fun e => e ▸ hPa) ((ih ht).1 x), (ih ht).2⟩
    | false =>
      have hall : ∀ b ∈ t, P b = false := fun b hb => by
        cases hPb : P b with
        | false => rfl
        | true => have := ha b hb hPb; rw [hPa] at this; cases this
      rw [List.countP_cons_of_neg (by simp [hPa]),
        List.countP_eq_zero.mpr (fun b hb => by simp [hall b hb])]
      exact ⟨by simp, fun x hx => (List.mem_cons.mp hx).elim (fun e => e ▸ hPa) (hall x)⟩

theorem sortIdx_take_mem {key : Nat → SortKey} {P : Nat → Bool} (hP : LowerSet key P) (n k : Nat)
    (hk : k ≤ (List.range n).countP P) : ∀ x ∈ (sortIdx key n).take k, P x = true := by
  rw [← (sortIdx_perm key n).countP_eq] at hk
  exact fun x hx => (prefix_split _ (sortIdx_prefix hP n)).1 x (List.take_subset_take_left _ hk hx)

theorem sortIdx_drop_mem {key : Nat → SortKey} {P : Nat → Bool} (hP : LowerSet key P) (n k : Nat)
    (hk : (List.range n).countP P ≤ k) : ∀ x ∈ (sortIdx key n).drop k, P x = false := by
  rw [← (sortIdx_perm key n).countP_eq] at hk
  exact fun x hx => (prefix_split _ (sortIdx_prefix hP n)).2 x (List.drop_subset_drop_left _ hk hx)

theorem getElem!_mem_drop (l : List Nat) (k : Nat) (hk : k < l.length) : l[k]! ∈ l.drop k := by
  rw [getElem!_pos _ k hk, List.mem_iff_getElem]
  exact ⟨0, by simp; omega, by simp⟩

theorem getElem!_mem_take (l : List Nat) (k : Nat) (hk : 1 ≤ k) (hkl : k ≤ l.length) :
    l[k - 1]! ∈ l.take k := by
  rw [getElem!_pos _ (k - 1) (by omega), List.mem_iff_getElem]
  exact ⟨k - 1, by simp; omega, by simp⟩

theorem sortIdx_get_class {key : Nat → SortKey} {P : Nat → Bool} (hP : LowerSet key P) (n k : Nat)
    (hk : k < n) : P (sortIdx key n)[k]! = true ↔ k < (List.range n).countP P := by
  have hkl : k < (sortIdx key n).length := by rw [sortIdx_length]; exact hk
  constructor
  · intro h
    refine Nat.lt_of_not_le (fun hle => ?_)
    rw [sortIdx_drop_mem hP n k hle _ (getElem!_mem_drop _ _ hkl)] at h
    cases h
  · intro h
    exact sortIdx_take_mem hP n (k + 1) h _
      (by simpa using getElem!_mem_take (sortIdx key n) (k + 1) (Nat.le_add_left 1 k) hkl)

theorem lowerSet_of_downClosed {Q : SortKey → Bool}
    (hQ : ∀ a b : SortKey, a.le b = true → Q b = true → Q a = true) (key : Nat → SortKey) :
    LowerSet key (fun i => Q (key i)) where
  strict i j hi hj := by
    cases h : (key j).le (key i) with
    | false => rfl
    | true => rw [hQ _ _ h hi] at hj; cases hj
  before i j hj hi :=
    (SortKey.le_total (key j) (key i)).resolve_right (fun h => by rw [hQ _ _ h hj] at hi; cases hi)

theorem mem_drop_of_not_take (key : Nat → SortKey) (n k i : Nat) (hi : i < n)
    (hni : i ∉ (sortIdx key n).take k) : i ∈ (sortIdx key n).drop k := by
  have h : i ∈ (sortIdx key n).take k ++ (sortIdx key n).drop k := by
    rw [List.take_append_drop]; exact (mem_sortIdx key n i).mpr hi
  rcases List.mem_append.mp h with h | h
  · exact absurd h hni
  · exact h

theorem getElem!_map' {α β : Type} [Inhabited α] [Inhabited β] (f : α → β) (l : List α) (i : Nat)
    (h : i < l.length) : (l.map f)[i]! = f l[i]! := by
  rw [getElem!_pos _ i (by simpa using h), getElem!_pos _ i h]; simp

theorem map_range_getElem! {α β : Type} [Inhabited α] (l : List α) (F : α → β) :
    (List.range l.length).map (fun i => F l[i]!) = l.map F := by
  apply List.ext_getElem
  · simp
  · intro i h1 h2
    simp only [List.length_map, List.length_range] at h1
    simp [h1]

theorem countP_range_getElem! {α : Type} [Inhabited α] (l : List α) (q : α → Bool) :
    (List.range l.length).countP (fun i => q l[i]!) = l.countP q := by
  have := congrArg (List.countP id) (map_range_getElem! l q)
  simpa [List.countP_map, Function.comp_def] using this

theorem countP_range_of {α : Type} [Inhabited α] (l : List α) {P : Nat → Bool} {q : α → Bool}
    (h : ∀ j, j < l.length → P j = q l[j]!) : (List.range l.length).countP P = l.countP q := by
  rw [← countP_range_getElem! l q]
  exact List.countP_congr (fun j hj => by rw [h j (List.mem_range.mp hj)])

theorem exists_not_of_countP_lt {α : Type} {l : List α} {p : α → Bool} (h : l.countP p < l.length) :
    ∃ x ∈ l, p x = false := by
  apply Classical.byContradiction
  intro hno
  have hall : ∀ x ∈ l, p x = true := fun x hx => by
    cases hp : p x with
    | true => rfl
    | false => exact absurd ⟨x, hx, hp⟩ hno
  exact absurd (List.countP_eq_length.mpr hall) (Nat.ne_of_lt h)

theorem sum_map_le {α : Type} (l : List α) (f g : α → Nat) (h : ∀ x ∈ l, f x ≤ g x) :
    (l.map f).sum ≤ (l.map g).sum := by
  induction l with
  | nil => simp
  | cons a t ih =>
    simp only [List.map_cons, List.sum_cons]
    have := h a (by simp)
    have := ih (fun x hx => h x (by simp [hx]))
    omega

theorem swapped_snd_get (k : Nat) (idx : List Nat) (dissats sats : List Sat) (j : Nat)
    (hj : j < dissats.length) :
    (swapped k idx dissats sats).2[j]! =
      if (idx.take k).contains j then dissats[j]! else sats[j]! := by
  rw [swapped_snd]
  rw [getElem!_pos _ j (by simpa using hj)]
  simp

theorem swapped_fst_mem (k : Nat) (idx : List Nat) (dissats sats : List Sat) (s : Sat)
    (hs : s ∈ (swapped k idx dissats sats).1) :
    ∃ i, i < dissats.length ∧
      ((i ∈ idx.take k ∧ s = sats[i]!) ∨ (i ∉ idx.take k ∧ s = dissats[i]!)) := by
  rw [swapped_fst, List.mem_map] at hs
  obtain ⟨i, hi, rfl⟩ := hs
  refine ⟨i, List.mem_range.mp hi, ?_⟩
  by_cases hc : (idx.take k).contains i = true
  · left; exact ⟨by simpa using hc, by rw [if_pos hc]⟩
  · right; exact ⟨by simpa using hc, by rw [if_neg hc]⟩

end MsVerif.Complete
