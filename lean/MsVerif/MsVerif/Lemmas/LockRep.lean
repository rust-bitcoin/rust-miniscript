/-
`combine_threshold k` is the exact abstract transformer of "choose exactly `k` of the children":
if the children's infos represent their sets of path signatures (`Rep`), the folded info
represents `pickSigs`, the signatures of the paths that use exactly `k` children (`rep_pick`);
without `k ≥ 1` it is still above it (`above_pick`).  Used for concrete policies
(`Lemmas/PolicyTimelocks.lean`), whose selections, seen through their lock signature, are `pickSigs`.
-/
import MsVerif.Lemmas.LiftLocks

namespace MsVerif.Pol

/-- two members at different positions are related -/
def PairEx {α} (R : α → α → Prop) : List α → Prop
  | [] => False
  | x :: xs => (∃ y ∈ xs, R x y) ∨ PairEx R xs

theorem pairEx_length {α} {R : α → α → Prop} : ∀ {l : List α}, PairEx R l → 2 ≤ l.length
  | [], h => by simp [PairEx] at h
  | [_], h => by simp [PairEx] at h
  | _ :: _ :: _, _ => by simp

theorem pairEx_map_imp {α β γ} {R : β → β → Prop} {R' : γ → γ → Prop} (f : α → β) (g : α → γ) :
    ∀ (l : List α), (∀ x ∈ l, ∀ y ∈ l, R (f x) (f y) → R' (g x) (g y)) →
      PairEx R (l.map f) → PairEx R' (l.map g)
  | [], _, h => by simp [PairEx] at h
  | x :: xs, hR, h => by
    simp only [List.map_cons, PairEx, List.mem_map] at h ⊢
    rcases h with ⟨_, ⟨y, hy, rfl⟩, hxy⟩ | h
    · exact Or.inl ⟨_, ⟨y, hy, rfl⟩, hR x (by simp) y (by simp [hy]) hxy⟩
    · exact Or.inr (pairEx_map_imp f g xs
        (fun a ha b hb => hR a (by simp [ha]) b (by simp [hb])) h)

end MsVerif.Pol

namespace MsVerif.LiftLocks
open MsVerif MsVerif.MsSem
open MsVerif.Pol (PairEx pairEx_length pairEx_map_imp)

/-- signatures of the paths that use exactly `k` of the children (one path of each) -/
def pickSigs : List (List LockSig) → Nat → List LockSig
  | _, 0 => [{}]
  | [], _ + 1 => []
  | S :: Ss, k + 1 => unionSigs (pickSigs Ss (k + 1)) (crossSigs S (pickSigs Ss k))

theorem pickSigs_zero (Ss : List (List LockSig)) : pickSigs Ss 0 = [{}] := by
  cases Ss <;> rfl

theorem ne_pick : ∀ (Ss : List (List LockSig)) (k : Nat), (∀ S ∈ Ss, NE S) →
    (NE (pickSigs Ss k) ↔ k ≤ Ss.length)
  | Ss, 0, _ => by simp [pickSigs_zero, NE]
  | [], k + 1, _ => by simp [pickSigs, ne_nil]
  | S :: Ss, k + 1, h => by
    have hS : NE S := h S (by simp)
    have h' : ∀ S ∈ Ss, NE S := fun S' m => h S' (by simp [m])
    rw [pickSigs, ne_union, ne_cross, ne_pick Ss _ h', ne_pick Ss _ h']
    simp only [hS, true_and, List.length_cons]
    omega

theorem has_pick_zero {f : LockSig → Bool} (hf : f {} = false) (Ss : List (List LockSig)) :
    ¬ Has f (pickSigs Ss 0) := by
  simp [pickSigs_zero, has_singleton, hf]

theorem has_pick_bit (κ : Kind) : ∀ (Ss : List (List LockSig)) (k : Nat), (∀ S ∈ Ss, NE S) →
    (Has κ.sig (pickSigs Ss k) ↔ 1 ≤ k ∧ k ≤ Ss.length ∧ ∃ S ∈ Ss, Has κ.sig S)
  | Ss, 0, _ => by
    have := has_pick_zero (f := κ.sig) (by cases κ <;> rfl) Ss
    simp [this]
  | [], k + 1, _ => by simp [pickSigs, has_nil]
  | S :: Ss, k + 1, h => by
    have hS : NE S := h S (by simp)
    have h' : ∀ S ∈ Ss, NE S := fun S' m => h S' (by simp [m])
    have hE : (∃ S' ∈ Ss, Has κ.sig S') → 1 ≤ Ss.length := fun ⟨_, m, _⟩ => List.length_pos_of_mem m
    rw [pickSigs, has_union, has_cross_bit _ κ.sig_or, has_pick_bit κ Ss _ h', has_pick_bit κ Ss _ h',
      ne_pick Ss _ h']
    simp only [hS, and_true, List.length_cons, List.mem_cons, exists_eq_or_imp]
    -- "skip the head with k+1 ≤ n, or take it" against "k+1 ≤ n+1 and the head or a later child has the flag":
    -- arithmetic on k, n with `hE` (a later child with the flag makes n ≥ 1)
    grind

/-- two different children contribute the two units of one lock type -/
def Clash (Ss : List (List LockSig)) : Prop := PairEx HatS Ss

theorem hatS_pick (S : List LockSig) (Ss : List (List LockSig)) (k : Nat) (h : ∀ S ∈ Ss, NE S) :
    HatS S (pickSigs Ss k) ↔ 1 ≤ k ∧ k ≤ Ss.length ∧ ∃ S' ∈ Ss, HatS S S' := by
  simp only [HatS, has_pick_bit _ Ss k h]
  exact ⟨fun ⟨κ, a, b, c, S', m, d⟩ => ⟨b, c, S', m, κ, a, d⟩,
    fun ⟨b, c, S', m, κ, a, d⟩ => ⟨κ, a, b, c, S', m, d⟩⟩

theorem has_pick_mixed : ∀ (Ss : List (List LockSig)) (k : Nat), (∀ S ∈ Ss, NE S) →
    (Has LockSig.mixed (pickSigs Ss k) ↔
      (1 ≤ k ∧ k ≤ Ss.length ∧ ∃ S ∈ Ss, Has LockSig.mixed S)
      ∨ (2 ≤ k ∧ k ≤ Ss.length ∧ Clash Ss))
  | Ss, 0, _ => by
    have := has_pick_zero (f := LockSig.mixed) rfl Ss
    simp [this]
  | [], k + 1, _ => by simp [pickSigs, has_nil, Clash, PairEx]
  | S :: Ss, k + 1, h => by
    have hS : NE S := h S (by simp)
    have h' : ∀ S ∈ Ss, NE S := fun S' m => h S' (by simp [m])
    have hM : (∃ S' ∈ Ss, Has LockSig.mixed S') → 1 ≤ Ss.length :=
      fun ⟨_, m, _⟩ => List.length_pos_of_mem m
    have hH : (∃ S' ∈ Ss, HatS S S') → 1 ≤ Ss.length := fun ⟨_, m, _⟩ => List.length_pos_of_mem m
    have hP : Clash Ss → 2 ≤ Ss.length := pairEx_length
    rw [pickSigs, has_union, has_cross_mixed, has_pick_mixed Ss _ h', has_pick_mixed Ss _ h',
      ne_pick Ss _ h', hatS_pick S Ss k h']
    simp only [hS, and_true, List.length_cons, List.mem_cons, exists_eq_or_imp, Clash, PairEx] at hP ⊢
    -- the same regrouping for "mixed": the clash is between the head and a later child, or among the later ones;
    -- `hM`, `hH`, `hP` give the lower bounds on n that the skipped-head disjuncts need
    grind

theorem hat_step (k : Nat) (acc t x : TimelockInfo) :
    hat (step k acc t) x = true ↔ hat acc x = true ∨ hat t x = true := by
  simp only [hat_iff_exists, Kind.info_step, Bool.or_eq_true, or_and_right, exists_or]

theorem info_foldl (κ : Kind) (k : Nat) (ts : List TimelockInfo) : ∀ acc,
    κ.info (ts.foldl (step k) acc) = (κ.info acc || ts.any κ.info) := by
  induction ts with
  | nil => simp
  | cons t ts ih => intro acc; rw [List.foldl_cons, ih, κ.info_step, List.any_cons, Bool.or_assoc]

theorem comb_foldl (k : Nat) (ts : List TimelockInfo) : ∀ acc,
    (ts.foldl (step k) acc).containsCombination = true ↔
      acc.containsCombination = true ∨ (∃ t ∈ ts, t.containsCombination = true)
      ∨ (1 < k ∧ ((∃ t ∈ ts, hat acc t = true) ∨ PairEx (fun a b => hat a b = true) ts)) := by
  induction ts with
  | nil => simp [PairEx]
  | cons t ts ih =>
    intro acc
    rw [List.foldl_cons, ih, LiftLocks.step_comb]
    simp only [hat_step, List.mem_cons, exists_eq_or_imp, PairEx]
    -- both sides are the same disjuncts (`acc`, `t`, a later `t'`; `hat acc t`, `hat acc t'`, `hat t t'`, a later pair), regrouped
    grind

theorem rep_congr {t : TimelockInfo} {S S' : List LockSig} (h : Rep t S) (e : ∀ x, x ∈ S ↔ x ∈ S') :
    Rep t S' := by
  have hh : ∀ f, Has f S ↔ Has f S' := fun f => by simp only [Has, e]
  exact ⟨by have := h.ne; simpa only [NE, e] using this, fun κ => by rw [h.bit, hh], by rw [h.mx, hh]⟩

theorem exists_mem_map' {α β} (f : α → β) (xs : List α) (p : β → Prop) :
    (∃ y ∈ xs.map f, p y) ↔ ∃ x ∈ xs, p (f x) :=
  ⟨fun ⟨_, m, h⟩ => by obtain ⟨x, hx, rfl⟩ := List.mem_map.mp m; exact ⟨x, hx, h⟩,
   fun ⟨x, hx, h⟩ => ⟨_, List.mem_map_of_mem hx, h⟩⟩

theorem rep_pick {α} (xs : List α) (ti : α → TimelockInfo) (S : α → List LockSig)
    (h : ∀ x ∈ xs, Rep (ti x) (S x)) {k : Nat} (hk1 : 1 ≤ k) (hkn : k ≤ xs.length) :
    Rep (TimelockInfo.combineThreshold k (xs.map ti)) (pickSigs (xs.map S) k) := by
  have hNE : ∀ T ∈ xs.map S, NE T := by
    intro T hT; obtain ⟨x, hx, rfl⟩ := List.mem_map.mp hT; exact (h x hx).ne
  have hlen : k ≤ (xs.map S).length := by simpa using hkn
  refine ⟨(ne_pick _ _ hNE).mpr hlen, fun κ => ?_, ?_⟩
  · rw [combineThreshold_eq, info_foldl, Kind.info_empty, Bool.false_or, has_pick_bit κ _ _ hNE,
      List.any_eq_true, exists_mem_map', exists_mem_map']
    simp only [hk1, hlen, true_and]
    exact exists_congr fun x => and_congr_right fun hx => (h x hx).bit κ
  · have e1 : (∃ t ∈ xs.map ti, t.containsCombination = true) ↔
        ∃ T ∈ xs.map S, Has LockSig.mixed T := by
      rw [exists_mem_map', exists_mem_map']
      exact exists_congr fun x => and_congr_right fun hx => (h x hx).mx
    have e2 : PairEx (fun a b => hat a b = true) (xs.map ti) ↔ Clash (xs.map S) :=
      ⟨pairEx_map_imp ti S xs fun x hx y hy => (hat_iff (h x hx) (h y hy)).mp,
       pairEx_map_imp S ti xs fun x hx y hy => (hat_iff (h x hx) (h y hy)).mpr⟩
    have h0 : ∀ t, hat {} t = false := fun _ => rfl
    rw [combineThreshold_eq, comb_foldl, has_pick_mixed _ _ hNE, e1, e2]
    simp only [h0, hk1, hlen, Bool.false_eq_true, and_false, exists_false, false_or, true_and]
    rfl

def Above (t : TimelockInfo) (S : List LockSig) : Prop :=
  (∀ κ : Kind, Has κ.sig S → κ.info t = true) ∧ (Has LockSig.mixed S → t.containsCombination = true)

theorem rep_above {t : TimelockInfo} {S : List LockSig} (h : Rep t S) : Above t S :=
  ⟨fun κ => (h.bit κ).mpr, h.mx.mpr⟩

theorem above_pick {α} (xs : List α) (ti : α → TimelockInfo) (S : α → List LockSig)
    (hne : ∀ x ∈ xs, NE (S x)) (h : ∀ x ∈ xs, Above (ti x) (S x)) (k : Nat) :
    Above (TimelockInfo.combineThreshold k (xs.map ti)) (pickSigs (xs.map S) k) := by
  have hNE : ∀ T ∈ xs.map S, NE T := by
    intro T hT; obtain ⟨x, hx, rfl⟩ := List.mem_map.mp hT; exact hne x hx
  constructor
  · intro κ hκ
    obtain ⟨_, _, hex⟩ := (has_pick_bit κ _ _ hNE).mp hκ
    obtain ⟨x, hx, hh⟩ := (exists_mem_map' S xs _).mp hex
    rw [combineThreshold_eq, info_foldl, Bool.or_eq_true, List.any_eq_true]
    exact .inr ⟨_, List.mem_map_of_mem hx, (h x hx).1 κ hh⟩
  · intro hm
    rw [combineThreshold_eq, comb_foldl]
    rcases (has_pick_mixed _ _ hNE).mp hm with ⟨_, _, hex⟩ | ⟨h2, _, hcl⟩
    · obtain ⟨x, hx, hh⟩ := (exists_mem_map' S xs _).mp hex
      exact .inr (.inl ⟨_, List.mem_map_of_mem hx, (h x hx).2 hh⟩)
    · refine .inr (.inr ⟨h2, .inr (pairEx_map_imp S ti xs ?_ hcl)⟩)
      exact fun x hx y hy ⟨κ, h1, h2⟩ =>
        (hat_iff_exists _ _).mpr ⟨κ, (h x hx).1 κ h1, (h y hy).1 κ.conj h2⟩

end MsVerif.LiftLocks
