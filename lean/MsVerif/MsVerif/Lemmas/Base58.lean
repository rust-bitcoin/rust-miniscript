/-
Lemmas for C16 (addresses): Base58 / Base58Check decoding inverts encoding, for every byte
string (generic part: positional notation in a base `b ≥ 2`); the real hash functions have the
standard digest sizes; legacy address strings decode back to network class, kind and hash.
-/
import MsVerif.Spec.Base58
import MsVerif.Spec.Address

namespace MsVerif.Address
open MsVerif

theorem sha256_length (m : Hash.Bytes) : (Hash.sha256 m).length = 32 := by
  simp [Hash.sha256, Hash.toBe32]

theorem ripemd160_length (m : Hash.Bytes) : (Hash.ripemd160 m).length = 20 := by
  simp [Hash.ripemd160, Hash.toLe32, Hash.toBe32]

theorem hash256_length (m : Hash.Bytes) : (Hash.hash256 m).length = 32 := sha256_length _
theorem hash160_length (m : Hash.Bytes) : (Hash.hash160 m).length = 20 := ripemd160_length _

end MsVerif.Address

namespace MsVerif.Base58

theorem ofDigits_digits (b : Nat) (hb : 2 ≤ b) : ∀ fuel n, n ≤ fuel →
    ofDigitsLE b (digitsLE b fuel n) = n
  | 0, n, h => by
    have : n = 0 := by omega
    subst this; rfl
  | fuel + 1, n, h => by
    simp only [digitsLE]
    split
    · rename_i h0; subst h0; rfl
    · rename_i h0
      have hlt : n / b < n := Nat.div_lt_self (by omega) (by omega)
      simp only [ofDigitsLE, ofDigits_digits b hb fuel (n / b) (by omega)]
      exact Nat.mod_add_div n b

theorem digits_lt (b : Nat) (hb : 2 ≤ b) : ∀ fuel n, ∀ d ∈ digitsLE b fuel n, d < b
  | 0, _, d, h => by simp [digitsLE] at h
  | fuel + 1, n, d, h => by
    simp only [digitsLE] at h
    split at h
    · simp at h
    · rcases List.mem_cons.mp h with rfl | h
      · exact Nat.mod_lt _ (by omega)
      · exact digits_lt b hb fuel _ d h

theorem digits_getLast (b : Nat) (hb : 2 ≤ b) : ∀ fuel n, n ≤ fuel →
    (digitsLE b fuel n).getLast? ≠ some 0
  | 0, n, _ => by simp [digitsLE]
  | fuel + 1, n, h => by
    simp only [digitsLE]
    split
    · simp
    · rename_i h0
      have hlt : n / b < n := Nat.div_lt_self (by omega) (by omega)
      have ih := digits_getLast b hb fuel (n / b) (by omega)
      by_cases hq : n / b = 0
      · have : digitsLE b fuel (n / b) = [] := by
          rw [hq]; cases fuel <;> simp [digitsLE]
        rw [this]
        simp only [List.getLast?_singleton, ne_eq, Option.some.injEq]
        intro hm
        have := Nat.mod_add_div n b
        rw [hm, hq] at this
        omega
      · have hne : digitsLE b fuel (n / b) ≠ [] := by
          cases fuel with
          | zero =>
            have h1 : n = 1 := by omega
            exact absurd (by rw [h1]; exact Nat.div_eq_of_lt (by omega)) hq
          | succ f => simp [digitsLE, hq]
        rw [List.getLast?_cons_of_ne_nil hne]
        exact ih

theorem ofDigits_ne_zero (b : Nat) (hb : 2 ≤ b) : ∀ l : List Nat, l ≠ [] → l.getLast? ≠ some 0 →
    ofDigitsLE b l ≠ 0
  | [d], _, h => by simpa [ofDigitsLE] using h
  | d :: e :: es, _, h => by
    have ih := ofDigits_ne_zero b hb (e :: es) (List.cons_ne_nil _ _)
      (by rwa [List.getLast?_cons_of_ne_nil (List.cons_ne_nil _ _)] at h)
    have := Nat.mul_pos (by omega : 0 < b) (Nat.pos_of_ne_zero ih)
    simp only [ofDigitsLE] at this ⊢
    omega

theorem digits_ofDigits (b : Nat) (hb : 2 ≤ b) : ∀ (l : List Nat) fuel,
    (∀ d ∈ l, d < b) → l.getLast? ≠ some 0 → ofDigitsLE b l ≤ fuel →
    digitsLE b fuel (ofDigitsLE b l) = l
  | [], fuel, _, _, _ => by cases fuel <;> rfl
  | d :: ds, fuel, hlt, hlast, hfuel => by
    have hd : d < b := hlt d (List.mem_cons_self ..)
    have hpos := ofDigits_ne_zero b hb (d :: ds) (List.cons_ne_nil _ _) hlast
    cases fuel with
    | zero => omega
    | succ fuel =>
      have hmod : ofDigitsLE b (d :: ds) % b = d := by
        rw [ofDigitsLE, Nat.add_mul_mod_self_left]
        exact Nat.mod_eq_of_lt hd
      have hdiv : ofDigitsLE b (d :: ds) / b = ofDigitsLE b ds := by
        rw [ofDigitsLE, Nat.add_mul_div_left _ _ (by omega : 0 < b), Nat.div_eq_of_lt hd, Nat.zero_add]
      have hlast' : ds.getLast? ≠ some 0 := by
        cases ds with
        | nil => nofun
        | cons e es => rwa [List.getLast?_cons_of_ne_nil (List.cons_ne_nil _ _)] at hlast
      have hle : ofDigitsLE b ds ≤ fuel := by
        have := Nat.div_lt_self (Nat.pos_of_ne_zero hpos) (by omega : 1 < b)
        omega
      rw [digitsLE, if_neg hpos, hmod, hdiv,
        digits_ofDigits b hb ds fuel (fun x hx => hlt x (List.mem_cons_of_mem _ hx)) hlast' hle]

theorem bytesOfNat_natOfBytes (rest : List UInt8) (h : rest.head? ≠ some 0) :
    bytesOfNat (natOfBytes rest) = rest := by
  unfold bytesOfNat natOfBytes
  have hl : ∀ d ∈ rest.reverse.map UInt8.toNat, d < 256 := by
    intro d hd
    obtain ⟨x, _, rfl⟩ := List.mem_map.mp hd
    exact UInt8.toNat_lt x
  have hlast : (rest.reverse.map UInt8.toNat).getLast? ≠ some 0 := by
    rw [List.getLast?_map, List.getLast?_reverse]
    cases rest with
    | nil => simp
    | cons x xs =>
      simp only [List.head?_cons, Option.map_some, ne_eq, Option.some.injEq] at h ⊢
      intro hx
      exact h (UInt8.toNat_inj.mp (by simpa using hx))
  rw [digits_ofDigits 256 (by omega) _ _ hl hlast (Nat.le_refl _)]
  simp [List.map_reverse, List.map_map, Function.comp_def]

theorem pairwise_lt_of_adjacent : ∀ l : List Nat, (∀ p ∈ l.zip l.tail, p.1 < p.2) → l.Pairwise (· < ·)
  | [], _ => List.Pairwise.nil
  | [_], _ => List.pairwise_singleton _ _
  | a :: b :: l, h => by
    have ih := pairwise_lt_of_adjacent (b :: l) fun p hp => h p (List.mem_cons_of_mem _ hp)
    have hab : a < b := h (a, b) (List.mem_cons_self ..)
    refine List.pairwise_cons.mpr ⟨fun c hc => ?_, ih⟩
    rcases List.mem_cons.mp hc with rfl | hc
    · exact hab
    · exact Nat.lt_trans hab ((List.pairwise_cons.mp ih).1 c hc)

/-- all that is computed about the alphabet, in one evaluation (unpacking the string literal is
what is costly to evaluate): 58 characters, `'1'` first, code points strictly increasing -/
theorem alphabet_shape : alphabet.length = 58 ∧ alphabet[0]? = some '1' ∧
    ∀ p ∈ (alphabet.map Char.toNat).zip (alphabet.map Char.toNat).tail, p.1 < p.2 := by
  decide +kernel

theorem alphabet_nodup : alphabet.Nodup :=
  (List.pairwise_map.mp (pairwise_lt_of_adjacent _ alphabet_shape.2.2)).imp
    fun {a b} (hlt : a.toNat < b.toNat) (e : a = b) => Nat.lt_irrefl _ (e ▸ hlt)

theorem digitOfChar_charOfDigit : ∀ d, d < 58 → digitOfChar (charOfDigit d) = some d := by
  intro d hd
  have hd' : d < alphabet.length := by rw [alphabet_shape.1]; exact hd
  have hidx : alphabet.idxOf (alphabet.getD d '?') = d := by
    rw [List.getD_eq_getElem?_getD, List.getElem?_eq_getElem hd']
    exact alphabet_nodup.idxOf_getElem d hd'
  unfold digitOfChar charOfDigit
  rw [hidx]
  exact if_pos hd

theorem charOfDigit_ne_one : ∀ d, d < 58 → d ≠ 0 → charOfDigit d ≠ '1' := by
  intro d hd h0 e
  have h1 : charOfDigit 0 = '1' := by
    simp only [charOfDigit, List.getD_eq_getElem?_getD, alphabet_shape.2.1, Option.getD_some]
  have h := digitOfChar_charOfDigit d hd
  rw [e, ← h1, digitOfChar_charOfDigit 0 (by omega)] at h
  exact h0 (Option.some.inj h).symm

theorem mapM_digitOfChar (ds : List Nat) (h : ∀ d ∈ ds, d < 58) :
    (ds.map charOfDigit).mapM digitOfChar = some ds := by
  induction ds with
  | nil => rfl
  | cons d ds ih =>
    have hd := digitOfChar_charOfDigit d (h d (by simp))
    have := ih (fun x hx => h x (by simp [hx]))
    simp [List.mapM_cons, hd, this]

theorem leading_replicate_append {α : Type} [BEq α] [LawfulBEq α] (z : α) (n : Nat) (l : List α)
    (h : l.head? ≠ some z) :
    leading z (List.replicate n z ++ l) = n ∧ (List.replicate n z ++ l).drop n = l := by
  have hp : ∀ a ∈ List.replicate n z, (a == z) = true := fun a ha => by
    rw [List.eq_of_mem_replicate ha]; exact beq_self_eq_true z
  have hl : l.takeWhile (· == z) = [] := by
    cases l with
    | nil => rfl
    | cons x xs => exact List.takeWhile_cons_of_neg (by simpa using h)
  exact ⟨by rw [leading, List.takeWhile_append_of_pos hp, hl, List.append_nil, List.length_replicate],
    List.drop_left' List.length_replicate⟩

theorem split_leading {α : Type} [BEq α] [LawfulBEq α] (z : α) : ∀ l : List α,
    l = List.replicate (leading z l) z ++ l.drop (leading z l) ∧
      (l.drop (leading z l)).head? ≠ some z := by
  intro l
  have htw : l.takeWhile (· == z) = List.replicate (leading z l) z :=
    List.eq_replicate_iff.mpr ⟨rfl, fun b hb => eq_of_beq (List.all_eq_true.mp List.all_takeWhile b hb)⟩
  have hdrop : l.drop (leading z l) = l.dropWhile (· == z) := by
    have := List.takeWhile_append_dropWhile (p := (· == z)) (l := l)
    rw [← List.drop_left' (l₁ := l.takeWhile (· == z)) (l₂ := l.dropWhile (· == z)) rfl, this]
    rfl
  refine ⟨by rw [hdrop, ← htw, List.takeWhile_append_dropWhile], fun hh => ?_⟩
  have := List.head?_dropWhile_not (· == z) l
  rw [← hdrop, hh] at this
  simp at this

theorem decode_encode (bs : List UInt8) : decode (encode bs) = some bs := by
  obtain ⟨hsplit, hhead⟩ := split_leading (0 : UInt8) bs
  unfold encode decode
  simp only
  have hds : ∀ d ∈ (digitsLE 58 (natOfBytes (bs.drop (leading 0 bs))) (natOfBytes (bs.drop (leading 0 bs)))).reverse,
      d < 58 := fun d hd => digits_lt 58 (by omega) _ _ d (List.mem_reverse.mp hd)
  have hfirst : (((digitsLE 58 (natOfBytes (bs.drop (leading 0 bs)))
      (natOfBytes (bs.drop (leading 0 bs)))).reverse).map charOfDigit).head? ≠ some '1' := by
    rw [List.head?_map, List.head?_reverse]
    have hl := digits_getLast 58 (by omega) _ _ (Nat.le_refl (natOfBytes (bs.drop (leading 0 bs))))
    cases hg : (digitsLE 58 (natOfBytes (bs.drop (leading 0 bs)))
        (natOfBytes (bs.drop (leading 0 bs)))).getLast? with
    | none => simp
    | some d =>
      have hmem := List.mem_of_getLast? hg
      have hlt := digits_lt 58 (by omega) _ _ d hmem
      rw [hg] at hl
      simp only [Option.map_some, ne_eq, Option.some.injEq]
      exact charOfDigit_ne_one d hlt (fun h0 => hl (by rw [h0]))
  obtain ⟨hlead, hdrop⟩ := leading_replicate_append '1' (leading 0 bs) _ hfirst
  rw [hlead, hdrop, mapM_digitOfChar _ hds]
  simp only [Option.map_some, List.reverse_reverse, Option.some.injEq]
  rw [ofDigits_digits 58 (by omega) _ _ (Nat.le_refl _), bytesOfNat_natOfBytes _ hhead]
  exact hsplit.symm

theorem decodeCheck_encodeCheck (payload : List UInt8) : decodeCheck (encodeCheck payload) = some payload := by
  have hlen := Address.hash256_length payload
  unfold decodeCheck encodeCheck
  rw [decode_encode]
  have hc : (checksum payload).length = 4 := by
    simp only [checksum, List.length_take]; omega
  simp only [Option.bind_some, List.length_append, hc]
  have h1 : ¬ payload.length + 4 < 4 := by omega
  simp only [h1, if_false, Nat.add_sub_cancel]
  simp [List.take_left', List.drop_left']

end MsVerif.Base58

namespace MsVerif.Address
open MsVerif

theorem decodeCheckStr_encodeCheckStr (payload : List UInt8) :
    Base58.decodeCheckStr (Base58.encodeCheckStr payload) = some payload := by
  unfold Base58.decodeCheckStr Base58.encodeCheckStr
  rw [String.toList_ofList]
  exact Base58.decodeCheck_encodeCheck payload

theorem decodeLegacy_p2pkh (net : Net) (h : List UInt8) (hl : h.length = 20) :
    decodeLegacy (p2pkhString net h) = some (net.cls, .p2pkh, h) := by
  unfold decodeLegacy p2pkhString
  rw [decodeCheckStr_encodeCheckStr]
  cases net <;> simp [hl, Net.cls, p2pkhVersion]

theorem decodeLegacy_p2sh (net : Net) (h : List UInt8) (hl : h.length = 20) :
    decodeLegacy (p2shString net h) = some (net.cls, .p2sh, h) := by
  unfold decodeLegacy p2shString
  rw [decodeCheckStr_encodeCheckStr]
  cases net <;> simp [hl, Net.cls, p2shVersion]

end MsVerif.Address
