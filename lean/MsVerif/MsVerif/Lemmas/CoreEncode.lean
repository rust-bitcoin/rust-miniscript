/-
`Model/Encode`: the stable BIP67 key sort `sortKeys` of `sortedmulti`/`sortedmulti_a` (a permutation of its input;
that it is sorted is in `SortKeys`; renaming the keys commutes with it and with `encode` of `multi_a`: `sortKeys_map`, `encodeMultiA_map`) and the script encoding `encode` (`Miniscript::encode`): it is never empty, and
a property of script elements that holds of the opcodes, the script numbers and the pushes of the key environment's
atoms (`Alphabet`) holds of every element of every encoding (`AllOps_encode`).
-/
import MsVerif.Model.Encode
import MsVerif.Lemmas.CoreInsert

namespace MsVerif
open Script

theorem insertByKey_perm (env : KeyEnv) (k : Key) (l : List Key) : (insertByKey env k l).Perm (k :: l) :=
  InsertSort.ins_perm (fun a b => bytesLe (env.sortKey a) (env.sortKey b)) (insertByKey env) (fun _ => rfl)
    (fun _ _ _ => rfl) k l

theorem sortKeys_perm (env : KeyEnv) (ks : List Key) : (sortKeys env ks).Perm ks := by
  simpa [sortKeys] using
    InsertSort.foldl_ins_perm (fun a b => bytesLe (env.sortKey a) (env.sortKey b)) (insertByKey env)
      (fun _ => rfl) (fun _ _ _ => rfl) ks []

theorem sortKeys_length (env : KeyEnv) (ks : List Key) : (sortKeys env ks).length = ks.length :=
  (sortKeys_perm env ks).length_eq

theorem mem_sortKeys (env : KeyEnv) (ks : List Key) (x : Key) : x ∈ sortKeys env ks ↔ x ∈ ks :=
  (sortKeys_perm env ks).mem_iff

theorem sortKeys_filter (env : KeyEnv) (ks : List Key) (p : Key → Bool) :
    ((sortKeys env ks).filter p).length = (ks.filter p).length :=
  ((sortKeys_perm env ks).filter p).length_eq

theorem insertByKey_map (env env' : KeyEnv) (f : Key → Key)
    (h : ∀ k, env'.sortKey k = env.sortKey (f k)) (k : Key) (l : List Key) :
    insertByKey env (f k) (l.map f) = (insertByKey env' k l).map f := by
  induction l with
  | nil => rfl
  | cons x xs ih =>
    simp only [List.map_cons, insertByKey, h]
    split <;> simp [ih]

theorem sortKeys_map (env env' : KeyEnv) (f : Key → Key)
    (h : ∀ k, env'.sortKey k = env.sortKey (f k)) (ks : List Key) :
    sortKeys env (ks.map f) = (sortKeys env' ks).map f := by
  suffices ∀ acc : List Key, (ks.map f).foldl (fun acc k => insertByKey env k acc) (acc.map f)
      = (ks.foldl (fun acc k => insertByKey env' k acc) acc).map f from this []
  induction ks with
  | nil => exact fun _ => rfl
  | cons k ks ih =>
    intro acc
    simp only [List.map_cons, List.foldl_cons, insertByKey_map env env' f h]
    exact ih _

theorem pushVerify_ne_nil (s : List Op) : pushVerify s ≠ [] := by
  unfold pushVerify
  split <;> simp

theorem encode_ne_nil (env : KeyEnv) (ctx : Ctx) : (ms : Ms) → encode env ctx ms ≠ []
  | .verify x => by simp only [encode]; exact pushVerify_ne_nil _
  | .andV l _ => by simp [encode, encode_ne_nil env ctx l]
  | .tru | .fls | .pkK _ | .pkH _ | .rawPkH _ | .after _ | .older _ | .hash _ _
  | .alt _ | .swap _ | .check _ | .dupIf _ | .nonZero _ | .zeroNotEqual _
  | .andB _ _ | .orB _ _ | .orD _ _ | .orC _ _ | .orI _ _ | .andOr _ _ _ | .thresh _ _
  | .multi _ _ | .sortedMulti _ _ | .multiA _ _ | .sortedMultiA _ _ => by simp [encode]

theorem encodeMultiA_map (env env' : KeyEnv) (f : Key → Key) (h : ∀ k, env'.ser k = env.ser (f k))
    (ks : List Key) : encodeMultiA env (ks.map f) = encodeMultiA env' ks := by
  cases ks with
  | nil => rfl
  | cons k ks => simp [encodeMultiA, h, List.flatMap_map]

section
variable (P : Op → Prop)

def AllOps (s : List Op) : Prop := ∀ op ∈ s, P op

@[simp] theorem AllOps_nil : AllOps P [] := fun _ h => nomatch h
@[simp] theorem AllOps_cons {o : Op} {s : List Op} : AllOps P (o :: s) ↔ P o ∧ AllOps P s := List.forall_mem_cons
@[simp] theorem AllOps_append {a b : List Op} : AllOps P (a ++ b) ↔ AllOps P a ∧ AllOps P b :=
  List.forall_mem_append

/-- `P` holds of everything `encode` can emit under `ke`: the opcodes, the script numbers, the pushes of the key
environment's atoms -/
structure Alphabet (ke : KeyEnv) : Prop where
  code : ∀ o, P (.code o)
  int : ∀ n, P (pushInt n)
  ser : ∀ k, P (.push (ke.ser k))
  pkh : ∀ k, P (.push (ke.pkh k))
  rawPkh : ∀ h, P (.push (ke.rawPkh h))
  hashVal : ∀ kind h, P (.push (ke.hashVal kind h))

variable {P} {ke : KeyEnv} (ctx : Ctx)

theorem AllOps_pushVerify {s : List Op} (hc : ∀ o, P (.code o)) (h : AllOps P s) : AllOps P (pushVerify s) := by
  have hd : AllOps P s.dropLast := fun op hop => h op (List.dropLast_subset s hop)
  unfold pushVerify
  split <;> simp [hd, h, hc]

theorem AllOps_pushes (hser : ∀ k, P (.push (ke.ser k))) (ks : List Key) :
    AllOps P (ks.map fun pk => Op.push (ke.ser pk)) := fun op hop => by
  obtain ⟨k, _, rfl⟩ := List.mem_map.1 hop
  exact hser k

theorem AllOps_multiA (h : Alphabet P ke) (ks : List Key) : AllOps P (encodeMultiA ke ks) := by
  cases ks with
  | nil => simp [encodeMultiA]
  | cons k ks =>
    simp only [AllOps, encodeMultiA, List.mem_append, List.mem_cons, List.mem_flatMap, List.not_mem_nil, or_false]
    rintro op ((rfl | rfl) | ⟨_, _, (rfl | rfl)⟩)
    · exact h.ser _
    · exact h.code _
    · exact h.ser _
    · exact h.code _

mutual
theorem AllOps_encode (h : Alphabet P ke) : (ms : Ms) → AllOps P (encode ke ctx ms)
  | .tru => by simpa [encode, pushInt] using h.int 1
  | .fls => by simpa [encode, pushInt] using h.int 0
  | .pkK _ | .pkH _ | .rawPkH _ | .after _ | .older _ | .hash _ _ => by
    simp [encode, h.code, h.int, h.ser, h.pkh, h.rawPkh, h.hashVal]
  | .verify x => AllOps_pushVerify h.code (AllOps_encode h x)
  | .alt x | .swap x | .check x | .zeroNotEqual x | .dupIf x | .nonZero x => by
    simp [encode, h.code, AllOps_encode h x]
  | .andV l r | .andB l r | .orB l r | .orD l r | .orC l r | .orI l r => by
    simp [encode, h.code, AllOps_encode h l, AllOps_encode h r]
  | .andOr a b c => by simp [encode, h.code, AllOps_encode h a, AllOps_encode h b, AllOps_encode h c]
  | .thresh k xs => by simp [encode, h.code, h.int, AllOps_encodeThresh h xs true]
  | .multiA k ks | .sortedMultiA k ks => by simp [encode, h.code, h.int, AllOps_multiA h]
  | .multi _ ks | .sortedMulti _ ks => by simp [encode, h.code, h.int, AllOps_pushes h.ser]
theorem AllOps_encodeThresh (h : Alphabet P ke) : (xs : MsList) → ∀ first : Bool,
    AllOps P (encodeThresh ke ctx first xs)
  | .nil => by simp [encodeThresh]
  | .cons x xs => by
    intro first
    cases first <;> simp [encodeThresh, h.code, AllOps_encode h x, AllOps_encodeThresh h xs false]
end

end

end MsVerif
