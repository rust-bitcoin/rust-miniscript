/-
C08 keeps its own executable mirror of `Miniscript::validate(&Ctx::SANE)`
(`CC.validateSane`, Model/CompileCheck.lean).  This file proves that it IS C12's model
(`validate … ctx.SANE`, Model/Validate.lean); the run-time comparison `saneByC12` of
Driver/OpsCompile.lean checks the same on every run.

Hypothesis `FitsUsize`: the three satisfaction figures are below `usize::MAX` (in Rust they are
`usize` values, so this holds by construction; on `Nat` it has to be said, because C12's model
compares with the constant `usize::MAX` where C08's mirror has "no limit").
Key table: kinds from the serialisation lengths, no multipath keys (the compiler's keys).
-/
import MsVerif.Model.CompileCheck
import MsVerif.Lemmas.ValidateSpec

namespace MsVerif
open Spec

def FitsUsize (env : KeyEnv) (ctx : Ctx) (m : Ms) : Prop :=
  ∀ d, (extOf env ctx m).satData = some d →
    d.wCount + 1 ≤ USIZE_MAX ∧ (extOf env ctx m).staticOps + d.execOps ≤ USIZE_MAX
      ∧ d.wCount + d.execStack ≤ USIZE_MAX

def ccKeys (env : KeyEnv) : KeyInfo := ⟨keyKindOf env, fun _ => 0⟩

mutual
theorem subterms_eq_preorder : (m : Ms) → CC.subterms m = m.preorder
  | .tru | .fls | .pkK _ | .pkH _ | .rawPkH _ | .after _ | .older _ | .hash _ _
  | .multi _ _ | .sortedMulti _ _ | .multiA _ _ | .sortedMultiA _ _ => rfl
  | .alt x | .swap x | .check x | .dupIf x | .verify x | .nonZero x | .zeroNotEqual x =>
    congrArg (_ :: ·) (subterms_eq_preorder x)
  | .andV l r | .andB l r | .orB l r | .orC l r | .orD l r | .orI l r => by
    show _ :: (CC.subterms l ++ CC.subterms r) = _
    rw [subterms_eq_preorder l, subterms_eq_preorder r]; rfl
  | .andOr a b c => by
    show _ :: (CC.subterms a ++ (CC.subterms b ++ CC.subterms c)) = _
    rw [subterms_eq_preorder a, subterms_eq_preorder b, subterms_eq_preorder c]; rfl
  | .thresh k xs => congrArg (_ :: ·) (subtermsL_eq_preorder xs)
theorem subtermsL_eq_preorder : (xs : MsList) → CC.subtermsL xs = xs.preorder
  | .nil => rfl
  | .cons x xs => by
    show CC.subterms x ++ CC.subtermsL xs = _
    rw [subterms_eq_preorder x, subtermsL_eq_preorder xs]; rfl
end

theorem cc_nodeKeys_eq (m : Ms) : CC.nodeKeys m = m.nodeKeys := by cases m <;> rfl

theorem msKeys_eq_iterPk (m : Ms) : CC.msKeys m = m.iterPk := by
  rw [CC.msKeys, Ms.iterPk, subterms_eq_preorder,
    show CC.nodeKeys = Ms.nodeKeys from funext cc_nodeKeys_eq]

theorem hasDup_eq (l : List Key) : CC.hasDup l = !nodupB l := by
  induction l with
  | nil => rfl
  | cons k ks ih => simp only [CC.hasDup, nodupB, ih]; cases ks.contains k <;> simp

/-- by way of the specification's `nodupB` (`ValidateSpec`, imported for this) -/
theorem hasDup_eq_repeated (m : Ms) : CC.hasDup (CC.msKeys m) = hasRepeatedKeys m := by
  rw [hasRepeatedKeys_eq, hasDefect_duplicateKeys, allKeys_eq, hasDup_eq, msKeys_eq_iterPk]

/-! C08's parameter record is the projection of `Ctx::SANE`: the key kinds, the fragment switches, the limits -/

theorem sane_keys (c : Ctx) :
    c.SANE.allowCompressedKeys = (CC.saneParams c).allowCompressed
      ∧ c.SANE.allowUncompressedKeys = (CC.saneParams c).allowUncompressed
      ∧ c.SANE.allowXOnlyKeys = (CC.saneParams c).allowXOnly := by
  cases c <;> exact ⟨rfl, rfl, rfl⟩

theorem sane_switches (c : Ctx) :
    c.SANE.allowDupIf = (CC.saneParams c).allowDupIf
      ∧ c.SANE.allowOrI = (CC.saneParams c).allowOrI
      ∧ c.SANE.allowMulti = (CC.saneParams c).allowMulti
      ∧ c.SANE.allowMultiA = (CC.saneParams c).allowMultiA
      ∧ c.SANE.allowRawPkh = false := by
  cases c <;> exact ⟨rfl, rfl, rfl, rfl, rfl⟩

/-- the last clause is what `leOpt_size` needs: the script-size limit, where there is one, is below `USIZE_MAX` -/
theorem sane_limits (c : Ctx) :
    c.SANE.maxOpcodeCount = (CC.saneParams c).maxOpcodeCount.getD USIZE_MAX
      ∧ c.SANE.maxScriptSize = (CC.saneParams c).maxScriptSize.getD USIZE_MAX
      ∧ c.SANE.maxWitnessItems = (CC.saneParams c).maxWitnessItems.getD USIZE_MAX
      ∧ c.SANE.maxExecStackSize = (CC.saneParams c).maxExecStackSize.getD USIZE_MAX
      ∧ ((CC.saneParams c).maxScriptSize = none ∨ ∃ v, (CC.saneParams c).maxScriptSize = some v ∧ v < USIZE_MAX) := by
  cases c <;> refine ⟨rfl, rfl, rfl, rfl, ?_⟩
  · exact Or.inr ⟨10000, rfl, by decide⟩
  · exact Or.inr ⟨520, rfl, by decide⟩
  · exact Or.inr ⟨3600, rfl, by decide⟩
  · exact Or.inl rfl

theorem cc_pkOk_eq (env : KeyEnv) (ctx : Ctx) (k : Key) :
    CC.pkOk env (CC.saneParams ctx) k = pkOK ctx.SANE (keyKindOf env k) := by
  obtain ⟨h1, h2, h3⟩ := sane_keys ctx
  unfold CC.pkOk pkOK keyKindOf CC.isXOnly isUnc
  rw [h1, h2, h3]
  generalize (CC.saneParams ctx).allowCompressed = a
  generalize (CC.saneParams ctx).allowUncompressed = b
  generalize (CC.saneParams ctx).allowXOnly = c
  by_cases h65 : (env.ser k).length = 65
  · simp only [h65, if_true, beq_self_eq_true]
    cases a <;> cases b <;> cases c <;> decide
  · by_cases h32 : (env.ser k).length = 32
    · simp only [h32, if_true, beq_self_eq_true]
      cases a <;> cases b <;> cases c <;> decide
    · have e65 : ((env.ser k).length == 65) = false := by simp [h65]
      have e32 : ((env.ser k).length == 32) = false := by simp [h32]
      simp only [h65, h32, if_false, e65, e32]
      cases a <;> cases b <;> cases c <;> decide

theorem cc_node_eq (env : KeyEnv) (ctx : Ctx) (m : Ms) :
    (CC.nodeOk env (CC.saneParams ctx) m && CC.nodeIfOk (CC.saneParams ctx) m)
      = (flagOK ctx.SANE m && m.nodeKeys.all fun k => pkOK ctx.SANE (keyKindOf env k)) := by
  have hk : ∀ ks : List Key, ks.all (CC.pkOk env (CC.saneParams ctx))
      = ks.all fun k => pkOK ctx.SANE (keyKindOf env k) := by
    intro ks; congr 1; funext k; exact cc_pkOk_eq env ctx k
  obtain ⟨h4, h5, h6, h7, h8⟩ := sane_switches ctx
  cases m <;> simp only [CC.nodeOk, CC.nodeIfOk, flagOK, Ms.nodeKeys, List.all_nil, List.all_cons,
    Bool.and_true, Bool.true_and, hk, cc_pkOk_eq, h4, h5, h6, h7, h8]

theorem leOpt_getD (x : Nat) (o : Option Nat) (hx : x ≤ USIZE_MAX) :
    CC.leOpt x o = decide (x ≤ o.getD USIZE_MAX) := by
  cases o with
  | none => simp [CC.leOpt, hx]
  | some v => rfl

theorem leOpt_size (x : Nat) (o : Option Nat) (ho : o = none ∨ ∃ v, o = some v ∧ v < USIZE_MAX) :
    CC.leOpt x o = (decide (USIZE_MAX ≤ o.getD USIZE_MAX) || decide (x ≤ o.getD USIZE_MAX)) := by
  rcases ho with rfl | ⟨v, rfl, hv⟩
  · simp [CC.leOpt]
  · have : decide (USIZE_MAX ≤ v) = false := by simp; omega
    simp [CC.leOpt, this]

theorem validateSane_eq_validate (env : KeyEnv) (ctx : Ctx) (m : Ms) (hfit : FitsUsize env ctx m) :
    CC.validateSane env ctx m = isOk (validate env (ccKeys env) ctx ctx.SANE m) := by
  rw [validate_isOk]
  unfold CC.validateSane CC.validateRest CC.fragsIfOk validOK
  cases hty : typeOf m with
  | none => simp
  | some ty =>
    simp only
    obtain ⟨s9, s10, s11, s12, s13⟩ := sane_limits ctx
    have hnodes : ((CC.subterms m).all (CC.nodeOk env (CC.saneParams ctx))
        && (CC.subterms m).all (CC.nodeIfOk (CC.saneParams ctx))) = nodesOK ctx.SANE (ccKeys env) m := by
      rw [← List.all_and, subterms_eq_preorder]
      have : (fun a => CC.nodeOk env (CC.saneParams ctx) a && CC.nodeIfOk (CC.saneParams ctx) a)
          = fun a => flagOK ctx.SANE a && a.nodeKeys.all fun k => pkOK ctx.SANE (keyKindOf env k) :=
        funext (cc_node_eq env ctx)
      rw [this, List.all_and]
      simp only [nodesOK, Ms.iterPk, List.all_flatMap, ccKeys]
      have hmp : (mpRun none (List.map (fun _ => 0) (List.flatMap Ms.nodeKeys m.preorder))).isSome
          = true := by
        generalize List.flatMap Ms.nodeKeys m.preorder = l
        induction l with
        | nil => rfl
        | cons _ _ ih => simpa [mpRun] using ih
      rw [hmp, Bool.or_true, Bool.and_true]
    have hres : (CC.leOpt (scriptSize env ctx m) (CC.saneParams ctx).maxScriptSize
        && (match (extOf env ctx m).satData with
            | none => true
            | some d =>
              CC.leOpt (d.wCount + 1) (CC.saneParams ctx).maxWitnessItems
                && CC.leOpt ((extOf env ctx m).staticOps + d.execOps) (CC.saneParams ctx).maxOpcodeCount
                && CC.leOpt (d.wCount + d.execStack) (CC.saneParams ctx).maxExecStackSize))
        = resourceOK ctx.SANE (scriptSize env ctx m) (extOf env ctx m) := by
      unfold resourceOK
      rw [s9, s10, s11, s12, leOpt_size _ _ s13]
      cases hs : (extOf env ctx m).satData with
      | none => rfl
      | some d =>
        obtain ⟨f1, f2, f3⟩ := hfit d hs
        simp only [witnessItems, opCount, execStackTotal, leOpt_getD _ _ f1, leOpt_getD _ _ f2,
          leOpt_getD _ _ f3]
        rfl
    have hdepth : (ctx.SANE).maxRecursiveDepth = 402 := by cases ctx <;> rfl
    have hflags : (ctx.SANE).allowDuplicateKeys = false ∧ (ctx.SANE).allowMixedTimeLocks = false
        ∧ (ctx.SANE).allowMalleability = false ∧ (ctx.SANE).allowNonB = false
        ∧ (ctx.SANE).allowSiglessBranch = false ∧ (ctx.SANE).allowUnsatisfiable = true := by
      cases ctx <;> decide
    obtain ⟨g1, g2, g3, g4, g5, g6⟩ := hflags
    simp only [nonTopOK, topOK, hdepth, g1, g2, g3, g4, g5, g6, Bool.false_or, Bool.true_or,
      Bool.and_true, ← hnodes, ← hres, hasDup_eq_repeated, hasMixedTimelocks]
    ac_rfl

/-- non-vacuity: the hypothesis holds for an ordinary script -/
example : FitsUsize ⟨fun _ => List.replicate 33 0, fun _ => [], fun _ => [], fun _ => [], fun _ _ => []⟩
    .segwitv0 (.check (.pkK 0)) := by
  intro d h
  simp only [extOf, ExtData.castCheck, ExtData.pkK, ExtData.keySig, Ctx.sigType, isUnc] at h
  cases h
  decide

end MsVerif
