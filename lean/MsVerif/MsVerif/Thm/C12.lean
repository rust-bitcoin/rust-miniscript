/-
C12 — accepted scripts obey their context; validation switches mean what they say.

Model (Model/Validate.lean) ↔ Rust:
  ValidationParams.{MAX,SANE,CONSENSUS,eq,intersect,entails}, validatePk ↔ src/validation.rs
  Ctx.CONSENSUS / Ctx.SANE, checkPk, checkGlobalValidity, topLevelChecks ↔ src/miniscript/context.rs
  validate / validateNonTopLevel, constructed (= `from_ast` on every node) ↔ src/miniscript/mod.rs
  accepts e ↔ the entry points (`from_str*`, `decode*`, `Wsh::new`/`Sh::new`/`Bare::new`,
              `Descriptor::from_str`, `Tr::from_str`, `TapTree::leaf`+`Tr::new`)
Specification (Spec/CtxRules.lean): `ctxOK` (rules R1–R8), `hasDefect_X`.

Except for the witnesses on `demoEnv`, the theorems quantify over EVERY script `ms`, every key table `K`/`env`, every context and
every value of `ValidationParams` (all 2^15 switch vectors, all limits in ℕ).
`isOk (validate …) = true` means `Miniscript::validate` returns `Ok(())`.

T3 (lattice, monotonicity) and T2 (switch exactness) are proved in full at the level of the
model's own defect predicates, and down to the SPECIFICATION's predicates for every switch
whose defect is syntactic (duplicate keys, `d:`, `or_i`, `multi`, `multi_a`, raw pkh, key
kinds, multipath lengths, depth) and for the three type-level switches (malleability, sigless
branch, non-B), where the step from the library's whole-fragment type to the specification's
is `typeBridge_of_ranges` (composition of C05's rule-by-rule theorems over the AST; hypothesis:
thresholds in range, which `Threshold::new` guarantees; the three theorems take it in the form
`type_defects_eq`, Lemmas/ValidateCtx.lean).  For mixed time locks
the defect is the library's own analysis (`…_model`), the semantic statement is
`def switch_exact_mixed_time_locks_full`; for unsatisfiability and for the signature-less
branch the defect is SEMANTIC: the specification's satisfaction table with all assets available
resp. with no signature available (`switch_exact_unsatisfiable`, `switch_exact_sigless_branch`;
the type letters `d` and `s` are proved to mean exactly that in Lemmas/ValidateSem.lean).
The `_spec_type` variants compare with the specification's type letters `m` / `s`.

T1 (accepted ⇒ `ctxOK`) and T4 (descriptor parser ⇒ miniscript parser) rest on the checks of /repo (DESIGN.md §9.3) 8a19a019 (base-type test), 4cd8ebfa (`pk_h` keys), a3413640
(`new_sortedmulti`), 2d0df974 (`Tr::new`), f6816493 (`Wsh::new`/`Sh::new` call `validate`):
every entry point obeys every context rule (`accepted_obeys_ctx`) with ONE exception that the
library keeps on purpose: `Sh::new` / `sh(..)` validate with `Legacy::CONSENSUS` but leave `d:`
and `or_i` allowed (F13; pinned by the library's own tests `display_prefers_u`,
`regression_734`).  That gap is stated exactly: witness (`sh_accepts_or_i`), negation of the
full statements, and the `_partial` theorems saying that nothing else is missing.

Where the general statements are: `validate_isOk` (Lemmas/ValidateChar.lean) turns `validate` into the
order-free conjunction `validOK`; T3 is `validOK_mono` with the order lemmas of Lemmas/ValidateLattice.lean
(`le` there, `entails` here: `entails_iff`); T2 is one `switch_*` / `limit_*` equation of
Lemmas/ValidateSwitch.lean per switch, where the library-side defects `D_kind`, `D_malleable`, `D_sigless`,
`D_nonB`, `D_unsat` are defined; T1 is `ctxOK_of_validOK_consensus` with `constructed_*` and `validOK_*`
(Lemmas/ValidateCtx.lean, which also defines `factsFrom`).
-/
import MsVerif.Lemmas.ValidateCtx
import MsVerif.Lemmas.ValidateTypes
import MsVerif.Lemmas.ValidateSat
import MsVerif.Lemmas.ValidateSem
import MsVerif.Thm.C09
import MsVerif.Lemmas.ValidateCC

namespace MsVerif.C12
open MsVerif MsVerif.Spec ValidationParams

/-! ## T3 — the parameter lattice -/

theorem eq_iff_eq (a b : ValidationParams) : a.eq b = true ↔ a = b := ValidationParams.eq_iff a b

/-- `entails` is the component-wise order: every switch `a` allows `b` allows, every limit of
`a` is at most that of `b` -/
theorem entails_iff_le (a b : ValidationParams) : a.entails b = true ↔ a.le b = true :=
  ValidationParams.entails_iff a b

theorem entails_refl (a : ValidationParams) : a.entails a = true :=
  (entails_iff_inter a a).2 (inter_idem a)

theorem entails_trans {a b c : ValidationParams} (h1 : a.entails b = true)
    (h2 : b.entails c = true) : a.entails c = true := by
  rw [entails_iff_inter] at *
  rw [← h1, inter_assoc, h2]

theorem entails_antisymm {a b : ValidationParams} (h1 : a.entails b = true)
    (h2 : b.entails a = true) : a = b := by
  rw [entails_iff_inter] at *
  rw [← h1, inter_comm, h2]

theorem intersect_entails_left (a b : ValidationParams) : (a.intersect b).entails a = true := by
  rw [entails_iff_inter, inter_comm, ← inter_assoc, inter_idem]

theorem intersect_entails_right (a b : ValidationParams) : (a.intersect b).entails b = true := by
  rw [entails_iff_inter, inter_assoc, inter_idem]

/-- with `intersect_entails_left` / `_right`: `intersect` is the meet w.r.t. `entails` -/
theorem entails_intersect {c a b : ValidationParams} (h1 : c.entails a = true)
    (h2 : c.entails b = true) : c.entails (a.intersect b) = true := by
  rw [entails_iff_inter] at *
  rw [← inter_assoc, h1, h2]

/-- `entails` is exactly "the meet is the left argument" (the Rust definition) -/
theorem entails_iff_intersect_eq (a b : ValidationParams) :
    a.entails b = true ↔ a.intersect b = a := entails_iff_inter a b

theorem intersect_comm (a b : ValidationParams) : a.intersect b = b.intersect a := inter_comm a b

theorem intersect_idem (a : ValidationParams) : a.intersect a = a := inter_idem a

theorem constants_ordered :
    ValidationParams.SANE.entails .CONSENSUS = true ∧ ValidationParams.CONSENSUS.entails .MAX = true ∧
    (∀ c : Ctx, c.SANE.entails c.CONSENSUS = true ∧ c.SANE.entails .SANE = true ∧
      c.CONSENSUS.entails .CONSENSUS = true ∧ c.INSANE.entails c.CONSENSUS = true) := by
  refine ⟨by decide, by decide, fun c => ?_⟩
  cases c <;> decide

/-- T3 monotonicity: tightening the parameters never admits more scripts -/
theorem validate_monotone (env : KeyEnv) (K : KeyInfo) (ctx : Ctx) {p q : ValidationParams}
    (h : p.entails q = true) (ms : Ms) (hv : isOk (validate env K ctx p ms) = true) :
    isOk (validate env K ctx q ms) = true := by
  rw [validate_isOk] at *
  exact validOK_mono ((entails_iff p q).1 h) env K ctx ms hv

/-- what is accepted under `P ∩ Q` is accepted under `P` and under `Q` -/
theorem validate_intersect (env : KeyEnv) (K : KeyInfo) (ctx : Ctx) (p q : ValidationParams)
    (ms : Ms) (hv : isOk (validate env K ctx (p.intersect q) ms) = true) :
    isOk (validate env K ctx p ms) = true ∧ isOk (validate env K ctx q ms) = true :=
  ⟨validate_monotone env K ctx (intersect_entails_left p q) ms hv,
   validate_monotone env K ctx (intersect_entails_right p q) ms hv⟩

example : ValidationParams.SANE.entails .CONSENSUS = true ∧
    ValidationParams.CONSENSUS.entails .SANE = false := by decide
example : (Ctx.CONSENSUS .legacy).intersect .SANE = Ctx.SANE .legacy := rfl

/-! ## T2 — every switch rejects exactly the scripts with the stated defect

Form: `accepts with the switch off  =  accepts with the switch as in p  ∧  no defect`, i.e.
"rejects iff it rejected before or the script has the defect" — a statement about the verdict,
not about which error is reported (the order of checks decides that). -/

section T2
variable (env : KeyEnv) (K : KeyInfo) (ctx : Ctx) (p : ValidationParams) (ms : Ms) (len : Ms → Nat)

theorem switch_exact_duplicate_keys :
    isOk (validate env K ctx { p with allowDuplicateKeys := false } ms)
      = (isOk (validate env K ctx p ms) && !hasDefect_duplicateKeys ms) := by
  simp only [validate_isOk, switch_duplicateKeys, hasRepeatedKeys_eq]

theorem switch_exact_dup_if :
    isOk (validate env K ctx { p with allowDupIf := false } ms)
      = (isOk (validate env K ctx p ms) && !hasDefect_dupIf ms) := by
  simp only [validate_isOk, switch_dupIf, hasDefect_dupIf, someNode_eq]; rfl

theorem switch_exact_or_i :
    isOk (validate env K ctx { p with allowOrI := false } ms)
      = (isOk (validate env K ctx p ms) && !hasDefect_orI ms) := by
  simp only [validate_isOk, switch_orI, hasDefect_orI, someNode_eq]; rfl

theorem switch_exact_multi :
    isOk (validate env K ctx { p with allowMulti := false } ms)
      = (isOk (validate env K ctx p ms) && !hasDefect_multi ms) := by
  simp only [validate_isOk, switch_multi, hasDefect_multi, someNode_eq]; rfl

theorem switch_exact_multi_a :
    isOk (validate env K ctx { p with allowMultiA := false } ms)
      = (isOk (validate env K ctx p ms) && !hasDefect_multiA ms) := by
  simp only [validate_isOk, switch_multiA, hasDefect_multiA, someNode_eq]; rfl

theorem switch_exact_raw_pkh :
    isOk (validate env K ctx { p with allowRawPkh := false } ms)
      = (isOk (validate env K ctx p ms) && !hasDefect_rawPkh ms) := by
  simp only [validate_isOk, switch_rawPkh, hasDefect_rawPkh, someNode_eq]; rfl

theorem switch_exact_uncompressed_keys :
    isOk (validate env K ctx { p with allowUncompressedKeys := false } ms)
      = (isOk (validate env K ctx p ms) && !hasUncompressedKey (factsFrom K len) ms) := by
  simp only [validate_isOk, switch_uncompressedKeys, hasUncompressedKey, allKeys_eq]; rfl

/-- x-only keys off: x-only keys are rejected, AND compressed keys lose the "stands for its
x-only key" escape that `validate_pk` documents (they are then rejected unless
`allow_compressed_keys`) -/
theorem switch_exact_x_only_keys :
    isOk (validate env K ctx { p with allowXOnlyKeys := false } ms)
      = (isOk (validate env K ctx p ms) && (!hasXOnlyKey (factsFrom K len) ms
          && (p.allowCompressedKeys || !D_kind K .compressed ms))) := by
  simp only [validate_isOk, switch_xOnlyKeys, hasXOnlyKey, allKeys_eq]; rfl

/-- compressed keys off: has an effect only when x-only keys are off as well -/
theorem switch_exact_compressed_keys :
    isOk (validate env K ctx { p with allowCompressedKeys := false } ms)
      = (isOk (validate env K ctx p ms) && (p.allowXOnlyKeys || !D_kind K .compressed ms)) := by
  simp only [validate_isOk, switch_compressedKeys]

/-- `D_kind K .compressed` is the specification's "a compressed key occurs" -/
theorem compressed_defect_is_spec :
    D_kind K .compressed ms = hasCompressedKey (factsFrom K len) ms := by
  simp only [D_kind, hasCompressedKey, allKeys_eq, factsFrom]
  congr 1; funext k; cases K.kind k <;> rfl

theorem switch_exact_inconsistent_multipath_keys :
    isOk (validate env K ctx { p with allowInconsistentMultipathKeys := false } ms)
      = (isOk (validate env K ctx p ms) && !hasDefect_multipath (factsFrom K len) ms) := by
  simp only [validate_isOk, switch_multipath, D_multipath, hasDefect_multipath, mpRun_none_iff,
    allKeys_eq]
  rfl

/-- the library's whole-fragment type agrees with the specification's: same base-`B`-ness, same
`m` and `s` letters -/
def TypeBridge (ctx : Ctx) (ms : Ms) : Prop :=
  ∀ ty, typeOf ms = some ty → ∃ τ, specTy (isTap ctx) ms = some τ ∧
    (τ.c.base == .B) = (ty.corr.base == .B) ∧ τ.m.m = ty.mall.nonMall ∧ τ.m.s = ty.mall.signed

/-- it holds for every AST whose thresholds satisfy `1 ≤ k ≤ n` (an invariant of the Rust
`Threshold` type): composition of C05 over the tree -/
theorem typeBridge_of_ranges (hr : ruleRange ms = true) : TypeBridge ctx ms :=
  fun ty h => typeBridge (isTap ctx) ms hr ty h

theorem switch_exact_malleability_spec_type (hr : ruleRange ms = true) :
    isOk (validate env K ctx { p with allowMalleability := false } ms)
      = (isOk (validate env K ctx p ms) && !hasDefect_malleable (isTap ctx) ms) := by
  simp only [validate_isOk, switch_malleability]
  exact validOK_and_congr env K ctx p ms fun ty hty => by
    rw [(type_defects_eq (isTap ctx) ms hr hty).1]

theorem switch_exact_sigless_branch_spec_type (hr : ruleRange ms = true) :
    isOk (validate env K ctx { p with allowSiglessBranch := false } ms)
      = (isOk (validate env K ctx p ms) && !hasDefect_sigless (isTap ctx) ms) := by
  simp only [validate_isOk, switch_sigless]
  exact validOK_and_congr env K ctx p ms fun ty hty => by
    rw [(type_defects_eq (isTap ctx) ms hr hty).2.1]

theorem switch_exact_non_b (hr : ruleRange ms = true) :
    isOk (validate env K ctx { p with allowNonB := false } ms)
      = (isOk (validate env K ctx p ms) && !hasDefect_nonB (isTap ctx) ms) := by
  simp only [validate_isOk, switch_nonB]
  exact validOK_and_congr env K ctx p ms fun ty hty => by
    rw [(type_defects_eq (isTap ctx) ms hr hty).2.2]

/-- type-level switches, in terms of the library's own type (no hypothesis) -/
theorem switch_exact_type_switches_model :
    isOk (validate env K ctx { p with allowMalleability := false } ms)
      = (isOk (validate env K ctx p ms) && !D_malleable ms) ∧
    isOk (validate env K ctx { p with allowSiglessBranch := false } ms)
      = (isOk (validate env K ctx p ms) && !D_sigless ms) ∧
    isOk (validate env K ctx { p with allowNonB := false } ms)
      = (isOk (validate env K ctx p ms) && !D_nonB ms) := by
  simp only [validate_isOk, switch_malleability, switch_sigless, switch_nonB, and_self]

/-! mixed time locks and unsatisfiability: exact w.r.t. the library's own analysis
(`TimelockInfo.contains_combination`, `sat_data = None`) -/
theorem switch_exact_mixed_time_locks_model :
    isOk (validate env K ctx { p with allowMixedTimeLocks := false } ms)
      = (isOk (validate env K ctx p ms) && !hasMixedTimelocks (extOf env ctx ms)) := by
  simp only [validate_isOk, switch_mixedTimeLocks]

theorem switch_exact_unsatisfiable_model :
    isOk (validate env K ctx { p with allowUnsatisfiable := false } ms)
      = (isOk (validate env K ctx p ms) && (extOf env ctx ms).satData.isSome) := by
  simp only [validate_isOk, switch_unsatisfiable, D_unsat]
  cases (extOf env ctx ms).satData <;> rfl

/-- `allow_unsatisfiable` at specification level: switching it off rejects exactly the scripts
for which the specification's table of canonical satisfactions (Spec/SatTable.lean) has NO
satisfaction even with every signature, preimage, key and lock available.  Only hypothesis:
thresholds in range (an invariant of the Rust `Threshold` type); that every `thresh` child is
dissatisfiable follows from typing (`threshKidsOK_of_typed`: type letter `d` ⇒ `dsatEx`). -/
theorem switch_exact_unsatisfiable (hr : ruleRange ms = true) :
    isOk (validate env K ctx { p with allowUnsatisfiable := false } ms)
      = (isOk (validate env K ctx p ms) && !hasDefect_unsatisfiable ms) := by
  rw [switch_exact_unsatisfiable_model, validate_isOk]
  exact validOK_and_congr env K ctx p ms fun ty hty =>
    satData_isSome_eq_satEx env ctx ms hr (threshKidsOK_of_typed ms ty hty)

/-- `allow_sigless_branch`, SEMANTICALLY: switching it off rejects exactly the scripts that
have a canonical satisfaction using no signature at all (the specification's satisfaction
table finds one when no signature is available and everything else is) — independent of the
type system: the type letter `s` is proved to mean exactly that (`signed_eq_noSigSat`). -/
theorem switch_exact_sigless_branch (hr : ruleRange ms = true) :
    isOk (validate env K ctx { p with allowSiglessBranch := false } ms)
      = (isOk (validate env K ctx p ms) && !hasDefect_siglessSem ms) := by
  simp only [validate_isOk, switch_sigless]
  exact validOK_and_congr env K ctx p ms fun ty hty => by
    simp only [D_sigless, hty, hasDefect_siglessSem, signed_eq_noSigSat ms hr ty hty, Bool.not_not]

/-- duplicate keys: the defect is the standard notion — the list of key occurrences has a
repetition -/
theorem duplicate_keys_defect_iff : hasDefect_duplicateKeys ms = false ↔ (allKeys ms).Nodup := by
  simp only [hasDefect_duplicateKeys, Bool.not_eq_false']
  generalize allKeys ms = l
  induction l with
  | nil => simp [nodupB]
  | cons k ks ih =>
    simp only [nodupB, Bool.and_eq_true, Bool.not_eq_true', List.nodup_cons, ih]
    constructor
    · rintro ⟨h1, h2⟩; exact ⟨by simpa using h1, h2⟩
    · rintro ⟨h1, h2⟩; exact ⟨by simpa using h1, h2⟩

/-- the semantic statement for mixed time locks: exact for scripts without a `0` fragment
(a `0` under a conjunction makes the library's analysis count a combination no satisfaction
uses, cf. F10, DESIGN.md §1.1), sound in general.  NOT proved; the judge checks it on every enumerated script. -/
def switch_exact_mixed_time_locks_full : Prop :=
  ∀ (env : KeyEnv) (K : KeyInfo) (ctx : Ctx) (p : ValidationParams) (ms : Ms),
    (hasDefect_mixedTimeLocks ms = true →
      isOk (validate env K ctx { p with allowMixedTimeLocks := false } ms) = false) ∧
    (someNode (fun | .fls => true | _ => false) ms = false →
      isOk (validate env K ctx { p with allowMixedTimeLocks := false } ms)
        = (isOk (validate env K ctx p ms) && !hasDefect_mixedTimeLocks ms))

/-! ### numeric limits: lowering a limit to `L` rejects exactly the scripts whose figure exceeds `L` -/

theorem limit_exact_recursive_depth (L : Nat) (hL : L ≤ p.maxRecursiveDepth) :
    isOk (validate env K ctx { p with maxRecursiveDepth := L } ms)
      = (isOk (validate env K ctx p ms) && decide (depth ms ≤ L)) := by
  simp only [validate_isOk, limit_depth env K ctx p ms L hL, treeHeight_eq]

/-- script size: the limit is only looked at when it is finite (`< usize::MAX`) -/
theorem limit_exact_script_size (L : Nat) (hL : L ≤ p.maxScriptSize) (hfin : L < USIZE_MAX) :
    isOk (validate env K ctx { p with maxScriptSize := L } ms)
      = (isOk (validate env K ctx p ms) && decide (scriptSize env ctx ms ≤ L)) := by
  simp only [validate_isOk, limit_scriptSize env K ctx p ms L hL hfin]

/-! witness items / opcodes / stack: only scripts that have a satisfaction are measured -/
theorem limit_exact_witness_items (L : Nat) (hL : L ≤ p.maxWitnessItems) :
    isOk (validate env K ctx { p with maxWitnessItems := L } ms)
      = (isOk (validate env K ctx p ms) &&
          (match (extOf env ctx ms).satData with
           | none => true | some d => decide (d.wCount + 1 ≤ L))) := by
  simp only [validate_isOk, limit_witnessItems env K ctx p ms L hL]; rfl

theorem limit_exact_opcode_count (L : Nat) (hL : L ≤ p.maxOpcodeCount) :
    isOk (validate env K ctx { p with maxOpcodeCount := L } ms)
      = (isOk (validate env K ctx p ms) &&
          (match (extOf env ctx ms).satData with
           | none => true | some d => decide ((extOf env ctx ms).staticOps + d.execOps ≤ L))) := by
  simp only [validate_isOk, limit_opcodeCount env K ctx p ms L hL]; rfl

theorem limit_exact_exec_stack_size (L : Nat) (hL : L ≤ p.maxExecStackSize) :
    isOk (validate env K ctx { p with maxExecStackSize := L } ms)
      = (isOk (validate env K ctx p ms) &&
          (match (extOf env ctx ms).satData with
           | none => true | some d => decide (d.wCount + d.execStack ≤ L))) := by
  simp only [validate_isOk, limit_execStack env K ctx p ms L hL]; rfl

end T2

/-! ### concrete key table for the witnesses / non-vacuity examples

ids 0..99 compressed (33 bytes), 100..199 uncompressed (65), 200.. x-only (32) -/
def demoEnv : KeyEnv where
  ser k := List.replicate (if 200 ≤ k then 32 else if 100 ≤ k then 65 else 33) 0
  sortKey _ := []
  pkh _ := []
  rawPkh _ := []
  hashVal _ _ := []
def demoK : KeyInfo := ⟨keyKindOf demoEnv, fun _ => 1⟩
def demoF (ctx : Ctx) : Facts := factsFrom demoK (fun ms => (extOf demoEnv ctx ms).pkCost)

/-- `and_v(v:pk(0),pk(0))` -/
def dupScript : Ms := .andV (.verify (.check (.pkK 0))) (.check (.pkK 0))
example : isOk (validate demoEnv demoK .segwitv0 .MAX dupScript) = true ∧
    hasDefect_duplicateKeys dupScript = true ∧
    isOk (validate demoEnv demoK .segwitv0 { ValidationParams.MAX with allowDuplicateKeys := false }
      dupScript) = false := by decide
/-- `and_v(v:pk(0),0)`: no satisfaction -/
example : hasDefect_unsatisfiable (.andV (.verify (.check (.pkK 0))) .fls) = true ∧
    hasDefect_siglessSem (.andV (.verify (.check (.pkK 0))) (.older 10)) = false ∧
    hasDefect_siglessSem (.orI (.check (.pkK 0)) (.older 10)) = true ∧
    ruleRange (.andV (.verify (.check (.pkK 0))) .fls) = true ∧
    hasDefect_unsatisfiable dupScript = false ∧
    threshKidsOK (.thresh 1 (.cons (.check (.pkK 0)) (.cons (.swap (.check (.pkK 1))) .nil))) = true := by
  simp [hasDefect_unsatisfiable, threshKidsOK, kidsPred, everyNode, everyNodeL, ruleRange, rangeOk,
    SatTable.satEx, SatTable.dsatEx, SatTable.allDsatEx, allAvail, dupScript, hasDefect_siglessSem,
    noSigAvail]
example : isOk (validate demoEnv demoK .segwitv0 { ValidationParams.MAX with maxScriptSize := 70 }
      dupScript) = true ∧
    isOk (validate demoEnv demoK .segwitv0 { ValidationParams.MAX with maxScriptSize := 69 }
      dupScript) = false := by decide

/-! ## T1 — what is accepted obeys the rules of the context -/

section T1
variable (env : KeyEnv) (K : KeyInfo) (ctx : Ctx) (ms : Ms) (len : Ms → Nat)

/-- `from_ast` (run on every node): every fragment rule of the context — key kinds (also of
`pk_h` keys, /repo 4cd8ebfa), multisig flavour, threshold and lock ranges, depth, script size.
`hlen`: the script length is at most the library's size figure `pk_cost` (discharged for the
real encoded length by C09, see `accepted_obeys_ctx_encoded`). -/
theorem from_ast_obeys_ctx (h : accepts env K ctx .fromAst ms = true)
    (hlen : len ms ≤ (extOf env ctx ms).pkCost) :
    ctxFragOK (factsFrom K len) ctx ms = true := by
  simp only [accepts, Bool.and_true] at h
  obtain ⟨h1, h2, h3⟩ := constructed_rules env K ctx len ms h
  simp only [ctxFragOK, Bool.and_eq_true]
  refine ⟨⟨⟨⟨h3, h2⟩, h1⟩, ?_⟩, constructed_depth env K ctx ms h⟩
  simp only [ruleSize, factsFrom]
  exact decide_eq_true (Nat.le_trans hlen (constructed_size env K ctx ms h))

example : accepts demoEnv demoK .segwitv0 .fromAst (.pkH 200) = false ∧
    accepts demoEnv demoK .segwitv0 .fromAst (.pkH 0) = true := by decide

/-- a script built by `from_ast` on every node and validated under parameters at least as tight
as the context's `CONSENSUS` obeys all rules of the context -/
theorem ctxOK_of_validate_le (p : ValidationParams) (hp : p.le ctx.CONSENSUS = true)
    (hc : constructed env K ctx ms = true) (hv : isOk (validate env K ctx p ms) = true)
    (hlen : len ms ≤ (extOf env ctx ms).pkCost) : ctxOK (factsFrom K len) ctx ms = true := by
  rw [validate_isOk] at hv
  exact ctxOK_of_validOK_consensus env K ctx len ms (validOK_mono hp env K ctx ms hv)
    (constructed_rules env K ctx len ms hc).1
    (decide_eq_true (Nat.le_trans hlen (constructed_size env K ctx ms hc)))

/-- `from_str_with_validation_params(_, &Ctx::CONSENSUS)` and `decode_consensus`: everything accepted
obeys ALL rules of the context.
Hypothesis `hlen`: `len` is at most the library's size figure `pk_cost` — an inequality, because
`pk_cost` overshoots for `multi_a` (C09 `costSlack`).  `accepted_obeys_ctx_encoded` discharges it for the
real encoded length. -/
theorem accepted_obeys_ctx_consensus (h : accepts env K ctx .msConsensus ms = true)
    (hlen : len ms ≤ (extOf env ctx ms).pkCost) :
    ctxOK (factsFrom K len) ctx ms = true := by
  simp only [accepts, Bool.and_eq_true] at h
  exact ctxOK_of_validate_le env K ctx ms len _ ((entails_iff _ _).1 (entails_refl _)) h.1 h.2 hlen

/-- the same for the two contexts that admit uncompressed keys, from the figure `validate`
actually uses there (`script_size()`, which counts 66 bytes for an uncompressed key and is
compared with `max_script_size` = 520 / 10 000): hypothesis real length ≤ `script_size()` -/
theorem accepted_obeys_ctx_consensus_by_script_size (hctx : ctx = .legacy ∨ ctx = .bare)
    (h : accepts env K ctx .msConsensus ms = true)
    (hss : len ms ≤ scriptSize env ctx ms) :
    ctxOK (factsFrom K len) ctx ms = true := by
  simp only [accepts, Bool.and_eq_true, validate_isOk] at h
  obtain ⟨hc, hv⟩ := h
  refine ctxOK_of_validOK_consensus env K ctx len ms hv (constructed_rules env K ctx len ms hc).1 ?_
  have hsz := validOK_scriptSize env K ctx _ ms hv
  simp only [ruleSize, factsFrom]
  apply decide_eq_true
  rcases hctx with rfl | rfl <;>
    simp only [Ctx.CONSENSUS, ValidationParams.CONSENSUS, USIZE_MAX, MAX_SCRIPT_ELEMENT_SIZE,
      MAX_SCRIPT_SIZE, maxScriptLen] at hsz ⊢ <;> omega

/-- the same for `from_str` and `decode` (parameters `Ctx::SANE`) -/
theorem accepted_obeys_ctx_sane (h : accepts env K ctx .msSane ms = true)
    (hlen : len ms ≤ (extOf env ctx ms).pkCost) :
    ctxOK (factsFrom K len) ctx ms = true := by
  simp only [accepts, Bool.and_eq_true] at h
  exact ctxOK_of_validate_le env K ctx ms len _ (sane_le_consensus ctx) h.1 h.2 hlen

/-- the same for `from_str_insane` -/
theorem accepted_obeys_ctx_insane (h : accepts env K ctx .msInsane ms = true)
    (hlen : len ms ≤ (extOf env ctx ms).pkCost) :
    ctxOK (factsFrom K len) ctx ms = true := by
  simp only [accepts, Bool.and_eq_true] at h
  exact ctxOK_of_validate_le env K ctx ms len _ (insane_le_consensus ctx) h.1 h.2 hlen

/-- `Tr::from_str` and `Descriptor::from_str("tr(..)")` validate every leaf with `Tap::CONSENSUS` -/
theorem accepted_obeys_ctx_tr (e : Entry) (he : e = .trFromStr ∨ e = .descFromStr)
    (h : accepts env K .tap e ms = true) (hlen : len ms ≤ (extOf env .tap ms).pkCost) :
    ctxOK (factsFrom K len) .tap ms = true := by
  apply accepted_obeys_ctx_consensus env K .tap ms len _ hlen
  rcases he with rfl | rfl <;> simp only [accepts, Bool.and_eq_true] at h ⊢
  · exact h
  · exact ⟨h.1, h.2.1⟩

/-- everything a wrapper constructor / descriptor parser accepts was accepted by `from_ast`
and passed `top_level_checks` -/
theorem wrapper_imp_top (e : Entry) (he : e = .wrapper ∨ (e = .descFromStr ∧ ctx ≠ .tap))
    (h : accepts env K ctx e ms = true) :
    constructed env K ctx ms = true ∧ topLevelChecks K ctx ms = true := by
  rcases he with rfl | ⟨rfl, hne⟩
  · simp only [accepts, Bool.and_eq_true] at h; exact ⟨h.1, h.2.1⟩
  · cases ctx <;> simp_all [accepts]

/-- where MINIMALIF is enforced there is no restriction on `d:` / `or_i` -/
theorem ruleCond_of_minimalIf (h : minimalIf ctx = true) : ruleCond ctx ms = true := by
  simp only [ruleCond, everyNode_eq, List.all_eq_true]
  intro m _
  cases m <;> simp [condAllowed, h]

/-- the bare templates (`c:pk_k`, `c:pk_h`, `c:expr_raw_pkh`, `multi` with n ≤ 3) contain no
conditional -/
theorem ruleCond_of_bareTemplate (h : bareTemplate ms = true) : ruleCond .bare ms = true := by
  unfold bareTemplate at h
  split at h <;> first | rfl | simp at h

/-- `Wsh::new` / `Sh::new` / `Sh::new_wsh` / `Bare::new` / `Descriptor::new_*` /
`*::new_sortedmulti` and `Descriptor::from_str` of `wsh(..)`, `sh(..)`, `sh(wsh(..))`, bare:
R1 (type-B top level) and ALL fragment rules hold in every context; R4 (`d:`/`or_i`) holds in
every context except legacy. -/
theorem wrapper_obeys_ctx_partial (e : Entry)
    (he : e = .wrapper ∨ (e = .descFromStr ∧ ctx ≠ .tap))
    (h : accepts env K ctx e ms = true) (hlen : len ms ≤ (extOf env ctx ms).pkCost) :
    ruleTopB ctx ms = true ∧ ctxFragOK (factsFrom K len) ctx ms = true ∧
      (ctx ≠ .legacy → ruleCond ctx ms = true) := by
  obtain ⟨hc, htop⟩ := wrapper_imp_top env K ctx ms e he h
  have hfa : accepts env K ctx .fromAst ms = true := by simp [accepts, hc]
  have hfrag := from_ast_obeys_ctx env K ctx ms len hfa hlen
  have hrange : ruleRange ms = true := (constructed_rules env K ctx len ms hc).1
  simp only [topLevelChecks, topLevelTypeCheck, Bool.and_eq_true] at htop
  obtain ⟨⟨hB, _⟩, hbare⟩ := htop
  refine ⟨?_, hfrag, ?_⟩
  · cases hty : typeOf ms with
    | none => simp [hty] at hB
    | some ty =>
      simp only [hty] at hB
      exact ruleTopB_of_type ctx ms hrange hty (eq_of_beq hB)
  · intro hne
    cases ctx with
    | legacy => exact absurd rfl hne
    | bare => exact ruleCond_of_bareTemplate ms hbare
    | segwitv0 => exact ruleCond_of_minimalIf .segwitv0 ms rfl
    | tap => exact ruleCond_of_minimalIf .tap ms rfl

/-- T1 for ALL entry points but `from_ast` (for which `from_ast_obeys_ctx` has the fragment rules):
everything accepted obeys every rule of its context, except that
the `sh` wrapper / `sh(..)` parser do not enforce R4 (`d:`/`or_i` in legacy, F13) -/
theorem accepted_obeys_ctx (e : Entry) (he : e ≠ .fromAst)
    (hsh : ¬ (ctx = .legacy ∧ (e = .wrapper ∨ e = .descFromStr)))
    (h : accepts env K ctx e ms = true) (hlen : len ms ≤ (extOf env ctx ms).pkCost) :
    ctxOK (factsFrom K len) ctx ms = true := by
  have hw : ∀ e', (e' = .wrapper ∨ (e' = .descFromStr ∧ ctx ≠ .tap)) → ctx ≠ .legacy →
      accepts env K ctx e' ms = true → ctxOK (factsFrom K len) ctx ms = true := by
    intro e' he' hne h'
    obtain ⟨h1, h2, h3⟩ := wrapper_obeys_ctx_partial env K ctx ms len e' he' h' hlen
    simp only [ctxOK, Bool.and_eq_true]
    exact ⟨⟨h1, h3 hne⟩, h2⟩
  cases e with
  | fromAst => exact absurd rfl he
  | msSane => exact accepted_obeys_ctx_sane env K ctx ms len h hlen
  | msConsensus => exact accepted_obeys_ctx_consensus env K ctx ms len h hlen
  | msInsane => exact accepted_obeys_ctx_insane env K ctx ms len h hlen
  | trFromStr | trNew =>
    apply accepted_obeys_ctx_consensus env K ctx ms len _ hlen
    simpa only [accepts] using h
  | wrapper =>
    exact hw .wrapper (Or.inl rfl) (fun hc => hsh ⟨hc, Or.inl rfl⟩) h
  | descFromStr =>
    by_cases ht : ctx = .tap
    · subst ht
      exact accepted_obeys_ctx_tr env K ms len .descFromStr (Or.inr rfl) h hlen
    · exact hw .descFromStr (Or.inr ⟨rfl, ht⟩) (fun hc => hsh ⟨hc, Or.inr rfl⟩) h

/-- the byte length of the script the fragment really encodes to (Model/Encode, C04) -/
def encodedLen (env : KeyEnv) (ctx : Ctx) (ms : Ms) : Nat :=
  (Script.serialize (encode env ctx ms)).length

/-- T1 about the REAL encoded length: no size hypothesis is left; what remains are C09's
decidable side conditions on the atom table (`costOk`, `sizeOk`: keys, key hashes and hash
values have the byte lengths the context prescribes, numbers fit 32 bits), under which C09
proves `encoded length ≤ pk_cost` (`C09.pk_cost_ge_encoded_length`) -/
theorem accepted_obeys_ctx_encoded (e : Entry) (he : e ≠ .fromAst)
    (hsh : ¬ (ctx = .legacy ∧ (e = .wrapper ∨ e = .descFromStr)))
    (h : accepts env K ctx e ms = true)
    (hc : C09.costOk env ctx ms = true) (hs : C09.sizeOk env ctx ms = true) :
    ctxOK (factsFrom K (encodedLen env ctx)) ctx ms = true :=
  accepted_obeys_ctx env K ctx ms (encodedLen env ctx) e he hsh h
    (C09.pk_cost_ge_encoded_length env ctx ms hc hs)

/-- `from_ast_obeys_ctx` about the real encoded length, under the same two side conditions -/
theorem from_ast_obeys_ctx_encoded (h : accepts env K ctx .fromAst ms = true)
    (hc : C09.costOk env ctx ms = true) (hs : C09.sizeOk env ctx ms = true) :
    ctxFragOK (factsFrom K (encodedLen env ctx)) ctx ms = true :=
  from_ast_obeys_ctx env K ctx ms (encodedLen env ctx) h
    (C09.pk_cost_ge_encoded_length env ctx ms hc hs)

example : accepts C09.ke0 ⟨keyKindOf C09.ke0, fun _ => 1⟩ .segwitv0 .msSane (.check (.pkK 0)) = true ∧
    C09.costOk C09.ke0 .segwitv0 (.check (.pkK 0)) = true ∧
    C09.sizeOk C09.ke0 .segwitv0 (.check (.pkK 0)) = true := by decide

/-- the full statement (no exception for `sh`) -/
def accepted_obeys_ctx_full : Prop :=
  ∀ (env : KeyEnv) (K : KeyInfo) (ctx : Ctx) (e : Entry) (ms : Ms) (len : Ms → Nat),
    e ≠ .fromAst → accepts env K ctx e ms = true →
    len ms ≤ (extOf env ctx ms).pkCost → ctxOK (factsFrom K len) ctx ms = true

end T1

/-- F13: `Sh::new(or_i(pk(A),pk(B)))` and
`Descriptor::from_str("sh(or_i(pk(A),pk(B)))")` are accepted although `Legacy::CONSENSUS`
forbids `or_i` (likewise `d:`); `Miniscript::<_, Legacy>::from_str*` reject them.
(The last four conjuncts: rejected are a non-B top level (/repo 8a19a019), `pk_h` of an x-only and of an uncompressed key in segwit v0 (4cd8ebfa), a non-B tap leaf through `Tr::new` (2d0df974).) -/
theorem sh_accepts_or_i :
    accepts demoEnv demoK .legacy .descFromStr (.orI (.check (.pkK 0)) (.check (.pkK 1))) = true ∧
    accepts demoEnv demoK .legacy .wrapper (.orI (.check (.pkK 0)) (.check (.pkK 1))) = true ∧
    accepts demoEnv demoK .legacy .wrapper
      (.andV (.verify (.check (.pkK 0))) (.dupIf (.verify (.older 10)))) = true ∧
    ruleCond .legacy (.orI (.check (.pkK 0)) (.check (.pkK 1))) = false ∧
    accepts demoEnv demoK .legacy .msConsensus (.orI (.check (.pkK 0)) (.check (.pkK 1))) = false ∧
    accepts demoEnv demoK .segwitv0 .wrapper (.pkK 0) = false ∧
    accepts demoEnv demoK .segwitv0 .wrapper (.check (.pkH 200)) = false ∧
    accepts demoEnv demoK .segwitv0 .descFromStr (.check (.pkH 100)) = false ∧
    accepts demoEnv demoK .tap .trNew (.pkK 200) = false := by
  decide

/-- the full statement is false: `Sh::new(or_i(pk(A),pk(B)))` is accepted and breaks the legacy
context's rule on `or_i` -/
theorem accepted_obeys_ctx_false : ¬ accepted_obeys_ctx_full := by
  intro h
  have := h demoEnv demoK .legacy .wrapper (.orI (.check (.pkK 0)) (.check (.pkK 1)))
    (fun ms => (extOf demoEnv .legacy ms).pkCost) (by decide) (by decide) (Nat.le_refl _)
  revert this; decide

example : accepts demoEnv demoK .segwitv0 .wrapper (.check (.pkK 0)) = true ∧
    accepts demoEnv demoK .segwitv0 .msSane (.check (.pkK 0)) = true ∧
    ctxOK (demoF .segwitv0) .segwitv0 (.check (.pkK 0)) = true ∧
    acceptsSortedMulti demoEnv demoK .segwitv0 1 [0, 1] = true ∧
    acceptsSortedMulti demoEnv demoK .segwitv0 1 [100, 0] = false := by decide

/-! ## key-only descriptors, taproot trees, `decode_with_validation_params` -/

/-- `Pkh::new` / `Wpkh::new` / `Sh::new_wpkh` / `Tr::new(k, None)` / `Descriptor::new_*` and the
parsers of `pkh(K)`, `wpkh(K)`, `sh(wpkh(K))`, `pk(K)`, `tr(K)` (one model for constructor and
parser): accepted IF AND ONLY IF the context permits the key's kind -/
theorem key_only_accepts_iff (K : KeyInfo) (len : Ms → Nat) (d : KeyDesc) (k : Key) :
    keyOnlyAccepts K d k = keyAllowed (factsFrom K len) d.ctx k :=
  checkPk_eq K len d.ctx k

/-- `Descriptor::new_pk` cannot report an error: it panics exactly on the keys the bare context
forbids (x-only keys) -/
theorem new_pk_panics_iff (K : KeyInfo) (len : Ms → Nat) (k : Key) :
    keyOnlyOutcome K .pk true k = .panic ↔ keyAllowed (factsFrom K len) .bare k = false := by
  simp only [keyOnlyOutcome, key_only_accepts_iff K len, KeyDesc.ctx]
  cases keyAllowed (factsFrom K len) .bare k <;> simp

example : keyOnlyAccepts demoK .wpkh 100 = false ∧ keyOnlyAccepts demoK .wpkh 0 = true ∧
    keyOnlyAccepts demoK .tr 0 = true ∧ keyOnlyOutcome demoK .pk true 200 = .panic := by decide

/-- multi-leaf `tr`: whatever `TapTree::combine` + `Tr::new`, `Tr::from_str` or
`Descriptor::from_str` accept has every leaf at depth ≤ 128 and every leaf obeys the Tapscript
rules -/
theorem tr_tree_accepts_obeys (env : KeyEnv) (K : KeyInfo) (len : Ms → Nat) (e : Entry)
    (he : e = .trNew ∨ e = .trFromStr ∨ e = .descFromStr) (t : TapT)
    (h : trTreeAccepts env K e t = true)
    (hlen : ∀ m ∈ t.leaves, len m ≤ (extOf env .tap m).pkCost) :
    tapTreeOK (factsFrom K len) (t.depths 0) t.leaves = true := by
  simp only [trTreeAccepts, Bool.and_eq_true, decide_eq_true_eq, List.all_eq_true] at h
  simp only [tapTreeOK, Bool.and_eq_true, List.all_eq_true, decide_eq_true_eq]
  refine ⟨fun d hd => by have := depths_le_height t 0 d hd; omega, fun m hm => ?_⟩
  apply accepted_obeys_ctx env K .tap m len e _ _ (h.2 m hm) (hlen m hm)
  · rcases he with rfl | rfl | rfl <;> decide
  · rintro ⟨hc, _⟩; cases hc

example : trTreeAccepts demoEnv demoK .trNew
      (.node (.leaf (.check (.pkK 200))) (.leaf (.check (.pkK 201)))) = true ∧
    trTreeAccepts demoEnv demoK .trNew (.node (.leaf (.check (.pkK 200))) (.leaf (.pkK 201))) = false := by
  decide

/-- `decode_with_validation_params(script, p)` is "decode, then `validate(p)`": once the script
decodes under `MAX`, the verdict under any `p` is the verdict of `validate` on the decoded AST -/
theorem decode_then_validate (env : KeyEnv) (K : KeyInfo) (ctx : Ctx) (p : ValidationParams)
    (ms : Ms) (h : decodeAccepts env K ctx .MAX ms = true) :
    decodeAccepts env K ctx p ms = isOk (validate env K ctx p ms) := by
  simp only [decodeAccepts, Bool.and_eq_true] at h ⊢
  simp [h.1]

/-- what the decoder accepts under parameters at least as tight as the context's `CONSENSUS`
(`decode_consensus`, `decode`, …) obeys every rule of the context — although the decoder
itself pushes `pk_k` / `multi` / lock leaves unchecked: `validate` makes up for it.
`hlen`: as in `accepted_obeys_ctx_consensus`. -/
theorem decode_accepts_obeys_ctx (env : KeyEnv) (K : KeyInfo) (ctx : Ctx) (p : ValidationParams)
    (ms : Ms) (len : Ms → Nat) (hp : p.entails ctx.CONSENSUS = true)
    (h : decodeAccepts env K ctx p ms = true) (hlen : len ms ≤ (extOf env ctx ms).pkCost) :
    ctxOK (factsFrom K len) ctx ms = true := by
  simp only [decodeAccepts, decConstructed, Bool.and_eq_true, List.all_eq_true] at h
  obtain ⟨⟨⟨hnodes, hglob⟩, _⟩, hv⟩ := h
  have hv' : validOK env K ctx ctx.CONSENSUS ms = true := by
    rw [← validate_isOk]; exact validate_monotone env K ctx hp ms hv
  have hrange : ruleRange ms = true := by
    simp only [ruleRange, everyNode_eq, List.all_eq_true]
    intro m hm; rw [← termNodeOk_eq]; exact (hnodes m hm).1
  refine ctxOK_of_validOK_consensus env K ctx len ms hv' hrange ?_
  simp only [checkGlobalValidity, Bool.and_eq_true] at hglob
  exact decide_eq_true (Nat.le_trans hlen (sizeChecked_le _ _ hglob.2))

/-! ## the public-API routes that bypass `RelLockTime::from_consensus` / `from_ast` -/

/-- the API routes accept at least what the `from_consensus` + `from_ast` route accepts, and the
unchecked leaf constructors accept at least what `from_ast` on every node accepts -/
theorem api_routes_monotone (env : KeyEnv) (K : KeyInfo) (ctx : Ctx) (ms : Ms)
    (h : constructed env K ctx ms = true) :
    constructedApi false env K ctx ms = true ∧ constructedApi true env K ctx ms = true := by
  have hterm : ∀ m, termNodeOk m = true → termNodeOkApi m = true := by
    intro m hm
    cases m
    case older n => exact and_left hm
    all_goals exact hm
  suffices hnode : ∀ ctor, constructedApi ctor env K ctx ms = true from ⟨hnode false, hnode true⟩
  intro ctor
  simp only [constructed, constructedApi, List.all_eq_true] at h ⊢
  intro m hm
  split
  · exact hterm m (and_left (and_left (and_left (h m hm))))
  · exact h m hm

/-- F19 (known_findings.txt, abe9c44e: `from_ast` refuses `older(0)`): a miniscript containing `older(0)`
cannot be built with `from_ast`, so no entry point fed through the checked route accepts
`and_v(v:pk(A),older(0))`.  The unchecked leaf constructor
`Miniscript::older(RelLockTime::ZERO)` builds the leaf, its parents' `from_ast` do not look
at it and `validate` has no lock-range check — one of the unchecked leaf constructors
(F20: DESIGN.md §9.3, not repaired) -/
theorem api_older_zero :
    let s := Ms.andV (.verify (.check (.pkK 0))) (.older 0)
    acceptsApi false demoEnv demoK .segwitv0 .fromAst s = false ∧
    acceptsApi false demoEnv demoK .segwitv0 .msSane s = false ∧
    acceptsApi false demoEnv demoK .segwitv0 .wrapper s = false ∧
    acceptsApi false demoEnv demoK .legacy .wrapper s = false ∧
    acceptsApi false demoEnv demoK .tap .trNew (.andV (.verify (.check (.pkK 200))) (.older 0)) = false ∧
    acceptsApi false demoEnv demoK .segwitv0 .fromAst (.older 0) = false ∧
    accepts demoEnv demoK .segwitv0 .fromAst s = false ∧ ruleRange s = false ∧
    -- through `Miniscript::older(RelLockTime::ZERO)`
    acceptsApi true demoEnv demoK .segwitv0 .fromAst (.older 0) = true ∧
    acceptsApi true demoEnv demoK .segwitv0 .wrapper s = true := by
  decide

/-- F20 (DESIGN.md §9.3, not repaired): the unchecked leaf constructors yield miniscripts whose keys the context forbids;
every wrapper catches them with `validate` — `Bare::new` too (F21: known_findings.txt, d43c12c1) -/
theorem api_ctor_wrong_key_kinds :
    acceptsApi true demoEnv demoK .segwitv0 .fromAst (.check (.pkK 200)) = true ∧
    acceptsApi true demoEnv demoK .tap .fromAst (.multi 1 [200, 201]) = true ∧
    ruleKeys (demoF .segwitv0) .segwitv0 (.check (.pkK 200)) = false ∧
    acceptsApi true demoEnv demoK .bare .wrapper (.check (.pkK 200)) = false ∧
    acceptsApi true demoEnv demoK .bare .wrapper (.multi 2 [200, 201, 202]) = false ∧
    acceptsApi true demoEnv demoK .bare .wrapper (.check (.pkK 0)) = true ∧
    acceptsApi true demoEnv demoK .segwitv0 .wrapper (.check (.pkK 200)) = false ∧
    acceptsApi true demoEnv demoK .legacy .wrapper (.check (.pkK 200)) = false ∧
    acceptsApi true demoEnv demoK .tap .trNew (.check (.pkK 100)) = false ∧
    acceptsApi false demoEnv demoK .bare .wrapper (.check (.pkK 200)) = false := by
  decide

/-! ## one model of `validate`: C08's mirror is this one -/

/-- `CC.validateSane` (Model/CompileCheck.lean, used by C08's compiler checker) equals
`validate … ctx.SANE` of Model/Validate.lean on the compiler's key table, for every script whose
satisfaction figures fit a `usize` (`FitsUsize`; true of every Rust value by construction) -/
theorem c08_validateSane_is_validate (env : KeyEnv) (ctx : Ctx) (m : Ms)
    (hfit : FitsUsize env ctx m) :
    CC.validateSane env ctx m = isOk (validate env (ccKeys env) ctx ctx.SANE m) :=
  validateSane_eq_validate env ctx m hfit

/-! ## T4 — what the descriptor parser accepts, the miniscript parser with the context's
consensus parameters accepts -/

/-- `tr(..)`: every leaf is validated with `Tap::CONSENSUS` (and `Tap::SANE`);
`wsh(..)` / `sh(wsh(..))`: `Wsh::new` validates with `Segwitv0::CONSENSUS` (/repo f6816493) -/
theorem descriptor_accept_imp_consensus (env : KeyEnv) (K : KeyInfo) (ctx : Ctx) (ms : Ms)
    (hctx : ctx = .tap ∨ ctx = .segwitv0) (h : accepts env K ctx .descFromStr ms = true) :
    accepts env K ctx .msConsensus ms = true := by
  rcases hctx with rfl | rfl <;> simp only [accepts, wrapperValidate, Bool.and_eq_true] at h ⊢
  · exact ⟨h.1, h.2.1⟩
  · exact ⟨h.1, h.2.2⟩

/-- `sh(..)`: accepted ⇒ accepted by the miniscript parser with `Legacy::CONSENSUS` relaxed on
`d:`/`or_i` (`SH_PARAMS`), hence with `Legacy::CONSENSUS` itself whenever the script contains
neither fragment (by T2: the two switches reject exactly those scripts) -/
theorem descriptor_accept_imp_consensus_legacy_partial (env : KeyEnv) (K : KeyInfo) (ms : Ms)
    (h : accepts env K .legacy .descFromStr ms = true) :
    isOk (validate env K .legacy SH_PARAMS ms) = true ∧
    (hasDefect_dupIf ms = false → hasDefect_orI ms = false →
      accepts env K .legacy .msConsensus ms = true) := by
  simp only [accepts, wrapperValidate, Bool.and_eq_true] at h ⊢
  refine ⟨h.2.2, fun hd ho => ⟨h.1, ?_⟩⟩
  have e : Ctx.CONSENSUS .legacy
      = { ({ SH_PARAMS with allowDupIf := false } : ValidationParams) with allowOrI := false } := rfl
  rw [e, switch_exact_or_i, switch_exact_dup_if, h.2.2, hd, ho]
  rfl

/-- the statement for every context -/
def descriptor_accept_imp_consensus_full : Prop :=
  ∀ (env : KeyEnv) (K : KeyInfo) (ctx : Ctx) (ms : Ms),
    accepts env K ctx .descFromStr ms = true → accepts env K ctx .msConsensus ms = true

/-- FALSE for `sh(..)` (F13): `sh(or_i(pk(A),pk(B)))` is accepted,
`Miniscript::<_, Legacy>::from_str_with_validation_params(_, &Legacy::CONSENSUS)` rejects it.
For bare descriptors the implication holds on every script of the run (judge `t4`) but is not
proved here (it needs the size/opcode figures of the five bare templates). -/
theorem descriptor_accept_imp_consensus_false : ¬ descriptor_accept_imp_consensus_full := by
  intro h
  have := h demoEnv demoK .legacy (.orI (.check (.pkK 0)) (.check (.pkK 1))) (by decide)
  revert this; decide

/-- what holds for every context: the descriptor parser accepts only what `from_ast` accepts on
every node, with a type-B top level -/
theorem descriptor_accept_imp_constructed (env : KeyEnv) (K : KeyInfo) (ctx : Ctx) (ms : Ms)
    (h : accepts env K ctx .descFromStr ms = true) : accepts env K ctx .fromAst ms = true := by
  simp only [accepts, Bool.and_eq_true] at h ⊢
  simp [h.1]

example : accepts demoEnv demoK .tap .descFromStr (.check (.pkK 200)) = true ∧
    accepts demoEnv demoK .legacy .descFromStr (.check (.pkK 0)) = true ∧
    hasDefect_orI (.check (.pkK 0)) = false := by decide

end MsVerif.C12
