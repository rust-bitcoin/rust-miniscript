/-
C14 — PSBT finalization yields a valid spend, atomically and idempotently.

Theorems about `Model/Psbt.lean` (the finalizer state machine of `src/psbt/finalizer.rs` and
`PsbtExt` of `src/psbt/mod.rs`).  The satisfier and the interpreter are parameters
(`Params`); every statement holds for ALL parameter values unless a hypothesis says
otherwise; `InterpSound`, `NonEmptySpend`, `Local` hold of the example `exP` (section "concrete instances"); `hnp` of
`finalizeMut_idempotent` is `finalizeMut_no_panic`.

* T1 `finalize_valid`, `extract_valid`: relative to soundness of the interpreter parameter
  (C13's statement) every freshly finalized input, and every input of an extracted
  transaction, is a valid spend of the referenced output in the unsigned transaction.
* T2 `finalize_preserves_final`, `finalize_atomic` (+ `finalizeMut_atomic`),
  `finalize_idempotent` (both need `NonEmptySpend`; single input: unconditional for failing calls; whole PSBT: needs the
  satisfier to be local to its input — shown necessary by a counterexample).
* T3 `order_independent`: the result is a function of the field maps; insertions with
  distinct keys commute.
* T4 (update consistency; DESIGN.md §4 C14): Thm/C14c.lean.
* the model has the checks of /repo f16c17ed (F8, DESIGN.md §1.1), 4a4e750d, ee7f5691 (DESIGN.md §9.3):
  `finalize_never_panics` (no public entry
  point panics, on any PSBT), `finalize_inp_mall_honours_mall` (an equation).
-/
import MsVerif.Lemmas.PsbtRes

namespace MsVerif.C14
open MsVerif.Psbt

theorem final_fields_decode_ss (ss : SS) : (if ss.isEmpty then none else some ss : Option SS).getD [] = ss := by
  cases ss <;> simp

theorem final_fields_decode_wit (w : Wit) : (if w.isEmpty then none else some w : Option Wit).getD [] = w := by
  cases w <;> simp

theorem finalizedInput_isFinal (inp : Input) (wit : Wit) (ss : SS) (h : ¬(wit = [] ∧ ss = [])) :
    (finalizedInput inp wit ss).isFinal = true := by
  cases wit <;> cases ss <;> simp_all [finalizedInput, Input.isFinal]

theorem finalizeInput_ok_core (P : Params) (p p' : Psbt) (i : Nat) (m : Bool)
    (h : finalizeInput P p i m = .ok p') :
    p.tx.ins.length = p.inputs.length ∧ finalizeInputCore P p i m = .ok p' := by
  unfold finalizeInput at h
  by_cases hc : p.tx.ins.length = p.inputs.length
  · simp [hc] at h; exact ⟨hc, h⟩
  · simp [hc] at h

theorem finalizeInput_eq_core (P : Params) (p : Psbt) (i : Nat) (m : Bool)
    (hc : p.tx.ins.length = p.inputs.length) : finalizeInput P p i m = finalizeInputCore P p i m := by
  simp [finalizeInput, hc]

theorem lookup_set_of_some {α : Type} {l : List α} {i : Nat} {a : α} (b : α) (h : l[i]? = some a) (j : Nat) :
    (l.set i b)[j]? = if j = i then some b else l[j]? := by
  rw [List.getElem?_set, if_pos (List.getElem?_eq_some_iff.mp h).1]
  by_cases hj : i = j
  · rw [if_pos hj, if_pos hj.symm]
  · rw [if_neg hj, if_neg (Ne.symm hj)]

theorem finalizeInput_ok_cases (P : Params) (p p' : Psbt) (i : Nat) (m : Bool)
    (h : finalizeInput P p i m = .ok p') :
    ∃ inp, p.inputs[i]? = some inp ∧
      ((inp.isFinal = true ∧ p' = p) ∨
       (inp.isFinal = false ∧ ∃ wit ss, finalizeInputHelper P p i m = .ok (wit, ss) ∧
          p' = { p with inputs := p.inputs.set i (finalizedInput inp wit ss) })) := by
  have h := (finalizeInput_ok_core P p p' i m h).2
  unfold finalizeInputCore at h
  cases hi : p.inputs[i]? with
  | none => rw [hi] at h; cases h
  | some inp =>
    refine ⟨inp, rfl, ?_⟩
    rw [hi] at h
    dsimp only at h
    cases hf : inp.isFinal with
    | true => rw [hf, if_pos rfl] at h; exact Or.inl ⟨rfl, (Res.ok.inj h).symm⟩
    | false =>
      rw [hf, if_neg Bool.false_ne_true, Res.bind_eq_ok] at h
      obtain ⟨r, hh, hp⟩ := h
      exact Or.inr ⟨rfl, r.1, r.2, hh, (Res.ok.inj hp).symm⟩

theorem interpreterInpCheck_ok (P : Params) (p : Psbt) (i : Nat) (utxos : List TxOut) (w : Wit) (s : SS)
    (h : interpreterInpCheck P p i utxos w s = .ok ()) :
    ∃ utxo, getUtxo p i = .ok utxo ∧ P.interp p.tx i utxos utxo.spk w s = true := by
  unfold interpreterInpCheck getScriptPubkey at h
  simp only [Res.bind_eq_ok, Res.mapErr_eq_ok] at h
  obtain ⟨spk, ⟨utxo, hu, hspk⟩, h⟩ := h
  cases Res.ok.inj hspk
  refine ⟨utxo, hu, ?_⟩
  split at h
  · cases h
  · split at h
    · assumption
    · cases h

theorem helper_ok_interp (P : Params) (p : Psbt) (i : Nat) (m : Bool) (wit : Wit) (ss : SS)
    (h : finalizeInputHelper P p i m = .ok (wit, ss)) :
    ∃ utxo utxos, getUtxo p i = .ok utxo ∧ prevouts p = .ok utxos ∧
      P.interp p.tx i utxos utxo.spk wit ss = true := by
  unfold finalizeInputHelper at h
  simp only [Res.bind_eq_ok, Res.mapErr_eq_ok] at h
  obtain ⟨_, _, r, _, utxos, hp, _, hint, hr⟩ := h
  cases Res.ok.inj hr
  obtain ⟨utxo, hu, hi⟩ := interpreterInpCheck_ok P p i utxos wit ss hint
  exact ⟨utxo, utxos, hu, hp, hi⟩

/-! ## T1 — a finalized input spends the referenced output -/

/-- soundness of the interpreter parameter with respect to a validity predicate (instantiated with C13's
interpreter and "the inner script accepts" in `Thm/C14b.lean`; the step to `Spend.verifySpend` is not taken
there) -/
def InterpSound (P : Params) (Valid : Tx → Nat → List TxOut → Scr → SS → Wit → Prop) : Prop :=
  ∀ tx i utxos spk wit ss, P.interp tx i utxos spk wit ss = true → Valid tx i utxos spk ss wit

/-- T1: if `finalize_input` succeeds on an input that was not final, the input now carries
final fields that decode (empty = absent) to a scriptSig / witness pair which is a valid spend
of the output referenced by input `i` of the ACTUAL unsigned transaction, and the utxo fields are kept.
(That all other fields are cleared is `finalizeInput_ok_cases`: the input is `finalizedInput inp wit ss`.) -/
theorem finalize_valid (P : Params) (Valid : Tx → Nat → List TxOut → Scr → SS → Wit → Prop)
    (hs : InterpSound P Valid) (p p' : Psbt) (i : Nat) (m : Bool) (inp : Input)
    (hi : p.inputs[i]? = some inp) (hnf : inp.isFinal = false)
    (h : finalizeInput P p i m = .ok p') :
    ∃ inp' utxo utxos, p'.inputs[i]? = some inp' ∧ getUtxo p i = .ok utxo ∧ prevouts p = .ok utxos ∧
      p'.tx = p.tx ∧
      inp'.witnessUtxo = inp.witnessUtxo ∧ inp'.nonWitnessUtxo = inp.nonWitnessUtxo ∧
      Valid p.tx i utxos utxo.spk (inp'.finalScriptSig.getD []) (inp'.finalScriptWitness.getD []) := by
  obtain ⟨inp0, hi0, hc⟩ := finalizeInput_ok_cases P p p' i m h
  rw [hi] at hi0
  cases hi0
  rcases hc with ⟨hf, _⟩ | ⟨_, wit, ss, hh, rfl⟩
  · rw [hnf] at hf; cases hf
  · obtain ⟨utxo, utxos, hu, hpv, hint⟩ := helper_ok_interp P p i m wit ss hh
    refine ⟨finalizedInput inp wit ss, utxo, utxos, ?_, hu, hpv, rfl, rfl, rfl, ?_⟩
    · exact (lookup_set_of_some _ hi i).trans (if_pos rfl)
    · simp only [finalizedInput, final_fields_decode_ss, final_fields_decode_wit]
      exact hs _ _ _ _ _ _ hint

/-! ## T2 — frame, atomicity, preservation of final inputs -/

/-- every input after `finalize_input` is either untouched or freshly and completely written -/
def InputStep (before after : Option Input) : Prop :=
  after = before ∨
  ∃ inp wit ss, before = some inp ∧ inp.isFinal = false ∧ after = some (finalizedInput inp wit ss)

theorem inputStep_refl (a : Option Input) : InputStep a a := Or.inl rfl

theorem inputStep_of_final {inp : Input} {b : Option Input} (h : InputStep (some inp) b)
    (hf : inp.isFinal = true) : b = some inp := by
  rcases h with h | ⟨_, _, _, ha, hnf, _⟩
  · exact h
  · cases ha; rw [hf] at hnf; cases hnf

theorem finalizeInput_step (P : Params) (p p' : Psbt) (i : Nat) (m : Bool)
    (h : finalizeInput P p i m = .ok p') (j : Nat) : InputStep p.inputs[j]? p'.inputs[j]? := by
  obtain ⟨inp0, hi0, hc⟩ := finalizeInput_ok_cases P p p' i m h
  rcases hc with ⟨_, rfl⟩ | ⟨hnf, wit, ss, _, rfl⟩
  · exact Or.inl rfl
  · dsimp only
    rw [lookup_set_of_some _ hi0]
    split
    · subst j; exact Or.inr ⟨inp0, wit, ss, hi0, hnf, rfl⟩
    · exact Or.inl rfl

theorem finalizeInput_frame (P : Params) (p p' : Psbt) (i : Nat) (m : Bool)
    (h : finalizeInput P p i m = .ok p') :
    p'.tx = p.tx ∧ p'.inputs.length = p.inputs.length ∧
    (∀ j, j ≠ i → p'.inputs[j]? = p.inputs[j]?) ∧
    (∀ (j : Nat) (inp inp' : Input), p.inputs[j]? = some inp → p'.inputs[j]? = some inp' →
        inp'.witnessUtxo = inp.witnessUtxo ∧ inp'.nonWitnessUtxo = inp.nonWitnessUtxo) := by
  obtain ⟨inp0, hi0, hc⟩ := finalizeInput_ok_cases P p p' i m h
  refine ⟨?_, ?_, fun j hj => ?_, fun j inp inp' h1 h2 => ?_⟩
  · rcases hc with ⟨_, rfl⟩ | ⟨_, _, _, _, rfl⟩ <;> rfl
  · rcases hc with ⟨_, rfl⟩ | ⟨_, _, _, _, rfl⟩
    · rfl
    · exact List.length_set
  · rcases hc with ⟨_, rfl⟩ | ⟨_, _, _, _, rfl⟩
    · rfl
    · exact List.getElem?_set_ne (Ne.symm hj)
  · rcases finalizeInput_step P p p' i m h j with e | ⟨a, _, _, ha, _, hb⟩
    · rw [e, h1] at h2; cases h2; exact ⟨rfl, rfl⟩
    · rw [h1] at ha; rw [h2] at hb; cases ha; cases hb; exact ⟨rfl, rfl⟩

/-- T2: `finalize_input` — whatever its index and mode — never
alters an input that is already final -/
theorem finalize_preserves_final (P : Params) (p p' : Psbt) (i : Nat) (m : Bool)
    (h : finalizeInput P p i m = .ok p') (j : Nat) (inp : Input)
    (hj : p.inputs[j]? = some inp) (hf : inp.isFinal = true) :
    p'.inputs[j]? = some inp :=
  inputStep_of_final (hj ▸ finalizeInput_step P p p' i m h j) hf

/-- `finalize_inp_mut` and `finalize_inp_mall_mut` are one function of the `allow_mall` flag they
pass on (`false`, resp. `inpMallFlag`) -/
def inpMut (P : Params) (p : Psbt) (i : Nat) (m : Bool) : MutOut Err :=
  if i ≥ p.inputs.length then ⟨p, .err .idxOutOfBounds⟩ else
  match finalizeInput P p i m with
  | .ok p' => ⟨p', .ok ()⟩
  | .err e => ⟨p, .err e⟩
  | .panic => ⟨p, .panic⟩

example (P : Params) (p : Psbt) (i : Nat) : finalizeInpMut P p i = inpMut P p i false := rfl
example (P : Params) (p : Psbt) (i : Nat) : finalizeInpMallMut P p i = inpMut P p i inpMallFlag := rfl

theorem inpMut_atomic (P : Params) (p : Psbt) (i : Nat) (m : Bool) :
    let o := inpMut P p i m
    (o.result ≠ .ok () → o.psbt = p) ∧
    (o.result = .ok () → ∀ j, j ≠ i → o.psbt.inputs[j]? = p.inputs[j]?) := by
  unfold inpMut
  split
  · exact ⟨fun _ => rfl, nofun⟩
  · cases h : finalizeInput P p i m with
    | ok p' => exact ⟨fun hne => absurd rfl hne, fun _ => (finalizeInput_frame P p p' i m h).2.2.1⟩
    | err e => exact ⟨fun _ => rfl, nofun⟩
    | panic => exact ⟨fun _ => rfl, nofun⟩

/-- T2, single input (`finalize_inp_mut`, `finalize_inp_mall_mut`):
an error (or a panic) leaves the whole PSBT as it was; success changes input `i` at most. -/
theorem finalize_atomic (P : Params) (p : Psbt) (i : Nat) :
    let o := finalizeInpMut P p i
    (o.result ≠ .ok () → o.psbt = p) ∧
    (o.result = .ok () → ∀ j, j ≠ i → o.psbt.inputs[j]? = p.inputs[j]?) :=
  inpMut_atomic P p i false

theorem finalize_atomic_mall (P : Params) (p : Psbt) (i : Nat) :
    let o := finalizeInpMallMut P p i
    (o.result ≠ .ok () → o.psbt = p) ∧
    (o.result = .ok () → ∀ j, j ≠ i → o.psbt.inputs[j]? = p.inputs[j]?) :=
  inpMut_atomic P p i inpMallFlag

theorem finalizedInput_twice (a : Input) (w w' : Wit) (s s' : SS) :
    finalizedInput (finalizedInput a w s) w' s' = finalizedInput a w' s' := rfl

theorem inputStep_trans {a b c : Option Input} (h1 : InputStep a b) (h2 : InputStep b c) : InputStep a c := by
  rcases h1 with rfl | ⟨inp, w, s, rfl, hnf, rfl⟩
  · exact h2
  · rcases h2 with rfl | ⟨inp2, w2, s2, h, _, rfl⟩
    · exact Or.inr ⟨inp, w, s, rfl, hnf, rfl⟩
    · cases h
      exact Or.inr ⟨inp, w2, s2, rfl, hnf, by rw [finalizedInput_twice]⟩

theorem finalizeLoop_es (P : Params) (m : Bool) : ∀ (is : List Nat) (p : Psbt) (es : List Err),
    finalizeLoop P m is p es =
      ((finalizeLoop P m is p []).1, es ++ (finalizeLoop P m is p []).2.1, (finalizeLoop P m is p []).2.2) := by
  intro is
  induction is with
  | nil => intro p es; simp [finalizeLoop]
  | cons i tl ih =>
    intro p es
    simp only [finalizeLoop]
    cases h : finalizeInput P p i m with
    | ok p' => simp only; exact ih p' es
    | err e =>
      simp only
      rw [ih p (es ++ [e]), ih p ([] ++ [e])]
      simp
    | panic => simp

theorem finalizeLoop_step (P : Params) (m : Bool) : ∀ (is : List Nat) (p : Psbt) (es : List Err),
    (finalizeLoop P m is p es).1.tx = p.tx ∧
    (finalizeLoop P m is p es).1.inputs.length = p.inputs.length ∧
    (∀ j : Nat, InputStep p.inputs[j]? (finalizeLoop P m is p es).1.inputs[j]?) ∧
    (∀ j : Nat, j ∉ is → (finalizeLoop P m is p es).1.inputs[j]? = p.inputs[j]?) := by
  intro is p es
  fun_induction finalizeLoop P m is p es with
  | case1 p es => exact ⟨rfl, rfl, fun _ => Or.inl rfl, fun _ _ => rfl⟩
  | case2 i is p es p' h ih =>
    obtain ⟨h1, h2, h3, h4⟩ := ih
    obtain ⟨f1, f2, f3, _⟩ := finalizeInput_frame P p p' i m h
    refine ⟨h1.trans f1, h2.trans f2,
      fun j => inputStep_trans (finalizeInput_step P p p' i m h j) (h3 j), fun j hj => ?_⟩
    rw [List.mem_cons, not_or] at hj
    rw [h4 j hj.2, f3 j hj.1]
  | case3 i is p es e h ih =>
    obtain ⟨h1, h2, h3, h4⟩ := ih
    exact ⟨h1, h2, h3, fun j hj => h4 j fun hm => hj (List.mem_cons_of_mem _ hm)⟩
  | case4 i is p es h => exact ⟨rfl, rfl, fun _ => Or.inl rfl, fun _ _ => rfl⟩

/-- T2 (`finalize_atomic`, whole PSBT): after `finalize_mut` / `finalize_mall_mut` — whether it
returns `Ok`, a vector of errors, or panics half-way — the transaction and the number of
inputs are unchanged and EVERY input is either exactly as before or was not final and now
consists of its utxo fields plus the final fields only.  (Inputs finalized before a later
input fails stay finalized: atomicity is per input, as the documentation of `finalize_mut`
says.) -/
theorem finalizeMut_atomic (P : Params) (p : Psbt) (m : Bool) :
    (finalizeMut P p m).psbt.tx = p.tx ∧
    (finalizeMut P p m).psbt.inputs.length = p.inputs.length ∧
    ∀ j : Nat, InputStep p.inputs[j]? (finalizeMut P p m).psbt.inputs[j]? := by
  have h := finalizeLoop_step P m (List.range p.inputs.length) p []
  have hp : (finalizeMut P p m).psbt = (finalizeLoop P m (List.range p.inputs.length) p []).1 := by
    unfold finalizeMut
    rcases hl : finalizeLoop P m (List.range p.inputs.length) p [] with ⟨p', es, fl⟩
    cases fl <;> cases es <;> rfl
  rw [hp]
  exact ⟨h.1, h.2.1, h.2.2.1⟩

/-- T2 (`finalize_preserves_final`, whole PSBT): already-final inputs are never altered -/
theorem finalizeMut_preserves_final (P : Params) (p : Psbt) (m : Bool) (j : Nat) (inp : Input)
    (hj : p.inputs[j]? = some inp) (hf : inp.isFinal = true) :
    (finalizeMut P p m).psbt.inputs[j]? = some inp :=
  inputStep_of_final (hj ▸ (finalizeMut_atomic P p m).2.2 j) hf

/-! ## T2 — idempotence -/

/-- the interpreter parameter rejects the spend with empty scriptSig AND empty witness (true of
every output type a sane descriptor produces: all need at least a signature) -/
def NonEmptySpend (P : Params) : Prop := ∀ tx i utxos spk, P.interp tx i utxos spk [] [] = false

theorem finalizeInput_of_final (P : Params) (p : Psbt) (i : Nat) (m : Bool) (inp : Input)
    (hc : p.tx.ins.length = p.inputs.length)
    (hi : p.inputs[i]? = some inp) (hf : inp.isFinal = true) : finalizeInput P p i m = .ok p := by
  simp [finalizeInput, finalizeInputCore, hc, hi, hf]

theorem finalizeInput_makes_final (P : Params) (hne : NonEmptySpend P) (p p' : Psbt) (i : Nat) (m : Bool)
    (h : finalizeInput P p i m = .ok p') : ∃ inp', p'.inputs[i]? = some inp' ∧ inp'.isFinal = true := by
  obtain ⟨inp0, hi0, hc⟩ := finalizeInput_ok_cases P p p' i m h
  rcases hc with ⟨hf, rfl⟩ | ⟨_, wit, ss, hh, rfl⟩
  · exact ⟨inp0, hi0, hf⟩
  · refine ⟨_, (lookup_set_of_some _ hi0 i).trans (if_pos rfl), finalizedInput_isFinal _ _ _ ?_⟩
    rintro ⟨rfl, rfl⟩
    obtain ⟨utxo, utxos, _, _, hint⟩ := helper_ok_interp P p i m [] [] hh
    rw [hne] at hint
    cases hint

/-- T2, single input: calling `finalize_inp_mut` again — after success,
after an error, after a panic — returns the same result and the same PSBT. -/
theorem finalize_idempotent (P : Params) (hne : NonEmptySpend P) (p : Psbt) (i : Nat) :
    finalizeInpMut P (finalizeInpMut P p i).psbt i = finalizeInpMut P p i := by
  unfold finalizeInpMut
  by_cases hge : i ≥ p.inputs.length
  · simp [hge]
  · simp only [hge, if_false]
    cases h : finalizeInput P p i false with
    | ok p' =>
      simp only
      obtain ⟨inp', hi', hf'⟩ := finalizeInput_makes_final P hne p p' i false h
      have hfr := finalizeInput_frame P p p' i false h
      have hlen := hfr.2.1
      have hc' : p'.tx.ins.length = p'.inputs.length := by
        rw [hfr.1, hlen]; exact (finalizeInput_ok_core P p p' i false h).1
      rw [hlen]; simp only [hge, if_false]
      rw [finalizeInput_of_final P p' i false inp' hc' hi' hf']
    | err e => simp only [hge, if_false, h]
    | panic => simp only [hge, if_false, h]

/-- the failing half needs no hypothesis at all: an error is reproduced exactly -/
theorem finalize_idempotent_err (P : Params) (p : Psbt) (i : Nat) (e : Err)
    (h : (finalizeInpMut P p i).result = .err e) :
    finalizeInpMut P (finalizeInpMut P p i).psbt i = finalizeInpMut P p i := by
  have : (finalizeInpMut P p i).psbt = p := (finalize_atomic P p i).1 (by rw [h]; simp)
  rw [this]

/-- two PSBTs that look the same from input `i`: same transaction, same input `i`, same
referenced outputs everywhere -/
def SameView (p q : Psbt) (i : Nat) : Prop :=
  q.tx = p.tx ∧ q.inputs.length = p.inputs.length ∧ q.inputs[i]? = p.inputs[i]? ∧
  ∀ j, getUtxo q j = getUtxo p j

/-- the satisfier parameters look only at their own input, the transaction and the utxos (the
real `PsbtInputSatisfier` does; `get_descriptor`'s raw-pkh `map` over the other inputs'
`bip32_derivation` is the one place where the code is not literally local) -/
def Local (P : Params) : Prop :=
  ∀ p q i m, SameView p q i →
    (∀ d, P.satisfy d q i m = P.satisfy d p i m) ∧ P.tapScriptWitness q i m = P.tapScriptWitness p i m

theorem prevoutsFrom_congr (p q : Psbt) (h : ∀ j, getUtxo q j = getUtxo p j) :
    ∀ is, prevoutsFrom q is = prevoutsFrom p is := by
  intro is
  induction is with
  | nil => rfl
  | cons i tl ih => simp only [prevoutsFrom, h i, ih]

theorem helper_local (P : Params) (hl : Local P) (p q : Psbt) (i : Nat) (m : Bool) (hv : SameView p q i) :
    finalizeInputHelper P q i m = finalizeInputHelper P p i m := by
  obtain ⟨htx, hlen, hin, hut⟩ := hv
  obtain ⟨hsat, htap⟩ := hl p q i m ⟨htx, hlen, hin, hut⟩
  have hspk : getScriptPubkey q i = getScriptPubkey p i := by simp only [getScriptPubkey, hut i]
  have hprev : prevouts q = prevouts p := by
    simp only [prevouts, hlen]; exact prevoutsFrom_congr p q hut _
  have hdesc : getDescriptor P q i = getDescriptor P p i := by
    simp only [getDescriptor, hspk, hin]
  have hctw : constructTapWitness P q i m = constructTapWitness P p i m := by
    simp only [constructTapWitness, hin, htap]
  have hstep : ∀ spk, satisfyStep P q i m spk = satisfyStep P p i m spk := by
    intro spk; simp only [satisfyStep, hdesc, hctw, hsat]
  have hint : ∀ u w s, interpreterInpCheck P q i u w s = interpreterInpCheck P p i u w s := by
    intro u w s; simp only [interpreterInpCheck, hspk, htx]
  simp only [finalizeInputHelper, hspk, hstep, hprev, hint]

theorem getUtxo_of_frame (p p' : Psbt) (htx : p'.tx = p.tx)
    (hu : ∀ (j : Nat) (inp inp' : Input), p.inputs[j]? = some inp → p'.inputs[j]? = some inp' →
        inp'.witnessUtxo = inp.witnessUtxo ∧ inp'.nonWitnessUtxo = inp.nonWitnessUtxo)
    (hlen : p'.inputs.length = p.inputs.length) (j : Nat) : getUtxo p' j = getUtxo p j := by
  unfold getUtxo
  rw [htx]
  cases h1 : p.inputs[j]? with
  | none => rw [List.getElem?_eq_none (hlen ▸ List.getElem?_eq_none_iff.mp h1)]
  | some inp =>
    have hlt : j < p'.inputs.length := hlen ▸ (List.getElem?_eq_some_iff.mp h1).1
    obtain ⟨a, b⟩ := hu j inp _ h1 (List.getElem?_eq_getElem hlt)
    rw [List.getElem?_eq_getElem hlt]
    simp only [a, b]

theorem getUtxo_of_step {p p' : Psbt} (htx : p'.tx = p.tx) {j : Nat}
    (h : InputStep p.inputs[j]? p'.inputs[j]?) : getUtxo p' j = getUtxo p j := by
  unfold getUtxo
  rcases h with h | ⟨inp, w, s, hb, _, ha⟩
  · rw [h, htx]
  · rw [ha, hb, htx]; rfl

theorem finalizeLoop_view (P : Params) (m : Bool) : ∀ (is : List Nat) (p : Psbt),
    (finalizeLoop P m is p []).1.tx = p.tx ∧
    (finalizeLoop P m is p []).1.inputs.length = p.inputs.length ∧
    (∀ j, getUtxo (finalizeLoop P m is p []).1 j = getUtxo p j) := by
  intro is p
  obtain ⟨h1, h2, h3, _⟩ := finalizeLoop_step P m is p []
  exact ⟨h1, h2, fun j => getUtxo_of_step h1 (h3 j)⟩

theorem finalizeInput_err_local (P : Params) (hl : Local P) (p q : Psbt) (i : Nat) (m : Bool)
    (hv : SameView p q i) (e : Err) (h : finalizeInput P p i m = .err e) : finalizeInput P q i m = .err e := by
  unfold finalizeInput finalizeInputCore at h ⊢
  rw [hv.1, hv.2.1, hv.2.2.1, helper_local P hl p q i m hv]
  revert h
  split
  · exact id
  · cases p.inputs[i]? with
    | none => exact id
    | some inp =>
      dsimp only
      split
      · nofun
      · cases finalizeInputHelper P p i m with
        | ok r => nofun
        | err e' => exact id
        | panic => nofun

theorem finalizeLoop_idem (P : Params) (hl : Local P) (hne : NonEmptySpend P) (m : Bool) :
    ∀ (is : List Nat), is.Nodup → ∀ (p p1 : Psbt) (es : List Err),
      finalizeLoop P m is p [] = (p1, es, false) → finalizeLoop P m is p1 [] = (p1, es, false) := by
  intro is
  induction is with
  | nil =>
    intro _ p p1 es h
    cases h
    rfl
  | cons i tl ih =>
    intro hnd p p1 es h
    obtain ⟨hi, hnd⟩ := List.nodup_cons.mp hnd
    simp only [finalizeLoop] at h ⊢
    cases h0 : finalizeInput P p i m with
    | ok q =>
      simp only [h0] at h
      -- input i is final in q, and the rest of the loop does not touch it
      obtain ⟨inp', hi', hf'⟩ := finalizeInput_makes_final P hne p q i m h0
      have hq := finalizeInput_frame P p q i m h0
      have hv := finalizeLoop_step P m tl q []
      rw [h] at hv
      have hc1 : p1.tx.ins.length = p1.inputs.length := by
        rw [hv.1, hv.2.1, hq.1, hq.2.1]; exact (finalizeInput_ok_core P p q i m h0).1
      rw [finalizeInput_of_final P p1 i m inp' hc1 ((hv.2.2.2 i hi).trans hi') hf']
      exact ih hnd q p1 es h
    | err e =>
      simp only [h0] at h
      rw [finalizeLoop_es] at h
      simp only [Prod.mk.injEq] at h
      obtain ⟨h1, h2, h3⟩ := h
      have ih' := ih hnd p p1 _ (by rw [← h1, ← h3])
      -- input i fails again in the same way
      have hview : SameView p p1 i := by
        obtain ⟨v1, v2, v3⟩ := finalizeLoop_view P m tl p
        have v4 := (finalizeLoop_step P m tl p []).2.2.2 i hi
        rw [h1] at v1 v2 v3 v4
        exact ⟨v1, v2, v4, v3⟩
      rw [finalizeInput_err_local P hl p p1 i m hview e h0]
      dsimp only
      rw [finalizeLoop_es, ih', ← h2]
    | panic => simp [h0] at h

/-- T2 (`finalize_idempotent`, whole PSBT): if the satisfier is local to its input and the
interpreter rejects the all-empty spend, `finalize_mut` (resp. `finalize_mall_mut`) run a second
time returns the same `Ok` / the same vector of errors and leaves the PSBT exactly as the first
run left it. -/
theorem finalizeMut_idempotent (P : Params) (hl : Local P) (hne : NonEmptySpend P) (p : Psbt) (m : Bool)
    (hnp : (finalizeMut P p m).result ≠ .panic) :
    finalizeMut P (finalizeMut P p m).psbt m = finalizeMut P p m := by
  unfold finalizeMut at hnp ⊢
  rcases hloop : finalizeLoop P m (List.range p.inputs.length) p [] with ⟨p1, es, fl⟩
  rw [hloop] at hnp
  cases fl with
  | true => simp at hnp
  | false =>
    have hlen : p1.inputs.length = p.inputs.length := by
      have := (finalizeLoop_step P m (List.range p.inputs.length) p []).2.1
      rw [hloop] at this; exact this
    have h2 := finalizeLoop_idem P hl hne m _ List.nodup_range p p1 es hloop
    cases es with
    | nil => simp only [hlen, h2]
    | cons e es' => simp only [hlen, h2]

/-! ## T1 for `extract` -/

theorem sanityFrom_ok (P : Params) : ∀ (l : List Input) (k : Nat), sanityFrom P l k = .ok () →
    ∀ inp ∈ l, P.sanityInput inp = true := by
  intro l
  induction l with
  | nil => intro _ _ inp h; cases h
  | cons a tl ih =>
    intro k h
    unfold sanityFrom at h
    split at h
    · rename_i ha; exact List.forall_mem_cons.mpr ⟨ha, ih (k + 1) h⟩
    · cases h

theorem sanityCheck_ok {P : Params} {p : Psbt} {u : Unit} (h : sanityCheck P p = .ok u) :
    p.tx.ins.length = p.inputs.length ∧ ∀ inp ∈ p.inputs, P.sanityInput inp = true := by
  unfold sanityCheck at h
  split at h
  · cases h
  · rename_i hc
    exact ⟨by simpa using hc, sanityFrom_ok P p.inputs 0 h⟩

theorem interpreterCheckFrom_ok (P : Params) (p : Psbt) (utxos : List TxOut) :
    ∀ (rest : List Input) (k : Nat), interpreterCheckFrom P p utxos rest k = .ok () →
      ∀ (t : Nat) (inp : Input), rest[t]? = some inp →
        interpreterInpCheck P p (k + t) utxos (inp.finalScriptWitness.getD []) (inp.finalScriptSig.getD []) = .ok () := by
  intro rest
  induction rest with
  | nil => intro k _ t inp h; cases h
  | cons a tl ih =>
    intro k h t inp ht
    obtain ⟨_, hc, h⟩ := Res.bind_eq_ok.mp h
    cases t with
    | zero => cases ht; exact hc
    | succ t' => rw [show k + (t' + 1) = k + 1 + t' by omega]; exact ih (k + 1) h t' inp ht

/-- the pairs `extract` writes into the transaction: final fields, absent = empty -/
def decodeFinal (inp : Input) : SS × Wit := (inp.finalScriptSig.getD [], inp.finalScriptWitness.getD [])

theorem extractFill_ok : ∀ (rest : List Input) (k : Nat) (l : List (SS × Wit)),
    extractFill rest k = .ok l → l = rest.map decodeFinal ∧ ∀ inp ∈ rest, inp.isFinal = true := by
  intro rest
  induction rest with
  | nil => intro k l h; cases h; exact ⟨rfl, fun _ h => nomatch h⟩
  | cons a tl ih =>
    intro k l h
    unfold extractFill at h
    split at h
    · cases h
    · rename_i hn
      obtain ⟨l', hr, hl⟩ := Res.bind_eq_ok.mp h
      obtain ⟨h1, h2⟩ := ih (k + 1) l' hr
      refine ⟨by rw [← Res.ok.inj hl, h1]; rfl, List.forall_mem_cons.mpr ⟨?_, h2⟩⟩
      revert hn
      unfold Input.isFinal
      cases a.finalScriptSig <;> cases a.finalScriptWitness <;> simp

/-- T1 for `extract`: if `extract` returns a transaction, the PSBT has as many inputs as the
unsigned transaction, every input is final, the returned scriptSig/witness pairs are exactly the
final fields, and (interpreter parameter sound) EVERY input is a valid spend of the output it
references in the unsigned transaction — including inputs that were finalized by someone else. -/
theorem extract_valid (P : Params) (Valid : Tx → Nat → List TxOut → Scr → SS → Wit → Prop)
    (hs : InterpSound P Valid) (p : Psbt) (l : List (SS × Wit)) (h : extract P p = .ok l) :
    l = p.inputs.map decodeFinal ∧ p.tx.ins.length = p.inputs.length ∧
    ∀ (i : Nat) (inp : Input), p.inputs[i]? = some inp →
      inp.isFinal = true ∧
      ∃ utxo utxos, getUtxo p i = .ok utxo ∧ prevouts p = .ok utxos ∧
        Valid p.tx i utxos utxo.spk (decodeFinal inp).1 (decodeFinal inp).2 := by
  unfold extract at h
  simp only [Res.bind_eq_ok] at h
  obtain ⟨_, hsan, filled, hf, _, hic, hl⟩ := h
  cases Res.ok.inj hl
  obtain ⟨hl, hfin⟩ := extractFill_ok p.inputs 0 _ hf
  obtain ⟨utxos, hp, hic⟩ := Res.bind_eq_ok.mp hic
  refine ⟨hl, (sanityCheck_ok hsan).1, fun i inp hi => ⟨hfin inp (List.mem_of_getElem? hi), ?_⟩⟩
  have := interpreterCheckFrom_ok P p utxos p.inputs 0 hic i inp hi
  rw [Nat.zero_add] at this
  obtain ⟨utxo, hu, hint⟩ := interpreterInpCheck_ok P p i utxos _ _ this
  exact ⟨utxo, utxos, hu, hp, hs _ _ _ _ _ _ hint⟩

/-! ## T3 — order independence -/

theorem upd_comm_compat {α β} [DecidableEq α] (f : α → Option β) (k k' : α) (v v' : β)
    (h : k = k' → v = v') : upd (upd f k v) k' v' = upd (upd f k' v') k v := by
  funext x
  simp only [upd]
  by_cases h1 : x = k' <;> by_cases h2 : x = k <;> simp_all

theorem upd_comm {α β} [DecidableEq α] (f : α → Option β) (k k' : α) (v v' : β) (h : k ≠ k') :
    upd (upd f k v) k' v' = upd (upd f k' v') k v :=
  upd_comm_compat f k k' v v' fun e => absurd e h

/-- two field insertions on the same input that do not write the same map entry (the same insertion made
twice is NOT independent of itself: that is `OpCompat` below) -/
def FieldIndep : FieldOp → FieldOp → Prop
  | .partialSig k _, .partialSig k' _ => k ≠ k'
  | .preimage h _, .preimage h' _ => h ≠ h'
  | .tapKeySig _, .tapKeySig _ => False
  | .tapScriptSig k l _, .tapScriptSig k' l' _ => (k, l) ≠ (k', l')
  | .update _, .update _ => False
  | .partialSig .., _ => True
  | .preimage .., _ => True
  | .tapKeySig .., _ => True
  | .tapScriptSig .., _ => True
  | .update .., _ => True

theorem fieldIndep_symm {a b : FieldOp} (h : FieldIndep a b) : FieldIndep b a := by
  cases a <;> cases b
  case partialSig.partialSig | preimage.preimage | tapScriptSig.tapScriptSig => exact Ne.symm h
  -- different kinds: both sides are `True`; `tap_key_sig` or `update` twice: `False`
  all_goals exact h

/-- a descriptor update commutes with every other kind of insertion: they write different fields -/
theorem updateWith_apply (inp : Input) (u : UpdateData) (a : FieldOp) (ha : ∀ u', a ≠ .update u') :
    (inp.updateWith u).apply a = (inp.apply a).updateWith u := by
  obtain ⟨_, _, _, tap⟩ := u
  cases a with
  | update u' => exact absurd rfl (ha u')
  | _ => cases tap <;> rfl

theorem input_apply_comm (inp : Input) (a b : FieldOp) (h : FieldIndep a b) :
    (inp.apply a).apply b = (inp.apply b).apply a := by
  cases a <;> cases b
  case partialSig.partialSig =>
    exact congrArg (fun f => { inp with partialSigs := f }) (upd_comm _ _ _ _ _ h)
  case preimage.preimage =>
    exact congrArg (fun f => { inp with preimages := f }) (upd_comm _ _ _ _ _ h)
  case tapScriptSig.tapScriptSig =>
    exact congrArg (fun f => { inp with tapScriptSigs := f }) (upd_comm _ _ _ _ _ h)
  case tapKeySig.tapKeySig => exact h.elim
  case update.update => exact h.elim
  case update.partialSig | update.preimage | update.tapKeySig | update.tapScriptSig =>
    exact updateWith_apply _ _ _ (by intro _ h; cases h)
  case partialSig.update | preimage.update | tapKeySig.update | tapScriptSig.update =>
    exact (updateWith_apply _ _ _ (by intro _ h; cases h)).symm
  -- two writes to different fields
  all_goals rfl

/-- insertions (input index, field insertion) that commute: different inputs, or independent fields -/
def OpIndep (x y : Nat × FieldOp) : Prop := x.1 ≠ y.1 ∨ FieldIndep x.2 y.2

theorem opIndep_symm {x y : Nat × FieldOp} (h : OpIndep x y) : OpIndep y x := by
  rcases h with h | h
  · exact Or.inl (Ne.symm h)
  · exact Or.inr (fieldIndep_symm h)

theorem applyAt_comm (p : Psbt) (x y : Nat × FieldOp) (h : OpIndep x y) :
    (p.applyAt x.1 x.2).applyAt y.1 y.2 = (p.applyAt y.1 y.2).applyAt x.1 x.2 := by
  obtain ⟨i, a⟩ := x
  obtain ⟨j, b⟩ := y
  simp only [Psbt.applyAt]
  by_cases hij : i = j
  · subst hij
    cases hi : p.inputs[i]? with
    | none => simp [hi]
    | some inp =>
      have hab : FieldIndep a b := h.resolve_left fun hne => hne rfl
      simp [lookup_set_of_some _ hi, List.set_set, input_apply_comm inp a b hab]
  · have hji := Ne.symm hij
    cases hi : p.inputs[i]? <;> cases hj : p.inputs[j]? <;>
      simp [hi, hj, List.getElem?_set_ne hij, List.getElem?_set_ne hji, List.set_comm _ _ hij]

theorem foldl_perm_of_comm {σ : Type _} {ι : Type _} (step : σ → ι → σ) (R : ι → ι → Prop)
    (hsymm : ∀ {x y}, R x y → R y x)
    (hcomm : ∀ s x y, R x y → step (step s x) y = step (step s y) x)
    {l₁ l₂ : List ι} (hp : l₁.Perm l₂) :
    l₁.Pairwise R → ∀ s, l₁.foldl step s = l₂.foldl step s := by
  induction hp with
  | nil => intro _ _; rfl
  | cons x _ ih => intro hpw s; exact ih (List.pairwise_cons.mp hpw).2 _
  | swap x y l =>
    intro hpw s
    simp only [List.foldl_cons]
    rw [hcomm s y x ((List.pairwise_cons.mp hpw).1 x (List.mem_cons_self ..))]
  | trans h₁ _ ih₁ ih₂ => intro hpw s; rw [ih₁ hpw s]; exact ih₂ (h₁.pairwise hpw hsymm) s

theorem applyAll_eq_foldl : ∀ (l : List (Nat × FieldOp)) (p : Psbt),
    p.applyAll l = l.foldl (fun p x => p.applyAt x.1 x.2) p
  | [], _ => rfl
  | _ :: l, _ => applyAll_eq_foldl l _

theorem insertAll_eq_foldl {α β} [DecidableEq α] : ∀ (l : List (α × β)) (f : α → Option β),
    insertAll f l = l.foldl (fun f x => upd f x.1 x.2) f
  | [], _ => rfl
  | _ :: l, _ => insertAll_eq_foldl l _

/-- insertions that may be reordered: independent, or literally the same insertion made twice -/
def OpCompat (x y : Nat × FieldOp) : Prop := OpIndep x y ∨ x = y

theorem applyAll_perm_compat {l₁ l₂ : List (Nat × FieldOp)} (hp : l₁.Perm l₂) :
    l₁.Pairwise OpCompat → ∀ p : Psbt, p.applyAll l₁ = p.applyAll l₂ := by
  intro hpw p
  rw [applyAll_eq_foldl, applyAll_eq_foldl]
  refine foldl_perm_of_comm _ OpCompat (fun h => h.imp opIndep_symm Eq.symm) (fun p x y h => ?_) hp hpw p
  rcases h with h | rfl
  · exact applyAt_comm p x y h
  · rfl

theorem applyAll_perm {l₁ l₂ : List (Nat × FieldOp)} (hp : l₁.Perm l₂) :
    l₁.Pairwise OpIndep → ∀ p : Psbt, p.applyAll l₁ = p.applyAll l₂ :=
  fun hpw => applyAll_perm_compat hp (hpw.imp Or.inl)

/-- T3: two histories of field insertions that are permutations of each
other, with no two different writes to the same map entry, give the same PSBT — and therefore
the same result of every finalizer entry point, which sees the PSBT only through the field maps. -/
theorem order_independent (P : Params) (p : Psbt) (l₁ l₂ : List (Nat × FieldOp))
    (hp : l₁.Perm l₂) (hpw : l₁.Pairwise OpIndep) (m : Bool) (i : Nat) :
    p.applyAll l₁ = p.applyAll l₂ ∧
    finalizeMut P (p.applyAll l₁) m = finalizeMut P (p.applyAll l₂) m ∧
    finalizeInpMut P (p.applyAll l₁) i = finalizeInpMut P (p.applyAll l₂) i ∧
    extract P (p.applyAll l₁) = extract P (p.applyAll l₂) := by
  have h := applyAll_perm hp hpw p
  rw [h]; exact ⟨rfl, rfl, rfl, rfl⟩

/-! ### real histories: overwrites of the same key

`order_independent` above holds essentially by construction (a map is a function, an insertion is
`upd`); the content is in what it says about a REAL history, where a `BTreeMap` is filled by a
sequence of `insert` calls that may hit the same key several times.  The abstraction of such a
history is `insertAll f l` (insert the pairs of `l` in order, later ones overwrite).  It is
insertion-order independent exactly as far as the inserted values PER KEY agree; when two
insertions write different values under one key the last one wins and the order shows. -/

/-- two insertions into one map do not conflict: different keys, or the same value -/
def PairCompat {α β} (a b : α × β) : Prop := a.1 = b.1 → a.2 = b.2

/-- the abstraction of a `BTreeMap` history is independent of the insertion order whenever the
values inserted under each key agree (keys may repeat) -/
theorem insertAll_perm {α β} [DecidableEq α] {l₁ l₂ : List (α × β)} (hp : l₁.Perm l₂) :
    l₁.Pairwise PairCompat → ∀ f : α → Option β, insertAll f l₁ = insertAll f l₂ := by
  intro hpw f
  rw [insertAll_eq_foldl, insertAll_eq_foldl]
  exact foldl_perm_of_comm _ PairCompat (fun h e => (h e.symm).symm)
    (fun f x y h => upd_comm_compat f x.1 y.1 x.2 y.2 h) hp hpw f

/-- … and this is sharp: with two different values under one key the order is visible -/
theorem insertAll_order_dependent_when_values_differ :
    insertAll (fun _ : Nat => (none : Option Nat)) [(7, 0), (7, 1)] 7 ≠
    insertAll (fun _ : Nat => (none : Option Nat)) [(7, 1), (7, 0)] 7 := by decide +kernel

/-- T3 for real histories: a signer / updater history with REPEATED insertions (the same
signature added twice, `update_input_with_descriptor` called again with the same descriptor) can
be reordered freely; every finalizer entry point returns the same. -/
theorem order_independent_with_repeats (P : Params) (p : Psbt) (l₁ l₂ : List (Nat × FieldOp))
    (hp : l₁.Perm l₂) (hpw : l₁.Pairwise OpCompat) (m : Bool) :
    p.applyAll l₁ = p.applyAll l₂ ∧ finalizeMut P (p.applyAll l₁) m = finalizeMut P (p.applyAll l₂) m := by
  rw [applyAll_perm_compat hp hpw p]; exact ⟨rfl, rfl⟩

/-- the result is a function of the field MAPS: inputs whose maps agree pointwise are equal
(so no information about insertion order exists for the finalizer to depend on) -/
theorem input_ext_maps (a b : Input)
    (h1 : a.nonWitnessUtxo = b.nonWitnessUtxo) (h2 : a.witnessUtxo = b.witnessUtxo)
    (h3 : ∀ k, a.partialSigs k = b.partialSigs k) (h4 : a.sighashType = b.sighashType)
    (h5 : a.redeemScript = b.redeemScript) (h6 : a.witnessScript = b.witnessScript)
    (h7 : ∀ k, a.bip32 k = b.bip32 k) (h8 : a.finalScriptSig = b.finalScriptSig)
    (h9 : a.finalScriptWitness = b.finalScriptWitness) (h10 : ∀ k, a.preimages k = b.preimages k)
    (h11 : a.tapKeySig = b.tapKeySig) (h12 : ∀ k, a.tapScriptSigs k = b.tapScriptSigs k)
    (h13 : ∀ k, a.tapScripts k = b.tapScripts k) (h14 : ∀ k, a.tapKeyOrigins k = b.tapKeyOrigins k)
    (h15 : a.tapInternalKey = b.tapInternalKey) (h16 : a.tapMerkleRoot = b.tapMerkleRoot)
    (h17 : ∀ k, a.other k = b.other k) : a = b := by
  cases a; cases b
  simp only at h1 h2 h4 h5 h6 h8 h9 h11 h15 h16
  have e3 := funext h3; have e7 := funext h7; have e10 := funext h10; have e12 := funext h12
  have e13 := funext h13; have e14 := funext h14; have e17 := funext h17
  simp only at e3 e7 e10 e12 e13 e14 e17
  subst h1 h2 h4 h5 h6 h8 h9 h11 h15 h16 e3 e7 e10 e12 e13 e14 e17
  rfl

/-! ## `finalize_inp_mall_mut` passes `allow_mall = true` (/repo ee7f5691, DESIGN.md §9.3) -/

/-- what the documentation promises ("same as `finalize_inp_mut`, but allows for malleable
satisfactions"), at full strength: for an index in range `finalize_inp_mall_mut` is exactly
`finalize_input` with `allow_mall = true` (success: that PSBT; error or panic: the PSBT
unchanged and the same error), just as `finalize_inp_mut` is `finalize_input` with
`allow_mall = false`; out of range both report `InputIdxOutofBounds`. -/
def finalize_inp_mall_honours_mall_full : Prop :=
  ∀ (P : Params) (p : Psbt) (i : Nat),
    (i < p.inputs.length →
      finalizeInpMallMut P p i =
        (match finalizeInput P p i true with
         | .ok p' => ⟨p', .ok ()⟩ | .err e => ⟨p, .err e⟩ | .panic => ⟨p, .panic⟩) ∧
      finalizeInpMut P p i =
        (match finalizeInput P p i false with
         | .ok p' => ⟨p', .ok ()⟩ | .err e => ⟨p, .err e⟩ | .panic => ⟨p, .panic⟩)) ∧
    (p.inputs.length ≤ i →
      finalizeInpMallMut P p i = ⟨p, .err .idxOutOfBounds⟩ ∧ finalizeInpMut P p i = ⟨p, .err .idxOutOfBounds⟩)

/-! ### concrete instances (non-vacuity, counterexamples) -/

/-- a P2WPKH-like world: script `[1]` is the P2WPKH script of key 7; signature 0 is valid,
every other signature is not; the satisfier builds `[sig, pk]` from `partial_sigs` -/
def exP : Params where
  kind s := if s = [1] then .p2wpkh else if s = [2] then .p2tr else .other
  toP2wsh s := 9 :: s
  toP2sh s := 8 :: s
  p2pkKey _ := none
  isP2pkhOf _ _ := false
  isP2wpkhOf s k := s == [1] && k == 7
  decodes _ _ := true
  allKeys := [7]
  satisfy d p i _ :=
    match d with
    | .wpkh 7 => ((p.inputs[i]?).bind (·.partialSigs 7)).map fun sg => ([[UInt8.ofNat sg], [7]], [])
    | _ => none
  tapScriptWitness _ _ _ := none
  sigBytes _ s := [UInt8.ofNat s]
  interp _ _ _ _ wit _ := wit == [[0], [7]]
  sanityInput _ := true

def exValid : Tx → Nat → List TxOut → Scr → SS → Wit → Prop := fun _ _ _ _ _ wit => wit = [[0], [7]]

def exIn (sig : Option Sig) : Input :=
  { witnessUtxo := some ⟨[1], 1000⟩, partialSigs := fun k => if k = 7 then sig else none }

/-- two inputs: input 0 holds a valid signature, input 1 an invalid one -/
def exPsbt : Psbt := ⟨⟨2, 0, [⟨1, 0, 0⟩, ⟨2, 0, 0⟩], 0⟩, [exIn (some 0), exIn (some 1)]⟩

example : InterpSound exP exValid := by
  intro tx i utxos spk wit ss h
  simpa [exP, exValid] using h

example : NonEmptySpend exP := by intro tx i utxos spk; rfl

theorem exP_local : Local exP := by
  intro p q i m hv
  refine ⟨fun d => ?_, rfl⟩
  simp only [exP, hv.2.2.1]

/-- `finalize_mut` on the example: input 0 is finalized, input 1 fails the interpreter check and
is reported — and input 0 STAYS finalized (atomicity is per input). -/
example : (finalizeMut exP exPsbt false).result = .err [.input .interpreter 1] := by decide +kernel
example : (finalizeMut exP exPsbt false).psbt.inputs.map Input.isFinal = [true, false] := by decide +kernel
example : (finalizeMut exP exPsbt false).psbt.inputs.map (fun i => (i.partialSigs 7, i.finalScriptWitness)) =
    [(none, some [[0], [7]]), (some 1, none)] := by decide +kernel
/-- the second run returns the same -/
example : (finalizeMut exP (finalizeMut exP exPsbt false).psbt false).result = .err [.input .interpreter 1] := by
  decide +kernel
example : (finalizeInpMut exP exPsbt 0).result = .ok () ∧ (finalizeInpMut exP exPsbt 1).result = .err (.input .interpreter 1)
    ∧ (finalizeInpMut exP exPsbt 2).result = .err .idxOutOfBounds := by decide +kernel
/-- extraction refuses while an input is not final -/
example : extract exP (finalizeMut exP exPsbt false).psbt = .err (.input .missingWitness 1) := by decide +kernel
example : extract exP (finalizeMut exP ⟨exPsbt.tx, [exIn (some 0), exIn (some 0)]⟩ false).psbt =
    .ok [([], [[0], [7]]), ([], [[0], [7]])] := by decide +kernel

/-- a satisfier that has only a malleable satisfaction -/
def exPmall : Params :=
  { exP with satisfy := fun d p i mall => if mall then exP.satisfy d p i mall else none }

/-- `finalize_inp_mall_mut` allows malleable satisfactions, as documented -/
theorem finalize_inp_mall_honours_mall : finalize_inp_mall_honours_mall_full := fun _ _ _ =>
  ⟨fun hi => ⟨if_neg (Nat.not_le.mpr hi), if_neg (Nat.not_le.mpr hi)⟩, fun hi => ⟨if_pos hi, if_pos hi⟩⟩

/-- corollary: whenever the malleable satisfier yields a valid spend, `finalize_inp_mall_mut`
succeeds with exactly that PSBT -/
theorem finalize_inp_mall_succeeds (P : Params) (p p' : Psbt) (i : Nat) (hi : i < p.inputs.length)
    (h : finalizeInput P p i true = .ok p') : finalizeInpMallMut P p i = ⟨p', .ok ()⟩ := by
  rw [((finalize_inp_mall_honours_mall P p i).1 hi).1, h]

/-- and on a single-input PSBT it is `finalize_mall_mut` (what `J mall-honoured` tests) -/
theorem finalize_inp_mall_eq_finalize_mall_single (P : Params) (tx : Tx) (inp : Input) :
    (finalizeInpMallMut P ⟨tx, [inp]⟩ 0).psbt = (finalizeMut P ⟨tx, [inp]⟩ true).psbt ∧
    ((finalizeInpMallMut P ⟨tx, [inp]⟩ 0).result = .ok () ↔ (finalizeMut P ⟨tx, [inp]⟩ true).result = .ok ()) := by
  simp only [finalizeInpMallMut, finalizeMut, inpMallFlag, List.length_cons, List.length_nil, Nat.zero_add,
    ge_iff_le, Nat.le_zero_eq, Nat.succ_ne_zero, if_false, List.range_succ, List.range_zero, List.nil_append,
    finalizeLoop]
  cases finalizeInput P ⟨tx, [inp]⟩ 0 true <;> simp

example : (finalizeInpMallMut exPmall exPsbt 0).result = .ok () ∧
    (finalizeInpMut exPmall exPsbt 0).result = .err (.input .miniscript 0) := by decide +kernel

/-- F8 (DESIGN.md §1.1; /repo f16c17ed): a `non_witness_utxo` with fewer outputs than the spent `vout` -/
def exShort : Psbt :=
  ⟨⟨2, 0, [⟨1, 3, 0⟩], 0⟩, [{ nonWitnessUtxo := some ⟨1, [⟨[1], 5⟩]⟩ }]⟩

/-- a short previous transaction is an error, not a panic -/
theorem get_utxo_short_prev_tx_is_error : getUtxo exShort 0 = .err .missingUtxo := by decide +kernel

example : (finalizeMut exP exShort false).result = .err [.input .missingUtxo 0] := by decide +kernel

/-- /repo 4a4e750d (DESIGN.md §9.3): more PSBT inputs than transaction inputs is `WrongInputCount` -/
example : (finalizeMut exP ⟨⟨2, 0, [⟨1, 0, 0⟩], 0⟩, [exIn (some 0), exIn (some 0)]⟩ false).result =
    .err [.wrongInputCount, .wrongInputCount] := by decide +kernel

/-- a satisfier that looks at ANOTHER input (succeeds for input 0 only once input 1 is final):
without locality `finalize_mut` is not idempotent -/
def exPnonlocal : Params :=
  { exP with satisfy := fun d p i mall =>
      if i = 0 && !((p.inputs[1]?).map Input.isFinal).getD false then none else exP.satisfy d p i mall }

example : (finalizeMut exPnonlocal ⟨exPsbt.tx, [exIn (some 0), exIn (some 0)]⟩ false).result
    = .err [.input .miniscript 0] := by decide +kernel
example : (finalizeMut exPnonlocal (finalizeMut exPnonlocal ⟨exPsbt.tx, [exIn (some 0), exIn (some 0)]⟩ false).psbt false).result
    = .ok () := by decide +kernel

/-- the counterexample at PSBT level: a valid and an invalid signature for the same key in the two
orders give different PSBTs (last writer wins) — and a different finalization result -/
theorem order_dependent_when_values_differ :
    (finalizeMut exP (exPsbt.applyAll [(1, .partialSig 7 1), (1, .partialSig 7 0)]) false).result ≠
    (finalizeMut exP (exPsbt.applyAll [(1, .partialSig 7 0), (1, .partialSig 7 1)]) false).result := by decide +kernel

example : (exPsbt.applyAll [(0, .partialSig 5 1), (1, .partialSig 7 0), (0, .partialSig 5 1)]) =
    (exPsbt.applyAll [(1, .partialSig 7 0), (0, .partialSig 5 1), (0, .partialSig 5 1)]) := by
  apply applyAll_perm_compat
  · exact List.Perm.swap _ _ _
  · -- different inputs; the repeated insertion is literally the same
    refine .cons (List.forall_mem_cons.mpr ⟨.inl (.inl (by decide)), ?_⟩)
      (.cons (List.forall_mem_cons.mpr ⟨.inl (.inl (by decide)), fun _ h => nomatch h⟩)
        (List.pairwise_singleton _ _))
    exact List.forall_mem_cons.mpr ⟨.inr rfl, fun _ h => nomatch h⟩

/-- order independence on the example: signature and preimage insertions on two inputs -/
example : (exPsbt.applyAll [(0, .preimage 3 1), (1, .partialSig 7 0), (0, .partialSig 5 1)]) =
    (exPsbt.applyAll [(0, .partialSig 5 1), (0, .preimage 3 1), (1, .partialSig 7 0)]) := by
  apply applyAll_perm
  · exact ((List.Perm.swap _ _ []).cons _).trans (List.Perm.swap _ _ _)
  · -- different inputs, or (on input 0) a preimage and a signature
    refine .cons (List.forall_mem_cons.mpr ⟨.inl (by decide), ?_⟩)
      (.cons (List.forall_mem_cons.mpr ⟨.inl (by decide), fun _ h => nomatch h⟩)
        (List.pairwise_singleton _ _))
    exact List.forall_mem_cons.mpr ⟨.inr trivial, fun _ h => nomatch h⟩

/-- two different writes to the SAME entry do not commute (last writer wins) -/
example : ((exPsbt.applyAll [(1, .partialSig 7 0), (1, .partialSig 7 1)]).inputs.map (·.partialSigs 7)) ≠
    ((exPsbt.applyAll [(1, .partialSig 7 1), (1, .partialSig 7 0)]).inputs.map (·.partialSigs 7)) := by decide +kernel

/-! ### C11 T4, finalization — no public entry point panics -/

theorem getUtxo_no_panic (p : Psbt) (i : Nat) (hi : i < p.inputs.length) : getUtxo p i ≠ .panic := by
  unfold getUtxo
  have h1 : p.inputs[i]? = some p.inputs[i] := List.getElem?_eq_getElem hi
  rw [h1]
  simp only
  cases hw : p.inputs[i].witnessUtxo with
  | some u => simp
  | none =>
    cases hn : p.inputs[i].nonWitnessUtxo with
    | none => simp
    | some prev =>
      simp only
      cases p.tx.ins[i]? with
      | none => simp
      | some txin => simp only; cases prev.outputs[txin.vout]? <;> simp

theorem prevoutsFrom_no_panic (p : Psbt) :
    ∀ is : List Nat, (∀ i ∈ is, i < p.inputs.length) → prevoutsFrom p is ≠ .panic := by
  intro is
  induction is with
  | nil => intro _; nofun
  | cons i tl ih =>
    intro h
    exact Res.bind_ne_panic (Res.mapErr_ne_panic (getUtxo_no_panic p i (h i (List.mem_cons_self ..)))) fun _ _ =>
      Res.bind_ne_panic (ih fun j hj => h j (List.mem_cons_of_mem _ hj)) fun _ _ => nofun

theorem prevouts_no_panic (p : Psbt) : prevouts p ≠ .panic :=
  prevoutsFrom_no_panic p _ fun _ hj => List.mem_range.mp hj

theorem getScriptPubkey_no_panic (p : Psbt) (i : Nat) (hi : i < p.inputs.length) :
    (getScriptPubkey p i).mapErr (Err.input · i) ≠ .panic :=
  Res.mapErr_ne_panic (Res.bind_ne_panic (getUtxo_no_panic p i hi) fun _ _ => nofun)

theorem interpreterInpCheck_no_panic (P : Params) (p : Psbt) (i : Nat) (hi : i < p.inputs.length)
    (utxos : List TxOut) (w : Wit) (s : SS) : interpreterInpCheck P p i utxos w s ≠ .panic := by
  refine Res.bind_ne_panic (getScriptPubkey_no_panic p i hi) fun spk _ => ?_
  cases p.tx.ins[i]? with
  | none => nofun
  | some _ => exact Res.ite_ne_panic nofun nofun

theorem getDescriptor_no_panic (P : Params) (p : Psbt) (i : Nat)
    (hi : i < p.inputs.length) : getDescriptor P p i ≠ .panic := by
  unfold getDescriptor getScriptPubkey
  refine Res.bind_ne_panic (Res.bind_ne_panic (getUtxo_no_panic p i hi) fun _ _ => nofun) fun spk _ => ?_
  rw [List.getElem?_eq_getElem hi]
  -- every leaf of the branch tree is `ok` or `err`; descend by cases on each scrutinee
  cases P.kind spk <;> dsimp only
  case p2pk => cases P.p2pkKey spk <;> nofun
  case p2pkh => cases findSigKey P p.inputs[i] (P.isP2pkhOf spk) <;> nofun
  case p2wpkh => cases findSigKey P p.inputs[i] (P.isP2wpkhOf spk) <;> nofun
  case p2wsh =>
    refine Res.ite_ne_panic nofun ?_
    cases p.inputs[i].witnessScript
    · nofun
    · exact Res.ite_ne_panic nofun (Res.ite_ne_panic nofun nofun)
  case p2sh =>
    cases p.inputs[i].redeemScript with
    | none => nofun
    | some rs =>
      refine Res.ite_ne_panic nofun (Res.ite_ne_panic ?_ (Res.ite_ne_panic ?_ ?_))
      · cases p.inputs[i].witnessScript
        · nofun
        · exact Res.ite_ne_panic nofun (Res.ite_ne_panic nofun nofun)
      · cases findSigKey P p.inputs[i] (P.isP2wpkhOf rs) <;> nofun
      · exact Res.ite_ne_panic nofun (Res.ite_ne_panic nofun nofun)
  all_goals exact Res.ite_ne_panic nofun (Res.ite_ne_panic nofun (Res.ite_ne_panic nofun nofun))

theorem finalizeInput_no_panic (P : Params) (p : Psbt) (i : Nat) (m : Bool)
    (hi : i < p.inputs.length) : finalizeInput P p i m ≠ .panic := by
  have hctw : constructTapWitness P p i m ≠ .panic := by
    unfold constructTapWitness
    rw [List.getElem?_eq_getElem hi]
    dsimp only
    cases p.inputs[i].tapInternalKey <;> cases p.inputs[i].tapKeySig <;>
      cases P.tapScriptWitness p i m <;> nofun
  have hstep : ∀ spk, satisfyStep P p i m spk ≠ .panic := by
    intro spk
    refine Res.ite_ne_panic (Res.bind_ne_panic (Res.mapErr_ne_panic hctw) fun _ _ => nofun)
      (Res.bind_ne_panic (Res.mapErr_ne_panic (getDescriptor_no_panic P p i hi)) fun d _ => ?_)
    cases P.satisfy d p i m <;> nofun
  refine Res.ite_ne_panic nofun ?_
  unfold finalizeInputCore
  rw [List.getElem?_eq_getElem hi]
  refine Res.ite_ne_panic nofun (Res.bind_ne_panic ?_ fun _ _ => nofun)
  exact Res.bind_ne_panic (getScriptPubkey_no_panic p i hi) fun spk _ =>
    Res.bind_ne_panic (hstep spk) fun r _ => Res.bind_ne_panic (prevouts_no_panic p) fun utxos _ =>
      Res.bind_ne_panic (interpreterInpCheck_no_panic P p i hi utxos r.1 r.2) fun _ _ => nofun

theorem finalizeLoop_no_panic (P : Params) (m : Bool) : ∀ (is : List Nat) (p : Psbt) (es : List Err),
    (∀ i ∈ is, i < p.inputs.length) → (finalizeLoop P m is p es).2.2 = false := by
  intro is p es
  fun_induction finalizeLoop P m is p es with
  | case1 p es => intro _; rfl
  | case2 i is p es p' h ih =>
    intro hb
    have f2 := (finalizeInput_frame P p p' i m h).2.1
    exact ih fun j hj => f2 ▸ hb j (List.mem_cons_of_mem _ hj)
  | case3 i is p es e h ih => intro hb; exact ih fun j hj => hb j (List.mem_cons_of_mem _ hj)
  | case4 i is p es h =>
    intro hb
    exact absurd h (finalizeInput_no_panic P p i m (hb i (List.mem_cons_self ..)))

theorem finalizeMut_no_panic (P : Params) (p : Psbt) (m : Bool) : (finalizeMut P p m).result ≠ .panic := by
  have h := finalizeLoop_no_panic P m (List.range p.inputs.length) p [] (fun j hj => List.mem_range.mp hj)
  unfold finalizeMut
  rcases hl : finalizeLoop P m (List.range p.inputs.length) p [] with ⟨p', es, fl⟩
  rw [hl] at h; simp only at h; subst h
  cases es <;> simp

theorem sanityFrom_no_panic (P : Params) : ∀ (l : List Input) (k : Nat), sanityFrom P l k ≠ .panic := by
  intro l
  induction l with
  | nil => intro k; nofun
  | cons a tl ih => intro k; exact Res.ite_ne_panic (ih (k + 1)) nofun

theorem sanityCheck_no_panic (P : Params) (p : Psbt) : sanityCheck P p ≠ .panic :=
  Res.ite_ne_panic nofun (sanityFrom_no_panic P _ _)

theorem finalizeStopLoop_no_panic (P : Params) (m : Bool) : ∀ (is : List Nat) (p : Psbt),
    (∀ i ∈ is, i < p.inputs.length) → (finalizeStopLoop P m is p).2 ≠ .panic := by
  intro is p
  fun_induction finalizeStopLoop P m is p with
  | case1 p => intro _; nofun
  | case2 i is p p' h ih =>
    intro hb
    have f2 := (finalizeInput_frame P p p' i m h).2.1
    exact ih fun j hj => f2 ▸ hb j (List.mem_cons_of_mem _ hj)
  | case3 i is p e h => intro _; nofun
  | case4 i is p h =>
    intro hb
    exact absurd h (finalizeInput_no_panic P p i m (hb i (List.mem_cons_self ..)))

theorem interpreterCheckFrom_no_panic (P : Params) (p : Psbt) (utxos : List TxOut) :
    ∀ (rest : List Input) (k : Nat), k + rest.length ≤ p.inputs.length →
      interpreterCheckFrom P p utxos rest k ≠ .panic := by
  intro rest
  induction rest with
  | nil => intro k _; nofun
  | cons a tl ih =>
    intro k hk
    rw [List.length_cons] at hk
    exact Res.bind_ne_panic (interpreterInpCheck_no_panic P p k (by omega) utxos _ _) fun _ _ =>
      ih (k + 1) (by omega)

theorem interpreterCheck_no_panic (P : Params) (p : Psbt) : interpreterCheck P p ≠ .panic :=
  Res.bind_ne_panic (prevouts_no_panic p) fun utxos _ =>
    interpreterCheckFrom_no_panic P p utxos p.inputs 0 (by omega)

theorem extractFill_no_panic : ∀ (l : List Input) (k : Nat), extractFill l k ≠ .panic := by
  intro l
  induction l with
  | nil => intro k; nofun
  | cons a tl ih =>
    intro k
    exact Res.ite_ne_panic nofun (Res.bind_ne_panic (ih (k + 1)) fun _ _ => nofun)

theorem inpMut_no_panic (P : Params) (p : Psbt) (i : Nat) (m : Bool) : (inpMut P p i m).result ≠ .panic := by
  unfold inpMut
  split
  · nofun
  · rename_i hge
    cases h : finalizeInput P p i m with
    | ok p' => nofun
    | err e => nofun
    | panic => exact absurd h (finalizeInput_no_panic P p i m (Nat.not_le.mp hge))

/-- NO public entry point of the finalizer can panic — for every PSBT
(well-formed or not: wrong input count, missing or short previous transaction, index out of
range), every mode, every satisfier and every interpreter. -/
def finalize_never_panics_full : Prop :=
  ∀ (P : Params) (p : Psbt) (m : Bool) (i : Nat),
    (finalizeMut P p m).result ≠ .panic ∧
    (finalizeInpMut P p i).result ≠ .panic ∧
    (finalizeInpMallMut P p i).result ≠ .panic ∧
    (finalizeDeprecated P p m).result ≠ .panic ∧
    interpreterCheck P p ≠ .panic ∧
    extract P p ≠ .panic

theorem finalize_never_panics : finalize_never_panics_full := by
  intro P p m i
  refine ⟨finalizeMut_no_panic P p m, inpMut_no_panic P p i false, inpMut_no_panic P p i inpMallFlag, ?_,
    interpreterCheck_no_panic P p, ?_⟩
  · unfold finalizeDeprecated
    cases h : sanityCheck P p with
    | panic => exact absurd h (sanityCheck_no_panic P p)
    | err e => nofun
    | ok u => exact finalizeStopLoop_no_panic P m _ p fun j hj => List.mem_range.mp hj
  · exact Res.bind_ne_panic (sanityCheck_no_panic P p) fun _ _ =>
      Res.bind_ne_panic (extractFill_no_panic _ _) fun _ _ =>
        Res.bind_ne_panic (interpreterCheck_no_panic P p) fun _ _ => nofun

/-- `exShort` (F8) on three more entry points -/
example : (finalizeInpMut exP exShort 0).result = .err (.input .missingUtxo 0) ∧
    (finalizeDeprecated exP exShort false).result = .err (.input .missingUtxo 0) ∧
    interpreterCheck exP exShort = .err (.input .missingUtxo 0) := by decide +kernel

/-! ## `sanity_check` (the input's `sighash_type` field against the signatures' sighash bytes) -/

/-- the deprecated `psbt::finalize` / `finalize_mall` and `extract` succeed only on a PSBT whose
every input passes the sighash-type check (and whose input count matches the transaction) -/
theorem finalizeDeprecated_ok_sane (P : Params) (p : Psbt) (m : Bool)
    (h : (finalizeDeprecated P p m).result = .ok ()) :
    p.tx.ins.length = p.inputs.length ∧ ∀ inp ∈ p.inputs, P.sanityInput inp = true := by
  unfold finalizeDeprecated at h
  cases hs : sanityCheck P p with
  | err e => rw [hs] at h; cases h
  | panic => rw [hs] at h; cases h
  | ok u => exact sanityCheck_ok hs

theorem extract_ok_sane (P : Params) (p : Psbt) (l : List (SS × Wit)) (h : extract P p = .ok l) :
    ∀ inp ∈ p.inputs, P.sanityInput inp = true := by
  obtain ⟨_, hs, _⟩ := Res.bind_eq_ok.mp h
  exact (sanityCheck_ok hs).2

/-- … whereas the `PsbtExt` finalizers never look at it: `finalize_mut`, `finalize_mall_mut`,
`finalize_inp_mut`, `finalize_inp_mall_mut` return the same for ANY sighash-type check.  (This is
the code as it is: a signature whose sighash byte contradicts the input's `sighash_type` field is
used by these entry points — an OBSERVATION of the run (the property does not forbid it; the spend is
valid and judged by `J spend`), see bin/props.d/C14.py.txt, "observations" — and because
finalization clears `partial_sigs`, a later `extract` no longer sees the contradiction.) -/
theorem finalizeInput_ignores_sanity (P : Params) (f : Input → Bool) (p : Psbt) (i : Nat) (m : Bool) :
    finalizeInput { P with sanityInput := f } p i m = finalizeInput P p i m := rfl

theorem finalizeLoop_ignores_sanity (P : Params) (f : Input → Bool) (m : Bool) :
    ∀ (is : List Nat) (p : Psbt) (es : List Err),
      finalizeLoop { P with sanityInput := f } m is p es = finalizeLoop P m is p es := by
  intro is
  induction is with
  | nil => intro p es; rfl
  | cons i tl ih =>
    intro p es
    simp only [finalizeLoop, finalizeInput_ignores_sanity]
    cases finalizeInput P p i m with
    | ok p' => exact ih p' es
    | err e => exact ih p _
    | panic => rfl

theorem psbtExt_finalizers_ignore_sanity (P : Params) (f : Input → Bool) (p : Psbt) (m : Bool) (i : Nat) :
    finalizeMut { P with sanityInput := f } p m = finalizeMut P p m ∧
    finalizeInpMut { P with sanityInput := f } p i = finalizeInpMut P p i ∧
    finalizeInpMallMut { P with sanityInput := f } p i = finalizeInpMallMut P p i := by
  refine ⟨?_, rfl, rfl⟩
  simp only [finalizeMut, finalizeLoop_ignores_sanity]

/-- concrete: `exP` with a check that refuses every input — the deprecated entry point refuses,
`finalize_mut` finalizes input 0 all the same -/
example : (finalizeDeprecated { exP with sanityInput := fun _ => false } exPsbt false).result = .err (.input .sighash 0) ∧
    (finalizeMut { exP with sanityInput := fun _ => false } exPsbt false).psbt.inputs.map Input.isFinal = [true, false] := by
  decide +kernel

end MsVerif.C14
