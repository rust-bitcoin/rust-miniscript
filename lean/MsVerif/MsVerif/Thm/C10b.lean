/-
C10 (round-trip part, on trees and on characters) — "formatting any descriptor, miniscript, policy or descriptor key and parsing the result gives back an
equal object, formatting is a fixed point after one round trip; aliases and syntactic sugar never
change meaning".  Theorems: miniscripts and the descriptor wrappers; policies and descriptor keys are judged per run
only (`J rt`, `J rtpol`, `J keyform`, Driver/OpsDisplay.lean).

Model: `Model/Display.lean` (`toTree` = `Display for Miniscript` of src/miniscript/display.rs as an
expression tree, `fromTree` = `FromTree for Miniscript` of src/miniscript/mod.rs incl.
`Miniscript::from_ast`).  `display c m = (toTree c m).print` are the characters; the string ↔ tree
step is the expression grammar (`Model/Expr.lean`, theorems in `Thm/C11.lean`).

Spellings: `Display.Spells c pre t m` (Lemmas/DisplayMain.lean) says that the tree `t` spells `m`, where each
node separately is written out or uses its sugar (`pk`, `pkh`, `and_n`, `t:`, `u:`, `l:`) and atoms are written as
the key type prints them.  Every such spelling, mixed ones like `and_v(pk(K),1)` included, parses to the object
it spells (`Display.Spells.fromTree_eq`), and any two spellings of one object parse alike (`Display.Spells.same`;
both Lemmas/DisplayString.lean); T5 and `sugar_never_changes_meaning` below are these two at `Display`'s own
spelling and at the spelling without any sugar (`toTreeW_spells`, `plainTreeW_spells`, Lemmas/DisplayMain.lean).
T1–T4 of the property are Thm/C10.lean.  Texts of atoms other than the printed one are not covered.

The quantifier "every `Ms` the library can hold" is `Ms.all (nodeOk c) m`: at every node
`from_ast` succeeded (type check, height ≤ 402, `check_global_validity`), the invariants of the Rust
types hold (`AbsLockTime`/`RelLockTime` ranges, `Threshold<_, MAX>`: 1 ≤ k ≤ n ≤ MAX) and the atoms
are read back by the key type's `FromStr`.  No fragment is excluded, raw key hashes included: `rawpkh_*` below are
instances of T5 (the model follows /repo with the printer repair b17364cb, DESIGN.md §9.3).
-/
import MsVerif.Lemmas.DescRound
import MsVerif.Spec.Bip388
import MsVerif.Spec.KeyGrammar
import MsVerif.Model.Validate

namespace MsVerif.C10b
open MsVerif MsVerif.Display

/-- **T5** the parser inverts the printer: for EVERY miniscript object, parsing the
expression tree that `Display` prints gives back the SAME abstract syntax tree — through wrapper
folding (`t:`, `l:`, `u:`, merged prefixes, the `:` separator), `pk`/`pkh`, `and_n`,
`expr_raw_pkh`, thresholds and multis of any size. -/
theorem fromTree_toTree (c : Codec) (m : Ms) (h : Ms.all (nodeOk c) m = true) :
    fromTree c (toTree c m) = .ok m :=
  (toTreeW_spells c m []).fromTree_eq h

/-- the same with the atom hypothesis stated once for the key type (`FromStr ∘ Display = id`) -/
theorem fromTree_toTree_codec (c : Codec) (hc : CodecOk c) (m : Ms)
    (h : Ms.all (fun x => (typeOf x).isSome && decide (height x ≤ MAX_RECURSION_DEPTH) && c.gv x
                          && localOk x) m = true) :
    fromTree c (toTree c m) = .ok m := by
  apply fromTree_toTree
  refine all_mono _ (nodeOk c) (fun x hx => ?_) m h
  simp only [nodeOk, Bool.and_eq_true] at hx ⊢
  exact ⟨hx, atomsOk_of_codecOk c hc x⟩

theorem all_root (p : Ms → Bool) (m : Ms) (h : Ms.all p m = true) : p m = true :=
  root_of_all p m h

/-- **T5 on CHARACTERS**: `Miniscript::from_str` up to its final `validate(&Ctx::SANE)`, which the
model's `fromStr` leaves out (expression parser of Model/Expr.lean: checksum scan, pre-check,
node-table builder — then `FromTree`), applied to the characters `Display` writes gives back the
same AST. -/
theorem fromStr_display (c : Codec) (hn : CodecNames c) (m : Ms) (h : Ms.all (nodeOk c) m = true) :
    fromStr c (display c m) = .ok m := by
  have hwf : (toTree c m).WF := toTreeW_wf c hn m [] Expr.NameOk.nil
  have hh : height m ≤ MAX_RECURSION_DEPTH := ((nodeOk_iff c m).1 (all_root _ m h)).2.1
  have hd : (toTree c m).depth ≤ 403 := by
    have := toTreeW_depth c m []
    unfold toTree
    simp only [MAX_RECURSION_DEPTH] at hh
    omega
  exact (Expr.fromStr_print_then (toTree c m) hwf hd _ _).trans (fromTree_toTree c m h)

/-- **formatting is a fixed point after one round trip**, on characters:
`print (parse (print m)) = print m` -/
theorem display_fixed_point (c : Codec) (hn : CodecNames c) (m : Ms) (h : Ms.all (nodeOk c) m = true) :
    (fromStr c (display c m)).map (display c) = .ok (display c m) := by
  rw [fromStr_display c hn m h]; rfl

theorem decCodec_names (gv : Ms → Bool) : CodecNames (decCodec gv) :=
  ⟨fun k => showNat_nameOk k, fun _ h => showNat_nameOk h, fun h => showNat_nameOk h⟩

/-- the unsugared spelling (`c:pk_k(K)`, `and_v(X,1)`, `or_i(0,X)`, `or_i(X,0)`, `andor(X,Y,0)`)
parses to the AST it spells -/
theorem plain_spelling_parses (c : Codec) (m : Ms) (h : Ms.all (nodeOk c) m = true) :
    fromTree c (plainTree c m) = .ok m :=
  (plainTreeW_spells c m []).fromTree_eq h

/-- aliases and syntactic sugar never change meaning: the sugared spelling that `Display` chooses
and the unsugared spelling of the same object parse to the same AST (`Spells.same`: so do any two spellings) -/
theorem sugar_never_changes_meaning (c : Codec) (m : Ms) (h : Ms.all (nodeOk c) m = true) :
    fromTree c (plainTree c m) = fromTree c (toTree c m) :=
  (plainTreeW_spells c m []).same (toTreeW_spells c m []) h

/-! ## raw public key hashes -/

/-- `c:expr_raw_pkh(H)` is printed as the wrapper `c:` over `expr_raw_pkh(H)` (no folding) … -/
theorem rawpkh_check_printed_unfolded (c : Codec) (h : Nat) :
    toTree c (.check (.rawPkH h)) = plainTree c (.check (.rawPkH h)) := by
  unfold toTree plainTree
  rw [toTreeW, plainTreeW]
  simp only [sugarCheck]
  rw [toTreeW, plainTreeW]

/-- … and parses back to the B-typed `c:RawPkH`, not to the bare K-typed fragment -/
theorem rawpkh_check_roundtrip (c : Codec) (h : Nat)
    (hok : Ms.all (nodeOk c) (.check (.rawPkH h)) = true) :
    fromTree c (toTree c (.check (.rawPkH h))) = .ok (.check (.rawPkH h)) :=
  fromTree_toTree c _ hok

/-- a bare `RawPkH` prints under the name the parser reads -/
theorem rawpkh_bare_roundtrip (c : Codec) (h : Nat) (hok : Ms.all (nodeOk c) (.rawPkH h) = true) :
    fromTree c (toTree c (.rawPkH h)) = .ok (.rawPkH h) :=
  fromTree_toTree c _ hok

/-- decimal atoms; `gv` (`check_global_validity`) accepts everything, the other clauses of `nodeOk` (typing, height, `localOk`, atoms) remain -/
def idCodec : Codec := decCodec (fun _ => true)

/-- `c:expr_raw_pkh(0)` is admissible, and with it its child, the bare fragment (non-vacuity of the
two statements above) -/
theorem rawpkh_admissible : Ms.all (nodeOk idCodec) (.check (.rawPkH 0)) = true := by
  decide +kernel

/-- the two printed forms are read back as different objects (`c:RawPkH` and the bare `RawPkH`) -/
theorem rawpkh_spellings_differ :
    fromTree idCodec (toTree idCodec (.check (.rawPkH 0))) ≠ fromTree idCodec (toTree idCodec (.rawPkH 0)) := by
  have h := rawpkh_admissible
  rw [rawpkh_check_roundtrip idCodec 0 h,
    rawpkh_bare_roundtrip idCodec 0 (by
      simp only [Ms.all, Bool.and_eq_true] at h
      simpa [Ms.all] using h.2)]
  intro e; cases e

/-! ## non-vacuity: concrete objects satisfy the hypothesis -/

/-- `tv:or_i(pk(1),and_n(pkh(2),l:older(144)))`-like object with every sugar form -/
def sample : Ms :=
  .andV (.verify (.orI (.check (.pkK 1))
      (.andOr (.check (.pkH 2)) (.orI .fls (.older 144)) .fls))) .tru

theorem sample_ok : Ms.all (nodeOk idCodec) sample = true := by
  decide +kernel

example : fromTree idCodec (toTree idCodec sample) = .ok sample :=
  fromTree_toTree idCodec sample sample_ok

example : fromStr idCodec (display idCodec sample) = .ok sample :=
  fromStr_display idCodec (decCodec_names _) sample sample_ok

example : fromTree idCodec (plainTree idCodec sample) = fromTree idCodec (toTree idCodec sample) :=
  sugar_never_changes_meaning idCodec sample sample_ok

example : fromTree idCodec (toTree idCodec (.check (.rawPkH 0))) = .ok (.check (.rawPkH 0)) :=
  rawpkh_check_roundtrip idCodec 0 rawpkh_admissible

/-! ## non-vacuity in REAL contexts: `gv` is the model of `Ctx::check_global_validity` of
Model/Validate.lean (fragment availability, key kinds, script-size limits), not "accept all" -/

/-- keys of `n` bytes (33: compressed, 32: x-only) -/
def envOf (n : Nat) : KeyEnv where
  ser _ := List.replicate n 0
  sortKey _ := List.replicate n 0
  pkh _ := List.replicate 20 0
  rawPkh _ := List.replicate 20 0
  hashVal kind _ := match kind with
    | .sha256 | .hash256 => List.replicate 32 0
    | _ => List.replicate 20 0

/-- the codec of a real context: decimal atoms, `check_global_validity` of `ctx` with every key of
kind `kind` -/
def ctxCodec (ctx : Ctx) (kind : KeyKind) (keyLen : Nat) : Codec :=
  decCodec (fun m => checkGlobalValidity ctx ⟨fun _ => kind, fun _ => 1⟩ (extOf (envOf keyLen) ctx m).pkCost m)

/-- Segwitv0 with compressed keys: `tv:or_i(pk(1),and_n(pkh(2),l:older(144)))` and a 2-of-3 `multi` -/
def sampleSegwit : Ms := .andB sample (.alt (.multi 2 [1, 2, 3]))

theorem sampleSegwit_ok : Ms.all (nodeOk (ctxCodec .segwitv0 .compressed 33)) sampleSegwit = true := by
  decide +kernel

example : fromTree (ctxCodec .segwitv0 .compressed 33) (toTree (ctxCodec .segwitv0 .compressed 33) sampleSegwit)
    = .ok sampleSegwit := fromTree_toTree _ _ sampleSegwit_ok

/-- in Segwitv0 an x-only key is refused by `check_pk`: the hypothesis is not "anything goes" -/
theorem sampleSegwit_xonly_refused :
    Ms.all (nodeOk (ctxCodec .segwitv0 .xonly 32)) sampleSegwit = false := by
  decide +kernel

/-- Tap with x-only keys: `and_v(v:multi_a(2,1,2,3),or_d(pk(4),and_v(v:pkh(5),older(10))))` -/
def sampleTap : Ms :=
  .andV (.verify (.multiA 2 [1, 2, 3]))
    (.orD (.check (.pkK 4)) (.andV (.verify (.check (.pkH 5))) (.older 10)))

theorem sampleTap_ok : Ms.all (nodeOk (ctxCodec .tap .xonly 32)) sampleTap = true := by
  decide +kernel

example : fromTree (ctxCodec .tap .xonly 32) (toTree (ctxCodec .tap .xonly 32) sampleTap) = .ok sampleTap :=
  fromTree_toTree _ _ sampleTap_ok

example : (fromStr (ctxCodec .tap .xonly 32) (display (ctxCodec .tap .xonly 32) sampleTap)).map
    (display (ctxCodec .tap .xonly 32)) = .ok (display (ctxCodec .tap .xonly 32) sampleTap) :=
  display_fixed_point _ (decCodec_names _) _ sampleTap_ok

/-- `multi_a` does not exist in Segwitv0: the same object is not admissible there -/
theorem sampleTap_not_segwit : Ms.all (nodeOk (ctxCodec .segwitv0 .compressed 33)) sampleTap = false := by
  decide +kernel

/-! ## the descriptor wrappers (Model/DescDisplay.lean) -/

open DescDisplay in
/-- **descriptor wrappers, tree level**: `pkh`, `wpkh`, `sh(wpkh)`, `sh(wsh(M))`, `sh(M)`, `wsh(M)`, a
bare `M`, `tr(K)` and `tr(K,TREE)` with a tap tree of any shape (inner nodes at depth < 128):
`FromTree for Descriptor` applied to the printed tree gives back the same descriptor.
`DescOk`: the inner miniscripts are admissible (`nodeOk`), the wrapper constructor accepts
(`wrapOk`/`leafOk`), keys read back — and a bare miniscript is not `c:pk_h(K)` (`desc_bare_pkh_differs` below). -/
theorem desc_fromTree_toTree (c : DCodec) (d : Desc) (h : DescOk c d) :
    DescDisplay.fromTree c (DescDisplay.toTree c d) = .ok d :=
  DescDisplay.fromTree_toTree c d h

open DescDisplay in
/-- **descriptor wrappers, on characters** (`Descriptor::from_str` without the checksum and without
its final `Tap::SANE` sweep, as `DescDisplay.fromStr` models it): holds while the printed nesting is within
the expression parser's limit (403); beyond it the library refuses its own output (F14b: DESIGN.md §9.3, recorded not repaired; known_findings.txt, `J descdepth`) -/
theorem desc_fromStr_display (c : DCodec) (hn : DNames c) (d : Desc) (h : DescOk c d)
    (hd : (DescDisplay.toTree c d).depth ≤ 403) :
    DescDisplay.fromStr c (DescDisplay.display c d) = .ok d :=
  DescDisplay.fromStr_display c hn d h hd

open DescDisplay in
/-- the bare descriptor `c:pk_h(K)` prints as `pkh(K)` and reads back as the
`pkh()` descriptor, a different object -/
theorem desc_bare_pkh_differs (c : DCodec) (k : Key)
    (hk : (c.ms .bare).showKey k = c.showKey k) (hr : c.readKey (c.showKey k) = some k)
    (hw : c.wrapOk (.pkh k) = true) :
    DescDisplay.fromTree c (DescDisplay.toTree c (.bare (.check (.pkH k)))) = .ok (.pkh k)
      ∧ Desc.pkh k ≠ Desc.bare (.check (.pkH k)) :=
  ⟨bare_pkh_reads_as_pkh c k hk hr hw, by intro e; cases e⟩

/-- a descriptor codec with REAL wrapper checks: the C12 model of `top_level_checks` + the wrapper's
`validate` (Model/Validate.lean), compressed keys outside taproot and x-only keys inside -/
def realDCodec : DescDisplay.DCodec where
  ms ctx := match ctx with
    | .tap => ctxCodec .tap .xonly 32
    | ctx => ctxCodec ctx .compressed 33
  showKey := showNat
  readKey := readDec
  wrapOk d := match d with
    | .wsh m => topLevelChecks ⟨fun _ => .compressed, fun _ => 1⟩ .segwitv0 m
        && wrapperValidate (envOf 33) ⟨fun _ => .compressed, fun _ => 1⟩ .segwitv0 m
    | .sh m => topLevelChecks ⟨fun _ => .compressed, fun _ => 1⟩ .legacy m
        && wrapperValidate (envOf 33) ⟨fun _ => .compressed, fun _ => 1⟩ .legacy m
    | .bare m => topLevelChecks ⟨fun _ => .compressed, fun _ => 1⟩ .bare m
    | _ => true
  leafOk m := isOk (validate (envOf 32) ⟨fun _ => .xonly, fun _ => 1⟩ .tap (Ctx.CONSENSUS .tap) m)

theorem realDCodec_names : DescDisplay.DNames realDCodec :=
  ⟨fun ctx => by cases ctx <;> exact decCodec_names _, fun k => showNat_nameOk k⟩

/-- `sh(wsh(and_b(tv:or_i(pk(1),and_n(pkh(2),l:older(144))),a:multi(2,1,2,3))))` -/
theorem sampleDesc_ok : DescDisplay.DescOk realDCodec (.shWsh sampleSegwit) := by
  refine ⟨sampleSegwit_ok, ?_⟩
  decide +kernel

example : DescDisplay.fromTree realDCodec (DescDisplay.toTree realDCodec (.shWsh sampleSegwit))
    = .ok (.shWsh sampleSegwit) := desc_fromTree_toTree _ _ sampleDesc_ok

example : DescDisplay.fromStr realDCodec (DescDisplay.display realDCodec (.shWsh sampleSegwit))
    = .ok (.shWsh sampleSegwit) :=
  desc_fromStr_display _ realDCodec_names _ sampleDesc_ok (by
    have := toTreeW_depth (realDCodec.ms .segwitv0) sampleSegwit []
    simp only [DescDisplay.toTree, Expr.Tree.depth, Expr.Tree.depthList, Display.toTree]
    have hh : height sampleSegwit ≤ 10 := by decide
    omega)

/-- `tr(7,{and_v(v:multi_a(2,1,2,3),…),{pk(4),pk(5)}})` -/
def sampleTr : DescDisplay.Desc :=
  .tr 7 (some (.node (.leaf sampleTap) (.node (.leaf (.check (.pkK 4))) (.leaf (.check (.pkK 5))))))

theorem sampleTr_ok : DescDisplay.DescOk realDCodec sampleTr := by
  refine ⟨readDec_showNat 7 (by decide), rfl, ?_⟩
  exact ⟨by decide, ⟨sampleTap_ok, by decide +kernel⟩, by decide, ⟨by decide +kernel, by decide +kernel⟩,
    ⟨by decide +kernel, by decide +kernel⟩⟩

example : DescDisplay.fromTree realDCodec (DescDisplay.toTree realDCodec sampleTr) = .ok sampleTr :=
  desc_fromTree_toTree _ _ sampleTr_ok

/-! ## numeric arguments -/

/-- every value in the range of its position, printed in decimal, is read back as that value
(lock times, threshold `k`, `or` weights): printing a number and parsing it is the identity -/
theorem numArg_showNat (pos : NumPos) (v : Nat) (hv : v ≤ 4294967295)
    (hr : match pos with
          | .lock => 1 ≤ v ∧ v ≤ 2147483647
          | .threshK _ lo hi => lo ≤ v ∧ v ≤ hi
          | .weight => 1 ≤ v) :
    numArg pos (showNat v) = some v := by
  unfold numArg
  rw [parseNum_showNat v hv]
  cases pos <;> simp_all

/- In the evaluations below the goal's `"…".toList` are first rewritten to character lists by
`String.toList_ofList`: left to the kernel, a literal is decoded from its UTF-8 bytes, which costs more than
the function evaluated on it. -/

theorem numArg_none_of_parseNum (pos : NumPos) (s : List Char) (e : Expr.NumErr)
    (h : Expr.parseNum s = .error e) : numArg pos s = none := by
  unfold numArg; rw [h]

/-- texts that are not canonical `u32` decimals are refused at every position -/
theorem numArg_noncanonical (pos : NumPos) :
    numArg pos "01".toList = none ∧ numArg pos "+1".toList = none ∧ numArg pos "".toList = none
      ∧ numArg pos "4294967296".toList = none ∧ numArg pos "18446744073709551616".toList = none :=
  ⟨numArg_none_of_parseNum pos _ .invalidLeadingDigit (by rw [String.toList_ofList]; rfl),
   numArg_none_of_parseNum pos _ .invalidLeadingDigit (by rw [String.toList_ofList]; rfl),
   numArg_none_of_parseNum pos _ .empty (by rw [String.toList_ofList]; rfl),
   numArg_none_of_parseNum pos _ .posOverflow (by rw [String.toList_ofList]; rfl),
   numArg_none_of_parseNum pos _ .posOverflow (by rw [String.toList_ofList]; rfl)⟩

example : numArg .lock "2147483648".toList = none ∧ numArg .lock "0".toList = none
    ∧ numArg (.threshK 3 1 3) "4".toList = none ∧ numArg .weight "4294967295".toList = some 4294967295 := by
  repeat rw [String.toList_ofList]
  decide +kernel

/-! ## the text-level specifications used by the judges are consistent on instances -/

open Spec.Bip388 in
/-- BIP-388: the template of a descriptor with a repeated key instantiates back to the descriptor,
and satisfies the placeholder rules with two key information items -/
theorem bip388_template_instance :
    let d := "wsh(multi(2,[d3/48']xpubA/<0;1>/*,tpubB/<4;9>/*,[d3/48']xpubA/<2;3>/*))".toList
    (templateOf d).map (fun r => String.ofList r.1) = some "wsh(multi(2,@0/**,@1/<4;9>/*,@0/<2;3>/*))"
    ∧ ((templateOf d).bind fun r => instantiate r.1 r.2) = some d
    ∧ ((templateOf d).bind fun r => checkTemplate r.1).map (·.2) = some 2 := by
  repeat rw [String.toList_ofList]
  decide +kernel

open Spec.Bip388 in
/-- BIP-388: descriptors without a template and templates breaking the placeholder rules -/
theorem bip388_rejections :
    templateOf "wpkh(xpubA/0/*)".toList = none ∧ templateOf "wpkh(xpubA/<1;0>/*)".toList = none
    ∧ templateOf "wsh(multi(2,xpubA/<0;1>/*,xpubA/<1;2>/*))".toList = none
    ∧ checkTemplate "wsh(multi(2,@1/**,@0/**))".toList = none
    ∧ checkTemplate "wpkh(@1/**)".toList = none
    ∧ checkTemplate "wsh(multi(2,@0/**,@0/<1;2>/*))".toList = none
    ∧ checkTemplate "wpkh(@0x/**)".toList = none
    ∧ (checkTemplate "wsh(multi(2,@0/**,@1/**,@1/<2;3>/*))".toList).isSome = true := by
  repeat rw [String.toList_ofList]
  decide +kernel

open Spec.KeyGrammar in
/-- BIP-380/389 key grammar on instances (x-only hex key with origin; malformed spellings) -/
theorem keyexpr_instances :
    valid false "[d34db33f/44'/0h/7]c57b973499cb87c1409b29b475185b624c6abb8421f003246f1ede275d367af4".toList = true
    ∧ valid false "[d34db33f/44H]c57b973499cb87c1409b29b475185b624c6abb8421f003246f1ede275d367af4".toList = false
    ∧ valid false "[d34db33]c57b973499cb87c1409b29b475185b624c6abb8421f003246f1ede275d367af4".toList = false
    ∧ isMulti "<0;1h;2'>".toList = true ∧ isMulti "<0>".toList = false
    ∧ derivOk ["0".toList, "<0;1>".toList, "*h".toList] false = true
    ∧ derivOk ["<0;1>".toList, "<2;3>".toList] false = false
    ∧ derivOk ["*".toList, "0".toList] false = false := by
  repeat rw [String.toList_ofList]
  decide +kernel

end MsVerif.C10b
