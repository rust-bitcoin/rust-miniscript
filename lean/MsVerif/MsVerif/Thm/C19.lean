/-
C19 — Equality, ordering and hashing are structural and mutually consistent.

Model (Model/Cmp.lean) ↔ Rust:
  msEq        ↔ `PartialEq for Terminal` (src/miniscript/decode.rs), used by `Miniscript::eq`
  hashWords   ↔ `Hash for Terminal`: the exact sequence of items fed to the hasher
  msCmp       ↔ `Ord for Terminal` (src/miniscript/display.rs); `.error .unreachable` = `unreachable!`
  msClone     ↔ `Clone for Miniscript` (src/miniscript/mod.rs): rtl-post-order rebuild from a stack
  Ms.preOrder / Ms.rtlPostOrder ↔ `pre_order_iter` / `rtl_post_order_iter` (src/iter/tree.rs)

All theorems are for EVERY miniscript — section P: every policy `PPol`, `polCmp` of Model/PolicyOrd.lean — (no bound on size, depth or threshold width).
The model follows /repo with its two `fix:` commits for `==` and `cmp` (e7035cf1, 150fe1e9: DESIGN.md §9.3; F1, F2 of §1.1: without them `==` ignores
`k` and the arity of `thresh`, and `cmp` returns `Equal` for different trees or reaches `unreachable!`); the inputs
that show it are kept below as `example`s and as fixed inputs of the harness.

Atoms: keys / hashes are abstract numbers; their orders are a parameter `o : AtomOrd`, assumed
to be lawful total orders (`LawfulAtoms o`) exactly where `Pk: Ord` is.
-/
import MsVerif.Lemmas.CmpOrd
import MsVerif.Lemmas.PolicyOrd

namespace MsVerif.C19
open MsVerif MsVerif.TreeWalk MsVerif.CmpEq MsVerif.CmpOrd

/-! ## concrete values for the non-vacuity / regression examples -/

def pk (k : Key) : Ms := .check (.pkK k)
def th (k : Nat) (l : List Ms) : Ms := .thresh k (MsList.ofList l)
/-- the numeric order on all atoms (what the harness uses) -/
def natOrd : AtomOrd := ⟨natCmp, natCmp, fun _ => natCmp⟩

theorem natOrd_lawful : LawfulAtoms natOrd := ⟨natCmp_lawful, natCmp_lawful, fun _ => natCmp_lawful⟩

/-- `thresh(1,pk(0),s:pk(1),s:pk(2))` vs `thresh(2,…)` (input of F1: k) -/
def wK1 : Ms := th 1 [pk 0, .swap (pk 1), .swap (pk 2)]
def wK2 : Ms := th 2 [pk 0, .swap (pk 1), .swap (pk 2)]
/-- `thresh(1,pk(0))`, `thresh(1,pk(0),s:pk(1))`, `thresh(1,pk(0),s:pk(2))` (inputs of F1: arity) -/
def wN1 : Ms := th 1 [pk 0]
def wN2 : Ms := th 1 [pk 0, .swap (pk 1)]
def wN3 : Ms := th 1 [pk 0, .swap (pk 2)]
/-- `or_d(multi(1,0),pk(2))` vs `or_d(multi(1,0,1),pk(2))` (input of F2: panic) -/
def wP1 : Ms := .orD (.multi 1 [0]) (pk 2)
def wP2 : Ms := .orD (.multi 1 [0, 1]) (pk 2)

/-! ## T0 — the iterators of `src/iter/tree.rs` yield the structural traversals -/

/-- `pre_order_iter` (stack machine, `nodes` items of fuel) = structural pre-order, every ms -/
theorem preOrder_structural (ms : Ms) : ms.preOrder = ms.pre := preOrder_eq_pre ms

/-- `rtl_post_order_iter` (`PostOrderIter` over the `Rtl` adaptor) = structural right-to-left
post-order, every ms -/
theorem rtlPostOrder_structural (ms : Ms) : ms.rtlPostOrder = ms.rtlPost := rtlPostOrder_eq ms

/-- more fuel never changes what `PreOrderIter` yields -/
theorem preOrderIter_fuel (ms : Ms) (extra : Nat) :
    preOrderIter Ms.asNode (ms.nodes + extra) ms = ms.pre :=
  preOrderIter_eq Ms.asNode Ms.pre Ms.pre_eq _ ms (by rw [Ms.pre_length]; omega)

example : wP1.preOrder = [wP1, .multi 1 [0], pk 2, .pkK 2] := by decide
example : wP1.rtlPostOrder = [.pkK 2, pk 2, .multi 1 [0], wP1] := by decide

/-! ## T1 — `==` ⇔ structural identity -/

/-- T1: two miniscripts compare equal exactly when they are structurally identical (same
fragments, threshold values and arities, keys, hashes, time locks) -/
theorem eq_iff_structural (a b : Ms) : msEq a b = true ↔ a = b := by
  unfold msEq
  rw [preOrder_eq_pre, preOrder_eq_pre]
  constructor
  · intro h
    rcases eqZip_prefix nodeDiffers label label_of_nodeDiffers _ _ h with h | h
    · simpa using pre_prefix_code [a] [b] rfl (by simpa using h)
    · simpa using (pre_prefix_code [b] [a] rfl (by simpa using h)).symm
  · rintro rfl; exact eqZip_self _ nodeDiffers_self _

theorem eq_refl (a : Ms) : msEq a a = true := (eq_iff_structural a a).2 rfl
theorem eq_symm (a b : Ms) : msEq a b = msEq b a := by
  rw [Bool.eq_iff_iff, eq_iff_structural, eq_iff_structural]
  exact eq_comm
theorem eq_trans (a b c : Ms) (h1 : msEq a b = true) (h2 : msEq b c = true) : msEq a c = true := by
  rw [eq_iff_structural] at *; rw [h1, h2]

/-- the inputs of F1 (k, arity, nested arity) are unequal -/
example : msEq wK1 wK2 = false ∧ msEq wN1 wN2 = false ∧ msEq wN2 wN3 = false ∧ msEq wK1 wK1 = true
    ∧ msEq (th 1 [th 1 [pk 0, .swap (pk 1)], .swap (pk 2)]) (th 1 [th 1 [pk 0], .swap (pk 1), .swap (pk 2)]) = false := by
  decide

/-! ## T2 (model-level part) — the display tokens determine the tree -/

/-- the pre-order sequence of display tokens (fragment name incl. sugar names `pk`, `t`, `l`,
`u`, `and_n`, number of display children, k, keys, hashes, locks) determines the miniscript:
two miniscripts with the same token sequence — hence the same string form — are identical -/
theorem display_tokens_injective (a b : Ms) (h : toks a = toks b) : a = b := by
  have := dpre_prefix_code [.node a] [.node b] rfl
    (by simp only [List.flatMap_cons, List.flatMap_nil, List.append_nil, dpre]
        unfold toks at h; rw [h]; exact List.prefix_refl _)
  simpa using this

example : toks (pk 0) = [.node .pk 1, .key 0] := by decide
example : toks (.andV (pk 0) .tru) = [.node .t 1, .node .pk 1, .key 0] := by decide

/-! ## T3 — `cmp` is a total order whose `Equal` is `==` -/

/-- the laws (T3) for a comparison function `cmp` and an equality `eq` -/
structure TotalOrderLaws (cmp : Ms → Ms → Except Panic Ordering) (eq : Ms → Ms → Bool) : Prop where
  no_panic : ∀ a b, ∃ r, cmp a b = .ok r
  refl : ∀ a, cmp a a = .ok .eq
  antisymm : ∀ a b r, cmp a b = .ok r → cmp b a = .ok r.swap
  trans_lt : ∀ a b c, cmp a b = .ok .lt → cmp b c = .ok .lt → cmp a c = .ok .lt
  trans_eq_l : ∀ a b c, cmp a b = .ok .eq → cmp a c = cmp b c
  equal_iff_eq : ∀ a b, cmp a b = .ok .eq ↔ eq a b = true
  equal_iff_identical : ∀ a b, cmp a b = .ok .eq ↔ a = b

/-- T3: `cmp` never panics, is reflexive, antisymmetric and transitive, and
`Equal` ⇔ `==` ⇔ identical — for every lawful order on the atoms -/
theorem cmp_total_order (o : AtomOrd) (ho : LawfulAtoms o) : TotalOrderLaws (msCmp o) msEq := by
  have L := lexCmp_lawful (tokCmp_lawful o ho)
  have E := msCmp_eq_lex o ho
  have ident : ∀ a b, msCmp o a b = .ok .eq ↔ a = b := by
    intro a b
    rw [E]
    constructor
    · intro h
      exact display_tokens_injective a b ((L.eq_iff _ _).1 (by injection h))
    · rintro rfl
      rw [(L.eq_iff _ _).2 rfl]
  refine ⟨fun a b => ⟨_, E a b⟩, fun a => (ident a a).2 rfl, ?_, ?_, ?_, ?_, ident⟩
  · intro a b r h
    rw [E] at h ⊢
    injection h with h
    rw [L.swap, h]
  · intro a b c h1 h2
    rw [E] at h1 h2 ⊢
    injection h1 with h1; injection h2 with h2
    rw [L.trans_lt _ _ _ h1 h2]
  · intro a b c h
    rw [(ident a b).1 h]
  · intro a b
    rw [ident, eq_iff_structural]

/-- the hypothesis of T3 is satisfiable -/
example : TotalOrderLaws (msCmp natOrd) msEq := cmp_total_order natOrd natOrd_lawful

/-- `cmp` is the lexicographic order of the display token sequences -/
theorem cmp_is_lex (o : AtomOrd) (ho : LawfulAtoms o) (a b : Ms) :
    msCmp o a b = .ok (lexCmp (tokCmp o) (toks a) (toks b)) := msCmp_eq_lex o ho a b

/-- the inputs of F2 (panic; `Equal` for different widths) -/
example : msCmp natOrd wP1 wP2 = .ok .lt ∧ msCmp natOrd wN1 wN2 = .ok .lt
    ∧ msCmp natOrd wK1 wK2 = .ok .lt ∧ msCmp natOrd wK2 wK2 = .ok .eq
    ∧ msCmp natOrd (.multi 1 [0]) (.multi 1 [0, 1]) = .ok .lt := by
  decide  -- equality of `Except` outcomes is decided by `CmpOrd.instDecEqOutcome`

/-! ## T4 — equal values hash equally -/

/-- T4: equal values feed identical word sequences to the hasher (hence equal hashes under
every `Hasher`) -/
theorem hash_consistent (a b : Ms) (he : msEq a b = true) : hashWords a = hashWords b := by
  rw [(eq_iff_structural a b).1 he]

/-- the hasher input is the concatenation, in pre-order, of what each node writes -/
theorem hashWords_structural (ms : Ms) : hashWords ms = ms.pre.flatMap hashNode := by
  unfold hashWords; rw [preOrder_eq_pre]

example : hashWords (th 1 [pk 7]) =
    [.disc 25, .usize 1, .usize 1, .disc 13, .disc 2, .key 7] := by decide
/-- the F1 pair is unequal AND hashes differently -/
example : msEq wK1 wK2 = false ∧ hashWords wK1 ≠ hashWords wK2 := by decide

/-! ## T5 — cloning yields an identical value -/

/-- `Miniscript::clone` (fold over `rtl_post_order_iter`, one `stack.pop().unwrap()` per child
in argument order, `thresh.map_ref(|_| stack.pop().unwrap())`, final `assert_eq!(len, 1)`) never
panics and returns a structurally identical value — for every miniscript -/
theorem clone_eq (ms : Ms) : msClone ms = .ok ms := msClone_eq ms

/-- hence the clone is `==` to the original and compares `Equal` -/
theorem clone_eq_eq (ms : Ms) : (msClone ms).map (msEq ms) = .ok true := by
  rw [clone_eq]; simp [Except.map, eq_refl]
theorem clone_cmp_equal (o : AtomOrd) (ho : LawfulAtoms o) (ms : Ms) :
    (msClone ms).bind (msCmp o ms) = .ok .eq := by
  rw [clone_eq]; exact (cmp_total_order o ho).refl ms

example : msClone (.andOr (pk 0) wK2 wP2) = .ok (.andOr (pk 0) wK2 wP2) := clone_eq _

/-! ## the rank table of fragment names is the byte-wise string order -/

/-- `FragName.rank` (used by the model for `fragment_name().cmp(…)`) agrees with `compare` on
the 36 Rust strings -/
theorem fragRank_faithful :
    FragName.all.all (fun x => FragName.all.all (fun y => compare x.str y.str == natCmp x.rank y.rank))
      = true := by decide +kernel

/-! ## P — `Ord` of concrete and semantic policies (`Eq` / `Hash` are `#[derive]`d: read as Lean's `=` on `PPol`, not modelled) -/

section Policies
open MsVerif.PolicyOrd

/-- the hand-written `Ord for Policy` (both policy types; `polCmp`, Model/PolicyOrd.lean) is a
total order whose `Equal` is structural identity — hence consistent with the derived `==` and
`Hash` — for every lawful order on keys and hashes: locks are compared by consensus value,
`or` branches weight first, thresholds k first, child lists lexicographically -/
theorem policy_cmp_total_order (o : AtomOrd) (ho : LawfulAtoms o) :
    (∀ a b : PPol, polCmp o a b = .eq ↔ a = b) ∧
    (∀ a b : PPol, polCmp o b a = (polCmp o a b).swap) ∧
    (∀ a b c : PPol, polCmp o a b = .lt → polCmp o b c = .lt → polCmp o a c = .lt) :=
  ⟨polCmp_eq_iff o ho, polCmp_swap o ho, polCmp_trans o ho⟩

/-- after the comparison of the variant names the second `match` of `cmp` only sees pairs of
the same variant: its `unreachable!` arm is never reached -/
theorem policy_cmp_no_unreachable (a b : PPol) (h : a.vrank = b.vrank) : sameVariant a b = true :=
  same_rank_same_variant a b h

/-- the rank table is the byte-wise order of the twelve `variant_name()` strings -/
theorem policy_variant_rank_faithful :
    let reps : List PPol := [.after 0, .and .nil, .hash .hash160 0, .hash .hash256 0, .key 0, .older 0,
      .or .nil, .hash .ripemd160 0, .hash .sha256 0, .thresh 1 .nil, .trivial, .unsat]
    reps.all (fun x => reps.all (fun y => compare x.variantName y.variantName == natCmp x.vrank y.vrank))
      = true := by decide +kernel

/-- near-twin locks and weights are told apart -/
example : polCmp natOrd (.older 5) (.older 65541) = .lt
    ∧ polCmp natOrd (.or (.cons 1 (.key 0) (.cons 2 (.key 1) .nil))) (.or (.cons 2 (.key 0) (.cons 1 (.key 1) .nil))) = .lt
    ∧ polCmp natOrd (.and (.cons 0 (.key 0) .nil)) (.key 0) = .lt
    ∧ polCmp natOrd (.thresh 1 (.cons 0 (.key 0) .nil)) (.thresh 1 (.cons 0 (.key 0) (.cons 0 (.key 1) .nil))) = .lt := by
  decide

end Policies

end MsVerif.C19
