/-
C08 — "Compiled policies keep their meaning and are sane in the target context", by
TRANSLATION VALIDATION.

The policy compiler (src/policy/compiler.rs: 1 600 lines, floating-point cost dynamic
programme; src/policy/concrete.rs: key extraction, leaf enumeration, Huffman tree) is NOT
modelled.  Instead every output of every public compile entry point is handed, on every run, to
the executable checker `CC.checkCompile` / `CC.checkCompileTr` (Model/CompileCheck.lean; judge ops
`J compiled`, `J compiledtr` in Driver/OpsCompile.lean).  This file proves the
checker SOUND (and, for single-script outputs, its semantic part `checkSem` complete:
`semantic_check_complete`; for `tr` outputs only sound): acceptance implies

* for EVERY world (any set of signing keys and known preimages, any nLockTime, any nSequence —
  not only the finitely many the checker enumerates) the policy holds iff the output has a
  canonical satisfaction from what that world supplies            (`semantic_check_adequate`);
* the type attached by the compiler is the recomputed one, base B, `signed`, `nonMall`;
* the output obeys the fragment restrictions and resource limits of `Ctx::SANE` (`SaneIn`).

What `signed` / `nonMall` MEAN for executions is the business of C06 / C03 and is not re-proved
here; that the canonical satisfactions counted by `satEx` are real witnesses is validated by
execution on every run of C02 (`C tablecheck`).
-/
import MsVerif.Lemmas.CompileCheck
import MsVerif.Lemmas.ValidateCC

namespace MsVerif.C08
open MsVerif MsVerif.CC MsVerif.SatTable

/-! ## T1  Both sides depend on the world only through comparisons -/

/-- two worlds are indistinguishable on a list of atoms: the same keys of the list can sign,
the same preimages of the list are known, and every lock value of the list compares the same
way with the two nLockTime / nSequence values -/
def AgreeOn (L : List Atom) (W W' : World) : Prop :=
  (∀ k, Pol.Atom.key k ∈ L → W.canSign k = W'.canSign k)
  ∧ (∀ kind h, Pol.Atom.hash kind h ∈ L → W.preimage kind h = W'.preimage kind h)
  ∧ (∀ n, Pol.Atom.after n ∈ L → Pol.cltvOk W.nLockTime n = Pol.cltvOk W'.nLockTime n)
  ∧ (∀ n, Pol.Atom.older n ∈ L → Pol.csvOk W.nSequence n = Pol.csvOk W'.nSequence n)

theorem agreeOn_iff_val (L : List Atom) (W W' : World) :
    AgreeOn L W W' ↔ ∀ a ∈ L, W.val a = W'.val a := by
  constructor
  · intro h a ha
    cases a with
    | key i => exact h.1 i ha
    | hash k x => exact h.2.1 k x ha
    | after n => exact h.2.2.1 n ha
    | older n => exact h.2.2.2 n ha
  · intro h
    exact ⟨fun k hk => h _ hk, fun k x hx => h _ hx, fun n hn => h _ hn, fun n hn => h _ hn⟩

/-- the truth of a concrete policy depends on the world only through the comparisons with the
lock values that occur in it (and the availability of its keys / preimages) -/
theorem holds_depends_only_on_comparisons (P : CPolicy) (W W' : World)
    (h : AgreeOn (Pol.atomsOfC P) W W') : Pol.holdsCW W P = Pol.holdsCW W' P :=
  holdsC_congr W.val W'.val P ((agreeOn_iff_val _ W W').mp h)

theorem satEx_depends_only_on_comparisons (m : Ms) (W W' : World)
    (h : AgreeOn (msAtoms m) W W') : satEx (availOfWorld W) m = satEx (availOfWorld W') m :=
  satEx_congr W.val W'.val m ((agreeOn_iff_val _ W W').mp h)

/-- every world is represented: for any finite list of atoms, one of the worlds enumerated by
the checker is indistinguishable from the given one (largest lock ≤ the world's value, or the
smallest value of the unit; relative locks in canonical form; a disabled nSequence) -/
theorem every_world_is_represented (L : List Atom) (W : World) :
    ∃ W' ∈ reps L, AgreeOn L W' W := by
  obtain ⟨W', hm, hv⟩ := reps_adequate L W
  exact ⟨W', hm, (agreeOn_iff_val L W' W).mpr hv⟩

/-! ## T2  Adequacy of the finite enumeration -/

theorem agreeOn_left {L₁ L₂ : List Atom} {W W' : World} (h : AgreeOn (L₁ ++ L₂) W W') :
    AgreeOn L₁ W W' :=
  (agreeOn_iff_val _ _ _).mpr fun a ha =>
    (agreeOn_iff_val _ _ _).mp h a (List.mem_append_left _ ha)

theorem agreeOn_right {L₁ L₂ : List Atom} {W W' : World} (h : AgreeOn (L₁ ++ L₂) W W') :
    AgreeOn L₂ W W' :=
  (agreeOn_iff_val _ _ _).mpr fun a ha =>
    (agreeOn_iff_val _ _ _).mp h a (List.mem_append_right _ ha)

/-- SOUNDNESS of the semantic check: agreement on the representatives is agreement in every
world -/
theorem semantic_check_adequate (P : CPolicy) (out : Ms) (h : checkSem P out = true) :
    ∀ W : World, Pol.holdsCW W P = satEx (availOfWorld W) out :=
  reps_sound P (msAtoms out) (fun W => satEx (availOfWorld W) out)
    (fun W W' h => satEx_congr W.val W'.val out h)
    (fun W' hm => by simpa [semMs] using List.all_eq_true.mp h W' hm)

/-- COMPLETENESS of the semantic check (it never rejects an equivalent output): the
representatives are worlds -/
theorem semantic_check_complete (P : CPolicy) (out : Ms)
    (h : ∀ W : World, Pol.holdsCW W P = satEx (availOfWorld W) out) : checkSem P out = true := by
  apply List.all_eq_true.mpr
  intro W _
  simp [semMs, h W]

theorem semTr_depends_only_on_comparisons (t : TrOut) (W W' : World)
    (h : AgreeOn (trAtoms t) W W') : semTr t W = semTr t W' := by
  have hv := (agreeOn_iff_val _ W W').mp h
  have h1 : keyPath t.internal W = keyPath t.internal W' := by
    unfold keyPath
    cases hi : t.internal with
    | none => rfl
    | some k => exact hv (.key k) (by simp [trAtoms, hi])
  have h2 : (t.leaves.any fun l => satEx (availOfWorld W) l)
      = (t.leaves.any fun l => satEx (availOfWorld W') l) := by
    apply Pol.any_congr_mem
    intro l hl
    exact satEx_congr W.val W'.val l (fun a ha => hv a (by
      unfold trAtoms
      exact List.mem_append_right _ (List.mem_flatMap.mpr ⟨l, hl, ha⟩)))
  unfold semTr
  rw [h1, h2]

/-- the same for a `tr` output: acceptance by the semantic part of `checkCompileTr` means the policy holds, in
EVERY world, iff the key path or some leaf can be satisfied -/
theorem semantic_check_tr_adequate (P : CPolicy) (t : TrOut) (h : checkSemTr P t = true) :
    ∀ W : World, Pol.holdsCW W P = semTr t W :=
  reps_sound P (trAtoms t) (semTr t)
    (fun W W' h => semTr_depends_only_on_comparisons t W W' ((agreeOn_iff_val _ W W').mpr h))
    (fun W' hm => by simpa using List.all_eq_true.mp h W' hm)

/-! ## T3  What `validateSane` guarantees (fragment restrictions, limits of the context) -/

/-- limits of src/miniscript/limits.rs as used by the `SANE` parameters of the contexts -/
def MAX_OPS_PER_SCRIPT : Nat := 201
def MAX_STANDARD_P2WSH_STACK_ITEMS : Nat := 100
def MAX_STANDARD_P2WSH_SCRIPT_SIZE : Nat := 3600
def MAX_SCRIPT_SIZE : Nat := 10000
def MAX_SCRIPT_ELEMENT_SIZE : Nat := 520
def MAX_STACK_SIZE : Nat := 1000

def isMulti : Ms → Prop | .multi _ _ | .sortedMulti _ _ => True | _ => False
def isMultiA : Ms → Prop | .multiA _ _ | .sortedMultiA _ _ => True | _ => False
def isDupIf : Ms → Prop | .dupIf _ => True | _ => False
def isOrI : Ms → Prop | .orI _ _ => True | _ => False
def isRawPkH : Ms → Prop | .rawPkH _ => True | _ => False

/-- the context's restrictions, stated declaratively -/
structure SaneIn (env : KeyEnv) (ctx : Ctx) (out : Ms) : Prop where
  no_multi_in_tap : ctx = .tap → ∀ n ∈ subterms out, ¬ isMulti n
  no_multi_a_outside_tap : ctx ≠ .tap → ∀ n ∈ subterms out, ¬ isMultiA n
  no_dupif_ori_pre_segwit : (ctx = .bare ∨ ctx = .legacy) → ∀ n ∈ subterms out, ¬ isDupIf n ∧ ¬ isOrI n
  no_raw_pkh : ∀ n ∈ subterms out, ¬ isRawPkH n
  no_uncompressed_in_segwit_tap : (ctx = .segwitv0 ∨ ctx = .tap) → ∀ k ∈ msKeys out, isUnc env k = false
  no_xonly_outside_tap : ctx ≠ .tap → ∀ k ∈ msKeys out, isXOnly env k = false
  no_duplicate_keys : hasDup (msKeys out) = false
  no_mixed_timelocks : (extOf env ctx out).timelockInfo.containsCombination = false
  script_size :
    (ctx = .bare → scriptSize env ctx out ≤ MAX_SCRIPT_SIZE)
    ∧ (ctx = .legacy → scriptSize env ctx out ≤ MAX_SCRIPT_ELEMENT_SIZE)
    ∧ (ctx = .segwitv0 → scriptSize env ctx out ≤ MAX_STANDARD_P2WSH_SCRIPT_SIZE)
  op_count : ctx ≠ .tap → ∀ d, (extOf env ctx out).satData = some d →
    (extOf env ctx out).staticOps + d.execOps ≤ MAX_OPS_PER_SCRIPT
  witness_items : ctx = .segwitv0 → ∀ d, (extOf env ctx out).satData = some d →
    d.wCount + 1 ≤ MAX_STANDARD_P2WSH_STACK_ITEMS
  exec_stack : (ctx = .segwitv0 ∨ ctx = .tap) → ∀ d, (extOf env ctx out).satData = some d →
    d.wCount + d.execStack ≤ MAX_STACK_SIZE

/-- acceptance by the mirror of `validate(&Ctx::SANE)` implies the declarative restrictions (one
direction; the mirror's recursion-depth test `treeHeight ≤ 402` is not a restriction of a context and has
no field in `SaneIn`) -/
theorem validateSane_spec (env : KeyEnv) (ctx : Ctx) (out : Ms) (h : validateSane env ctx out = true) :
    SaneIn env ctx out := by
  unfold validateSane at h
  rw [Bool.and_eq_true] at h
  obtain ⟨hr, hf⟩ := h
  unfold validateRest at hr
  cases hty : typeOf out with
  | none => simp [hty] at hr
  | some ty =>
    simp only [hty, Bool.and_eq_true, decide_eq_true_eq, Bool.not_eq_true'] at hr
    obtain ⟨⟨⟨⟨⟨⟨⟨⟨_, hdup⟩, hmix⟩, hnodes⟩, hsize⟩, hsat⟩, _⟩, _⟩, _⟩ := hr
    have hnodes' := List.all_eq_true.mp hnodes
    have hfrag := List.all_eq_true.mp hf
    have hkeys : ∀ k ∈ msKeys out, pkOk env (saneParams ctx) k = true := by
      intro k hk
      obtain ⟨n, hn, hkn⟩ := mem_msKeys hk
      exact pkOk_of_nodeOk (hnodes' n hn) hkn
    have hsat' := fun d (hd : (extOf env ctx out).satData = some d) => by
      rw [hd] at hsat
      simpa only [Bool.and_eq_true] using hsat
    refine ⟨?_, ?_, ?_, ?_, ?_, ?_, hdup, hmix, ?_, ?_, ?_, ?_⟩
    · intro hc n hn hm
      have := hnodes' n hn
      subst hc
      cases n <;> simp [isMulti] at hm <;> simp [nodeOk, saneParams] at this
    · intro hc n hn hm
      have := hnodes' n hn
      cases n <;> simp [isMultiA] at hm <;> cases ctx <;> simp [nodeOk, saneParams] at this hc
    · intro hc n hn
      have := hfrag n hn
      rcases hc with hc | hc <;> subst hc <;> cases n <;> simp [isDupIf, isOrI] <;>
        simp [nodeIfOk, saneParams] at this
    · intro n hn hm
      have := hnodes' n hn
      cases n <;> simp [isRawPkH] at hm <;> simp [nodeOk] at this
    · intro hc k hk
      have := hkeys k hk
      rcases hc with hc | hc <;> subst hc <;> simp [pkOk, saneParams] at this
      · exact this.1
      · cases hu : isUnc env k
        · rfl
        · simp [hu] at this
    · intro hc k hk
      have := hkeys k hk
      cases ctx <;> simp [pkOk, saneParams] at this hc
      -- Segwitv0 also forbids uncompressed keys: the x-only half is the second conjunct
      case segwitv0 => exact this.2
      all_goals exact this
    · refine ⟨?_, ?_, ?_⟩ <;> intro hc <;> subst hc <;>
        simpa [saneParams, leOpt, MAX_SCRIPT_SIZE, MAX_SCRIPT_ELEMENT_SIZE,
          MAX_STANDARD_P2WSH_SCRIPT_SIZE] using hsize
    · intro hc d hd
      have := (hsat' d hd).1.2
      cases ctx <;> simp [saneParams, leOpt, MAX_OPS_PER_SCRIPT] at this hc ⊢ <;> exact this
    · intro hc d hd
      have := (hsat' d hd).1.1
      subst hc
      simpa [saneParams, leOpt, MAX_STANDARD_P2WSH_STACK_ITEMS] using this
    · intro hc d hd
      have := (hsat' d hd).2
      rcases hc with hc | hc <;> subst hc <;>
        simpa [saneParams, leOpt, MAX_STACK_SIZE] using this

/-! ## T4  Soundness of the checker -/

/-- what C08 asks of a compiled miniscript, except that it re-parses from its own string form (no field; judged per run, `J reparse`) -/
structure CompiledOk (env : KeyEnv) (P : CPolicy) (ctx : Ctx) (out : Ms) (ty : Ty) : Prop where
  /-- same spending semantics, in EVERY world -/
  same_meaning : ∀ W : World, Pol.holdsCW W P = satEx (availOfWorld W) out
  /-- the type attached by the compiler is the real one -/
  claimed_type_correct : typeOf out = some ty
  base_B : ty.corr.base = .B
  /-- every path needs a signature (type-level; meaning: C06) -/
  signed : ty.mall.signed = true
  /-- non-malleable (type-level; meaning: C03) -/
  non_malleable : ty.mall.nonMall = true
  /-- fragment restrictions and resource limits of the target context -/
  sane : SaneIn env ctx out

/-- stands for the property, for `compile::<Ctx>()` outputs (the re-parse of the printed form is judged at run time
only): what the checker accepts has the policy's meaning in every
world, the claimed type (base B, signed, non-malleable) and is sane in the target context -/
theorem checkCompile_sound (env : KeyEnv) (P : CPolicy) (ctx : Ctx) (out : Ms) (ty : Ty)
    (h : checkCompile env P ctx out ty = true) : CompiledOk env P ctx out ty := by
  unfold checkCompile at h
  simp only [Bool.and_eq_true, beq_iff_eq] at h
  obtain ⟨⟨⟨⟨⟨hty, hb⟩, hs⟩, hm⟩, hsane⟩, hsem⟩ := h
  exact ⟨semantic_check_adequate P out hsem, hty, hb, hs, hm, validateSane_spec env ctx out hsane⟩

/-- everything C08 asks of a compiled `tr(internal, {leaves})` descriptor -/
structure CompiledTrOk (env : KeyEnv) (P : CPolicy) (internal : Option Key)
    (claimed : List (Ms × Ty)) : Prop where
  /-- same spending semantics in every world: key path (unless the internal key is the caller's
  unspendable key) or some leaf -/
  same_meaning : ∀ W : World, Pol.holdsCW W P = semTr ⟨internal, claimed.map (·.1)⟩ W
  /-- the extracted internal key does not reappear in a leaf -/
  internal_key_fresh : ∀ k, internal = some k → ∀ l ∈ claimed, k ∉ msKeys l.1
  /-- every leaf: claimed type correct, B, signed, non-malleable, sane in the Tap context -/
  leaves_ok : ∀ l ∈ claimed, typeOf l.1 = some l.2 ∧ l.2.corr.base = .B ∧ l.2.mall.signed = true
    ∧ l.2.mall.nonMall = true ∧ SaneIn env .tap l.1

/-- (the checker also tests `pkOk` of the internal key in the Tap context; `CompiledTrOk` speaks of the
leaves and of the key's freshness only) -/
theorem checkCompileTr_sound (env : KeyEnv) (P : CPolicy) (internal : Option Key)
    (claimed : List (Ms × Ty)) (h : checkCompileTr env P internal claimed = true) :
    CompiledTrOk env P internal claimed := by
  unfold checkCompileTr at h
  simp only [Bool.and_eq_true] at h
  obtain ⟨⟨⟨hl, _⟩, hfresh⟩, hsem⟩ := h
  refine ⟨semantic_check_tr_adequate P _ hsem, ?_, ?_⟩
  · intro k hk l hmem hin
    subst hk
    unfold internalFresh at hfresh
    have := List.all_eq_true.mp hfresh l.1 (List.mem_map.mpr ⟨l, hmem, rfl⟩)
    simp only [Bool.not_eq_true'] at this
    have hc : (msKeys l.1).contains k = true := List.contains_iff_mem.mpr hin
    rw [this] at hc
    exact Bool.noConfusion hc
  intro l hmem
  have := List.all_eq_true.mp hl l hmem
  unfold checkLeaf at this
  simp only [Bool.and_eq_true, beq_iff_eq] at this
  obtain ⟨⟨⟨⟨hty, hb⟩, hs⟩, hm⟩, hsane⟩ := this
  exact ⟨hty, hb, hs, hm, validateSane_spec env .tap l.1 hsane⟩

theorem checkSem_iff (P : CPolicy) (out : Ms) :
    checkSem P out = true ↔ ∀ W : World, Pol.holdsCW W P = satEx (availOfWorld W) out :=
  ⟨semantic_check_adequate P out, semantic_check_complete P out⟩

/-! ## T5  The lift of a compiled taproot descriptor; the class that must compile -/

/-- `or(pk(0), and(pk(1), older(10)))` -/
def polExFwd : CPolicy := .or [.atom (.key 0), .and [.atom (.key 1), .atom (.older 10)]]

/-- SOUNDNESS of the `J trlift` judge: if it accepts the library's lift `q` of a compiled
`tr(…)` descriptor (internal key included), then `q` and the concrete policy have the same
truth value under EVERY assignment in which the caller's unspendable key does not sign -/
theorem trLiftOk_sound (unsp : Option Nat) (P : CPolicy) (q : Pol.Policy)
    (h : trLiftOk unsp P q = true) (v : Atom → Bool)
    (hu : ∀ u, unsp = some u → v (.key u) = false) : Pol.holdsA v q = Pol.holdsC v P := by
  unfold trLiftOk at h
  obtain ⟨w, hw, hag⟩ := forallVals_spec _ _ h v
  have hm : ∀ a ∈ Pol.atomsOfC P ++ Pol.atomsOf q, maskKey unsp w a = v a := by
    intro a ha
    unfold maskKey
    cases hun : unsp with
    | none => exact hag a ha
    | some u =>
      simp only
      by_cases hk : a = Pol.Atom.key u
      · subst hk; simp [hu u hun]
      · have : (a == Pol.Atom.key u) = false := by simpa using hk
        rw [this]; simpa using hag a ha
  have hw' : Pol.holdsA (maskKey unsp w) q = Pol.holdsC (maskKey unsp w) P := by simpa using hw
  rw [← holdsA_congr (maskKey unsp w) v q (fun a ha => hm a (List.mem_append_right _ ha)),
    ← holdsC_congr (maskKey unsp w) v P (fun a ha => hm a (List.mem_append_left _ ha))]
  exact hw'

/-- what the class judged by `J compiles` consists of (its conditions on the policy's structure; the
representability of the lock values, `(atomsOfC P).all lockOk`, is the one clause of `mustCompile` not
restated) -/
theorem mustCompile_spec (P : CPolicy) (h : mustCompile P = true) :
    (Pol.atomsOfC P).length ≤ 4 ∧ noConst P = true ∧ binaryOps P = true ∧ Pol.WFC P = true
    ∧ hasDup (keyIds (Pol.atomsOfC P)) = false
    ∧ Pol.Conc.checkTimelocks P = true
    ∧ Pol.Conc.isSafeNonmalleable P = (true, true) := by
  unfold mustCompile at h
  simp only [Bool.and_eq_true, decide_eq_true_eq, Bool.not_eq_true', beq_iff_eq] at h
  obtain ⟨⟨⟨⟨⟨⟨⟨h1, h2⟩, h3⟩, h4⟩, _⟩, h6⟩, h7⟩, h8⟩ := h
  exact ⟨h1, h2, h3, h4, h6, h7, h8⟩

/-- the class is not empty: `or(pk(0), and(pk(1), older(10)))` is in it … -/
example : mustCompile polExFwd = true := by decide +kernel
/-- … a policy with a repeated key or a sigless branch is not -/
example : mustCompile (.or [.atom (.key 0), .atom (.key 0)]) = false := by decide +kernel
example : mustCompile (.or [.atom (.key 0), .atom (.older 10)]) = false := by decide +kernel

/-- the lift judge accepts `thresh(1, pk(0), and(pk(1), older(10)))` for `polExFwd` and rejects a
lift whose second leaf names key 0 where the policy has key 1 -/
example : trLiftOk none polExFwd
    (.thresh 1 [.atom (.key 0), .thresh 2 [.atom (.key 1), .atom (.older 10)]]) = true := by decide +kernel
theorem lift_with_wrong_leaf_rejected : trLiftOk none polExFwd
    (.thresh 1 [.atom (.key 0), .thresh 2 [.atom (.key 0), .atom (.older 10)]]) = false := by decide +kernel
/-- the unspendable internal key does not count as a spending path -/
example : trLiftOk (some 9) (.and [.atom (.key 1), .atom (.older 10)])
    (.thresh 1 [.atom (.key 9), .thresh 2 [.atom (.key 1), .atom (.older 10)]]) = true := by decide +kernel
/-- … while without declaring key 9 unspendable the same lift is refused: the key path is a spending path -/
theorem unspendable_key_is_masked : trLiftOk none (.and [.atom (.key 1), .atom (.older 10)])
    (.thresh 1 [.atom (.key 9), .thresh 2 [.atom (.key 1), .atom (.older 10)]]) = false := by decide +kernel

/-! ## T6  Policies for which no conforming output exists (`J refuses`) -/

theorem mem_reps_canSign {L : List Atom} {W : World} (h : W ∈ reps L) (k : Nat)
    (hk : Pol.Atom.key k ∉ L) : W.canSign k = false := by
  unfold reps at h
  obtain ⟨S, hS, h⟩ := List.mem_flatMap.mp h
  obtain ⟨lt, _, h⟩ := List.mem_flatMap.mp h
  obtain ⟨sq, _, rfl⟩ := List.mem_map.mp h
  show S.contains (Pol.Atom.key k) = false
  cases hc : S.contains (Pol.Atom.key k) with
  | false => rfl
  | true =>
    exfalso
    have hm : Pol.Atom.key k ∈ S := List.contains_iff_mem.mp hc
    have := ((Pol.mem_subsets_iff _ S).mp hS).subset hm
    unfold nonLocks at this
    rw [List.mem_eraseDups, List.mem_filter] at this
    exact hk this.1

/-- if the judge says "satisfiable without a signer", there IS a world in which no key at all
can sign and the policy holds -/
theorem siglessSatisfiable_sound (P : CPolicy) (h : siglessSatisfiable P = true) :
    ∃ W : World, (∀ k, W.canSign k = false) ∧ Pol.holdsCW W P = true := by
  unfold siglessSatisfiable at h
  obtain ⟨W, hW, hP⟩ := List.any_eq_true.mp h
  refine ⟨W, fun k => mem_reps_canSign hW k ?_, hP⟩
  intro hm
  have := (List.mem_filter.mp hm).2
  simp [Pol.Atom.isKey] at this

/-- … and then every output the checker's semantic part accepts is satisfiable WITHOUT ANY
SIGNATURE in that world (that such an output cannot be `signed` is C06's reading of the letter, not shown here) -/
theorem sigless_policy_has_sigless_output (P : CPolicy) (out : Ms)
    (hs : siglessSatisfiable P = true) (hc : checkSem P out = true) :
    ∃ W : World, (∀ k, W.canSign k = false) ∧ satEx (availOfWorld W) out = true := by
  obtain ⟨W, hk, hP⟩ := siglessSatisfiable_sound P hs
  exact ⟨W, hk, by rw [← semantic_check_adequate P out hc W]; exact hP⟩

/-- if the policy's truth depends on key `k`, every output the semantic check accepts mentions
`k` — so a key of a kind the context forbids cannot be avoided -/
theorem needed_key_occurs_in_output (P : CPolicy) (out : Ms) (k : Nat)
    (hd : dependsOnKey P k = true) (hc : checkSem P out = true) :
    Pol.Atom.key k ∈ msAtoms out := by
  unfold dependsOnKey at hd
  obtain ⟨W, _, hne⟩ := List.any_eq_true.mp hd
  have hne' : Pol.holdsCW W P ≠ Pol.holdsCW (flipKey W k) P := by simpa using hne
  cases hmem : decide (Pol.Atom.key k ∈ msAtoms out) with
  | true => exact of_decide_eq_true hmem
  | false =>
    exfalso
    have hnot : Pol.Atom.key k ∉ msAtoms out := of_decide_eq_false hmem
    apply hne'
    rw [semantic_check_adequate P out hc W, semantic_check_adequate P out hc (flipKey W k)]
    apply satEx_congr
    intro a ha
    cases a with
    | key j =>
      show W.canSign j = (if j == k then !W.canSign k else W.canSign j)
      have : j ≠ k := fun e => hnot (e ▸ ha)
      simp [this]
    | hash kind x => rfl
    | after n => rfl
    | older n => rfl

/-- the class is not empty and not everything: `TRIVIAL` and `or(pk(0), older(10))` are
satisfiable without a signer, `or(pk(0), and(pk(1), older(10)))` is not -/
example : siglessSatisfiable .trivial = true := by decide +kernel
example : siglessSatisfiable (.or [.atom (.key 0), .atom (.older 10)]) = true := by decide +kernel
example : siglessSatisfiable polExFwd = false := by decide +kernel
example : dependsOnKey polExFwd 1 = true := by decide +kernel
example : dependsOnKey (.and [.atom (.key 1), .unsat]) 1 = false := by decide +kernel

/-! ## T3'  `validateSane` IS the library's `validate(&Ctx::SANE)` as modelled for C12 -/

/-- the sanity part of the checker is not a second, independent mirror: it equals the shared
model of `Miniscript::validate` (Model/Validate.lean, tied to the library by C12) with the
context's `SANE` parameters (`validateSane_eq_validate`, Lemmas/ValidateCC.lean), for outputs whose sizes fit
`usize` (`FitsUsize`; an instance is in Lemmas/ValidateCC.lean) -/
theorem checkCompile_validates_like_the_library (env : KeyEnv) (P : CPolicy) (ctx : Ctx) (out : Ms)
    (ty : Ty) (hfit : FitsUsize env ctx out) (h : checkCompile env P ctx out ty = true) :
    isOk (validate env (ccKeys env) ctx ctx.SANE out) = true := by
  unfold checkCompile at h
  simp only [Bool.and_eq_true] at h
  rw [← validateSane_eq_validate env ctx out hfit]
  exact h.1.2

/-! ## Non-vacuity and sensitivity

`satEx` is defined by well-founded recursion and does not reduce in the kernel, so the concrete
instances below are proved through `semantic_check_complete` resp. by exhibiting a distinguishing world
(`checkSem_false_of_world`). -/

/-- a distinguishing world refutes the semantic check -/
theorem checkSem_false_of_world (P : CPolicy) (out : Ms) (W : World)
    (h : Pol.holdsCW W P ≠ satEx (availOfWorld W) out) : checkSem P out = false := by
  cases hc : checkSem P out with
  | false => rfl
  | true => exact absurd (semantic_check_adequate P out hc W) h

theorem checkSemTr_false_of_world (P : CPolicy) (t : TrOut) (W : World)
    (h : Pol.holdsCW W P ≠ semTr t W) : checkSemTr P t = false := by
  cases hc : checkSemTr P t with
  | false => rfl
  | true => exact absurd (semantic_check_tr_adequate P t hc W) h

/-- toy key environment: ids < 100 compressed, 100..199 uncompressed, ≥ 200 x-only -/
def envEx : KeyEnv where
  ser k := List.replicate (if k < 100 then 33 else if k < 200 then 65 else 32) 0
  sortKey _ := []
  pkh _ := []
  rawPkh _ := []
  hashVal _ _ := []

/-- `or(pk(0), and(pk(1), older(10)))` -/
def polEx : CPolicy := .or [.atom (.key 0), .and [.atom (.key 1), .atom (.older 10)]]
/-- `or_d(pk(0), and_v(v:pk(1), older(10)))` -/
def outEx : Ms := .orD (.check (.pkK 0)) (.andV (.verify (.check (.pkK 1))) (.older 10))

theorem outEx_equiv : ∀ W : World, Pol.holdsCW W polEx = satEx (availOfWorld W) outEx := by
  intro W
  simp only [polEx, outEx, Pol.holdsCW, Pol.holdsC, Pol.countC, satEx, dsatEx, availOfWorld, availOfVal,
    Pol.World.val, List.length]
  by_cases h0 : W.canSign 0 = true <;> by_cases h1 : W.canSign 1 = true <;>
    by_cases h2 : Pol.csvOk W.nSequence 10 = true <;> simp [h0, h1, h2]

/-- the hypothesis of `checkCompile_sound` is satisfiable on a non-trivial output -/
example : ∃ ty, checkCompile envEx polEx .segwitv0 outEx ty = true := by
  refine ⟨(typeOf outEx).getD Ty.FALSE, ?_⟩
  have h1 : checkSem polEx outEx = true := semantic_check_complete _ _ outEx_equiv
  have h2 : validateSane envEx .segwitv0 outEx = true := by decide +kernel
  have h3 : typeOf outEx = some ((typeOf outEx).getD Ty.FALSE) := by decide +kernel
  have h4 : (((typeOf outEx).getD Ty.FALSE).corr.base == Base.B) = true := by decide +kernel
  have h5 : ((typeOf outEx).getD Ty.FALSE).mall.signed = true := by decide +kernel
  have h6 : ((typeOf outEx).getD Ty.FALSE).mall.nonMall = true := by decide +kernel
  unfold checkCompile
  rw [h1, h2, h4, h5, h6, ← h3]
  simp

/-- 2-of-3 compiled to `multi(2,…)`: accepted -/
example : checkSem (.thresh 2 [.atom (.key 0), .atom (.key 1), .atom (.key 2)]) (.multi 2 [0, 1, 2]) = true := by
  apply semantic_check_complete
  intro W
  simp only [Pol.holdsCW, Pol.holdsC, Pol.countC, satEx, availOfWorld, availOfVal, Pol.World.val,
    List.filter]
  by_cases h0 : W.canSign 0 = true <;> by_cases h1 : W.canSign 1 = true <;>
    by_cases h2 : W.canSign 2 = true <;> simp [h0, h1, h2]

/-- the `thresh` → `multi` special case with k+1: rejected (world: keys 0 and 1 sign) -/
theorem miscompiled_threshold_rejected :
    checkSem (.thresh 2 [.atom (.key 0), .atom (.key 1), .atom (.key 2)]) (.multi 3 [0, 1, 2]) = false := by
  apply checkSem_false_of_world _ _ (mkWorld [.key 0, .key 1] 0 0)
  simp [Pol.holdsCW, Pol.holdsC, Pol.countC, satEx, availOfWorld, availOfVal, Pol.World.val,
    List.filter, mkWorld]

/-- a lock value off by one is seen (world: key 0 signs, nLockTime = 100) -/
theorem lock_off_by_one_rejected :
    checkSem (.and [.atom (.key 0), .atom (.after 100)])
      (.andV (.verify (.check (.pkK 0))) (.after 101)) = false := by
  apply checkSem_false_of_world _ _ (mkWorld [.key 0] 100 0)
  simp [Pol.holdsCW, Pol.holdsC, Pol.countC, satEx, availOfWorld, availOfVal, Pol.World.val, mkWorld,
    Pol.cltvOk, Pol.absIsHeight, Pol.LOCKTIME_THRESHOLD]

/-- taproot: the extracted internal key counts as a spending path -/
example : checkSemTr (.or [.atom (.key 0), .or [.atom (.key 1), .atom (.key 2)]])
    ⟨some 0, [.check (.pkK 1), .check (.pkK 2)]⟩ = true := by
  apply List.all_eq_true.mpr
  intro W _
  simp only [Pol.holdsCW, Pol.holdsC, Pol.countC, semTr, keyPath, satEx, availOfWorld, availOfVal, Pol.World.val,
    List.any]
  by_cases h0 : W.canSign 0 = true <;> by_cases h1 : W.canSign 1 = true <;>
    by_cases h2 : W.canSign 2 = true <;> simp [h0, h1, h2]

/-- a leaf dropped by the tree builder is seen (world: only key 2 signs) -/
theorem dropped_leaf_rejected :
    checkSemTr (.or [.atom (.key 0), .or [.atom (.key 1), .atom (.key 2)]])
      ⟨some 0, [.check (.pkK 1)]⟩ = false := by
  apply checkSemTr_false_of_world _ _ (mkWorld [.key 2] 0 0)
  simp [Pol.holdsCW, Pol.holdsC, Pol.countC, semTr, keyPath, satEx, availOfWorld, availOfVal, Pol.World.val, mkWorld]

/-- an extracted key that is neither the internal key nor in a leaf is seen (world: only key 0) -/
theorem missing_key_path_rejected :
    checkSemTr (.or [.atom (.key 0), .atom (.key 1)]) ⟨none, [.check (.pkK 1)]⟩ = false := by
  apply checkSemTr_false_of_world _ _ (mkWorld [.key 0] 0 0)
  simp [Pol.holdsCW, Pol.holdsC, Pol.countC, semTr, keyPath, satEx, availOfWorld, availOfVal, Pol.World.val, mkWorld]

/-- a key path that the policy does not grant is seen: `tr(0, and_v(v:pk(0), pk(1)))` for
`and(pk(0), pk(1))` (world: only key 0 signs) -/
theorem key_path_added_rejected :
    checkSemTr (.and [.atom (.key 0), .atom (.key 1)])
      ⟨some 0, [.andV (.verify (.check (.pkK 0))) (.check (.pkK 1))]⟩ = false := by
  apply checkSemTr_false_of_world _ _ (mkWorld [.key 0] 0 0)
  simp [Pol.holdsCW, Pol.holdsC, Pol.countC, semTr, keyPath, satEx, availOfWorld, availOfVal, Pol.World.val, mkWorld]

/-- the hypothesis of `checkCompileTr_sound` is satisfiable: `or(pk(0), and(pk(1), older(10)))`
compiled to `tr(0, and_v(v:pk(1), older(10)))` -/
example : ∃ ty, checkCompileTr envEx polEx (some 0)
    [(.andV (.verify (.check (.pkK 1))) (.older 10), ty)] = true := by
  refine ⟨(typeOf (.andV (.verify (.check (.pkK 1))) (.older 10))).getD Ty.FALSE, ?_⟩
  have hsem : checkSemTr polEx ⟨some 0, [.andV (.verify (.check (.pkK 1))) (.older 10)]⟩ = true := by
    apply List.all_eq_true.mpr
    intro W _
    simp only [polEx, Pol.holdsCW, Pol.holdsC, Pol.countC, semTr, keyPath, satEx, availOfWorld, availOfVal,
      Pol.World.val, List.any, List.length]
    by_cases h0 : W.canSign 0 = true <;> by_cases h1 : W.canSign 1 = true <;>
      by_cases h2 : Pol.csvOk W.nSequence 10 = true <;> simp [h0, h1, h2]
  have hleaf : checkLeaf envEx (.andV (.verify (.check (.pkK 1))) (.older 10),
      (typeOf (.andV (.verify (.check (.pkK 1))) (.older 10))).getD Ty.FALSE) = true := by decide +kernel
  have hfresh : internalFresh (some 0) [.andV (.verify (.check (.pkK 1))) (.older 10)] = true := by
    decide +kernel
  have hpk : pkOk envEx (saneParams .tap) 0 = true := by decide +kernel
  unfold checkCompileTr
  simp only [List.all_cons, List.all_nil, List.map, hleaf, hpk, hfresh, hsem, Bool.and_self]

/-- `or_i` in a pre-segwit context is refused by the mirror of `Legacy::SANE` -/
theorem legacy_or_i_rejected :
    validateSane envEx .legacy (.orI (.check (.pkK 0)) (.check (.pkK 1))) = false := by decide +kernel
example : validateSane envEx .segwitv0 (.orI (.check (.pkK 0)) (.check (.pkK 1))) = true := by
  decide +kernel


/-- The output of `compile::<Legacy>()` that /repo 750afa2e repairs (DESIGN.md §9.3): for
`thresh(2,pk(0),pk(1),older(10))`, the tree `thresh(2,pk(0),s:pk(1),snl:older(10))`
(= `…,s:n:or_i(0,older(10)))`).  `Legacy::SANE` forbids `or_i`, so the checker refuses exactly
that output — for this one reason only (`validateRest` accepts it, and the same tree is sane in
Segwitv0): should the compiler emit it, `J compiled` fails with
`bad:sane(d-or-or_i-not-allowed-in-this-context)`. -/
def legacyOut : Ms :=
  .thresh 2 (.cons (.check (.pkK 0)) (.cons (.swap (.check (.pkK 1)))
    (.cons (.swap (.zeroNotEqual (.orI .fls (.older 10)))) .nil)))
theorem pre_fix_legacy_output_rejected : validateSane envEx .legacy legacyOut = false := by
  decide +kernel
example : validateSane envEx .segwitv0 legacyOut = true := by decide +kernel
example : validateRest envEx .legacy legacyOut = true := by decide +kernel

end MsVerif.C08
