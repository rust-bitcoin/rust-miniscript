/-
C17 — Spending plans are faithful to the satisfier and report exact time locks.

Model functions ↔ Rust (Model/Plan.lean, Model/Satisfy.lean, Lemmas/PlanLocks.lean):
  intoPlan ↔ Descriptor::into_plan{,_mall}        PlanM.satisfy / planSatisfy ↔ Plan::satisfy
  descGetSatisfaction / getSatisfaction ↔ Descriptor::get_satisfaction{,_mall}
  keyTemplate / keyGetSatisfaction ↔ Pkh/Wpkh::{plan_satisfaction, get_satisfaction}
  witnessToScriptSig ↔ util::witness_to_scriptsig  scriptsigSize/witnessSize ↔ Plan::{scriptsig_size, witness_size}
  isKeyDirectChildOf / hasEcdsaKey ↔ plan::is_key_direct_child_of / Assets::has_ecdsa_key (total)
  tryCompleting ↔ Placeholder::satisfy_all, shared by Satisfaction::try_completing and Plan::satisfy
               (with its raw-pkh key fallback, `Stfr.fallback`); Stfr / Stfr.assets / Stfr.realise ↔ a
               Satisfier, `impl AssetProvider for Satisfier`, Placeholder::satisfy_self
  tSatDissat ↔ Satisfaction::sat_dissat carrying, next to every (dis)satisfaction, the list of
               `after` / `older` values of the fragments that (dis)satisfaction executes
               (Lemmas/PlanLocks.lean); Lemmas/PlanLockExec.lean links the lists to EXECUTION

T1: `plan_faithful` (`d.ty ≠ .pkh`; that every template completes is
    `plan_iff_satisfy_ok` / `plan_completes`, from `satDissat_tryOk`, Lemmas/PlanComplete.lean), `plan_satisfy_eq` (all 8 types), `key_plan_iff_satisfy_eq` (pkh, wpkh, sh(wpkh)).
T2/T3: `locks_sufficient_exec`, `locks_necessary_exec(_abs/_rel)` — about `Script.run` on the
    encoded script; `locks_sufficient` / `locks_necessary` are the list-level lemmas behind them.
T5: key-source matching.  T4 (sizes): proved bounds (bare/pkh/sh scriptSig, wpkh/sh-wpkh/tr witness)
    and `_false` theorems for the findings of known_findings.txt (wsh/sh-wsh witness, sh-wpkh/sh-wsh scriptSig).
The model follows /repo with the repairs of F7 / F9 (DESIGN.md §1.1, §9.3).
-/
import MsVerif.Model.Plan
import MsVerif.Lemmas.PlanLocks
import MsVerif.Lemmas.PlanSizes
import MsVerif.Lemmas.PlanLockExec
import MsVerif.Lemmas.PlanComplete
import MsVerif.Thm.C01

namespace MsVerif.C17
open MsVerif MsVerif.Plan MsVerif.Script MsVerif.PlanLocks MsVerif.Sat MsVerif.PlanSizes
open MsVerif.SatSpec MsVerif.PlanLockExec MsVerif.PlanComplete

/-! ## T1 — a plan exists exactly when the satisfier succeeds, and completes to the same bytes -/

/-- T1a: for the miniscript-based descriptor types and `tr` (what `descGetSatisfaction` models) and
every template, `into_plan` returns a plan iff
`get_satisfaction` does not return `Err`; and `get_satisfaction` panics (the `expect` after
`try_completing`) exactly when a plan exists whose template `try_completing` cannot complete. -/
theorem plan_iff_satisfy (d : DescData) (r : Ph → Option Bytes) (fb : Nat → Option Bytes) (t : Sat) :
    ((intoPlan t).isSome ↔ descGetSatisfaction d r fb t ≠ .err) ∧
    (descGetSatisfaction d r fb t = .panic ↔
      ∃ p, intoPlan t = some p ∧ tryCompleting r fb none p.template = none) := by
  unfold intoPlan descGetSatisfaction msSatisfy
  cases h : t.stack with
  | stack l => cases hc : tryCompleting r fb none l <;> simp [hc]
  | unavailable => simp
  | impossible => simp

/-- T1a for the MODEL'S satisfier (the completion hypothesis discharged): let the provider be
the `impl AssetProvider for Satisfier` view of a satisfier `S` (`c.assets = S.assets c.ctx`).
Then for every script, both modes: `get_satisfaction` never hits its `expect` — every
placeholder of the template is one `S` can produce (with `try_completing`'s fallback for the
key of a tapscript raw pkh) — so a plan exists iff `get_satisfaction` returns `Ok`. -/
theorem plan_iff_satisfy_ok (S : Stfr) (c : SatCfg) (hc : c.assets = S.assets c.ctx)
    (d : DescData) (ms : Ms) :
    descGetSatisfaction d S.realise S.fallback (satDissat c ms).sat ≠ .panic ∧
    ((intoPlan (satDissat c ms).sat).isSome ↔
      ∃ x, descGetSatisfaction d S.realise S.fallback (satDissat c ms).sat = .ok x) := by
  have hinv := (satDissat_tryOk S c hc ms).2
  unfold intoPlan descGetSatisfaction msSatisfy
  cases h : (satDissat c ms).sat.stack with
  | stack l =>
    obtain ⟨bs, hbs⟩ := Option.isSome_iff_exists.mp (hinv l h none)
    simp [hbs]
  | unavailable => simp
  | impossible => simp

/-- … and `Plan::satisfy` (the same `Placeholder::satisfy_all`) completes every such plan -/
theorem plan_completes (S : Stfr) (c : SatCfg) (hc : c.assets = S.assets c.ctx)
    (d : DescData) (ms : Ms) (p : PlanM) (hp : intoPlan (satDissat c ms).sat = some p) :
    (p.satisfy d S.realise S.fallback).isSome := by
  have hinv := (satDissat_tryOk S c hc ms).2
  unfold intoPlan at hp
  cases h : (satDissat c ms).sat.stack with
  | stack l =>
    simp only [h, Option.some.injEq] at hp
    subst hp
    obtain ⟨bs, hbs⟩ := Option.isSome_iff_exists.mp (hinv l h none)
    simp [PlanM.satisfy, hbs]
  | unavailable => simp [h] at hp
  | impossible => simp [h] at hp

/-- T1b (assembly), all eight descriptor types: `Plan::satisfy` and `get_satisfaction` build
the same (witness, scriptSig) from the same completed stack.  Unconditional for bare, sh, wpkh,
sh-wpkh, wsh, sh-wsh, tr.  For `pkh` the descriptor path pushes signature and key with
`push_slice` / `push_key` while the plan goes through `witness_to_scriptsig`; they agree when
no item is a non-empty minimal script number — true of every signature and public key
(`readScriptInt_long`: anything longer than 4 bytes). -/
theorem plan_satisfy_eq (d : DescData) (stack : List Bytes)
    (hpkh : d.ty = .pkh → ∀ b ∈ stack, b = [] ∨ readScriptInt b = none) :
    planSatisfy d stack = getSatisfaction d stack := by
  unfold planSatisfy getSatisfaction
  cases hty : d.ty <;> simp_all [DescData.unsignedScriptSig, witnessToScriptSig]
  rw [List.flatMap_def, List.flatMap_def,
    List.map_congr_left fun b hb => w2ssItem_eq_pushSlice b (hpkh b hb)]

/-- T1b for the seven types other than `pkh`: no side condition -/
theorem plan_satisfy_eq_non_pkh (d : DescData) (stack : List Bytes) (h : d.ty ≠ .pkh) :
    planSatisfy d stack = getSatisfaction d stack :=
  plan_satisfy_eq d stack (fun hh => absurd hh h)

/-- the `sh(<miniscript>)` case spelled out: the redeem script is the last push and `[1]`
is pushed as `OP_1` (the two halves of F9: DESIGN.md §9.3, a26025a8) -/
theorem plan_satisfy_sh (script : Bytes) (stack : List Bytes) :
    planSatisfy ⟨.sh, script, []⟩ stack = ([], witnessToScriptSig (stack ++ [script])) ∧
    (planSatisfy ⟨.sh, [0xac], []⟩ [[1]]).2 = [0x51, 0x01, 0xac] := by
  constructor
  · rfl
  · decide

/-- T1 end to end for the miniscript-based types and `tr`, ANY satisfier and template:
`Plan::satisfy` returns `x` iff `get_satisfaction` returns `Ok x` (both complete the template
with the same `Placeholder::satisfy_all` and assemble the same bytes), and the plan carries the
template's locks. -/
theorem plan_satisfy_eq_e2e (d : DescData) (hty : d.ty ≠ .pkh) (r : Ph → Option Bytes)
    (fb : Nat → Option Bytes) (t : Sat) (p : PlanM) (hp : intoPlan t = some p) :
    p.abs = t.abs ∧ p.rel = t.rel ∧
    ∀ x, p.satisfy d r fb = some x ↔ descGetSatisfaction d r fb t = .ok x := by
  unfold intoPlan at hp
  cases hs : t.stack with
  | stack l =>
    simp only [hs, Option.some.injEq] at hp
    subst hp
    refine ⟨rfl, rfl, fun x => ?_⟩
    simp only [PlanM.satisfy, descGetSatisfaction, msSatisfy, hs]
    cases hc : tryCompleting r fb none l with
    | none => simp
    | some bs => simp [plan_satisfy_eq_non_pkh d bs hty]
  | unavailable => simp [hs] at hp
  | impossible => simp [hs] at hp

/-- **T1**: provider = view of the satisfier `S`, every script,
both modes, every miniscript-based descriptor type and `tr`: a plan exists iff
`get_satisfaction` succeeds, the plan carries the template's locks, and completing it with
`S` returns byte for byte what `get_satisfaction` returns. -/
theorem plan_faithful (S : Stfr) (c : SatCfg) (hc : c.assets = S.assets c.ctx)
    (d : DescData) (hty : d.ty ≠ .pkh) (ms : Ms) :
    ((intoPlan (satDissat c ms).sat).isSome ↔
      ∃ x, descGetSatisfaction d S.realise S.fallback (satDissat c ms).sat = .ok x) ∧
    ∀ p, intoPlan (satDissat c ms).sat = some p →
      p.abs = (satDissat c ms).sat.abs ∧ p.rel = (satDissat c ms).sat.rel ∧
      ∃ x, p.satisfy d S.realise S.fallback = some x ∧
        descGetSatisfaction d S.realise S.fallback (satDissat c ms).sat = .ok x := by
  refine ⟨(plan_iff_satisfy_ok S c hc d ms).2, fun p hp => ?_⟩
  obtain ⟨x, hx⟩ := Option.isSome_iff_exists.mp (plan_completes S c hc d ms p hp)
  obtain ⟨ha, hr, h1⟩ := plan_satisfy_eq_e2e d hty S.realise S.fallback _ p hp
  exact ⟨ha, hr, x, hx, (h1 x).mp hx⟩

/-- a satisfier that knows the (key, signature) pair of a tapscript raw pkh only through
`lookup_raw_pkh_tap_leaf_script_sig` -/
def exSigOnly : Stfr where
  ecdsaSig _ := none
  schnorrSig _ := none
  keyBytes _ _ := []
  rawPk _ := none
  rawXonly _ := none
  rawEcdsa _ := none
  rawSchnorr h := if h = 0 then some (0, List.replicate 32 2, List.replicate 64 7) else none
  preimage _ _ := none
  checkOlder _ := false
  checkAfter _ := false

def exSigOnlyCfg : SatCfg :=
  ⟨⟨fun _ => [], fun _ => [], fun _ => [], fun _ => [], fun _ _ => []⟩, .tap, false, true, exSigOnly.assets .tap⟩

/-- for the tapscript leaf `c:expr_raw_pkh(H)` and the satisfier above, `Plan::satisfy` and `get_satisfaction` both
take the key that comes with the signature and return the same witness (with plain `satisfy_self` the first
would answer `CouldNotSatisfy`) -/
example :
    intoPlan (satDissat exSigOnlyCfg (.check (.rawPkH 0))).sat
      = some ⟨[.schnorrSigPkh 0 64, .pubkeyHash 0 33], none, none⟩ ∧
    PlanM.satisfy ⟨.tr, [], []⟩ exSigOnly.realise exSigOnly.fallback
        ⟨[.schnorrSigPkh 0 64, .pubkeyHash 0 33], none, none⟩
      = some ([List.replicate 64 7, List.replicate 32 2], []) ∧
    descGetSatisfaction ⟨.tr, [], []⟩ exSigOnly.realise exSigOnly.fallback
        (satDissat exSigOnlyCfg (.check (.rawPkH 0))).sat
      = .ok ([List.replicate 64 7, List.replicate 32 2], []) := by decide

example : descGetSatisfaction ⟨.wsh, [0xac], []⟩ (fun _ => some [7]) (fun _ => none) ⟨.stack [.ecdsaSig 0], true, none, some 10⟩
    = .ok ([[7], [0xac]], []) := by decide
example : descGetSatisfaction ⟨.sh, [0xac], []⟩ (fun p => if p = .pushOne then some [1] else some [9, 9, 9, 9, 9])
    (fun _ => none) ⟨.stack [.ecdsaSig 0, .pushOne], true, none, none⟩ = .ok ([], [5, 9, 9, 9, 9, 9, 0x51, 0x01, 0xac]) := by decide

/-- T1 for the single-key descriptors (`pkh`, `wpkh`, `sh(wpkh)`): a plan exists iff the
provider has the key; the satisfier succeeds iff it has a signature; with the provider being
the view of the satisfier (`avail = sig.isSome`) the two coincide and the plan completes to
the same bytes (`pkh`: signature and key longer than 4 bytes, as all are). -/
theorem key_plan_iff_satisfy_eq (d : DescData) (_hty : d.ty = .pkh ∨ d.ty = .wpkh ∨ d.ty = .shWpkh)
    (k : Key) (n : Nat) (sig : Option Bytes) (pk : Bytes) (r : Ph → Option Bytes)
    (fb : Nat → Option Bytes) (hsig : r (.ecdsaSig k) = sig) (hpk : r (.pubkey k n) = some pk)
    (hlen : d.ty = .pkh → 4 < pk.length ∧ ∀ s, sig = some s → 4 < s.length) :
    ((intoPlan (keyTemplate k n sig.isSome)).isSome ↔ ∃ x, keyGetSatisfaction d sig pk = .ok x) ∧
    ∀ p, intoPlan (keyTemplate k n sig.isSome) = some p →
      (p.satisfy d r fb).map Plan.Outcome.ok = some (keyGetSatisfaction d sig pk) := by
  cases sig with
  | none => simp [keyTemplate, intoPlan, keyGetSatisfaction]
  | some s =>
    refine ⟨by simp [keyTemplate, intoPlan, keyGetSatisfaction], ?_⟩
    intro p hp
    simp only [keyTemplate, intoPlan, Option.isSome_some, if_true, Option.some.injEq] at hp
    subst hp
    have hc : tryCompleting r fb none [Ph.ecdsaSig k, Ph.pubkey k n] = some [s, pk] := by
      simp [tryCompleting, hsig, hpk]
    simp only [PlanM.satisfy, hc, keyGetSatisfaction, Option.map_some]
    rw [plan_satisfy_eq d [s, pk]]
    intro hp b hb
    right
    have := hlen hp
    simp only [List.mem_cons, List.not_mem_nil, or_false] at hb
    rcases hb with rfl | rfl
    · exact readScriptInt_long _ (this.2 _ rfl)
    · exact readScriptInt_long _ this.1

example : keyGetSatisfaction ⟨.shWpkh, [], [0, 20]⟩ (some [9]) [2] = .ok ([[9], [2]], [2, 0, 20]) := by decide

/-! ## T2 / T3 — the reported time locks are sufficient and necessary

`tSatDissat c ms` is `satDissat c ms` (first conjunct of T2: erasure) carrying for every
(dis)satisfaction the lists `A` / `R` of the `after` / `older` values of the fragments that
this (dis)satisfaction executes.  `checkLockTime` / `checkSequence` are the BIP65 / BIP112
comparisons of the trusted Script spec. -/

/-- T2: for every script, asset set and mode — a transaction whose nLockTime equals the
reported absolute lock (sequence not final) passes CHECKLOCKTIMEVERIFY for EVERY `after`
the returned satisfaction executes; a transaction (version ≥ 2) whose nSequence has the
reported relative lock's unit and value, disable flag clear, passes CHECKSEQUENCEVERIFY for
every `older` it executes; and when no lock is reported, none is executed. -/
theorem locks_sufficient (c : SatCfg) (ms : Ms) (env : Script.Env) :
    (tSatDissat c ms).sat.s = (satDissat c ms).sat ∧
    (∀ m, (satDissat c ms).sat.abs = some m → env.nLockTime = m → env.nSequence ≠ SEQ_FINAL →
        ∀ n ∈ (tSatDissat c ms).sat.A, checkLockTime env n = true) ∧
    ((satDissat c ms).sat.abs = none → (tSatDissat c ms).sat.A = []) ∧
    (∀ m, (satDissat c ms).sat.rel = some m → seqMasked env.nSequence = seqMasked m →
        (env.nSequence / SEQ_DISABLE) % 2 = 0 → env.txVersion ≥ 2 →
        ∀ n ∈ (tSatDissat c ms).sat.R, checkSequence env n = true) ∧
    ((satDissat c ms).sat.rel = none → (tSatDissat c ms).sat.R = []) := by
  have hi := (tSatDissat_inv c ms).2
  rw [← (tSatDissat_s c ms).2]
  refine ⟨rfl, fun m hm hlt hsq => ?_, fun hm => ?_, fun m hm hsm hdis hv => ?_, fun hm => ?_⟩
  · have h := hi.1
    rw [hm] at h
    subst hlt
    exact (absInv_checks h).mpr ((checkLockTime_iff env _).mpr ⟨absLe_refl _, hsq⟩)
  · have h := hi.1
    rwa [hm] at h
  · have h := hi.2
    rw [hm] at h
    exact (relInv_checks h).mpr ((checkSequence_iff env m).mpr ⟨hv, hdis, relLe_of_seqMasked hsm⟩)
  · have h := hi.2
    rwa [hm] at h

/-- T3: the reported lock is ATTAINED — it is itself one of the `after` (`older`) values the
satisfaction executes — hence necessary: every transaction that passes all of them has the
reported lock's unit and a value ≥ it (and a non-final resp. enabled sequence, version ≥ 2). -/
theorem locks_necessary (c : SatCfg) (ms : Ms) (env : Script.Env) :
    (∀ m, (satDissat c ms).sat.abs = some m → m ∈ (tSatDissat c ms).sat.A ∧
        ((∀ n ∈ (tSatDissat c ms).sat.A, checkLockTime env n = true) →
          (env.nLockTime < 500000000 ↔ m < 500000000) ∧ m ≤ env.nLockTime ∧
          env.nSequence ≠ SEQ_FINAL)) ∧
    (∀ m, (satDissat c ms).sat.rel = some m → m ∈ (tSatDissat c ms).sat.R ∧
        ((∀ n ∈ (tSatDissat c ms).sat.R, checkSequence env n = true) →
          env.txVersion ≥ 2 ∧ (env.nSequence / SEQ_DISABLE) % 2 = 0 ∧
          (relIsTime env.nSequence = relIsTime m) ∧ relVal m ≤ relVal env.nSequence)) := by
  have hi := (tSatDissat_inv c ms).2
  rw [← (tSatDissat_s c ms).2]
  refine ⟨fun m hm => ?_, fun m hm => ?_⟩
  · have h := hi.1
    rw [hm] at h
    refine ⟨h.1, fun hall => ?_⟩
    obtain ⟨⟨hu, hle⟩, hsq⟩ := (checkLockTime_iff env m).mp (hall m h.1)
    exact ⟨hu.symm, hle, hsq⟩
  · have h := hi.2
    rw [hm] at h
    refine ⟨h.1, fun hall => ?_⟩
    obtain ⟨hv, hd, hu, hle⟩ := (checkSequence_iff env m).mp (hall m h.1)
    exact ⟨hv, hd, hu.symm, hle⟩

/-- T3, the three ways to undercut a reported absolute lock all fail: a smaller nLockTime, an
nLockTime of the other unit, a final sequence (which disables nLockTime) -/
theorem locks_necessary_abs_variants_fail (c : SatCfg) (ms : Ms) (env : Script.Env) (m : Nat)
    (hm : (satDissat c ms).sat.abs = some m)
    (hbad : env.nLockTime < m ∨ ¬ (env.nLockTime < 500000000 ↔ m < 500000000) ∨
            env.nSequence = SEQ_FINAL) :
    ∃ n ∈ (tSatDissat c ms).sat.A, checkLockTime env n = false :=
  ⟨m, ((locks_necessary c ms env).1 m hm).1, checkLockTime_false hbad⟩

/-- T3, the four ways to undercut a reported relative lock all fail: a smaller value, the other
unit, the disable flag set, a transaction version below 2 -/
theorem locks_necessary_rel_variants_fail (c : SatCfg) (ms : Ms) (env : Script.Env) (m : Nat)
    (hm : (satDissat c ms).sat.rel = some m)
    (hbad : relVal env.nSequence < relVal m ∨ relIsTime env.nSequence ≠ relIsTime m ∨
            (env.nSequence / SEQ_DISABLE) % 2 = 1 ∨ env.txVersion < 2) :
    ∃ n ∈ (tSatDissat c ms).sat.R, checkSequence env n = false :=
  ⟨m, ((locks_necessary c ms env).2 m hm).1, checkSequence_false hbad⟩

/-! ### the link to EXECUTION

The lists `A` / `R` are not just bookkeeping: `Lemmas/PlanLockExec.lean` proves, by induction
over the typing derivation like C01's soundness proof (every fragment incl.
`thresh`, both modes, any assets), that a (dis)satisfaction whose lists contain a lock the
transaction does not meet makes the emitted opcodes end in `unsatisfiedLocktime` — the
fragments executed before the offending CLTV / CSV run exactly as C01's `sat_sound` says.
With T3 (the reported lock is a member of the list) and the bridge theorem
(`run (encode ms) = frag ms`) this gives the property's lock sentence about real opcode
execution (op-count and stack limits off: `EnvOk`): the spend validates with the reported locks and fails with the lock-time error
below them, in the other unit, or with a final / disabled sequence. -/

section exec
variable {env : Env} {σ : Ph → Bytes} {cfg : SatCfg}

/-- C01's `top_level_sat_sound_exec` read the other way: the witness the satisfier returns for a well-typed `B`
script, under a transaction that does NOT meet the reported locks, ends in `Err.unsatisfiedLocktime` -/
theorem sat_fails_of_not_locksMet (henv : EnvOk env cfg.ctx) (hag : Agrees env cfg.env cfg.assets σ)
    (ms : Ms) (τ : Ty) (hwf : WF cfg.ctx ms) (hty : typeOf ms = some τ) (hB : τ.corr.base = .B)
    (w : List Ph) (hs : (satDissat cfg ms).sat.stack = .stack w) (hl : ¬ LocksMet env (satDissat cfg ms).sat) :
    frag env cfg.env cfg.ctx ms ⟨stk σ w, [], 0⟩ = .error .unsatisfiedLocktime ∧
    run env (encode cfg.env cfg.ctx ms) (State.init (stk σ w)) = .error .unsatisfiedLocktime ∧
    Script.accepts env (encode cfg.env cfg.ctx ms) (stk σ w) = false := by
  have hse := (tSatDissat_s cfg ms).2
  have hbl : Blocks env (tSatDissat cfg ms).sat :=
    (blocks_iff_not_locksMet (tSatDissat_inv cfg ms).2).mpr (hse ▸ hl)
  have hf := (fsound_all henv hag ms τ hwf hty).sat w (by rw [hse]; exact hs) hbl
  have hf' := (satFails_nonW (by simp [hB])).mp hf [] [] 0
  simp only [List.append_nil] at hf'
  have hrun : run env (encode cfg.env cfg.ctx ms) (State.init (stk σ w)) = .error .unsatisfiedLocktime := by
    unfold State.init
    rw [Bridge.exec_encode_eq_frag_nostack env cfg.env cfg.ctx ms ⟨stk σ w, [], 0⟩ [] rfl henv.stackLimits, hf']
    rfl
  exact ⟨hf', hrun, by unfold Script.accepts; rw [hrun]⟩

/-- **Necessity, on the opcode interpreter.**  If the satisfier returns a satisfaction for a
well-typed `B` script and the transaction does NOT pass CLTV for the reported absolute lock
or CSV for the reported relative lock, then executing the encoded script on exactly that
witness ends in `Err.unsatisfiedLocktime` (structured semantics and flat interpreter), so the
spend is rejected.  Every fragment, both modes, any asset set. -/
theorem locks_necessary_exec (henv : EnvOk env cfg.ctx) (hag : Agrees env cfg.env cfg.assets σ)
    (ms : Ms) (τ : Ty) (hwf : WF cfg.ctx ms) (hty : typeOf ms = some τ) (hB : τ.corr.base = .B)
    (w : List Ph) (hs : (satDissat cfg ms).sat.stack = .stack w)
    (hbad : (∃ m, (satDissat cfg ms).sat.abs = some m ∧ checkLockTime env m = false) ∨
            (∃ m, (satDissat cfg ms).sat.rel = some m ∧ checkSequence env m = false)) :
    frag env cfg.env cfg.ctx ms ⟨stk σ w, [], 0⟩ = .error .unsatisfiedLocktime ∧
    run env (encode cfg.env cfg.ctx ms) (State.init (stk σ w)) = .error .unsatisfiedLocktime ∧
    Script.accepts env (encode cfg.env cfg.ctx ms) (stk σ w) = false :=
  sat_fails_of_not_locksMet henv hag ms τ hwf hty hB w hs fun ⟨ha, hr⟩ => by
    rcases hbad with ⟨m, hm, hc⟩ | ⟨m, hm, hc⟩
    · rw [ha m hm] at hc; cases hc
    · rw [hr m hm] at hc; cases hc

/-- necessity on the opcode interpreter in the terms of `locks_necessary_abs_variants_fail`: with a
smaller nLockTime, one of the other unit, or a final sequence the encoded script rejects the
witness the satisfier returned -/
theorem locks_necessary_exec_abs (henv : EnvOk env cfg.ctx) (hag : Agrees env cfg.env cfg.assets σ)
    (ms : Ms) (τ : Ty) (hwf : WF cfg.ctx ms) (hty : typeOf ms = some τ) (hB : τ.corr.base = .B)
    (w : List Ph) (hs : (satDissat cfg ms).sat.stack = .stack w) (m : Nat)
    (hm : (satDissat cfg ms).sat.abs = some m)
    (hbad : env.nLockTime < m ∨ ¬ (env.nLockTime < 500000000 ↔ m < 500000000) ∨
            env.nSequence = SEQ_FINAL) :
    Script.accepts env (encode cfg.env cfg.ctx ms) (stk σ w) = false :=
  (locks_necessary_exec henv hag ms τ hwf hty hB w hs (.inl ⟨m, hm, checkLockTime_false hbad⟩)).2.2

/-- … and in the terms of `locks_necessary_rel_variants_fail` for the reported relative lock -/
theorem locks_necessary_exec_rel (henv : EnvOk env cfg.ctx) (hag : Agrees env cfg.env cfg.assets σ)
    (ms : Ms) (τ : Ty) (hwf : WF cfg.ctx ms) (hty : typeOf ms = some τ) (hB : τ.corr.base = .B)
    (w : List Ph) (hs : (satDissat cfg ms).sat.stack = .stack w) (m : Nat)
    (hm : (satDissat cfg ms).sat.rel = some m)
    (hbad : relVal env.nSequence < relVal m ∨ relIsTime env.nSequence ≠ relIsTime m ∨
            (env.nSequence / SEQ_DISABLE) % 2 = 1 ∨ env.txVersion < 2) :
    Script.accepts env (encode cfg.env cfg.ctx ms) (stk σ w) = false :=
  (locks_necessary_exec henv hag ms τ hwf hty hB w hs (.inr ⟨m, hm, checkSequence_false hbad⟩)).2.2

/-- **Sufficiency, on the opcode interpreter** (C01's `top_level_sat_sound_exec`, its `LocksMet` met with equality):
a transaction whose nLockTime equals the reported absolute lock (sequence not final) and
whose nSequence carries the reported relative lock's unit and value (disable flag clear,
version ≥ 2) makes the encoded script ACCEPT exactly that witness. -/
theorem locks_sufficient_exec (henv : EnvOk env cfg.ctx) (hag : Agrees env cfg.env cfg.assets σ)
    (ms : Ms) (τ : Ty) (hwf : WF cfg.ctx ms) (hty : typeOf ms = some τ) (hB : τ.corr.base = .B)
    (w : List Ph) (hs : (satDissat cfg ms).sat.stack = .stack w)
    (habs : ∀ m, (satDissat cfg ms).sat.abs = some m →
      env.nLockTime = m ∧ env.nSequence ≠ SEQ_FINAL)
    (hrel : ∀ m, (satDissat cfg ms).sat.rel = some m →
      seqMasked env.nSequence = seqMasked m ∧ (env.nSequence / SEQ_DISABLE) % 2 = 0 ∧
      env.txVersion ≥ 2) :
    Script.accepts env (encode cfg.env cfg.ctx ms) (stk σ w) = true := by
  refine C01.top_level_sat_sound_exec henv hag ms τ hwf hty hB w hs ⟨fun m hm => ?_, fun m hm => ?_⟩
  · obtain ⟨hl, hsq⟩ := habs m hm
    subst hl
    exact (checkLockTime_iff env _).mpr ⟨absLe_refl _, hsq⟩
  · obtain ⟨hsm, hdis, hv⟩ := hrel m hm
    exact (checkSequence_iff env m).mpr ⟨hv, hdis, relLe_of_seqMasked hsm⟩

end exec

/-! non-vacuity of the execution theorems: a small world of our own (33-byte keys
`02 00…00 k`, a signature is valid iff it is `key ++ [1]`, hashing appends a byte) in which
every hypothesis holds -/
namespace Toy

def ser (k : Key) : Bytes := 2 :: (List.replicate 31 0 ++ [UInt8.ofNat k])
def pre (h : Nat) : Bytes := List.replicate 31 9 ++ [UInt8.ofNat h]
def toyHash (b : Bytes) : Bytes := b ++ [7]

def ke : KeyEnv where
  ser := ser
  sortKey := ser
  pkh k := toyHash (ser k)
  rawPkh h := toyHash (ser h)
  hashVal _ h := toyHash (pre h)

/-- segwit-v0 standardness flags, limits off -/
def tEnv (lockTime seq : Nat) : Env where
  flags := ⟨false, true, true, true, true, false, false⟩
  sigOk pk sig := sig == pk ++ [1]
  hash _ b := toyHash b
  nLockTime := lockTime
  nSequence := seq
  txVersion := 2

def tσ : Ph → Bytes
  | .pubkey k _ => ser k
  | .pubkeyHash h _ => ser h
  | .ecdsaSig k => ser k ++ [1]
  | .ecdsaSigPkh h => ser h ++ [1]
  | .schnorrSig k _ => ser k ++ [1]
  | .schnorrSigPkh h _ => ser h ++ [1]
  | .preimage _ h => pre h
  | .hashDissat => List.replicate 32 0
  | .pushOne => [1]
  | .pushZero => []

/-- `and_v(v:pk(K0),or_d(pk(K1),older(144)))` -/
def ms : Ms := .andV (.verify (.check (.pkK 0))) (.orD (.check (.pkK 1)) (.older 144))
def ty : Ty := ⟨⟨.B, .anyNonZero, false, false⟩, ⟨.none, true, true⟩⟩

/-- signature for K0 only, and 144 blocks have passed -/
def assets : Assets :=
  ⟨fun k => k == 0, fun _ => none, fun _ => none, fun _ => none, fun _ => none,
   fun _ _ => false, fun n => n == 144, fun _ => false⟩

def cfg : SatCfg := ⟨ke, .segwitv0, false, true, assets⟩

end Toy

section
open Toy

theorem toy_envOk (lt sq : Nat) : EnvOk (tEnv lt sq) .segwitv0 := ⟨rfl, rfl, rfl⟩

theorem toy_keyOk (lt sq : Nat) (k : Key) : pubkeyOk (tEnv lt sq) (ser k) = true := by
  simp only [pubkeyOk, tEnv, ser, List.length_cons, List.length_append, List.length_replicate,
    List.length_nil, List.head?_cons]
  decide

theorem toy_agrees (lt sq : Nat) (a : Assets) : Agrees (tEnv lt sq) ke a tσ where
  pushOne := rfl
  pushZero := rfl
  hashDissat := rfl
  keyShape := toy_keyOk lt sq
  pkh _ := rfl
  pubkey _ _ := rfl
  ecdsa k _ := ⟨by simp [tσ], by simp [tEnv, tσ, ke]⟩
  schnorr k _ _ := ⟨by simp [tσ], by simp [tEnv, tσ, ke]⟩
  rawPk h _ _ := ⟨rfl, toy_keyOk lt sq h⟩
  rawEcdsa h _ _ _ := ⟨by simp [tσ], by simp [tEnv, tσ]⟩
  rawSchnorr h _ _ _ _ := ⟨by simp [tσ], by simp [tEnv, tσ]⟩
  preimage _ h _ := ⟨by simp only [tσ, pre, List.length_cons, List.length_append,
    List.length_replicate, List.length_nil], rfl⟩
  zeroNoPreimage _ h := by
    intro e
    have := congrArg List.head? e
    simp [tEnv, ke, toyHash, pre, List.replicate] at this
  sizeOk p := by
    cases p <;>
      simp only [tσ, ser, pre, List.length_cons, List.length_append, List.length_replicate,
        List.length_nil] <;>
      decide

theorem toy_typed : typeOf ms = some ty := by decide

theorem toy_wf : WF .segwitv0 ms := by simp [ms, WF]

end


/-- `and_v(v:pk(K0),or_d(pk(K1),older(144)))` with a signature for K0 only: the satisfier
returns `[<empty>, sig(K0)]` and reports the relative lock 144; at nSequence = 144 the encoded
script accepts the witness, at 143 it is rejected — both by the theorems -/
example : (satDissat Toy.cfg Toy.ms).sat = ⟨.stack [.pushZero, .ecdsaSig 0], true, none, some 144⟩ ∧
    Script.accepts (Toy.tEnv 0 144) (encode Toy.ke .segwitv0 Toy.ms) (stk Toy.tσ [.pushZero, .ecdsaSig 0]) = true ∧
    Script.accepts (Toy.tEnv 0 143) (encode Toy.ke .segwitv0 Toy.ms) (stk Toy.tσ [.pushZero, .ecdsaSig 0]) = false :=
  ⟨by decide,
   locks_sufficient_exec (cfg := Toy.cfg) (toy_envOk 0 144) (toy_agrees 0 144 _) Toy.ms Toy.ty
      toy_wf toy_typed rfl _ (by decide) (by decide) (by decide),
   locks_necessary_exec_rel (cfg := Toy.cfg) (toy_envOk 0 143) (toy_agrees 0 143 _) Toy.ms Toy.ty
      toy_wf toy_typed rfl _ (by decide) 144 (by decide) (.inl (by decide))⟩

/-- … and by direct evaluation of the flat interpreter -/
example :
    Script.accepts (Toy.tEnv 0 144) (encode Toy.ke .segwitv0 Toy.ms) (stk Toy.tσ [.pushZero, .ecdsaSig 0]) = true ∧
    Script.accepts (Toy.tEnv 0 143) (encode Toy.ke .segwitv0 Toy.ms) (stk Toy.tσ [.pushZero, .ecdsaSig 0]) = false := by
  decide +kernel

/-! non-vacuity: `or_d(pk(1), and_v(v:pk(0), and_v(v:after(100), and_v(v:older(10), after(200)))))`
with a signature for key 0 only, locks up to 200 / 20 available: the reported locks are
200 / 10 and the executed lists are `[200, 100]` / `[10]`; with both keys the cheaper `pk(1)`
branch is taken and nothing is reported or executed. -/
def exAssets (keys : Key → Bool) : Assets :=
  { ecdsaSig := keys, schnorrSig := fun _ => none, rawPkhPk := fun _ => none,
    rawPkhEcdsa := fun _ => none, rawPkhSchnorr := fun _ => none, preimage := fun _ _ => false,
    checkOlder := fun n => n ≤ 20, checkAfter := fun n => n ≤ 200 }
def exKeyEnv : KeyEnv := ⟨fun _ => [], fun _ => [], fun _ => [], fun _ => [], fun _ _ => []⟩
def exCfg (keys : Key → Bool) : SatCfg := ⟨exKeyEnv, .segwitv0, false, true, exAssets keys⟩
def exMs : Ms :=
  .orD (.check (.pkK 1)) (.andV (.verify (.check (.pkK 0))) (.andV (.verify (.after 100))
    (.andV (.verify (.older 10)) (.after 200))))

example : (satDissat (exCfg (· == 0)) exMs).sat.abs = some 200 ∧
    (satDissat (exCfg (· == 0)) exMs).sat.rel = some 10 ∧
    (tSatDissat (exCfg (· == 0)) exMs).sat.A = [200, 100] ∧
    (tSatDissat (exCfg (· == 0)) exMs).sat.R = [10] := by decide
example : (satDissat (exCfg fun _ => true) exMs).sat.abs = none ∧
    (tSatDissat (exCfg fun _ => true) exMs).sat.A = [] := by decide

/-! ## T5 — key-source matching

`is_key_direct_child_of` and `Assets::has_ecdsa_key` are total (`Bool`-valued functions of the
model; the `len - 1` on an empty path is guarded: F7, DESIGN.md §1.1) and decide the documented
relation. -/

/-- T5: `is_key_direct_child_of` holds exactly when the source path is the key's path or the
key's path minus its last child number — for every pair of paths, the empty ones included -/
theorem is_key_direct_child_of_spec (pk src : List Nat) :
    isKeyDirectChildOf pk src = true ↔ (pk = src ∨ ∃ c, pk = src ++ [c]) := by
  unfold isKeyDirectChildOf
  by_cases h : pk = src
  · simp [h]
  · rw [← take_pred_eq_iff]
    simp [h]

/-- a key with the empty path (the panic input of F7) matches the empty source path only -/
theorem is_key_direct_child_of_empty_path (src : List Nat) :
    isKeyDirectChildOf [] src = decide (src = []) := by
  unfold isKeyDirectChildOf
  by_cases h : ([] : List Nat) = src
  · simp [← h]
  · have : src ≠ [] := fun hh => h hh.symm
    simp [h, this]

/-- T5: `Assets::has_ecdsa_key` is the documented predicate: some source can sign ECDSA, has
the key's fingerprint, and its path is the key's path or its parent -/
theorem has_ecdsa_key_spec (fp : Nat) (path : List Nat) (srcs : List KeySrc) :
    hasEcdsaKey fp path srcs = true ↔
      ∃ s ∈ srcs, s.ecdsa = true ∧ s.fp = fp ∧ (path = s.path ∨ ∃ c, path = s.path ++ [c]) := by
  unfold hasEcdsaKey
  simp only [List.any_eq_true, Bool.and_eq_true, beq_iff_eq, is_key_direct_child_of_spec]
  constructor
  · rintro ⟨s, hs, ⟨h1, h2⟩, h3⟩; exact ⟨s, hs, h1, h2, h3⟩
  · rintro ⟨s, hs, h1, h2, h3⟩; exact ⟨s, hs, ⟨h1, h2⟩, h3⟩

example : hasEcdsaKey 7 [48, 0, 5] [⟨7, [48], true⟩, ⟨7, [48, 0], true⟩] = true := by decide
example : hasEcdsaKey 7 [] [⟨7, [1], true⟩] = false := by decide

/-! ## T4 — sizes: what the announced figures leave out (negations on concrete witnesses) -/

/-- the statement "announced sizes are upper bounds of the serialized sizes of the spend" —
FALSE for `wsh`, `sh(wsh)`, `sh(wpkh)` (pinned by plan.rs's unit tests) -/
def sizes_upper_bound_full : Prop :=
  ∀ (d : DescData) (t : List Ph) (stack : List Bytes),
    stack.length = t.length →
    (∀ i (h : i < t.length) (h' : i < stack.length), (stack[i]).length + 1 ≤ (t[i]).size) →
    serializedScriptSigSize (planSatisfy d stack).2 ≤ scriptsigSize d.ty (t.map Item.ph) d.script.length ∧
    serializedWitnessSize (planSatisfy d stack).1 ≤ Plan.witnessSize d.ty (t.map Item.ph)

/-- `sh(wpkh)`: `scriptsig_size` says 23; the scriptSig `16 0014<20 bytes>` serializes to 24
bytes (the push opcode of the witness program is not counted).  Same for `sh(wsh)`: 35 vs 36. -/
theorem sh_segwit_scriptsig_size_off_by_one (d : DescData) (t : List Item) (n : Nat)
    (h : (d.ty = .shWpkh ∧ d.inner.length = 22) ∨ (d.ty = .shWsh ∧ d.inner.length = 34)) :
    serializedScriptSigSize d.unsignedScriptSig = scriptsigSize d.ty t n + 1 := by
  rcases h with ⟨h, hl⟩ | ⟨h, hl⟩ <;>
    simp [DescData.unsignedScriptSig, h, serializedScriptSigSize, pushSlice, pushPrefix, hl,
      scriptsigSize, DescType.segwitVersion, varintLen]

/-- `wsh`: `witness_size` is the size of the template only; the real witness has one more
item, the witness script -/
theorem wsh_witness_size_omits_script (d : DescData) (hty : d.ty = .wsh) (stack : List Bytes) :
    (planSatisfy d stack).1 = stack ++ [d.script] ∧
    ∀ t, Plan.witnessSize .wsh t = templateSize t := by
  constructor
  · simp [planSatisfy, hty]
  · intro t; simp [Plan.witnessSize, DescType.segwitVersion]

/-- refuted by `wsh(1)`: the template is empty, the witness is the one-byte script -/
theorem sizes_upper_bound_full_false : ¬ sizes_upper_bound_full := by
  intro h
  have := (h ⟨.wsh, [0x51], []⟩ [] [] rfl (by intro i hi; simp at hi)).2
  revert this
  decide

/-- `sh(<miniscript>)`: the announced scriptSig size counts every template
item, the redeem-script push, and the compact-size prefix of that byte count -/
theorem sh_scriptsig_size_counts_redeem (t : List Item) (n : Nat) :
    scriptsigSize .sh t n =
      ((t.map Item.size).sum + pushLen n) + varintLen ((t.map Item.size).sum + pushLen n) := by
  simp [scriptsigSize, DescType.segwitVersion]

/-! ## T4 — sizes: upper bounds from the per-item fact `Item.fits`, which `J tmpl-items` judges on every run -/

theorem item_fits_size (it : Item) (len : Nat) (h : it.fits len = true) :
    varintLen len + len ≤ it.size := by
  cases it with
  | ph p =>
    obtain ⟨_, hl, hs⟩ := ph_fits p len h
    rw [varintLen_small (by omega)]
    simp only [Item.size]
    omega
  | tapScript n => simp [Item.fits] at h; subst h; simp [Item.size]; omega
  | tapControl n => simp [Item.fits] at h; subst h; simp [Item.size]; omega

/-- hence a witness whose items fit the template one by one serializes within
`witness_size(template)` — the announced `Plan::witness_size` of `wpkh`, `sh(wpkh)` and `tr`
(whose witness is exactly the completed template) is an upper bound of the real size -/
theorem witness_size_upper_bound (t : List Item) (ls : List Nat) (hlen : ls.length = t.length)
    (h : ∀ p ∈ t.zip ls, p.1.fits p.2 = true) :
    varintLen ls.length + (ls.map fun l => varintLen l + l).sum ≤ templateSize t := by
  unfold templateSize
  have hsum : (ls.map fun l => varintLen l + l).sum ≤ (t.map Item.size).sum :=
    sum_map_le_of_zip hlen fun p hp => item_fits_size p.1 p.2 (h p hp)
  rw [hlen]; omega

/-- `wpkh`, `sh(wpkh)`, `tr`: the witness `Plan::satisfy` returns is exactly the completed
template, so the announced `witness_size` bounds its serialized size -/
theorem witness_size_upper_bound_plan (d : DescData)
    (hty : d.ty = .wpkh ∨ d.ty = .shWpkh ∨ d.ty = .tr) (t : List Item) (stack : List Bytes)
    (hlen : stack.length = t.length)
    (hfit : ∀ q ∈ t.zip stack, q.1.fits q.2.length = true) :
    serializedWitnessSize (planSatisfy d stack).1 ≤ Plan.witnessSize d.ty t := by
  have hw : (planSatisfy d stack).1 = stack := by
    rcases hty with h | h | h <;> simp [planSatisfy, h]
  have hs : Plan.witnessSize d.ty t = templateSize t := by
    rcases hty with h | h | h <;> simp [Plan.witnessSize, h, DescType.segwitVersion]
  rw [hw, hs]
  unfold serializedWitnessSize
  split
  · exact Nat.zero_le _
  · have := witness_size_upper_bound t (stack.map List.length) (by simpa using hlen)
      (by
        intro p hp
        rw [List.zip_map_right] at hp
        obtain ⟨q, hq, rfl⟩ := List.mem_map.mp hp
        exact hfit q hq)
    simpa [List.map_map, Function.comp_def] using this

example : Plan.witnessSize .tr [.ph (.schnorrSig 0 64)] = templateSize [.ph (.schnorrSig 0 64)] := by decide

/-- `bare`, `pkh`, `sh(<miniscript>)` (the figures of F9): the announced
`scriptsig_size` — Σ placeholder sizes, + the redeem-script push for `sh`, + the compact size
of that byte count — bounds the serialized scriptSig `Plan::satisfy` returns, and there is no
witness.  Side conditions: the items fit their placeholders, the script is 1 or 5..65535
bytes long (every script with a key or a hash is). -/
theorem scriptsig_size_upper_bound (d : DescData) (hty : d.ty = .bare ∨ d.ty = .pkh ∨ d.ty = .sh)
    (t : List Ph) (stack : List Bytes) (hlen : stack.length = t.length)
    (hfit : ∀ q ∈ t.zip stack, (Item.ph q.1).fits q.2.length = true)
    (hscript : d.script.length = 1 ∨ (5 ≤ d.script.length ∧ d.script.length ≤ 0xffff)) :
    serializedScriptSigSize (planSatisfy d stack).2 ≤
        scriptsigSize d.ty (t.map Item.ph) d.script.length ∧
    serializedWitnessSize (planSatisfy d stack).1 = 0 := by
  have hsum : ((t.map Item.ph).map Item.size).sum = (t.map Ph.size).sum := by
    simp [List.map_map, Function.comp_def, Item.size]
  have hb := w2ss_length t stack hlen hfit
  refine ⟨?_, by rcases hty with h | h | h <;> simp [planSatisfy, h, serializedWitnessSize]⟩
  rcases hty with h | h | h <;>
    simp only [planSatisfy, h, scriptsigSize, DescType.segwitVersion, hsum, w2ss_append]
  · simpa using serializedScriptSigSize_le hb
  · simpa using serializedScriptSigSize_le hb
  · have hsc : (witnessToScriptSig [d.script]).length ≤ pushLen d.script.length := by
      simpa [witnessToScriptSig] using w2ssItem_length d.script (by omega)
    simpa using serializedScriptSigSize_le (ss := _ ++ _) (List.length_append ▸ Nat.add_le_add hb hsc)

/-- non-vacuity: `sh(pk(K))` with a 72-byte signature and a 35-byte redeem script -/
example : serializedScriptSigSize (planSatisfy ⟨.sh, List.replicate 35 0xac, []⟩ [List.replicate 72 0x30]).2 = 110 ∧
    scriptsigSize .sh [.ph (.ecdsaSig 0)] 35 = 110 := by decide +kernel

/-- the same bound for `wsh` / `sh(wsh)` witnesses — FALSE (known_findings.txt, cases
`J sizes wsh.` / `J sizes shwsh.`): the witness script is not counted -/
def wsh_witness_size_bound : Prop :=
  ∀ (d : DescData), (d.ty = .wsh ∨ d.ty = .shWsh) → ∀ (t : List Item) (stack : List Bytes),
    stack.length = t.length → (∀ q ∈ t.zip stack, q.1.fits q.2.length = true) →
    serializedWitnessSize (planSatisfy d stack).1 ≤ Plan.witnessSize d.ty t

/-- refuted by a `wsh` descriptor with a 35-byte script and a 72-byte signature -/
theorem wsh_witness_size_bound_false : ¬ wsh_witness_size_bound := by
  intro h
  have := h ⟨.wsh, List.replicate 35 0xac, []⟩ (.inl rfl) [.ph (.ecdsaSig 0)] [List.replicate 72 0x30]
    rfl (by decide)
  revert this
  decide +kernel

/-- … and the scriptSig bound for `sh(wpkh)` / `sh(wsh)` — FALSE (known_findings.txt, cases
`J sizes shwpkh.` / `J sizes shwsh.`): 23 / 35 announced, 24 / 36 serialized -/
def sh_segwit_scriptsig_size_bound : Prop :=
  ∀ (d : DescData), (d.ty = .shWpkh ∧ d.inner.length = 22) ∨ (d.ty = .shWsh ∧ d.inner.length = 34) →
    ∀ (t : List Item) (stack : List Bytes) (n : Nat),
      serializedScriptSigSize (planSatisfy d stack).2 ≤ scriptsigSize d.ty t n

/-- refuted by `sh(wpkh)`, an instance of `sh_segwit_scriptsig_size_off_by_one` -/
theorem sh_segwit_scriptsig_size_bound_false : ¬ sh_segwit_scriptsig_size_bound := by
  intro h
  have := h ⟨.shWpkh, [], List.replicate 22 0⟩ (.inl ⟨rfl, by decide⟩) [] [] 0
  revert this
  decide +kernel

end MsVerif.C17
