/-
The bridge theorem: the flat opcode interpreter `Script.run` on the encoded script
`encode ke ctx ms` equals the structured fragment semantics `frag` (Spec/Frag.lean) — an
equation in `Except Err State`, errors included, for EVERY `ms` (no typing hypothesis), every
core state and every all-true condition stack.

Side conditions (and why):
* `hlim` — `frag` summarises a non-executed branch by the closed form `skipCount` ("oversized
  push? then `pushSize`, else add the opcode count"), whereas the interpreter walks through the
  branch and reports whichever of `opCount` / `pushSize` comes FIRST.  The two agree unless
  both limits are effective AND the script contains a push of more than 520 bytes
  (`both_limits_counterexample`).  Real key environments never produce such a push
  (`KeyEnv.Small`, `encode_noBigPush`), so with realistic keys all limits may be on.
* `hstk` — with `stackLimits` on, the start state must itself respect the 1000-element limit:
  `frag` reads `v:` over a fused opcode as "opcode, then VERIFY", and the intermediate boolean
  push is subject to the stack-size check, while `OP_EQUALVERIFY` etc. never push.
-/
import MsVerif.Lemmas.BridgeExtra

namespace MsVerif.Bridge
open MsVerif MsVerif.Script

/-- every encoding is conditionally balanced (IF/NOTIF … [ELSE] … ENDIF properly nested) -/
theorem encode_balanced (ke : KeyEnv) (ctx : Ctx) (ms : Ms) : balanced (encode ke ctx ms) = true :=
  (sim_encode ke ctx ms).isBalanced

/-- the same for the children of a `thresh`, laid out as `X₁ X₂ ADD … Xₙ ADD` -/
theorem encodeThresh_balanced (ke : KeyEnv) (ctx : Ctx) (first : Bool) (xs : MsList) :
    balanced (encodeThresh ke ctx first xs) = true :=
  (sim_thresh ke ctx first xs).isBalanced

example : balanced (encode exKe .segwitv0 exMs) = true := encode_balanced _ _ _

/-- General form: limits may be on.  `hlim`: the op-count limit is not effective, or the
stack limits are off, or no push in the script exceeds 520 bytes.  `hstk`: the start state
respects the stack-size limit if it is enforced. -/
theorem exec_encode_eq_frag_limits (env : Env) (ke : KeyEnv) (ctx : Ctx) (ms : Ms) (c : Core)
    (cs : List Bool) (hcs : cs.all id = true)
    (hlim : (env.flags.opLimit && !env.flags.tapscript) = false ∨ env.flags.stackLimits = false
      ∨ bigPush (encode ke ctx ms) = false)
    (hstk : env.flags.stackLimits = true → c.stack.length + c.alt.length ≤ 1000) :
    run env (encode ke ctx ms) ⟨c, cs⟩ = (frag env ke ctx ms c).map (fun c' => ⟨c', cs⟩) :=
  -- `hlim` is `SkipHyp env (encode ke ctx ms)` (Lemmas/BridgeSkip.lean) and `hstk` is `StkOk env c`
  -- (Lemmas/BridgeStk.lean) written out; `sim_encode` (Lemmas/BridgeMain.lean) is the induction over `ms`
  (sim_encode ke ctx ms).runs env hlim c cs hcs hstk

example : run (exEnv true true) (encode exKeSmall .segwitv0 exMs) ⟨⟨[[1], [2, 3]], [], 7⟩, [true]⟩
    = (frag (exEnv true true) exKeSmall .segwitv0 exMs ⟨[[1], [2, 3]], [], 7⟩).map (fun c' => ⟨c', [true]⟩) :=
  exec_encode_eq_frag_limits _ _ _ _ _ _ rfl
    (.inr (.inr (encode_noBigPush _ _ exKeSmall_small _))) (fun _ => by decide)

/-- The same for a child list of `thresh` (`first = true`: the list starts at `X₁`, which carries no `ADD`). -/
theorem exec_encodeThresh_eq_fragThresh (env : Env) (ke : KeyEnv) (ctx : Ctx) (first : Bool)
    (xs : MsList) (c : Core) (cs : List Bool) (hcs : cs.all id = true)
    (hlim : (env.flags.opLimit && !env.flags.tapscript) = false ∨ env.flags.stackLimits = false
      ∨ bigPush (encodeThresh ke ctx first xs) = false)
    (hstk : env.flags.stackLimits = true → c.stack.length + c.alt.length ≤ 1000) :
    run env (encodeThresh ke ctx first xs) ⟨c, cs⟩
      = (fragThresh env ke ctx first xs c).map (fun c' => ⟨c', cs⟩) :=
  (sim_thresh ke ctx first xs).runs env hlim c cs hcs hstk

/-- Stack limits off (op-count limit arbitrary): no further hypothesis. -/
theorem exec_encode_eq_frag_nostack (env : Env) (ke : KeyEnv) (ctx : Ctx) (ms : Ms) (c : Core)
    (cs : List Bool) (hcs : cs.all id = true) (hlim : env.flags.stackLimits = false) :
    run env (encode ke ctx ms) ⟨c, cs⟩ = (frag env ke ctx ms c).map (fun c' => ⟨c', cs⟩) :=
  exec_encode_eq_frag_limits env ke ctx ms c cs hcs (.inr (.inl hlim))
    (fun h => by rw [hlim] at h; cases h)

example : run (exEnv true false) (encode exKe .segwitv0 exMsBad) ⟨⟨[[]], [], 200⟩, []⟩
    = (frag (exEnv true false) exKe .segwitv0 exMsBad ⟨[[]], [], 200⟩).map (fun c' => ⟨c', []⟩) :=
  exec_encode_eq_frag_nostack _ _ _ _ _ _ rfl rfl

/-- The bridge theorem as specified in DESIGN.md §2.2 (both limits off). -/
theorem exec_encode_eq_frag (env : Env) (ke : KeyEnv) (ctx : Ctx) (ms : Ms) (c : Core) (cs : List Bool)
    (hcs : cs.all id = true) (hlim : env.flags.opLimit = false ∧ env.flags.stackLimits = false) :
    run env (encode ke ctx ms) ⟨c, cs⟩ = (frag env ke ctx ms c).map (fun c' => ⟨c', cs⟩) :=
  exec_encode_eq_frag_nostack env ke ctx ms c cs hcs hlim.2

example : run (exEnv false false) (encode exKe .segwitv0 exMs) ⟨⟨[], [[5]], 300⟩, [true, true]⟩
    = (frag (exEnv false false) exKe .segwitv0 exMs ⟨[], [[5]], 300⟩).map (fun c' => ⟨c', [true, true]⟩) :=
  exec_encode_eq_frag _ _ _ _ _ _ rfl ⟨rfl, rfl⟩

/-- All limits may be on when the key environment is realistic (every key / hash ≤ 520 bytes). -/
theorem exec_encode_eq_frag_small (env : Env) (ke : KeyEnv) (ctx : Ctx) (ms : Ms) (c : Core)
    (cs : List Bool) (hcs : cs.all id = true) (hke : KeyEnv.Small ke)
    (hstk : env.flags.stackLimits = true → c.stack.length + c.alt.length ≤ 1000) :
    run env (encode ke ctx ms) ⟨c, cs⟩ = (frag env ke ctx ms c).map (fun c' => ⟨c', cs⟩) :=
  exec_encode_eq_frag_limits env ke ctx ms c cs hcs (.inr (.inr (encode_noBigPush ke ctx hke ms))) hstk

example : run (exEnv true true) (encode exKeSmall .tap exMs) ⟨⟨[[]], [], 200⟩, []⟩
    = (frag (exEnv true true) exKeSmall .tap exMs ⟨[[]], [], 200⟩).map (fun c' => ⟨c', []⟩) :=
  exec_encode_eq_frag_small _ _ _ _ _ _ rfl exKeSmall_small (fun _ => by decide)

/-- The statement without any limits hypothesis … -/
def exec_encode_eq_frag_full : Prop :=
  ∀ (env : Env) (ke : KeyEnv) (ctx : Ctx) (ms : Ms) (c : Core) (cs : List Bool), cs.all id = true →
    (env.flags.stackLimits = true → c.stack.length + c.alt.length ≤ 1000) →
    run env (encode ke ctx ms) ⟨c, cs⟩ = (frag env ke ctx ms c).map (fun c' => ⟨c', cs⟩)

attribute [local instance] decEqExcept in
/-- … is false for `skipCount`: with both limits on, a 521-byte "key" in a dead
branch after the 201st opcode makes the interpreter stop with `opCount` while `frag` reports
`pushSize` (`or_i(and_v(c:pk_k(0),pk_k(1)),1)`, IF not taken, 200 opcodes already counted). -/
theorem both_limits_counterexample :
    run (exEnv true true) (encode exKe .segwitv0 exMsBad) ⟨⟨[[]], [], 200⟩, []⟩ = .error .opCount ∧
    frag (exEnv true true) exKe .segwitv0 exMsBad ⟨[[]], [], 200⟩ = .error .pushSize := by
  decide +kernel

/-- the bridge equation needs `hlim`: `both_limits_counterexample` is a start state within the stack limit on which
the two sides report different errors -/
theorem exec_encode_eq_frag_full_false : ¬ exec_encode_eq_frag_full := by
  intro h
  have h1 := h (exEnv true true) exKe .segwitv0 exMsBad ⟨[[]], [], 200⟩ [] rfl (fun _ => by decide)
  rw [both_limits_counterexample.1, both_limits_counterexample.2] at h1
  cases h1

theorem run_encode_conds (env : Env) (ke : KeyEnv) (ctx : Ctx) (ms : Ms) (c : Core) (cs : List Bool)
    (s' : State) (hcs : cs.all id = true)
    (hlim : (env.flags.opLimit && !env.flags.tapscript) = false ∨ env.flags.stackLimits = false
      ∨ bigPush (encode ke ctx ms) = false)
    (hstk : env.flags.stackLimits = true → c.stack.length + c.alt.length ≤ 1000)
    (hrun : run env (encode ke ctx ms) ⟨c, cs⟩ = .ok s') :
    s'.conds = cs ∧ frag env ke ctx ms c = .ok s'.core := by
  rw [exec_encode_eq_frag_limits env ke ctx ms c cs hcs hlim hstk] at hrun
  exact (lift_core hrun).symm

/-- Top-level acceptance (CLEANSTACK form) of the encoded script on an initial stack, in terms
of `frag`. -/
theorem accepts_iff_frag (env : Env) (ke : KeyEnv) (ctx : Ctx) (ms : Ms) (stack : List Bytes)
    (hlim : (env.flags.opLimit && !env.flags.tapscript) = false ∨ env.flags.stackLimits = false
      ∨ bigPush (encode ke ctx ms) = false)
    (hstk : env.flags.stackLimits = true → stack.length ≤ 1000) :
    accepts env (encode ke ctx ms) stack = true ↔
      ∃ c' a, frag env ke ctx ms ⟨stack, [], 0⟩ = .ok c' ∧ c'.stack = [a] ∧ castToBool a = true := by
  unfold accepts State.init
  rw [exec_encode_eq_frag_limits env ke ctx ms ⟨stack, [], 0⟩ [] rfl hlim (fun h => by simpa using hstk h)]
  cases hf : frag env ke ctx ms ⟨stack, [], 0⟩ with
  | error e => simp
  | ok c' =>
    simp only [map_ok, List.isEmpty_nil, Bool.true_and, Except.ok.injEq, exists_and_left, exists_eq_left']
    rcases hst : c'.stack with _ | ⟨a, _ | ⟨b, r⟩⟩ <;> simp

example : accepts (exEnv true true) (encode exKeSmall .segwitv0 exMs) [[1], [1], [1]] = true ↔
    ∃ c' a, frag (exEnv true true) exKeSmall .segwitv0 exMs ⟨[[1], [1], [1]], [], 0⟩ = .ok c'
      ∧ c'.stack = [a] ∧ castToBool a = true :=
  accepts_iff_frag _ _ _ _ _ (.inr (.inr (encode_noBigPush _ _ exKeSmall_small _))) (fun _ => by decide)

/-- Consensus-only acceptance (top element true, no CLEANSTACK). -/
theorem acceptsLoose_iff_frag (env : Env) (ke : KeyEnv) (ctx : Ctx) (ms : Ms) (stack : List Bytes)
    (hlim : (env.flags.opLimit && !env.flags.tapscript) = false ∨ env.flags.stackLimits = false
      ∨ bigPush (encode ke ctx ms) = false)
    (hstk : env.flags.stackLimits = true → stack.length ≤ 1000) :
    acceptsLoose env (encode ke ctx ms) stack = true ↔
      ∃ c' a r, frag env ke ctx ms ⟨stack, [], 0⟩ = .ok c' ∧ c'.stack = a :: r ∧ castToBool a = true := by
  unfold acceptsLoose State.init
  rw [exec_encode_eq_frag_limits env ke ctx ms ⟨stack, [], 0⟩ [] rfl hlim (fun h => by simpa using hstk h)]
  cases hf : frag env ke ctx ms ⟨stack, [], 0⟩ with
  | error e => simp
  | ok c' =>
    simp only [map_ok, List.isEmpty_nil, Bool.true_and, Except.ok.injEq, exists_and_left, exists_eq_left']
    rcases hst : c'.stack with _ | ⟨a, r⟩ <;> simp

/-- `accepts_iff_frag` under the limits hypothesis of DESIGN.md §2.2 (both flags off). -/
theorem accepts_iff_frag_nolimits (env : Env) (ke : KeyEnv) (ctx : Ctx) (ms : Ms) (stack : List Bytes)
    (hlim : env.flags.opLimit = false ∧ env.flags.stackLimits = false) :
    accepts env (encode ke ctx ms) stack = true ↔
      ∃ c' a, frag env ke ctx ms ⟨stack, [], 0⟩ = .ok c' ∧ c'.stack = [a] ∧ castToBool a = true :=
  accepts_iff_frag env ke ctx ms stack (.inr (.inl hlim.2)) (fun h => by rw [hlim.2] at h; cases h)

end MsVerif.Bridge
