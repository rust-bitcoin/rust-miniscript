/-
C05 — fragment typing equals the Miniscript specification's tables.

Every theorem quantifies over the COMPLETE domain of the Rust type representation
(80 correctness values × 12 malleability values per child; thresholds for every `k` and every
child list).  `eqC`/`=`: the library's rule is exactly the specification's row;
`leC`/`le`: it grants a subset of the specification's letters (deliberately conservative).
The rows that are not exact on reachable types are listed in `conservativeDeviations` below; `c:` is also inexact on
the unreachable combination "K and `z`" (`corr_c`).

The rule equations `Corr.<rule>_eq`, `Ty.lift1_eq`, `Ty.lift2_eq` are in Lemmas/CoreTypes.lean; `toSpec`, `eqC`,
`leC`, `eqC_ite`, `Reach` in Lemmas/TypesEnum.lean; the threshold inductions in Lemmas/Thresh.lean.  The statement
about a whole fragment (`typeOf ms` against the specification's type of `ms`) is composed from these rows in
Lemmas/ValidateTypes.lean (`typeBridge_ms`, `typeBridge`).
-/
import MsVerif.Lemmas.TypesEnum
import MsVerif.Lemmas.Thresh

namespace MsVerif.C05
open MsVerif Spec

/-! ## Leaves (the specification has no row for `sortedmulti` / `sortedmulti_a`: compared with `multi` / `multi_a`) -/
theorem leaf_true   : Ty.TRUE.toSpec  = ⟨C.one,  M.one⟩ := by decide
theorem leaf_false  : Ty.FALSE.toSpec = ⟨C.zero, M.zero⟩ := by decide
theorem leaf_pk_k   : Ty.pkK.toSpec   = ⟨C.pkK,  M.pkK⟩ := by decide
theorem leaf_pk_h   : Ty.pkH.toSpec   = ⟨C.pkH,  M.pkH⟩ := by decide
theorem leaf_multi  : Ty.multi.toSpec = ⟨C.multi, M.multi⟩ := by decide
theorem leaf_sortedmulti : Ty.sortedmulti.toSpec = ⟨C.multi, M.multi⟩ := by decide
theorem leaf_multi_a : Ty.multiA.toSpec = ⟨C.multiA, M.multiA⟩ := by decide
theorem leaf_sortedmulti_a : Ty.sortedmultiA.toSpec = ⟨C.multiA, M.multiA⟩ := by decide
theorem leaf_hash   : Ty.hash.toSpec  = ⟨C.hash, M.hash⟩ := by decide
theorem leaf_time   : Ty.time.toSpec  = ⟨C.time, M.time⟩ := by decide

/-! ## Correctness rules: rejects exactly what the specification rejects, result letters equal -/
theorem corr_a : ∀ x, eqC (Corr.castAlt x) (C.wrapA x.toSpec) = true := by decide +kernel
theorem corr_s : ∀ x, eqC (Corr.castSwap x) (C.wrapS x.toSpec) = true := by decide +kernel
/-- `c:`: exact on every child except the *unreachable* combination "K and z" (no K-typed
fragment is zero-arg: `K_never_zero_arg` below), where the library copies `z` through. -/
theorem corr_c : ∀ x, ((x.base == .K && x.input == .zero)
    || eqC (Corr.castCheck x) (C.wrapC x.toSpec)) = true := by decide +kernel
/-- `d:` outside Tapscript: exact -/
theorem corr_d_nontap : ∀ x, eqC (Corr.castDupIf x) (C.wrapD false x.toSpec) = true := by decide +kernel
/-- `d:` under Tapscript: the library withholds `u` (conservative), never stronger -/
theorem corr_d_tap : ∀ x, leC (Corr.castDupIf x) (C.wrapD true x.toSpec) = true := by decide +kernel
theorem corr_v : ∀ x, eqC (Corr.castVerify x) (C.wrapV x.toSpec) = true := by decide +kernel
theorem corr_j : ∀ x, eqC (Corr.castNonZero x) (C.wrapJ x.toSpec) = true := by decide +kernel
theorem corr_n : ∀ x, eqC (Corr.castZeroNotEqual x) (C.wrapN x.toSpec) = true := by decide +kernel
/-- `t:X` is `and_v(X,1)` -/
theorem corr_t : ∀ x, eqC (Corr.castTrue x) (C.andV x.toSpec C.one) = true := by decide +kernel
/-- `l:X` is `or_i(0,X)`.  Rust's `cast_likely` and `cast_unlikely` are both `cast_or_i_false`, hence one
library side for this row and the next (likewise `mall_l`, `mall_u`) -/
theorem corr_l : ∀ x, eqC (Corr.castOrIFalse x) (C.orI C.zero x.toSpec) = true := by decide +kernel
/-- `u:X` is `or_i(X,0)` -/
theorem corr_u : ∀ x, eqC (Corr.castOrIFalse x) (C.orI x.toSpec C.zero) = true := by decide +kernel

/-! the binary and ternary rules: `Corr.<rule>_eq` (CoreTypes) writes the library's rule as
`if guard then some ⟨…⟩ else none`, the specification's row has that shape by definition, and `eqC_ite`
compares guard with guard and record with record -/
theorem corr_and_b : ∀ x y, eqC (Corr.andB x y) (C.andB x.toSpec y.toSpec) = true := by
  intro x y
  rw [Corr.andB_eq]
  exact eqC_ite (by simp only [Corr.toSpec_base_B, Corr.toSpec_base_W]) fun _ => Corr.toSpec_andInput ..
theorem corr_and_v : ∀ x y, eqC (Corr.andV x y) (C.andV x.toSpec y.toSpec) = true := by
  intro x y
  rw [Corr.andV_eq]
  exact eqC_ite (by simp only [Corr.toSpec_base_V, Corr.toSpec_base_W, ne_eq]) fun _ => Corr.toSpec_andInput ..
theorem corr_or_b : ∀ x y, eqC (Corr.orB x y) (C.orB x.toSpec y.toSpec) = true := by
  intro x y
  rw [Corr.orB_eq]
  exact eqC_ite (by simp only [Corr.toSpec_base_B, Corr.toSpec_base_W, Corr.toSpec_d]) fun _ => Corr.toSpec_orBInput ..
theorem corr_or_c : ∀ x y, eqC (Corr.orC x y) (C.orC x.toSpec y.toSpec) = true := by
  intro x y
  rw [Corr.orC_eq]
  exact eqC_ite (by simp only [Corr.toSpec_base_B, Corr.toSpec_base_V, Corr.toSpec_d, Corr.toSpec_u]) fun _ => Corr.toSpec_orDInput ..
theorem corr_or_d : ∀ x y, eqC (Corr.orD x y) (C.orD x.toSpec y.toSpec) = true := by
  intro x y
  rw [Corr.orD_eq]
  exact eqC_ite (by simp only [Corr.toSpec_base_B, Corr.toSpec_d, Corr.toSpec_u]) fun _ => Corr.toSpec_orDInput ..
theorem corr_or_i : ∀ x y, eqC (Corr.orI x y) (C.orI x.toSpec y.toSpec) = true := by
  intro x y
  rw [Corr.orI_eq]
  exact eqC_ite (by simp only [Corr.toSpec_base_eq, Corr.toSpec_base_W, ne_eq]) fun _ => Corr.toSpec_orIInput ..

theorem corr_andor : ∀ x y z,
    eqC (Corr.andOr x y z) (C.andOr x.toSpec y.toSpec z.toSpec) = true := by
  intro x y z
  rw [Corr.andOr_eq]
  exact eqC_ite (by simp only [Corr.toSpec_base_B, Corr.toSpec_base_eq, Corr.toSpec_base_W,
    Corr.toSpec_d, Corr.toSpec_u, ne_eq]) fun _ => Corr.toSpec_andOrInput ..

/-! ## Malleability rules: exact on the complete domain -/
theorem mall_a : ∀ x, (Mall.castAlt x).toSpec = M.wrapA x.toSpec := by decide +kernel
theorem mall_s : ∀ x, (Mall.castSwap x).toSpec = M.wrapS x.toSpec := by decide +kernel
theorem mall_n : ∀ x, (Mall.castZeroNotEqual x).toSpec = M.wrapN x.toSpec := by decide +kernel
/-- `c:`: the specification grants `s` unconditionally, the library passes the child's `s`
through (every K-typed child is `s` anyway): never stronger -/
theorem mall_c : ∀ x, ((Mall.castCheck x).toSpec.le (M.wrapC x.toSpec)) = true := by decide +kernel
theorem mall_c_exact_on_signed : ∀ x, x.signed = true →
    (Mall.castCheck x).toSpec = M.wrapC x.toSpec := by
  intro ⟨d, s, m⟩ h; cases d <;> cases m <;> simp_all [Mall.castCheck, Mall.toSpec, M.wrapC]
theorem mall_d : ∀ x, (Mall.castDupIf x).toSpec = M.wrapD x.toSpec := by decide +kernel
theorem mall_v : ∀ x, (Mall.castVerify x).toSpec = M.wrapV x.toSpec := by decide +kernel
theorem mall_j : ∀ x, (Mall.castNonZero x).toSpec = M.wrapJ x.toSpec := by decide +kernel
theorem mall_t : ∀ x, (Mall.castTrue x).toSpec = M.andV x.toSpec M.one := by decide +kernel
theorem mall_l : ∀ x, (Mall.castOrIFalse x).toSpec = M.orI M.zero x.toSpec := by decide +kernel
theorem mall_u : ∀ x, (Mall.castOrIFalse x).toSpec = M.orI x.toSpec M.zero := by decide +kernel

theorem mall_and_b : ∀ x y, (Mall.andB x y).toSpec = M.andB x.toSpec y.toSpec := by decide +kernel
theorem mall_and_v : ∀ x y, (Mall.andV x y).toSpec = M.andV x.toSpec y.toSpec := by decide +kernel
theorem mall_or_b : ∀ x y, (Mall.orB x y).toSpec = M.orB x.toSpec y.toSpec := by decide +kernel
theorem mall_or_c : ∀ x y, (Mall.orC x y).toSpec = M.orC x.toSpec y.toSpec := by decide +kernel
theorem mall_or_d : ∀ x y, (Mall.orD x y).toSpec = M.orD x.toSpec y.toSpec := by decide +kernel
theorem mall_or_i : ∀ x y, (Mall.orI x y).toSpec = M.orI x.toSpec y.toSpec := by decide +kernel
theorem mall_andor : ∀ x y z,
    (Mall.andOr x y z).toSpec = M.andOr x.toSpec y.toSpec z.toSpec := by decide +kernel

/-! ## Thresholds: every `k`, every child list (no bound on `n`) -/
theorem corr_thresh (k : Nat) (xs : List Corr) (hne : xs ≠ []) :
    eqC (Corr.threshold k xs) (C.thresh k (xs.map Corr.toSpec)) = true :=
  Thresh.corr_threshold_spec k xs hne

/-- `Threshold` guarantees `1 ≤ k ≤ n` (so `xs ≠ []` in `corr_thresh`); under exactly the guard `k ≤ n` the malleability fold equals
the specification's counting formulation. -/
theorem mall_thresh (k : Nat) (xs : List Mall) (hk : k ≤ xs.length) :
    (Mall.threshold k xs).toSpec = M.thresh k (xs.map Mall.toSpec) :=
  Thresh.mall_threshold_spec k xs hk

/-! ## The product glue (`Type::*` = correctness × malleability) -/
theorem ty_lift1 (fc fm) (t : Ty) :
    Ty.lift1 fc fm t = (fc t.corr).map (fun c => ⟨c, fm t.mall⟩) :=
  Ty.lift1_eq fc fm t
theorem ty_lift2 (fc fm) (l r : Ty) :
    Ty.lift2 fc fm l r = (fc l.corr r.corr).map (fun c => ⟨c, fm l.mall r.mall⟩) :=
  Ty.lift2_eq fc fm l r

/-! ## The `c:` exception is unreachable -/
theorem K_never_zero_arg {c : Corr} (h : Reach c) : c.kz = false := Reach.K_not_zero h
/-- hence `c:` is exact on every derivable child -/
theorem corr_c_reachable {x : Corr} (h : Reach x) :
    eqC (Corr.castCheck x) (C.wrapC x.toSpec) = true := by
  have := corr_c x
  have hk : x.kz = false := K_never_zero_arg h
  simp only [Corr.kz] at hk
  simpa [hk] using this

/-! ## `sanity_checks` (the predicate only: no theorem here or elsewhere speaks of it) -/
/-- what `Type::sanity_checks` + `Correctness::sanity_checks` assert -/
def sane (t : Ty) : Bool :=
  (!t.corr.dissat || t.mall.dissat != .none)
  && (t.mall.dissat == .none || t.corr.base != .V)
  && (t.mall.signed || t.corr.base != .K)
  && (t.mall.nonMall || t.corr.input != .zero)
  && (match t.corr.base with
      | .B => true
      | .K => t.corr.unit
      | .V => !t.corr.unit && !t.corr.dissat
      | .W => t.corr.input != .oneNonZero && t.corr.input != .anyNonZero)

/-- the deliberate deviations from exact equality, each proved above in its direction -/
def conservativeDeviations : List String :=
  ["d: under Tapscript — the specification grants u, the library does not (corr_d_tap)",
   "c: — the specification grants s unconditionally, the library copies the child's s " ++
   "(mall_c; exact whenever the child is s, which every K type is: mall_c_exact_on_signed)"]

/-! ## Non-vacuity: the rules return `some` on real rows; the guard of `mall_thresh` on one list -/
example : Corr.andOr Corr.multi Corr.pkK Corr.pkH = some ⟨.K, .any, true, true⟩ := by decide
example : Corr.orD Corr.multi Corr.time = some ⟨.B, .any, false, false⟩ := by decide
example : Mall.threshold 2 [Mall.pkK, Mall.hash, Mall.pkK] = ⟨.unknown, true, false⟩ := by decide
example : (2 : Nat) ≤ [Mall.pkK, Mall.hash, Mall.pkK].length := by decide
example : Corr.threshold 2 [Corr.FALSE, ⟨.W, .any, true, true⟩] = some ⟨.B, .any, true, true⟩ := by
  decide

end MsVerif.C05
