/-
C16 — Descriptors map to the standard output scripts, addresses and derived keys.

Quantification: T1, T3, T4, T5 are for EVERY descriptor shape `d : Desc` / `d : KDesc _` (all wrappers of this
version, any miniscript, any tap tree), T2 for `sortedmulti` / `sortedmulti_a` (top level, anywhere inside a miniscript,
under `wsh` / `sh` / `sh(wsh)`, as a `tr` leaf); every key environment `P.env` and every pair of hash
functions `P.H` of the standard digest sizes (hence real SHA256 / HASH160); every network; every
derivation index `i : Nat`; every key form (`single`, `xpub` with any origin / path /
wildcard / hardened wildcard, `multi` with any number of alternatives); every key order.
Hypotheses: `P.H.WellSized` (digest sizes); for `tr`, `TrKeySized P` / `hk` (an x-only output key is 32 bytes) and `hP` (the
output key is that of the C15 spend info; the curve tweak is the only oracle); T2 `SortKeyFaithful` (the sort key determines
the pushed bytes: `sort_key_of_the_code_is_faithful`; `satisfier_perm_invariant`: distinct sort keys); T4 `hne` (a multipath
key has ≥ 1 alternative, `DerivPaths::new`); T5 `hw` (a wildcard is present; `find_without_wildcard` is the other case).

Model ↔ Rust (Model/Descriptor.lean, Model/Keys.lean):
  Desc.scriptPubkey / address / explicitScript / scriptCode / unsignedScriptSig
      ↔ Descriptor::{script_pubkey, address, explicit_script, script_code, unsigned_script_sig}
  encode (.sortedMulti ..), sortKeys ↔ Terminal::encode + Threshold::into_sorted_bip67 (stable sort)
  KDesc.{atDerivationIndex, deriveAtIndex, intoDefinite, derivedDescriptor,
         findDerivationIndexForSpk, intoSingleDescriptors} ↔ the methods of the same names
Specification: Spec/Outputs.lean (byte templates), Spec/Address.lean + Spec/Base58.lean +
  Spec/Bech32m.lean (address strings), Spec/Bip341.lean (tagged hashes), Spec/Bip32.lean, Spec/KeyExpr.lean
  (`keyAt`: the key a key expression denotes at index i; `selectPath`: BIP389 alternative j).

The model follows /repo with two `fix:` commits (DESIGN.md §9.3): sortedmulti
orders the compressed and the uncompressed form of one point deterministically (2f8a2bb0; T2
holds for every key list), `into_single_descriptors` rejects every arity mismatch (34f096f6; T4).
Open: the segwit address-string round trip (`segwit_address_roundtrip_full` below is a `def`; checked by `#guard` and `J addrspec`).
-/
import MsVerif.Lemmas.SortKeys
import MsVerif.Lemmas.OutputsSer
import MsVerif.Lemmas.DescKeys
import MsVerif.Lemmas.SortedAnywhere
import MsVerif.Lemmas.Base58
import MsVerif.Thm.C15

namespace MsVerif.C16
open MsVerif MsVerif.Script MsVerif.Outputs MsVerif.Desc MsVerif.Keys MsVerif.Bip32 MsVerif.KeyExpr
  MsVerif.Sorted

/-- the taproot output key is 32 bytes (x-only key) -/
def TrKeySized (P : Params) : Prop := ∀ ik leaves, (P.trOutputKey ik leaves).length = 32

/-! ## T1 — scriptPubKey, explicit script, script code, unsigned scriptSig, address -/

/-- T1: the scriptPubKey of every descriptor is the standard byte template of its output type
applied to what it commits to -/
theorem spk_is_template (P : Params) (hH : P.H.WellSized) (hk : TrKeySized P) (d : Desc) :
    d.scriptPubkey P = (d.toOutput P).scriptPubKey P.H := by
  cases d with
  | tr ik leaves => exact ser_witness1_32 _ (hk _ _)
  | _ => exact scriptPubkey_eq_template P hH _ fun _ _ h => nomatch h

/-- T1: `explicit_script` is the specification's explicit script (`Err` exactly for taproot) … -/
theorem explicit_script_is_spec (P : Params) (hH : P.H.WellSized) (d : Desc) :
    d.explicitScript P = (d.toOutput P).explicitScript P.H := by
  cases d with
  | pkh pk => exact congrArg some (pkhScriptPubkey_eq P hH pk)
  | wpkh pk => exact congrArg some (wpkhScriptPubkey_eq P hH pk)
  | sh inner =>
    cases inner with
    | wpkh pk => exact congrArg some (wpkhScriptPubkey_eq P hH pk)
    | _ => rfl
  | _ => rfl

/-- … and the scriptPubKey is the type's wrapping of the explicit script: identity for
bare/pkh/wpkh, P2SH of the redeem script, P2WSH of the witness script, P2SH-P2WSH -/
theorem explicit_script_consistent (P : Params) (hH : P.H.WellSized) (hk : TrKeySized P) (d : Desc)
    (s : Bytes) (hs : d.explicitScript P = some s) :
    d.scriptPubkey P = (d.toOutput P).wrap P.H s := by
  rw [spk_is_template P hH hk d]
  rw [explicit_script_is_spec P hH d] at hs
  revert hs
  cases d with
  | sh inner => cases inner <;> (simp only [Desc.toOutput, Output.explicitScript, Output.scriptPubKey,
      Output.wrap, Option.some.injEq]; rintro rfl; rfl)
  | _ => simp only [Desc.toOutput, Output.explicitScript, Output.scriptPubKey, Output.wrap,
      Option.some.injEq, reduceCtorEq, false_implies] <;> (try (rintro rfl; rfl))

/-- T1: `script_code` is the BIP143 / legacy script code of the output type -/
theorem script_code_is_bip143 (P : Params) (hH : P.H.WellSized) (d : Desc) :
    d.scriptCode P = (d.toOutput P).scriptCode P.H := by
  cases d with
  | pkh pk | wpkh pk => exact congrArg some (pkhScriptPubkey_eq P hH pk)
  | sh inner =>
    cases inner with
    | wpkh pk => exact congrArg some (pkhScriptPubkey_eq P hH pk)
    | _ => rfl
  | _ => rfl

/-- T1: the scriptSig of an unsigned input is the single push of the redeem script for nested
segwit and empty otherwise -/
theorem unsigned_script_sig_correct (P : Params) (hH : P.H.WellSized) (d : Desc) :
    d.unsignedScriptSig P = (d.toOutput P).unsignedScriptSig P.H := by
  cases d with
  | sh inner =>
    cases inner with
    | ms ms => rfl
    | wpkh pk =>
      simp only [Desc.unsignedScriptSig, shUnsignedScriptSig, Desc.toOutput, Output.unsignedScriptSig,
        wpkhScriptPubkey_eq P hH, pushSlice_p2wpkh _ (hH.hash160_len _)]
    | wsh ms =>
      simp only [Desc.unsignedScriptSig, shUnsignedScriptSig, wshInnerScript, Desc.toOutput,
        Output.unsignedScriptSig, toP2wsh_eq P hH, pushSlice_p2wsh _ (hH.sha256_len _)]
  | _ => rfl

/-- T1: on EVERY network the address exists exactly for the non-bare types, carries that
network, and its scriptPubKey is the descriptor's scriptPubKey -/
theorem address_agrees_on_every_network (P : Params) (net : Network) (d : Desc) :
    (d.address P net).map (fun a => (a.1, a.2.scriptPubkey)) =
      if (d.toOutput P).hasAddress then some (net, d.scriptPubkey P) else none := by
  cases d with
  | sh inner => cases inner <;> rfl
  | _ => rfl

/-- T1: the accessors agree with each other — the script code is the explicit script except
for (nested) P2WPKH where it is the P2PKH script of the same key -/
theorem script_code_vs_explicit (P : Params) (d : Desc) :
    (match d with
     | .wpkh pk | .sh (.wpkh pk) => d.scriptCode P = some (pkhScriptPubkey P pk)
     | _ => d.scriptCode P = d.explicitScript P) := by
  cases d with
  | sh inner => cases inner <;> rfl
  | _ => rfl

example : (Desc.sh (.wpkh 7)).unsignedScriptSig ⟨⟨fun _ => List.replicate 32 0, fun _ => List.replicate 20 7⟩,
    ⟨fun _ => [2], fun _ => [], fun _ => [], fun _ => [], fun _ _ => []⟩, fun _ _ => []⟩
    = 0x16 :: 0x00 :: 0x14 :: List.replicate 20 7 := by decide +kernel

/-! ## T1 — address STRINGS on every network, and the real hash functions -/

/-- the hypothesis `Hashes.WellSized` of T1 holds for the real SHA256 / HASH160 (Spec/Hash.lean) -/
theorem real_hashes_well_sized : (⟨Hash.sha256, Hash.hash160⟩ : Hashes).WellSized :=
  ⟨Address.sha256_length, Address.hash160_length⟩

/-- T1: on every network (mainnet, testnet3, testnet4, signet, regtest) the address string
`Descriptor::address(net).to_string()` is the standard address of the output the descriptor
commits to: Base58Check with the network's version byte for pkh / sh / sh(wpkh) / sh(wsh),
Bech32 (v0) for wpkh / wsh, Bech32m (v1) for tr, none for bare -/
theorem address_string_is_standard (P : Params) (hH : P.H.WellSized) (net : Network) (d : Desc) :
    d.addressString P net = Address.addressOfOutput P.H net.toSpec (d.toOutput P) := by
  cases d with
  | sh inner =>
    cases inner with
    | ms ms => rfl
    | wpkh pk =>
      exact congrArg (fun s => some (Address.p2shString net.toSpec (P.H.hash160 s))) (wpkhScriptPubkey_eq P hH pk)
    | wsh ms => exact congrArg (fun s => some (Address.p2shString net.toSpec (P.H.hash160 s))) (toP2wsh_eq P hH _)
  | _ => rfl

/-- T1: every legacy address string DECODES (Base58 alphabet, checksum = first four bytes of
SHA256d, version byte) to the network class, the kind and a 20-byte hash whose standard template
is the descriptor's scriptPubKey — string, payload and scriptPubKey agree on every network -/
theorem legacy_address_roundtrip (P : Params) (hH : P.H.WellSized) (hk : TrKeySized P)
    (net : Network) (d : Desc) :
    match d.toOutput P with
    | .pkh _ => ∃ s h, d.addressString P net = some s ∧
        Address.decodeLegacy s = some (net.toSpec.cls, .p2pkh, h) ∧ d.scriptPubkey P = p2pkh h
    | .sh _ | .shWpkh _ | .shWsh _ => ∃ s h, d.addressString P net = some s ∧
        Address.decodeLegacy s = some (net.toSpec.cls, .p2sh, h) ∧ d.scriptPubkey P = p2sh h
    | _ => True := by
  have hs := address_string_is_standard P hH net d
  have hspk := spk_is_template P hH hk d
  revert hs hspk
  cases d with
  | sh inner =>
    cases inner <;>
      (simp only [Desc.toOutput, Address.addressOfOutput, Output.scriptPubKey]
       intro hs hspk
       exact ⟨_, _, hs, Address.decodeLegacy_p2sh _ _ (hH.hash160_len _), hspk⟩)
  | pkh pk =>
    simp only [Desc.toOutput, Address.addressOfOutput, Output.scriptPubKey]
    intro hs hspk
    exact ⟨_, _, hs, Address.decodeLegacy_p2pkh _ _ (hH.hash160_len _), hspk⟩
  | _ => simp [Desc.toOutput]

/-- the corresponding statement for segwit addresses — the Bech32 / Bech32m string of every
witness program decodes back (`Address.decodeSegwit`: charset, checksum, regrouping, padding) —
is OPEN as a theorem: it needs the BCH linearity of `polymod` (the checksum of an own encoding
verifies) and the inverse of the 8↔5 bit regrouping.  It is checked by `#guard` on the BIP173 /
BIP350 vectors and on all five networks (Spec/Address.lean), and on every run the library's
address strings are decoded by the Lean decoder (`J addrspec`). -/
def segwit_address_roundtrip_full : Prop :=
  ∀ (net : Address.Net) (witver : Nat) (prog : List UInt8), witver ≤ 16 →
    (2 ≤ prog.length ∧ prog.length ≤ 40) → (witver = 0 → prog.length = 20 ∨ prog.length = 32) →
    Address.decodeSegwit (Address.segwitString net witver prog) = some (net.hrp, witver, prog)

/-! ## T1 — taproot: the scriptPubKey commits to the Merkle root of C15 -/

/-- T1/tr: for every tap tree `t` of miniscripts the scriptPubKey of `tr(ik, t)` is
`51 20 ‖ tweak(ik, root)` where `root` is the BIP341 Merkle root — real tagged SHA-256
(`Bip341.alg`) — of the tree of the leaves' scripts, exactly the root property C15 proves
`TrSpendInfo::from_tr` to compute; for `tr(ik)` it is the tweak by no root.  The elliptic-curve
tweak is the only oracle (`hP`: the output key parameter is `spend_info().output_key()` of the
C15 model; `hk`: x-only keys are 32 bytes). -/
theorem tr_spk_commits_to_merkle_root (P : Params) (tweak : Bytes → Option Bytes → Bytes)
    (hP : P.TrKeyFromSpendInfo Bip341.alg tweak) (hk : ∀ ik r, (tweak ik r).length = 32)
    (ik : Key) (t : Spec.Tree Ms) :
    (Desc.tr ik (Spec.Tree.depths t)).scriptPubkey P =
      p2tr (tweak (P.env.ser ik)
        (some (Spec.Tree.root Bip341.alg (treeMap (encodeBytes P.env .tap) t)))) ∧
    (Desc.tr ik []).scriptPubkey P = p2tr (tweak (P.env.ser ik) none) := by
  constructor
  · have h := (C15.outputKey_commits Bip341.alg tweak (P.env.ser ik)
      (treeMap (encodeBytes P.env .tap) t)).1
    rw [← trLeafScripts_depths] at h
    obtain ⟨si, hsi, hkey⟩ := Option.map_eq_some_iff.mp h
    have := hP ik (Spec.Tree.depths t) si (by
      simp only [trSpendInfo, depths_isEmpty, Bool.false_eq_true, if_false]; exact hsi)
    simp only [Desc.scriptPubkey, trScriptPubkey, this, hkey]
    exact ser_witness1_32 _ (hk _ _)
  · have h := (C15.outputKey_commits Bip341.alg tweak (P.env.ser ik)
      (Spec.Tree.leaf ([] : Bytes))).2
    obtain ⟨si, hsi, hkey⟩ := Option.map_eq_some_iff.mp h
    have := hP ik [] si (by simpa [trSpendInfo] using hsi)
    simp only [trLeafScripts, List.map_nil] at this
    simp only [Desc.scriptPubkey, trScriptPubkey, trLeafScripts, List.map_nil, this, hkey]
    exact ser_witness1_32 _ (hk _ _)

/-- T1/tr: scriptPubKey, script tree and control blocks agree with each other: for a tree of
height ≤ 128, every control block the spend info yields (C15) makes BIP341's script-path
computation arrive at the SAME root the scriptPubKey's output key is tweaked with -/
theorem tr_spk_and_control_blocks_agree (P : Params) (tweak : Bytes → Option Bytes → Bytes)
    (hP : P.TrKeyFromSpendInfo Bip341.alg tweak) (hk : ∀ ik r, (tweak ik r).length = 32)
    (ik : Key) (t : Spec.Tree Ms) (ht : Spec.Tree.height t ≤ 128) :
    ∃ root items,
      (Desc.tr ik (Spec.Tree.depths t)).scriptPubkey P = p2tr (tweak (P.env.ser ik) (some root)) ∧
      Tap.spendLeaves Bip341.alg (trLeafScripts P (Spec.Tree.depths t)) = some items ∧
      ∀ it ∈ items, ∀ (odd : Bool) (ikb : Bytes),
        Bip341.committedRoot ⟨Bip341.tapscriptVersion, odd, ikb, it.merkleBranch⟩ it.leaf = root := by
  obtain ⟨items, h1, _, h3⟩ := C15.controlBlock_verifies_bip341
    (treeMap (encodeBytes P.env .tap) t) (by rw [height_treeMap]; exact ht)
  refine ⟨_, items, (tr_spk_commits_to_merkle_root P tweak hP hk ik t).1, ?_, ?_⟩
  · rw [trLeafScripts_depths]; exact h1
  · intro it hit odd ikb; exact (h3 it hit odd ikb).1

/-- the hypothesis `TrKeyFromSpendInfo` is satisfiable: take the output key FROM the model -/
example (H : Hashes) (env : KeyEnv) (tweak : Bytes → Option Bytes → Bytes) :
    ∃ P : Params, P.H = H ∧ P.env = env ∧ P.TrKeyFromSpendInfo Bip341.alg tweak := by
  let f : Key → List (Nat × Bytes) → Bytes := fun ik scripts =>
    match Tap.SpendInfo.fromTr Bip341.alg tweak (env.ser ik)
        (if scripts.isEmpty then none else some scripts) with
    | some si => si.outputKey
    | none => []
  refine ⟨⟨H, env, f⟩, rfl, rfl, ?_⟩
  intro ik leaves si hsi
  have hemp : (trLeafScripts ⟨H, env, f⟩ leaves).isEmpty = leaves.isEmpty := by
    simp [trLeafScripts]
  simp only [trSpendInfo] at hsi
  show f ik (trLeafScripts ⟨H, env, f⟩ leaves) = si.outputKey
  simp only [f, hemp, hsi]

/-- a two-leaf tree `{and_v(v:pk(1),older(144)), pk(2)}` of height 1 -/
example : Spec.Tree.height (Spec.Tree.node
    (.leaf (Ms.andV (.verify (.check (.pkK 1))) (.older 144))) (.leaf (Ms.check (.pkK 2)))) ≤ 128 := by
  decide +kernel

/-! ## T2 — sorted multisig does not depend on the listing order -/

/-- T2: in every key environment whose sort key determines the pushed
serialisation (`SortKeyFaithful`; the real ECDSA key `(compressed encoding, !compressed)` and the
x-only key do, see `sort_key_of_the_code_is_faithful`) the script of `sortedmulti(k, ks)` is
invariant under EVERY permutation of EVERY key list `ks` — repeated keys and the same point in
compressed and uncompressed form included -/
theorem sortedmulti_perm_invariant (env : KeyEnv) (hf : SortKeyFaithful env) (ctx : Ctx) (k : Nat)
    (ks ks' : List Key) (hp : ks.Perm ks') :
    encode env ctx (.sortedMulti k ks) = encode env ctx (.sortedMulti k ks') := by
  simp only [encode]
  have h := sortKeys_map_perm_invariant env (fun pk => Op.push (env.ser pk)) ks ks' hp
    (fun x _ y _ hxy => by simp only [hf x y hxy])
  rw [h, hp.length_eq]

theorem sortedmulti_a_perm_invariant (env : KeyEnv) (hf : SortKeyFaithful env) (ctx : Ctx) (k : Nat)
    (ks ks' : List Key) (hp : ks.Perm ks') :
    encode env ctx (.sortedMultiA k ks) = encode env ctx (.sortedMultiA k ks') := by
  simp only [encode, encodeMultiA_eq]
  rw [sortKeys_map_perm_invariant env env.ser ks ks' hp (fun x _ y _ hxy => hf x y hxy)]

/-- the sort keys of the code satisfy the hypothesis of T2: for ECDSA keys (every key a curve
point pushed compressed or uncompressed, sort key = `bip67_sort_key` = compressed encoding then
`!compressed`; the compressed encoding identifies the point), and for x-only keys (sort key = the
pushed 32 bytes) -/
theorem sort_key_of_the_code_is_faithful (env : KeyEnv) :
    (∀ (point : Key → Nat) (compressed : Key → Bool) (serC serU : Nat → Bytes),
      (∀ p q, serC p = serC q → p = q) →
      (∀ k, env.ser k = if compressed k then serC (point k) else serU (point k)) →
      (∀ k, env.sortKey k = bip67SortKey (serC (point k)) (compressed k)) → SortKeyFaithful env) ∧
    ((∀ k, env.sortKey k = env.ser k) → SortKeyFaithful env) := by
  refine ⟨fun point compressed serC serU hinj hser hsort x y h => ?_, fun hsort x y h => ?_⟩
  · -- the compressed encoding identifies the point, the last byte the form
    rw [hsort x, hsort y] at h
    simp only [bip67SortKey] at h
    have h' := List.append_inj' h rfl
    have hp : point x = point y := hinj _ _ h'.1
    have hc : compressed x = compressed y := by
      have := h'.2
      cases hx : compressed x <;> cases hy : compressed y <;> simp [hx, hy] at this ⊢
    rw [hser x, hser y, hp, hc]
  · rw [hsort x, hsort y] at h
    exact h

/-- the byte string standing for `bip67_sort_key`'s tuple orders like the tuple: by the
compressed encoding, and compressed before uncompressed on a tie -/
theorem bip67_sort_key_order (a b : Bytes) (ca cb : Bool) (h : a.length = b.length) :
    bytesLe (bip67SortKey a ca) (bip67SortKey b cb) = true ↔
      (a ≠ b ∧ bytesLe a b = true) ∨ (a = b ∧ (ca = true ∨ cb = false)) := by
  induction a generalizing b with
  | nil =>
    cases b with
    | nil => cases ca <;> cases cb <;> simp [bip67SortKey, bytesLe]
    | cons _ _ => simp at h
  | cons x xs ih =>
    cases b with
    | nil => simp at h
    | cons y ys =>
      have ih := ih ys (by simpa using h)
      simp only [bip67SortKey] at ih
      simp only [bip67SortKey, List.cons_append, bytesLe, Bool.or_eq_true, Bool.and_eq_true,
        decide_eq_true_eq, beq_iff_eq, ih, List.cons.injEq, ne_eq, not_and]
      by_cases hxy : x = y
      · subst hxy
        simp [UInt8.lt_irrefl]
      · simp [hxy]

/-- T2: the keys are pushed in sort-key order: the script is that of a plain `multi` over the
sorted list, which is sorted (ascending sort keys) and a permutation of the input -/
theorem sortedmulti_is_multi_of_sorted (env : KeyEnv) (ctx : Ctx) (k : Nat) (ks : List Key) :
    encode env ctx (.sortedMulti k ks) = encode env ctx (.multi k (sortKeys env ks)) ∧
    encode env ctx (.sortedMultiA k ks) = encode env ctx (.multiA k (sortKeys env ks)) ∧
    (sortKeys env ks).Perm ks ∧
    (sortKeys env ks).Pairwise (fun a b => bytesLe (env.sortKey a) (env.sortKey b) = true) := by
  refine ⟨?_, ?_, sortKeys_perm env ks, sortKeys_sorted env ks⟩
  · simp only [encode, sortKeys_length]
  · simp only [encode]

/-- T2: a sorted multisig ANYWHERE inside a miniscript (`sortedmulti` is a fragment in this
version: `wsh(and_v(v:sortedmulti(..),pk(K)))` is accepted): re-listing its keys in another
order at every occurrence leaves the whole script unchanged -/
theorem sortedmulti_anywhere_perm_invariant (env : KeyEnv) (hf : SortKeyFaithful env) (ctx : Ctx)
    (m : Ms) (k : Nat) (ks ks' : List Key) (hp : ks.Perm ks') :
    encode env ctx (replaceMs (.sortedMulti k ks) (.sortedMulti k ks') m) = encode env ctx m ∧
    encode env ctx (replaceMs (.sortedMultiA k ks) (.sortedMultiA k ks') m) = encode env ctx m :=
  ⟨encode_replaceMs env ctx _ _ (sortedmulti_perm_invariant env hf ctx k ks ks' hp) m,
   encode_replaceMs env ctx _ _ (sortedmulti_a_perm_invariant env hf ctx k ks ks' hp) m⟩

example : replaceMs (.sortedMulti 1 [1, 2]) (.sortedMulti 1 [2, 1])
    (.andV (.verify (.sortedMulti 1 [1, 2])) (.check (.pkK 3))) =
    .andV (.verify (.sortedMulti 1 [2, 1])) (.check (.pkK 3)) := by decide +kernel

/-- atoms 5 and 105 are ONE point listed
compressed and uncompressed (`sh(sortedmulti(1,A,A_uncompressed))`).  With the sort key of the
code — compressed encoding `[9]` for both, then the flag — both listing orders give the same
script, compressed key first. -/
example :
    let env : KeyEnv := ⟨fun k => [UInt8.ofNat k], fun k => bip67SortKey [9] (decide (k < 100)),
      fun _ => [], fun _ => [], fun _ _ => []⟩
    encode env .legacy (.sortedMulti 1 [5, 105]) = encode env .legacy (.sortedMulti 1 [105, 5]) ∧
    encode env .legacy (.sortedMulti 1 [105, 5]) =
      [.small 1, .push [5], .push [105], .small 2, .code .checkmultisig] := by decide +kernel

/-- why the flag is part of the sort key: with the compressed encoding alone as sort key the same two
atoms compare equal, the stable sort keeps the listing order and the script depends on it; such
an environment is not `SortKeyFaithful` -/
theorem sort_key_without_flag_is_order_dependent :
    ∃ env : KeyEnv, ¬ SortKeyFaithful env ∧
      encode env .legacy (.sortedMulti 1 [5, 105]) ≠ encode env .legacy (.sortedMulti 1 [105, 5]) := by
  refine ⟨⟨fun k => [UInt8.ofNat k], fun _ => [9], fun _ => [], fun _ => [], fun _ _ => []⟩, ?_, by decide⟩
  intro h
  have := h 5 105 rfl
  revert this
  decide +kernel

/-- T2 at descriptor level: every wrapper of a sorted multisig has an order-independent
scriptPubKey (`wsh`, `sh`, `sh(wsh)`), for all hash functions -/
theorem sortedmulti_spk_perm_invariant (P : Params) (hf : SortKeyFaithful P.env) (k : Nat)
    (ks ks' : List Key) (hp : ks.Perm ks') :
    (Desc.wsh (.sortedMulti k ks)).scriptPubkey P = (Desc.wsh (.sortedMulti k ks')).scriptPubkey P ∧
    (Desc.sh (.ms (.sortedMulti k ks))).scriptPubkey P = (Desc.sh (.ms (.sortedMulti k ks'))).scriptPubkey P ∧
    (Desc.sh (.wsh (.sortedMulti k ks))).scriptPubkey P = (Desc.sh (.wsh (.sortedMulti k ks'))).scriptPubkey P := by
  simp only [Desc.scriptPubkey, wshScriptPubkey, wshInnerScript, shScriptPubkey, encodeBytes,
    sortedmulti_perm_invariant P.env hf _ k ks ks' hp, and_self]

/-- T2 in taproot: a `sortedmulti_a` leaf anywhere in the tree -/
theorem sortedmulti_a_tr_spk_perm_invariant (P : Params) (hf : SortKeyFaithful P.env) (ik : Key)
    (pre post : List (Nat × Ms)) (depth k : Nat) (ks ks' : List Key) (hp : ks.Perm ks') :
    (Desc.tr ik (pre ++ (depth, .sortedMultiA k ks) :: post)).scriptPubkey P =
    (Desc.tr ik (pre ++ (depth, .sortedMultiA k ks') :: post)).scriptPubkey P := by
  simp only [Desc.scriptPubkey, trScriptPubkey, trLeafScripts, List.map_append, List.map_cons,
    encodeBytes, sortedmulti_a_perm_invariant P.env hf _ k ks ks' hp]

/-- T2, satisfier: signatures are chosen exactly as for `multi` over the SORTED key list, so
they line up with the keys of the script -/
theorem satisfier_follows_sorted_order (c : SatCfg) (k : Nat) (ks : List Key) :
    satDissat c (.sortedMulti k ks) = satDissat c (.multi k (sortKeys c.env ks)) ∧
    satDissat c (.sortedMultiA k ks) = satDissat c (.multiA k (sortKeys c.env ks)) := by
  constructor <;> simp only [satDissat, sortKeys'_eq]

/-- T2, satisfier: with pairwise distinct sort keys the satisfaction does not depend on the
listing order either -/
theorem satisfier_perm_invariant (c : SatCfg) (k : Nat) (ks ks' : List Key) (hp : ks.Perm ks')
    (hinj : ∀ x ∈ ks, ∀ y ∈ ks, c.env.sortKey x = c.env.sortKey y → x = y) :
    satDissat c (.sortedMulti k ks) = satDissat c (.sortedMulti k ks') ∧
    satDissat c (.sortedMultiA k ks) = satDissat c (.sortedMultiA k ks') := by
  constructor <;>
    simp only [satDissat, sortKeys'_eq, sortKeys_perm_invariant c.env ks ks' hp hinj]

example : encode ⟨fun k => [UInt8.ofNat k], fun k => [UInt8.ofNat (255 - k)], fun _ => [], fun _ => [], fun _ _ => []⟩
    .segwitv0 (.sortedMulti 2 [3, 1, 2]) =
    [.small 2, .push [3], .push [2], .push [1], .small 3, .code .checkmultisig] := by decide +kernel

/-! ## T3 — derivation commutes with the descriptor structure -/

variable {X P : Type}

/-- T3 (key level): `at_derivation_index` + `derive_public_key` yield exactly the key the
expression denotes at `i` by independent BIP32 public derivation (`keyAt`: fold of `CKDpub` over
`path ++ [i if wildcard]`), never hit an `unreachable!()`, and fail exactly when there is no such
key, with `Multipath` for a multipath key and `HardenedStep` otherwise -/
theorem key_derivation_is_bip32 (ckd : X → Nat → X) (k : DPK X P) (i : Nat) :
    match k.atDerivationIndex i with
    | .ok k' => k'.IsDefinite ∧ keyAt ckd k i = some (derivePublicKey ckd k') ∧
        derivePublicKey ckd k' ≠ .panic
    | .error e => keyAt ckd k i = none ∧ e = keyErrAt k := by
  cases k with
  | single o key =>
    simp [DPK.atDerivationIndex, definiteNew, DPK.hasWildcard, DPK.hasHardenedStep, DPK.isMultipath,
      DPK.IsDefinite, keyAt, derivePublicKey]
  | multi o x paths wc =>
    simp [DPK.atDerivationIndex, keyAt, keyErrAt, DPK.isMultipath]
  | xpub o x path wc =>
    have key : ∀ p : List Child,
        match definiteNew (DPK.xpub (P := P) o x p .none) with
        | .ok k' => k'.IsDefinite ∧ (derivePath ckd x p).map Derived.ofXpub = some (derivePublicKey ckd k') ∧
            derivePublicKey ckd k' ≠ .panic
        | .error e => (derivePath ckd x p).map (Derived.ofXpub (P := P)) = none ∧ e = KeyErr.hardenedStep := by
      intro p
      by_cases hh : p.any Child.isHardened = true
      · have hn : derivePath ckd x p = none := by
          simp [derivePath, (normalIndices_none_iff p).mpr hh]
        simp [definiteNew, DPK.hasWildcard, DPK.hasHardenedStep, hh, hn]
      · have hs := derivePath_isSome_iff ckd x p
        simp only [hh, Bool.not_false] at hs
        obtain ⟨y, hy⟩ := Option.isSome_iff_exists.mp hs
        simp [definiteNew, DPK.hasWildcard, DPK.hasHardenedStep, DPK.isMultipath, hh, DPK.IsDefinite,
          derivePublicKey, derivePub_eq_derivePath, hy]
    cases wc with
    | none =>
      simpa [DPK.atDerivationIndex, keyAt, keyErrAt, DPK.isMultipath] using key path
    | unhardened =>
      by_cases hi : i < indexLimit
      · simpa [DPK.atDerivationIndex, childFromIdx, hi, keyAt, keyErrAt, DPK.isMultipath]
          using key (path ++ [.normal i])
      · simp [DPK.atDerivationIndex, childFromIdx, hi, keyAt, keyErrAt, DPK.isMultipath]
    | hardened =>
      by_cases hi : i < indexLimit
      · simp [DPK.atDerivationIndex, childFromIdx, hi, keyAt, keyErrAt, DPK.isMultipath, definiteNew,
          DPK.hasWildcard, DPK.hasHardenedStep, Child.isHardened]
      · simp [DPK.atDerivationIndex, childFromIdx, hi, keyAt, keyErrAt, DPK.isMultipath]

theorem atDerivationIndex_toOption (ckd : X → Nat → X) (k : DPK X P) (i : Nat) :
    ((k.atDerivationIndex i).map (derivePublicKey ckd)).toOption = keyAt ckd k i := by
  have h := key_derivation_is_bip32 ckd k i
  cases hk : k.atDerivationIndex i with
  | ok k' => simp only [hk] at h; simp [Except.map, Except.toOption, h.2.1]
  | error e => simp only [hk] at h; simp [Except.map, Except.toOption, h.1]

theorem atDerivationIndex_ok_iff (ckd : X → Nat → X) (k : DPK X P) (i : Nat) :
    (∃ r, k.atDerivationIndex i = .ok r) ↔ (keyAt ckd k i).isSome := by
  have h := key_derivation_is_bip32 ckd k i
  cases hk : k.atDerivationIndex i with
  | ok k' => simp only [hk] at h; simp [h.2.1]
  | error e => simp only [hk] at h; simp [h.1]

theorem atDerivationIndex_error_iff (ckd : X → Nat → X) (k : DPK X P) (i : Nat) (e : KeyErr) :
    k.atDerivationIndex i = .error e ↔ keyAt ckd k i = none ∧ e = keyErrAt k := by
  have h := key_derivation_is_bip32 ckd k i
  cases hk : k.atDerivationIndex i with
  | ok k' => simp only [hk] at h; simp [h.2.1]
  | error e' =>
    simp only [hk] at h
    simp only [Except.error.injEq, h.1, true_and]
    rw [h.2]
    exact eq_comm

/-- T3 (key level): the exact failure condition of public derivation at index `i` —
multipath key, a hardened step in the path, a hardened wildcard, or a wildcard with `i ≥ 2³¹` -/
theorem key_derivation_fails_iff (ckd : X → Nat → X) (k : DPK X P) (i : Nat) :
    (∃ e, k.atDerivationIndex i = .error e) ↔
      (k.isMultipath = true ∨ k.hasHardenedStep = true ∨
        (∃ o x p, k = .xpub o x p .hardened) ∨ (k.hasWildcard = true ∧ indexLimit ≤ i)) := by
  -- the negation of the guards of `keyAt_isSome_iff`
  have h : (∃ e, k.atDerivationIndex i = .error e) ↔ ¬ (keyAt ckd k i).isSome := by
    rw [Bool.not_eq_true, Option.isSome_eq_false_iff, Option.isNone_iff_eq_none]
    exact ⟨fun ⟨e, he⟩ => ((atDerivationIndex_error_iff ckd k i e).mp he).1,
      fun hn => ⟨_, (atDerivationIndex_error_iff ckd k i _).mpr ⟨hn, rfl⟩⟩⟩
  rw [h, keyAt_isSome_iff, PubliclyDerivableAt]
  simp only [Classical.not_and_iff_not_or_not, Bool.not_eq_false, Classical.not_forall, ne_eq,
    Classical.not_not, exists_prop, Nat.not_lt]

/-- T3: `derived_descriptor(index)` = the SAME shape with every key replaced by the key it
denotes at `index`, unless some key has no public derivation, in
which case the error is that of the first such key in `translate_pk` order -/
theorem derive_commutes (ckd : X → Nat → X) (d : KDesc (DPK X P)) (i : Nat) :
    d.derivedDescriptor ckd i =
      match firstError (fun k => k.atDerivationIndex i) d.keysTranslate with
      | some e => .error e
      | none => .ok ⟨d.shape, fun a => (d.key a).bind (keyAt ckd · i)⟩ := by
  unfold KDesc.derivedDescriptor KDesc.atDerivationIndex KDesc.translate
  cases firstError (fun k => k.atDerivationIndex i) d.keysTranslate with
  | some e => rfl
  | none =>
    simp only [Except.map, KDesc.derivedDefinite, KDesc.mapKeys]
    congr 2
    funext a
    cases d.key a with
    | none => rfl
    | some k =>
      have h := atDerivationIndex_toOption ckd k i
      cases hk : k.atDerivationIndex i with
      | ok k' => simp [hk, Except.map, Except.toOption] at h ⊢; exact h
      | error e => simp [hk, Except.map, Except.toOption] at h ⊢; exact h

/-- T3: success condition, exact: every key of the descriptor has a key at `index` -/
theorem derive_succeeds_iff (ckd : X → Nat → X) (d : KDesc (DPK X P)) (i : Nat) :
    (∃ r, d.derivedDescriptor ckd i = .ok r) ↔ ∀ k ∈ d.keysPre, (keyAt ckd k i).isSome := by
  have h : (∃ r, d.derivedDescriptor ckd i = .ok r) ↔
      firstError (fun k => k.atDerivationIndex i) d.keysTranslate = none := by
    rw [derive_commutes]
    cases firstError (fun k => k.atDerivationIndex i) d.keysTranslate <;> simp
  rw [h, firstError_none_iff]
  simp only [atDerivationIndex_ok_iff ckd, d.mem_keysTranslate_iff]

/-- T3: when it succeeds, the key standing at every atom of the result is `keyAt` of the key
that stood there — derivation commutes with the descriptor structure -/
theorem derived_keys_are_bip32 (ckd : X → Nat → X) (d : KDesc (DPK X P)) (i : Nat)
    (r : KDesc (Derived X P)) (h : d.derivedDescriptor ckd i = .ok r) :
    r.shape = d.shape ∧ ∀ a k, d.key a = some k → r.key a = keyAt ckd k i := by
  rw [derive_commutes] at h
  split at h
  · cases h
  · cases h
    exact ⟨rfl, fun a k hk => by simp [hk]⟩

/-- T3: the error kind, exact: `Multipath` / `HardenedStep` of the first key (in translate
order) that has no public derivation at `index` -/
theorem derive_error_iff (ckd : X → Nat → X) (d : KDesc (DPK X P)) (i : Nat) (e : KeyErr) :
    d.derivedDescriptor ckd i = .error e ↔
      ∃ pre k post, d.keysTranslate = pre ++ k :: post ∧
        (∀ k' ∈ pre, (keyAt ckd k' i).isSome) ∧ keyAt ckd k i = none ∧ e = keyErrAt k := by
  have h : d.derivedDescriptor ckd i = .error e ↔
      firstError (fun k => k.atDerivationIndex i) d.keysTranslate = some e := by
    rw [derive_commutes]
    cases firstError (fun k => k.atDerivationIndex i) d.keysTranslate <;> simp
  rw [h, firstError_some_iff]
  simp only [atDerivationIndex_ok_iff ckd, atDerivationIndex_error_iff ckd]

/-- T3: `derive_at_index` insists on a wildcard: without one it is `NoWildcard` (`find_derivation_index_for_spk`
then takes `into_definite`: `find_without_wildcard`); with one it is `at_derivation_index` -/
theorem derive_at_index_wildcard_gate (d : KDesc (DPK X P)) (i : Nat) :
    (d.hasWildcard = false → (d.deriveAtIndex i).intoResult = .error .noWildcard) ∧
    (d.hasWildcard = true → (d.deriveAtIndex i).intoResult = d.atDerivationIndex i) := by
  constructor
  · intro h; simp [KDesc.deriveAtIndex, h, DerivationResult.intoResult]
  · intro h
    simp only [KDesc.deriveAtIndex, h, Bool.not_true, Bool.false_eq_true, if_false]
    cases d.atDerivationIndex i <;> rfl

example : keyAt (fun (x : List Nat) i => x ++ [i]) (DPK.xpub (P := Nat) none [] [.normal 0, .normal 1] .unhardened) 7
    = some (.ofXpub [0, 1, 7]) := by decide +kernel

/-- a concrete two-key descriptor `wsh(and_v(v:pk(X/0/*),pk(S5)))` (hypotheses of T3–T5 are
satisfiable): derived at index 7 it is the same shape over `X/0/7` and `S5` -/
example :
    (match (KDesc.mk (Desc.wsh (.andV (.verify (.check (.pkK 0))) (.check (.pkK 1))))
        (fun a => if a = 0 then some (DPK.xpub (P := Nat) none ([] : List Nat) [.normal 0] .unhardened)
                  else if a = 1 then some (.single none 5) else none)).derivedDescriptor
        (fun x i => x ++ [i]) 7 with
     | .ok r => (r.key 0, r.key 1)
     | .error _ => (none, none)) = (some (.ofXpub [0, 7]), some (.single 5)) := by decide +kernel

example :
    (KDesc.mk (Desc.wsh (.check (.pkK 0)))
      (fun a => if a = 0 then some (DPK.xpub (P := Nat) none ([] : List Nat) [] .unhardened) else none)).hasWildcard
      = true := by decide +kernel

/-- T3, guards spelled out: a key has a public derivation at `index` exactly when it is not a
multipath key, has no hardened step, no hardened wildcard and — with a wildcard — `index < 2³¹` -/
theorem key_derivable_iff_guards (ckd : X → Nat → X) (k : DPK X P) (i : Nat) :
    (∃ r, k.atDerivationIndex i = .ok r) ↔ PubliclyDerivableAt k i := by
  rw [atDerivationIndex_ok_iff ckd, keyAt_isSome_iff]

/-- T3: the key a wildcard xpub `[origin]xpub/c₁/…/cₙ/*` (ANY origin, ANY number of steps)
denotes at `index` is `CKDpub` folded over `c₁ … cₙ, index` — the independent BIP32 derivation
along `path ++ [index]` -/
theorem wildcard_xpub_is_ckd_fold (ckd : X → Nat → X) (o : Option Origin) (x : X)
    (path : List Child) (idx : List Nat) (hidx : normalIndices path = some idx) (i : Nat)
    (hi : i < indexLimit) :
    keyAt ckd (DPK.xpub (P := P) o x path .unhardened) i =
      some (.ofXpub ((idx ++ [i]).foldl ckd x)) := by
  have := normalIndices_append_normal i path idx hidx
  simp [keyAt, hi, derivePath, this]

/-- T3 for `derive_at_index` + `derived_descriptor`: whenever `derive_at_index(index)` succeeds,
the descriptor has a wildcard, EVERY key passes the guards (no multipath key, no hardened step,
no hardened wildcard, `index < 2³¹` for wildcard keys), the shape is unchanged, and the public
key derived for every key is the one independent BIP32 derivation gives at the same index -/
theorem derive_at_index_is_independent_bip32 (ckd : X → Nat → X) (d : KDesc (DPK X P)) (i : Nat)
    (r : KDesc (DPK X P)) (h : (d.deriveAtIndex i).intoResult = .ok r) :
    d.hasWildcard = true ∧ r.shape = d.shape ∧
    (∀ k ∈ d.keysPre, PubliclyDerivableAt k i) ∧
    (∀ a k, d.key a = some k → (r.key a).map (derivePublicKey ckd) = keyAt ckd k i) := by
  have hw : d.hasWildcard = true := by
    cases hw : d.hasWildcard with
    | true => rfl
    | false => rw [(derive_at_index_wildcard_gate d i).1 hw] at h; cases h
  rw [(derive_at_index_wildcard_gate d i).2 hw] at h
  have hd : d.derivedDescriptor ckd i = .ok (r.derivedDefinite ckd) := by
    unfold KDesc.derivedDescriptor
    rw [h]
    rfl
  obtain ⟨hs, hk⟩ := derived_keys_are_bip32 ckd d i _ hd
  exact ⟨hw, hs, fun k hk' =>
    (keyAt_isSome_iff ckd k i).mp ((derive_succeeds_iff ckd d i).mp ⟨_, hd⟩ k hk'), hk⟩

/-- non-vacuity with an ORIGIN and a TWO-STEP path: `wsh(and_v(v:pk([f7/44h/0]X/1/2/*),pk(S5)))`.
At index 9 the first key is `CKDpub` folded along 1, 2, 9 (here: the list of indices walked),
the search over `5..12` for that script finds exactly index 9, and index 2³¹ is refused. -/
example :
    let d : KDesc (DPK (List Nat) Nat) :=
      ⟨.wsh (.andV (.verify (.check (.pkK 0))) (.check (.pkK 1))),
       fun a => if a = 0 then some (.xpub (some ⟨0xf7, [.hardened 44, .normal 0]⟩) [] [.normal 1, .normal 2] .unhardened)
                else if a = 1 then some (.single none 5) else none⟩
    let ckd : List Nat → Nat → List Nat := fun x i => x ++ [i]
    let spk : KDesc (Derived (List Nat) Nat) → Bytes := fun c =>
      match c.key 0 with | some (.ofXpub l) => l.map UInt8.ofNat | _ => []
    (match d.derivedDescriptor ckd 9 with
      | .ok r => (r.key 0, r.key 1) | .error _ => (none, none))
        = (some (.ofXpub [1, 2, 9]), some (.single 5)) ∧
    (match d.findDerivationIndexForSpk ckd spk [1, 2, 9] 5 12 with
      | .ok (some (i, c)) => some (i, c.key 0) | _ => none) = some (9, some (.ofXpub [1, 2, 9])) ∧
    (match (d.deriveAtIndex (2 ^ 31)).intoResult with
      | .error e => some e | .ok _ => none) = some .hardenedStep := by
  decide +kernel

/-! ## T4 — multipath split -/

/-- T4: a descriptor without multipath keys splits into itself -/
theorem split_single (d : KDesc (DPK X P)) (h : d.isMultipath = false) :
    d.intoSingleDescriptors = .ok [d] := by
  unfold KDesc.intoSingleDescriptors
  have : d.keysPre.find? DPK.isMultipath = none := by
    rw [List.find?_eq_none]
    intro k hk
    have := List.any_eq_false.mp h k hk
    simpa using this
  simp [this]

theorem find_multipath (d : KDesc (DPK X P)) {k : DPK X P} (hk : k ∈ d.keysPre)
    (hkm : k.isMultipath = true) :
    ∃ o x paths wc, d.keysPre.find? DPK.isMultipath = some (.multi o x paths wc) ∧
      DPK.multi o x paths wc ∈ d.keysPre := by
  cases hf : d.keysPre.find? DPK.isMultipath with
  | none => exact absurd hkm (by simpa using List.find?_eq_none.mp hf k hk)
  | some k0 =>
    have hmulti := List.find?_some hf
    cases k0 with
    | single o key => simp [DPK.isMultipath] at hmulti
    | xpub o x p wc => simp [DPK.isMultipath] at hmulti
    | multi o x paths wc => exact ⟨o, x, paths, wc, rfl, List.mem_of_find?_eq_some hf⟩

/-- T4: when all multipath keys have the same number `n > 0` of alternatives, the result is
exactly the `n` descriptors obtained by selecting alternative `j = 0 … n-1` in every multipath
key (`KDesc.select j`, Lemmas/DescKeys.lean), in this order -/
theorem split_uniform (d : KDesc (DPK X P)) (n : Nat) (hm : d.isMultipath = true) (hn : 0 < n)
    (hall : ∀ k ∈ d.keysPre, ∀ m, arity k = some m → m = n) :
    d.intoSingleDescriptors = .ok ((List.range n).map d.select) := by
  unfold KDesc.intoSingleDescriptors
  obtain ⟨k, hk, hkm⟩ := List.any_eq_true.mp hm
  obtain ⟨o, x, paths, wc, hf, hmem⟩ := find_multipath d hk hkm
  rw [hf]
  have hlen : paths.length = n := hall _ hmem _ rfl
  have hne : paths.isEmpty = false := by
    cases paths with
    | nil => simp at hlen; omega
    | cons _ _ => rfl
  have hany : d.keysPre.any (arityNe paths.length) = false := by
    rw [List.any_eq_false]
    intro k' hk' hne'
    obtain ⟨m, hm', hmn⟩ := (arityNe_iff _ k').mp hne'
    exact hmn (by rw [hall k' hk' m hm', hlen])
  rw [hlen] at hany
  simp only [hne, hlen, hany, Bool.false_eq_true, if_false]
  exact splitLoop_ok d _ (fun j hj k' hk' m hm' => by
    rw [hall k' hk' m hm']; exact List.mem_range.mp hj)

example :
    let d : KDesc (DPK Nat Nat) := ⟨.wsh (.andV (.verify (.check (.pkK 0))) (.check (.pkK 1))),
      fun a => if a = 0 then some (.multi none 0 [[.normal 0], [.normal 1]] .unhardened)
               else if a = 1 then some (.multi none 1 [[.normal 5], [.normal 6]] .none) else none⟩
    d.isMultipath = true ∧ ∀ k ∈ d.keysPre, ∀ m, arity k = some m → m = 2 := by
  intro d
  have hkeys : d.keysPre = [.multi none 0 [[.normal 0], [.normal 1]] .unhardened,
      .multi none 1 [[.normal 5], [.normal 6]] .none] := by rfl
  refine ⟨by decide, ?_⟩
  intro k hk m hm
  rw [hkeys] at hk
  simp only [List.mem_cons, List.not_mem_nil, or_false] at hk
  rcases hk with rfl | rfl <;> simp [arity] at hm <;> omega

/-- T4: two multipath keys with DIFFERENT numbers of alternatives anywhere in the
descriptor (whichever comes first) are rejected with `MultipathDescLenMismatch`.  (`hne`: a
multipath key has at least one alternative — the invariant of `DerivPaths::new`.) -/
theorem split_rejects_mismatch (d : KDesc (DPK X P))
    (hne : ∀ k ∈ d.keysPre, arity k ≠ some 0)
    (k k' : DPK X P) (m m' : Nat) (hk : k ∈ d.keysPre) (hk' : k' ∈ d.keysPre)
    (hm : arity k = some m) (hm' : arity k' = some m') (hdiff : m ≠ m') :
    d.intoSingleDescriptors = .error .lenMismatch := by
  unfold KDesc.intoSingleDescriptors
  have hkm : k.isMultipath = true := by
    cases k <;> simp [arity] at hm <;> rfl
  obtain ⟨o, x, paths, wc, hf, hmem⟩ := find_multipath d hk hkm
  rw [hf]
  have hne0 : paths.isEmpty = false := by
    cases paths with
    | nil => exact absurd rfl (hne _ hmem)
    | cons _ _ => rfl
  have hany : d.keysPre.any (arityNe paths.length) = true := by
    rw [List.any_eq_true]
    by_cases h1 : m = paths.length
    · exact ⟨k', hk', (arityNe_iff _ k').mpr ⟨m', hm', by omega⟩⟩
    · exact ⟨k, hk, (arityNe_iff _ k).mpr ⟨m, hm, h1⟩⟩
  simp only [hne0, hany, Bool.false_eq_true, if_false, if_true]

/-- T4: hence the split succeeds exactly when all multipath keys have the same arity -/
theorem split_succeeds_iff (d : KDesc (DPK X P)) (hne : ∀ k ∈ d.keysPre, arity k ≠ some 0) :
    (∃ ds, d.intoSingleDescriptors = .ok ds) ↔
      ∀ k ∈ d.keysPre, ∀ k' ∈ d.keysPre, ∀ m m', arity k = some m → arity k' = some m' → m = m' := by
  constructor
  · rintro ⟨ds, hds⟩ k hk k' hk' m m' hm hm'
    by_cases h : m = m'
    · exact h
    · rw [split_rejects_mismatch d hne k k' m m' hk hk' hm hm' h] at hds; cases hds
  · intro hall
    cases hmp : d.isMultipath with
    | false => exact ⟨_, split_single d hmp⟩
    | true =>
      obtain ⟨k, hk, hkm⟩ := List.any_eq_true.mp hmp
      obtain ⟨o, x, paths, wc, _, hmem⟩ := find_multipath d hk hkm
      refine ⟨_, split_uniform d paths.length hmp ?_ ?_⟩
      · have := hne _ hmem
        simp only [arity, ne_eq, Option.some.injEq] at this
        omega
      · intro k' hk' m hm
        exact (hall _ hmem k' hk' _ m rfl hm).symm

/-! ## T5 — `find_derivation_index_for_spk` -/

/-- T5: for a descriptor with a wildcard the result is `Some((i, c))` exactly when `i` is the
LEAST index of the range `lo..hi` whose derived descriptor `c` has the wanted scriptPubKey
(all smaller indices of the range derive and do not match) -/
theorem find_returns_least_match (ckd : X → Nat → X) (spk : KDesc (Derived X P) → Bytes)
    (d : KDesc (DPK X P)) (hw : d.hasWildcard = true) (target : Bytes) (lo hi i : Nat)
    (c : KDesc (Derived X P)) :
    d.findDerivationIndexForSpk ckd spk target lo hi = .ok (some (i, c)) ↔
      lo ≤ i ∧ i < hi ∧ d.derivedDescriptor ckd i = .ok c ∧ spk c = target ∧
      ∀ j, lo ≤ j → j < i → ∃ cj, d.derivedDescriptor ckd j = .ok cj ∧ spk cj ≠ target := by
  rw [find_wildcard_eq ckd spk d hw, findLoop_eq_iff _ (.ok (some (i, c))) nofun]
  simp only [findStep_none_iff]
  constructor
  · rintro ⟨j, hlo, hhi, hstep, hall⟩
    obtain ⟨rfl, hd, hs⟩ := (findStep_some_iff ckd spk d target _ i c).mp hstep
    exact ⟨hlo, by omega, hd, hs, hall⟩
  · rintro ⟨hlo, hhi, hd, hs, hall⟩
    exact ⟨i, hlo, by omega, (findStep_some_iff ckd spk d target i i c).mpr ⟨rfl, hd, hs⟩, hall⟩

/-- T5: `Ok(None)` exactly when every index of the range derives and none matches (in
particular for an empty range, whatever the keys are) -/
theorem find_none_iff (ckd : X → Nat → X) (spk : KDesc (Derived X P) → Bytes)
    (d : KDesc (DPK X P)) (hw : d.hasWildcard = true) (target : Bytes) (lo hi : Nat) :
    d.findDerivationIndexForSpk ckd spk target lo hi = .ok none ↔
      ∀ j, lo ≤ j → j < hi → ∃ cj, d.derivedDescriptor ckd j = .ok cj ∧ spk cj ≠ target := by
  rw [find_wildcard_eq ckd spk d hw, findLoop_ok_none]
  simp only [findStep_none_iff]
  exact ⟨fun hall j hlo hhi => hall j hlo (by omega), fun hall j hlo hhi => hall j hlo (by omega)⟩

/-- T5: an error is the derivation error of the first index of the range that cannot be
derived, provided no earlier index matched -/
theorem find_error_iff (ckd : X → Nat → X) (spk : KDesc (Derived X P) → Bytes)
    (d : KDesc (DPK X P)) (hw : d.hasWildcard = true) (target : Bytes) (lo hi : Nat) (e : KeyErr) :
    d.findDerivationIndexForSpk ckd spk target lo hi = .error e ↔
      ∃ i, lo ≤ i ∧ i < hi ∧ d.derivedDescriptor ckd i = .error e ∧
        ∀ j, lo ≤ j → j < i → ∃ cj, d.derivedDescriptor ckd j = .ok cj ∧ spk cj ≠ target := by
  rw [find_wildcard_eq ckd spk d hw, findLoop_eq_iff _ (.error e) nofun]
  simp only [findStep_none_iff, findStep_error_iff]
  exact ⟨fun ⟨i, hlo, hhi, hd, hall⟩ => ⟨i, hlo, by omega, hd, hall⟩,
    fun ⟨i, hlo, hhi, hd, hall⟩ => ⟨i, hlo, by omega, hd, hall⟩⟩

/-- T5: without a wildcard the range is ignored: the definite descriptor is compared once and
reported at index 0 -/
theorem find_without_wildcard (ckd : X → Nat → X) (spk : KDesc (Derived X P) → Bytes)
    (d : KDesc (DPK X P)) (hw : d.hasWildcard = false) (target : Bytes) (lo hi : Nat) :
    d.findDerivationIndexForSpk ckd spk target lo hi =
      match d.intoDefinite with
      | .error e => .error e
      | .ok c =>
        if spk (c.derivedDefinite ckd) = target then .ok (some (0, c.derivedDefinite ckd)) else .ok none := by
  unfold KDesc.findDerivationIndexForSpk
  simp only [hw, Bool.not_false, if_true]
  cases d.intoDefinite <;> rfl

/-- T5 + T3: what `find_derivation_index_for_spk` returns for a wildcard descriptor is the
descriptor over the independently BIP32-derived keys at the returned index, which lies in the
range and below 2³¹ for every wildcard key; all guards hold for every key -/
theorem find_match_is_independent_bip32 (ckd : X → Nat → X) (spk : KDesc (Derived X P) → Bytes)
    (d : KDesc (DPK X P)) (hw : d.hasWildcard = true) (target : Bytes) (lo hi i : Nat)
    (c : KDesc (Derived X P))
    (h : d.findDerivationIndexForSpk ckd spk target lo hi = .ok (some (i, c))) :
    lo ≤ i ∧ i < hi ∧ spk c = target ∧ c.shape = d.shape ∧
    (∀ k ∈ d.keysPre, PubliclyDerivableAt k i) ∧
    (∀ a k, d.key a = some k → c.key a = keyAt ckd k i) := by
  obtain ⟨h1, h2, h3, h4, _⟩ := (find_returns_least_match ckd spk d hw target lo hi i c).mp h
  obtain ⟨hs, hk⟩ := derived_keys_are_bip32 ckd d i c h3
  refine ⟨h1, h2, h4, hs, ?_, hk⟩
  intro k hk'
  exact (keyAt_isSome_iff ckd k i).mp ((derive_succeeds_iff ckd d i).mp ⟨c, h3⟩ k hk')

end MsVerif.C16
