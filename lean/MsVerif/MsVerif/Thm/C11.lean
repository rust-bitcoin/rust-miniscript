/-
C11 (expression-parser half) — "No input … makes the library panic, overflow the stack, loop,
or allocate without bound", restricted to `expression::Tree::from_str` and `parse_num`.

Model: `Model/Expr.lean`.  Every Rust panic site of `parse_pre_check` / `from_str_inner`
(`expect`, `nodes[idx]`, `&s[a..b]`, `s.as_bytes()[pos + 1]`, the three `assert_eq!` on the
`Vec` capacities) and of the checksum engine it calls is an explicit `PErr.panic` outcome of the
model; the theorems show that outcome unreachable for EVERY input.

Termination / no loop: every function of the model is structurally recursive over the input
character list (accepted by Lean without `partial` or fuel); the Rust loops are `for` loops over
the same bytes.  Allocation: the only allocations are `Vec::with_capacity(n_nodes)` and
`with_capacity(max_depth)`; `builder_matches_pre_check` shows they are never exceeded
(no reallocation), and `n_nodes ≤ len + 1`, `max_depth ≤ len` (`pre_check_linear`).
Not covered by a theorem: the size of native stack frames (the parser itself is iterative).
-/
import MsVerif.Lemmas.ExprBuild
import MsVerif.Lemmas.ExprRound
import MsVerif.Lemmas.ExprTable

namespace MsVerif.C11
open MsVerif MsVerif.Expr MsVerif.Checksum

/- Concrete inputs below are string literals.  Before `decide +kernel` the goal's `"…".toList` are
rewritten to character lists by `String.toList_ofList`: left to the kernel, a literal is decoded from its
UTF-8 bytes, which costs more than parsing it. -/

/-- pass 1 (`parse_pre_check`, including `verify_checksum`) cannot panic -/
theorem pre_check_no_panic (s : List Char) : parsePreCheck s ≠ .error .panic := by
  unfold parsePreCheck
  cases hv : verifyChecksumL s with
  | panic => exact absurd hv (verifyChecksumL_ne_panic s)
  | err e => simp [throw, throwThe, MonadExceptOf.throw]
  | ok body =>
    simp only
    cases hp : preLoop body.length 0 body ⟨1, 0, []⟩ with
    | error e =>
      have := preLoop_ne_panic (len := body.length) body 0 ⟨1, 0, []⟩ (by simp)
      rw [hp] at this
      simp only [throw, throwThe, MonadExceptOf.throw, ne_eq, Except.error.injEq]
      intro e'; exact this (by rw [e'])
    | ok st =>
      simp only
      cases st.stack with
      | cons o rest => obtain ⟨oc, op⟩ := o; simp [throw, throwThe, MonadExceptOf.throw]
      | nil =>
        simp only
        split <;> simp [throw, throwThe, MonadExceptOf.throw, pure, Except.pure]

theorem pre_check_ok {s body : List Char} {D N : Nat} (h : parsePreCheck s = .ok (body, D, N)) :
    ∃ pst, preLoop body.length 0 body ⟨1, 0, []⟩ = .ok pst ∧ pst.stack = [] ∧
      pst.maxDepth = D ∧ pst.nNodes = N ∧ D ≤ MAX_RECURSION_DEPTH + 1 :=
  (parsePreCheck_ok h).2

/-- the two `Vec::with_capacity` requests are linear in the input: at most `len + 1` nodes and a
parent stack of at most `len` (in fact at most 403 = `MAX_RECURSION_DEPTH + 1`) entries — no unbounded allocation. -/
theorem pre_check_linear {s body : List Char} {D N : Nat} (h : parsePreCheck s = .ok (body, D, N)) :
    N ≤ body.length + 1 ∧ D ≤ body.length ∧ D ≤ 403 ∧ body.length ≤ s.length := by
  obtain ⟨hv, pst, h1, _, h3, h4, h5⟩ := parsePreCheck_ok h
  have := preLoop_linear h1 (Nat.le_refl _) (Nat.le_refl _) (Nat.le_refl _)
  rw [h3, h4] at this
  obtain ⟨k, rfl⟩ := verifyChecksumL_take hv
  exact ⟨by omega, by omega, h5, List.length_take_le' k s⟩

/-- whenever pass 1 accepts with `(max_depth, n_nodes)`, pass 2 runs
to completion without reaching any panic site, pushes exactly `n_nodes` nodes into a vector that
never reallocates, never lets the parent stack outgrow `max_depth`, and every node it creates
sits at depth ≤ `max_depth` — so the three `assert_eq!` hold. -/
theorem builder_matches_pre_check (body : List Char) (D N : Nat) (pst : PreSt)
    (hp : preLoop body.length 0 body ⟨1, 0, []⟩ = .ok pst) (hst : pst.stack = [])
    (hD : pst.maxDepth = D) (hN : pst.nNodes = N) :
    ∃ nodes, build body D N = .ok nodes ∧ nodes.size = N ∧
      ∀ i, i < nodes.size → ∃ d, d ≤ D ∧ HasDepth nodes i d :=
  build_of_preCheck body D N pst hp hst hD hN

/-- **T1** `Tree::from_str` never panics — for every input string (any characters, any length,
any nesting). -/
theorem expr_parser_no_panic (s : List Char) : fromStrInner s ≠ .error .panic := by
  unfold fromStrInner
  cases hp : parsePreCheck s with
  | error e =>
    have := pre_check_no_panic s
    rw [hp] at this
    simp only [throw, throwThe, MonadExceptOf.throw, ne_eq, Except.error.injEq]
    intro e'; exact this (by rw [e'])
  | ok r =>
    obtain ⟨body, D, N⟩ := r
    obtain ⟨pst, h1, h2, h3, h4, _⟩ := pre_check_ok hp
    obtain ⟨nodes, hb, _⟩ := builder_matches_pre_check body D N pst h1 h2 h3 h4
    simp only [hb]
    intro e; cases e

/-- both bracket kinds, nesting, and a `#` with no checksum after it (refused by `verify_checksum`) -/
example : fromStrInner "a{b(c),d}#".toList ≠ .error .panic := expr_parser_no_panic _

/-- accepted trees have exactly the pre-checked number of nodes and depth ≤ 403
(`MAX_RECURSION_DEPTH + 1`, the bound `parse_pre_check` applies, /repo 4d088e26): every node
is reached from the root by at most 403 parent links. -/
theorem parse_tree_depth_bounded (s : List Char) (nodes : Array Node)
    (h : fromStrInner s = .ok nodes) :
    0 < nodes.size ∧ ∀ i, i < nodes.size → ∃ d, d ≤ 403 ∧ HasDepth nodes i d := by
  unfold fromStrInner at h
  cases hp : parsePreCheck s with
  | error e => rw [hp] at h; cases h
  | ok r =>
    obtain ⟨body, D, N⟩ := r
    rw [hp] at h
    simp only at h
    obtain ⟨pst, h1, h2, h3, h4, h5⟩ := pre_check_ok hp
    obtain ⟨nodes', hb, hsz, hd⟩ := builder_matches_pre_check body D N pst h1 h2 h3 h4
    rw [hb] at h
    cases h
    constructor
    · have := (preLoop_mono h1 (Nat.le_refl _)).1
      simp only [PreSt.phi, h2, h4, List.length_nil] at this
      omega
    · intro i hi
      obtain ⟨d, hd1, hd2⟩ := hd i hi
      exact ⟨d, Nat.le_trans hd1 h5, hd2⟩

example : (fromStrInner "wsh(multi(2,A,B))".toList).toOption.map Array.size = some 5 := by
  rw [String.toList_ofList]
  decide +kernel

theorem u32_go_range (s : List Char) (acc n : Nat) (ha : acc ≤ 4294967295)
    (h : u32FromStr.go s acc = .ok n) : n ≤ 4294967295 := by
  induction s generalizing acc with
  | nil => simp only [u32FromStr.go, pure, Except.pure, Except.ok.injEq] at h; omega
  | cons c cs ih =>
    unfold u32FromStr.go at h
    split at h
    · simp only at h
      split at h
      · cases h
      · exact ih _ (by omega) h
    · cases h

/-- `parse_num` never returns a value outside `u32` (no wrap-around), never panics (the model has
no panic site: `u32::from_str` uses checked arithmetic) and terminates (structural recursion). -/
theorem parse_num_range (s : List Char) (n : Nat) (h : parseNum s = .ok n) : n < 2 ^ 32 := by
  unfold parseNum at h
  split at h
  · simp only [pure, Except.pure, Except.ok.injEq] at h; omega
  · have key : ∀ m, u32FromStr s = .ok m → m ≤ 4294967295 := by
      intro m hm
      unfold u32FromStr at hm
      split at hm
      · cases hm
      · exact u32_go_range s 0 m (by omega) hm
    split at h
    · split at h
      · have := key n h; omega
      · cases h
    · have := key n h; omega

/-- leading zeros, signs and the empty string are rejected; only `"0"` itself starts with `0` -/
theorem parse_num_leading (c : Char) (cs : List Char) (n : Nat) (h : parseNum (c :: cs) = .ok n) :
    (c = '0' ∧ cs = [] ∧ n = 0) ∨ ('1' ≤ c ∧ c ≤ '9') := by
  unfold parseNum at h
  split at h
  · rename_i h0
    simp only [pure, Except.pure, Except.ok.injEq] at h
    simp only [List.cons.injEq] at h0
    exact Or.inl ⟨h0.1, h0.2, h.symm⟩
  · simp only [List.head?_cons] at h
    split at h
    · rename_i hd; exact Or.inr hd
    · cases h

example : (parseNum "4294967295".toList).toOption = some 4294967295 := by
  rw [String.toList_ofList]; decide +kernel
example : err? (parseNum "4294967296".toList) = some .posOverflow := by
  rw [String.toList_ofList]; decide +kernel
example : err? (parseNum "007".toList) = some .invalidLeadingDigit := by
  rw [String.toList_ofList]; decide +kernel

/-! ## C10 T6 — round trip of the expression grammar -/

/-- for
every well-formed tree (names free of `(){},#`, a node has brackets iff it has children) of depth
≤ 403, `Tree::from_str (print t)` succeeds, without reaching a panic site, with exactly
`size t` nodes, none deeper than `depth t`.  (`parse_print_roundtrip` below adds that the table
carries exactly `t`.) -/
theorem printed_tree_accepted_partial (t : Tree) (hw : t.WF) (hd : t.depth ≤ 403) :
    ∃ nodes, fromStrInner t.print = .ok nodes ∧ nodes.size = t.size ∧
      ∀ i, i < nodes.size → ∃ d, d ≤ t.depth ∧ HasDepth nodes i d :=
  let ⟨nodes, h1, h2, h3, _⟩ := fromStr_print t hw hd
  ⟨nodes, h1, h2, h3⟩

example : ∃ nodes, fromStrInner (crl "tr" [rnd "pk" [leaf "A"], leaf "B"]).print = .ok nodes ∧
    nodes.size = 4 := by
  obtain ⟨n, h1, h2, _⟩ := printed_tree_accepted_partial (crl "tr" [rnd "pk" [leaf "A"], leaf "B"])
    (Tree.wf_of_wfB _ (by decide +kernel)) (by decide)
  exact ⟨n, h1, h2⟩

/-- trees deeper than the limit are rejected with `MaxRecursionDepthExceeded` — never a crash -/
theorem printed_deep_tree_rejected (t : Tree) (hw : t.WF) (hd : 403 < t.depth) :
    err? (fromStrInner t.print) = some (.err (.maxRecursionDepthExceeded t.depth)) := by
  have : t.depth > MAX_RECURSION_DEPTH + 1 := by simp only [MAX_RECURSION_DEPTH]; omega
  unfold fromStrInner parsePreCheck
  rw [verify_clean (print_clean t hw)]
  simp only [preLoop_print t hw, this, if_true, throw, throwThe, MonadExceptOf.throw, err?]

theorem depth_404_rejected :
    err? (fromStrInner (List.replicate 404 '(' ++ List.replicate 404 ')'))
      = some (.err (.maxRecursionDepthExceeded 404)) := by
  have h := printed_deep_tree_rejected (nest 404) (nest_wf 404) (by rw [nest_depth]; decide)
  rw [nest_print, nest_depth] at h
  exact h

/-- nesting 403 — what a Miniscript of the maximal height 402 prints — is accepted -/
theorem depth_403_accepted :
    ∃ nodes, fromStrInner (List.replicate 403 '(' ++ List.replicate 403 ')') = .ok nodes ∧
      nodes.size = 404 := by
  obtain ⟨nodes, h1, h2, _⟩ :=
    printed_tree_accepted_partial (nest 403) (nest_wf 403) (by rw [nest_depth]; decide)
  rw [nest_print] at h1
  rw [nest_size] at h2
  exact ⟨nodes, h1, h2⟩

/-- `Tree::from_str (print t) = t`, for EVERY tree that the
printer prints injectively: well-formed (names free of `(){},#` and of characters outside the
charset; a node has brackets iff it has children — `a` and `a()` are different trees, the latter
has one child with the empty name) and of depth ≤ 403 (deeper ones are rejected:
`printed_deep_tree_rejected`).  The parser succeeds and the node table it builds, read in
pre-order with the child counts (`toTree`, which is how `TreeIterItem::children` walks it),
is `t` itself: same names, same bracket kinds (`(` vs `{`), same children in the same order. -/
theorem parse_print_roundtrip (t : Tree) (hw : t.WF) (hd : t.depth ≤ 403) :
    ∃ nodes, fromStrInner t.print = .ok nodes ∧ toTree nodes = some t :=
  let ⟨nodes, h1, _, _, h4⟩ := fromStr_print t hw hd
  ⟨nodes, h1, h4⟩

/-- a taproot descriptor shape: round and curly children, a threshold, a hash, a lock, wrappers,
an empty name (the nested `{…}` of the tap tree) -/
example : ∃ nodes,
    fromStrInner "tr(K,{thresh(2,pk(A),s:sha256(H),sln:older(144)),{pk(B),multi_a(1,C,D)}})".toList
      = .ok nodes ∧
    toTree nodes = some (rnd "tr" [leaf "K", crl "" [
      rnd "thresh" [leaf "2", rnd "pk" [leaf "A"], rnd "s:sha256" [leaf "H"], rnd "sln:older" [leaf "144"]],
      crl "" [rnd "pk" [leaf "B"], rnd "multi_a" [leaf "1", leaf "C", leaf "D"]]]]) := by
  have h := parse_print_roundtrip (rnd "tr" [leaf "K", crl "" [
      rnd "thresh" [leaf "2", rnd "pk" [leaf "A"], rnd "s:sha256" [leaf "H"], rnd "sln:older" [leaf "144"]],
      crl "" [rnd "pk" [leaf "B"], rnd "multi_a" [leaf "1", leaf "C", leaf "D"]]]])
    (Tree.wf_of_wfB _ (by decide +kernel)) (by decide)
  have e : (rnd "tr" [leaf "K", crl "" [
      rnd "thresh" [leaf "2", rnd "pk" [leaf "A"], rnd "s:sha256" [leaf "H"], rnd "sln:older" [leaf "144"]],
      crl "" [rnd "pk" [leaf "B"], rnd "multi_a" [leaf "1", leaf "C", leaf "D"]]]]).print
      = "tr(K,{thresh(2,pk(A),s:sha256(H),sln:older(144)),{pk(B),multi_a(1,C,D)}})".toList := by
    simp only [rnd, crl, leaf]
    repeat rw [String.toList_ofList]
    decide +kernel
  rw [e] at h
  exact h

/-- the parser is a left inverse of the printer, so the printer is injective on these trees -/
theorem print_injective (t u : Tree) (ht : t.WF) (hu : u.WF) (hdt : t.depth ≤ 403)
    (hdu : u.depth ≤ 403) (h : t.print = u.print) : t = u := by
  obtain ⟨n1, h1, r1⟩ := parse_print_roundtrip t ht hdt
  obtain ⟨n2, h2, r2⟩ := parse_print_roundtrip u hu hdu
  rw [h, h2] at h1
  have : n2 = n1 := by injection h1
  rw [this, r1] at r2
  exact Option.some.inj r2

/-- instances: all 14 trees of depth ≤ 1 (1–2 children, leaves `` / `a:b`, inner nodes `(…)` /
`a{…}`) and five descriptor-shaped trees round-trip: they are well-formed (kernel evaluation of
`Tree.wfB`), so `parse_print_roundtrip` applies -/
theorem parse_print_roundtrip_partial : sampleTrees.all roundtripOk = true :=
  List.all_eq_true.mpr fun t ht => roundtripOk_of_wfB t
    (List.all_eq_true.mp
      (by decide +kernel : sampleTrees.all (fun t => t.wfB && decide (t.depth ≤ 403)) = true) t ht)

example : sampleTrees.length = 19 := by decide +kernel

end MsVerif.C11
