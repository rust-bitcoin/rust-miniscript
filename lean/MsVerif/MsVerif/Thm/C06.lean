/-
C06 — static types predict what fragments do when executed.

Every theorem is about the structured fragment semantics `frag env ke ctx ms : Core → Except Err
Core` (`Spec/Frag.lean`), i.e. about real opcode execution of `encode ms` (by the bridge theorem
`run (encode ms) = frag ms` of `Thm/Bridge.lean`; `zero_arg_run`, `one_arg_run`, `base_B_run`
below are stated directly on the flat interpreter `Script.run`), for EVERY machine state: all main stacks, alt
stacks and opcode counters, every key/hash environment, every signature oracle, every
transaction — no bound.  The only assumptions are

* `env.flags.stackLimits = false`: the 1000-element / 520-byte limits are off (with them on, no
  statement of the form "the elements below are irrelevant" can hold; the limits are C09's
  subject).  The opcode-count limit, MINIMALIF, NULLFAIL, NULLDUMMY, MINIMALDATA and the
  tapscript rules are arbitrary — the theorems hold under the script rules of every context;
* `wf ms`: every `thresh` has a child and every `multi` at most 20 keys — invariants of the
  library's `Threshold<T, MAX>` that the typing model `typeOf` does not re-check;
* `typeOf ms = some τ`: the fragment is well typed with the type the library assigns
  (`Model/TypeCheck.lean`, tied to `Miniscript::ty` by the C05 tables and the `C typeof` lines of `bin/check C06`).
The `d` group alone asks for more: C01's `SatSpec.EnvOk env ctx` (op-count limit off as well, the tapscript
flag that of `ctx`) and `SatSpec.WF ctx ms`, see its section.  The typed theorems other than `d` are the
fields of `TypeSound.sound_frag` (Lemmas/TypeSoundMain.lean: one induction on the typing derivation) read
per base type; `z` / `o` are `TypeSound.args_cons`, `frame` is `TypeSound.framed_frag`.

Proved here (T1–T5: DESIGN.md §4 C06), with the hypotheses each group needs BEYOND the three above:
* `frame`                  — every fragment (typed or not) ignores what lies below the part of the
                             stack it reaches, errors included                                  (—)
* `zero_arg`, `one_arg`    — `z` / `o`: consumes exactly 0 / 1 elements, on every stack, errors
                             included; result has exactly the size the base promises    (T1; —)
* `nonzero_B/V/K`          — `n`: never satisfied when the top input is the empty vector
                             (T1; `wfK`: multi-family thresholds ≥ 1)
* `base_B/V/K/W`, `base_B_length`, `verify_leaves_nothing`, `key_on_top`
                           — stack shape per base type with the number of removed elements
                             bounded by `maxArgs ms` (computed from the AST) and by the stack
                             depth; alt stack restored                                  (T5; —)
* `unit_B`, `unit_W`       — `u`: a true result is exactly `[1]`                         (T2; —)
  ALL OF THE ABOVE: every stack, every environment (oracle, hashes, transaction, flags).
* `signed_*_stackwise`, `signed_B_needs_signature`
                           — `s`: on an input holding no valid signature never satisfied
                             (T4; `wfS`, `OracleSane`: script-generated values are not signatures)
* `forced_*_stackwise`, `forced_B_dissat_needs_signature`
                           — `f`: on an input holding no valid signature never dissatisfied
                             (T4; `wfS`, `wfT`, `OracleSane`); `forced_for_all_oracles_false`:
                             the reading "never dissatisfied on ANY stack" is false
* `signed_B/V/K/W`, `forced_B/K/W` — the same for the oracle that accepts nothing (`NoSig`)
* `dissatisfiable`, `dissatisfiable_B`, `dissatisfiable_B_run`
                           — `d`: a witness computed without any asset dissatisfies the fragment
                             under every signature oracle (T3; the C01/C02/C07 side conditions)
* `zero_arg_run`, `one_arg_run`, `base_B_run`, `dissatisfiable_B_run` — on `Script.run (encode ms)`
-/
import MsVerif.Lemmas.TypeSoundDissat
import MsVerif.Lemmas.TypeSoundClean
import MsVerif.Thm.Bridge

namespace MsVerif.C06
open MsVerif MsVerif.Script MsVerif.TypeSound

/-- the core `c` with `rest` put below its stack -/
abbrev below (c : Core) (rest : List Bytes) : Core := { c with stack := c.stack ++ rest }

/-- an outcome with `rest` put below the resulting stack (errors unchanged) -/
abbrev belowR (r : Except Err Core) (rest : List Bytes) : Except Err Core := r.map (below · rest)

/-- the two error kinds that mean "ran out of stack" -/
abbrev Underflow (r : Except Err Core) : Prop :=
  r = .error .stackUnderflow ∨ r = .error .unbalancedConditional

/-! ## Frame: the part of the stack a fragment does not reach is irrelevant -/

/-- FRAME (no typing needed).  If running `ms` on `c` does not run out of stack, then running it
with any `rest` below gives the same outcome — same error, or same result with `rest` untouched
below it. -/
theorem frame {env : Env} (hlim : env.flags.stackLimits = false) (ke : KeyEnv) (ctx : Ctx) (ms : Ms)
    (c : Core) (rest : List Bytes) (h : ¬ Underflow (frag env ke ctx ms c)) :
    frag env ke ctx ms (below c rest) = belowR (frag env ke ctx ms c) rest :=
  framed_frag hlim ke ctx ms c rest ⟨fun e => h (Or.inl e), fun e => h (Or.inr e)⟩

/-! ## `z` and `o`: exact argument counts -/

theorem args_frame {env : Env} (hlim : env.flags.stackLimits = false) (ke : KeyEnv) (ctx : Ctx)
    {ms : Ms} {τ : Ty} (hwf : wf ms = true) (hty : typeOf ms = some τ) {i : Nat} (hi : nargs τ.corr.input = some i)
    (pre : List Bytes) (hpre : pre.length = i) (stk alt : List Bytes) (ops : Nat) :
    frag env ke ctx ms ⟨pre ++ stk, alt, ops⟩ = belowR (frag env ke ctx ms ⟨pre, alt, ops⟩) stk ∧
    ∀ c', frag env ke ctx ms ⟨pre, alt, ops⟩ = .ok c' → c'.stack.length = resLen τ.corr.base i := by
  obtain ⟨hn, hok⟩ := args_cons hlim ke ctx ms hwf τ i hty hi pre [] alt ops hpre
  rw [List.append_nil] at hn hok
  refine ⟨framed_frag hlim ke ctx ms ⟨pre, alt, ops⟩ stk hn, fun c' h => ?_⟩
  obtain ⟨out, ho, hs⟩ := hok c' h
  rw [hs, List.append_nil, ho]

/-- T1 `z`.  A fragment typed zero-arg behaves on EVERY stack exactly as on the empty stack
(same error or same result), with the stack left untouched below the result; and on success the
result consists of exactly what the base type promises (B: one element, V: none). -/
theorem zero_arg {env : Env} (hlim : env.flags.stackLimits = false) (ke : KeyEnv) (ctx : Ctx)
    {ms : Ms} {τ : Ty} (hwf : wf ms = true) (hty : typeOf ms = some τ) (hz : τ.corr.input = .zero)
    (stk alt : List Bytes) (ops : Nat) :
    frag env ke ctx ms ⟨stk, alt, ops⟩ = belowR (frag env ke ctx ms ⟨[], alt, ops⟩) stk ∧
    ∀ c', frag env ke ctx ms ⟨[], alt, ops⟩ = .ok c' → c'.stack.length = resLen τ.corr.base 0 :=
  args_frame hlim ke ctx hwf hty (by rw [hz]; rfl) [] rfl stk alt ops

/-- T1 `o`.  A fragment typed one-arg (`o`, with or without `n`) consumes exactly the top element:
on `x :: stk` it behaves exactly as on `[x]` (same error or same result) with `stk` untouched
below; on success the result on `[x]` has exactly the size the base type promises (B: 1, V: 0,
K: the key on top of `x`, which `CHECKSIG` then consumes). -/
theorem one_arg {env : Env} (hlim : env.flags.stackLimits = false) (ke : KeyEnv) (ctx : Ctx)
    {ms : Ms} {τ : Ty} (hwf : wf ms = true) (hty : typeOf ms = some τ)
    (ho : τ.corr.input = .one ∨ τ.corr.input = .oneNonZero)
    (x : Bytes) (stk alt : List Bytes) (ops : Nat) :
    frag env ke ctx ms ⟨x :: stk, alt, ops⟩ = belowR (frag env ke ctx ms ⟨[x], alt, ops⟩) stk ∧
    ∀ c', frag env ke ctx ms ⟨[x], alt, ops⟩ = .ok c' → c'.stack.length = resLen τ.corr.base 1 :=
  args_frame hlim ke ctx hwf hty (by rcases ho with h | h <;> rw [h] <;> rfl) [x] rfl stk alt ops

/-- a one-arg fragment never fails by running out of stack as long as one element is there -/
theorem one_arg_no_underflow {env : Env} (hlim : env.flags.stackLimits = false) (ke : KeyEnv) (ctx : Ctx)
    {ms : Ms} {τ : Ty} (hwf : wf ms = true) (hty : typeOf ms = some τ)
    (ho : τ.corr.input = .one ∨ τ.corr.input = .oneNonZero)
    (x : Bytes) (stk alt : List Bytes) (ops : Nat) :
    ¬ Underflow (frag env ke ctx ms ⟨x :: stk, alt, ops⟩) := by
  have hc := args_cons hlim ke ctx ms hwf τ 1 hty (by rcases ho with h | h <;> rw [h] <;> rfl)
  obtain ⟨hn, _⟩ := hc [x] stk alt ops rfl
  intro hu
  rcases hu with hu | hu
  · exact hn.1 hu
  · exact hn.2 hu

/-! ## Base types: the stack shape the composition rules assume -/

theorem drop_min (s : List Bytes) (n : Nat) : s.drop n = s.drop (min n s.length) := by
  by_cases h : n ≤ s.length
  · rw [Nat.min_eq_left h]
  · rw [Nat.min_eq_right (by omega), List.drop_eq_nil_of_le (by omega), List.drop_eq_nil_of_le (Nat.le_refl _)]

/-- T5 `B`: a successful B fragment restores the alt stack, removes EXACTLY `n` input elements and
pushes exactly one result `v`, where `n` is at most `maxArgs ms` (a bound computed from the AST)
and at most the stack depth — so `c'.stack.length + n = c.stack.length + 1`. -/
theorem base_B {env : Env} (hlim : env.flags.stackLimits = false) (ke : KeyEnv) (ctx : Ctx)
    {ms : Ms} {τ : Ty} (hwf : wf ms = true) (hty : typeOf ms = some τ) (hb : τ.corr.base = .B)
    {c c' : Core} (hrun : frag env ke ctx ms c = .ok c') :
    c'.alt = c.alt ∧ ∃ v n, n ≤ maxArgs ms ∧ n ≤ c.stack.length ∧ c'.stack = v :: c.stack.drop n := by
  obtain ⟨ha, hp⟩ := shapeN hlim ke ctx ms hwf τ hty c c' hrun
  obtain ⟨v, n, hn, e, _⟩ := (PostN.B hb).1 hp
  exact ⟨ha, v, min n c.stack.length, Nat.le_trans (Nat.min_le_left _ _) hn, Nat.min_le_right _ _,
    by rw [e, drop_min]⟩

/-- the length form of `base_B`: one element pushed, at most `maxArgs ms` popped -/
theorem base_B_length {env : Env} (hlim : env.flags.stackLimits = false) (ke : KeyEnv) (ctx : Ctx)
    {ms : Ms} {τ : Ty} (hwf : wf ms = true) (hty : typeOf ms = some τ) (hb : τ.corr.base = .B)
    {c c' : Core} (hrun : frag env ke ctx ms c = .ok c') :
    c.stack.length + 1 ≤ c'.stack.length + maxArgs ms ∧ c'.stack.length ≤ c.stack.length + 1 := by
  obtain ⟨_, v, n, hn, hl, e⟩ := base_B hlim ke ctx hwf hty hb hrun
  rw [e, List.length_cons, List.length_drop]
  omega

/-- T5 `V`: a successful V fragment restores the alt stack and removes exactly `n ≤ maxArgs ms`
input elements, pushing nothing. -/
theorem base_V {env : Env} (hlim : env.flags.stackLimits = false) (ke : KeyEnv) (ctx : Ctx)
    {ms : Ms} {τ : Ty} (hwf : wf ms = true) (hty : typeOf ms = some τ) (hb : τ.corr.base = .V)
    {c c' : Core} (hrun : frag env ke ctx ms c = .ok c') :
    c'.alt = c.alt ∧ ∃ n, n ≤ maxArgs ms ∧ n ≤ c.stack.length ∧ c'.stack = c.stack.drop n := by
  obtain ⟨ha, hp⟩ := shapeN hlim ke ctx ms hwf τ hty c c' hrun
  obtain ⟨n, hn, e⟩ := (PostN.V hb).1 hp
  exact ⟨ha, min n c.stack.length, Nat.le_trans (Nat.min_le_left _ _) hn, Nat.min_le_right _ _,
    by rw [e, drop_min]⟩

/-- T5: "V never leaves a value" — whatever a V fragment leaves was already there, in the same
order (it continues or aborts; it can never leave `false`). -/
theorem verify_leaves_nothing {env : Env} (hlim : env.flags.stackLimits = false) (ke : KeyEnv) (ctx : Ctx)
    {ms : Ms} {τ : Ty} (hwf : wf ms = true) (hty : typeOf ms = some τ) (hb : τ.corr.base = .V)
    {c c' : Core} (hrun : frag env ke ctx ms c = .ok c') :
    c'.stack.length ≤ c.stack.length ∧ c'.stack = c.stack.drop (c.stack.length - c'.stack.length) := by
  obtain ⟨_, n, _, _, e⟩ := base_V hlim ke ctx hwf hty hb hrun
  have hl : c'.stack.length = c.stack.length - n := by rw [e, List.length_drop]
  refine ⟨by omega, ?_⟩
  by_cases hn : n ≤ c.stack.length
  · rw [hl, show c.stack.length - (c.stack.length - n) = n by omega]; exact e
  · have h0 : c'.stack = [] := by rw [e, List.drop_eq_nil_of_le (by omega)]
    rw [h0, List.length_nil, Nat.sub_zero, List.drop_eq_nil_of_le (Nat.le_refl _)]

/-- T5 `K`: a successful K fragment restores the alt stack, removes exactly `n ≤ maxArgs ms` input
elements and pushes exactly one element (the key, see `key_on_top`). -/
theorem base_K {env : Env} (hlim : env.flags.stackLimits = false) (ke : KeyEnv) (ctx : Ctx)
    {ms : Ms} {τ : Ty} (hwf : wf ms = true) (hty : typeOf ms = some τ) (hb : τ.corr.base = .K)
    {c c' : Core} (hrun : frag env ke ctx ms c = .ok c') :
    c'.alt = c.alt ∧ ∃ k n, n ≤ maxArgs ms ∧ n ≤ c.stack.length ∧ c'.stack = k :: c.stack.drop n := by
  obtain ⟨ha, hp⟩ := shapeN hlim ke ctx ms hwf τ hty c c' hrun
  obtain ⟨k, n, hn, e⟩ := (PostN.K hb).1 hp
  exact ⟨ha, k, min n c.stack.length, Nat.le_trans (Nat.min_le_left _ _) hn, Nat.min_le_right _ _,
    by rw [e, drop_min]⟩

/-- T5 `K`: the element a K fragment leaves on top is the key: the serialisation named by a
`pk_k`, or an element whose HASH160 is the hash committed by a `pk_h` of the fragment. -/
theorem key_on_top {env : Env} (ke : KeyEnv) (ctx : Ctx)
    {ms : Ms} {τ : Ty} (hty : typeOf ms = some τ) (hb : τ.corr.base = .K)
    {c c' : Core} (hrun : frag env ke ctx ms c = .ok c') :
    ∃ k r, c'.stack = k :: r ∧ keyTop env ke ms k :=
  key_top ke ctx ms τ hty hb c c' hrun

/-- T5 `W`: a successful W fragment restores the alt stack, needs an element `x` on top, removes
exactly `n ≤ maxArgs ms` elements below `x` and leaves exactly `x` and one result `v`, in either
order (`a:` leaves `x` on top, `s:` below) — what `BOOLAND`/`BOOLOR`/`ADD` consume. -/
theorem base_W {env : Env} (hlim : env.flags.stackLimits = false) (ke : KeyEnv) (ctx : Ctx)
    {ms : Ms} {τ : Ty} (hwf : wf ms = true) (hty : typeOf ms = some τ) (hb : τ.corr.base = .W)
    {c c' : Core} (hrun : frag env ke ctx ms c = .ok c') :
    c'.alt = c.alt ∧ ∃ x tl v n, n ≤ maxArgs ms ∧ n ≤ tl.length ∧ c.stack = x :: tl ∧
      (c'.stack = x :: v :: tl.drop n ∨ c'.stack = v :: x :: tl.drop n) := by
  obtain ⟨ha, hp⟩ := shapeN hlim ke ctx ms hwf τ hty c c' hrun
  obtain ⟨x, tl, v, n, hn, e1, e2, _⟩ := (PostN.W hb).1 hp
  refine ⟨ha, x, tl, v, min n tl.length, Nat.le_trans (Nat.min_le_left _ _) hn, Nat.min_le_right _ _, e1, ?_⟩
  rw [← drop_min]; exact e2

/-! ## `u`: a true result is exactly 1 -/

/-- T2 `u` for B: if a unit B fragment completes and its result is true (`CastToBool`), the
result is exactly the one-byte vector `[1]`. -/
theorem unit_B {env : Env} (hlim : env.flags.stackLimits = false) (ke : KeyEnv) (ctx : Ctx)
    {ms : Ms} {τ : Ty} (hwf : wf ms = true) (hty : typeOf ms = some τ) (hb : τ.corr.base = .B)
    (hu : τ.corr.unit = true) {c c' : Core} (hrun : frag env ke ctx ms c = .ok c')
    {v : Bytes} {r : List Bytes} (hs : c'.stack = v :: r) (hv : castToBool v = true) : v = [1] := by
  obtain ⟨_, hp⟩ := shape hlim ke ctx ms hwf τ hty c c' hrun
  obtain ⟨v', n, e, huv⟩ := (Post.B hb).1 hp
  rw [hs] at e
  simp only [List.cons.injEq] at e
  obtain ⟨rfl, _⟩ := e
  exact huv hu hv

/-- T2 `u` for W: of the two elements a unit W fragment leaves, the one that is not the `x` it
found on top is exactly `[1]` whenever it is true. -/
theorem unit_W {env : Env} (hlim : env.flags.stackLimits = false) (ke : KeyEnv) (ctx : Ctx)
    {ms : Ms} {τ : Ty} (hwf : wf ms = true) (hty : typeOf ms = some τ) (hb : τ.corr.base = .W)
    (hu : τ.corr.unit = true) {c c' : Core} (hrun : frag env ke ctx ms c = .ok c') :
    ∃ x tl v n, c.stack = x :: tl ∧
      (c'.stack = x :: v :: tl.drop n ∨ c'.stack = v :: x :: tl.drop n) ∧
      (castToBool v = true → v = [1]) := by
  obtain ⟨_, hp⟩ := shape hlim ke ctx ms hwf τ hty c c' hrun
  obtain ⟨x, tl, v, n, e1, e2, huv⟩ := (Post.W hb).1 hp
  exact ⟨x, tl, v, n, e1, e2, huv hu⟩

/-! ## `n`: never satisfied with the empty vector on top

`wfK ms`: every `multi`-family threshold is at least 1 (guaranteed by `Threshold::new`). -/

/-- T1 `n` for B: a B fragment typed `n` (`oneNonZero` / `anyNonZero`), run on a stack whose top
element is the empty vector, never completes with a true result. -/
theorem nonzero_B {env : Env} (hlim : env.flags.stackLimits = false) (ke : KeyEnv) (ctx : Ctx)
    {ms : Ms} {τ : Ty} (hwf : wf ms = true) (hwk : wfK ms = true) (hty : typeOf ms = some τ)
    (hb : τ.corr.base = .B) (hn : τ.corr.input = .oneNonZero ∨ τ.corr.input = .anyNonZero)
    {stk alt : List Bytes} {ops : Nat} {c' : Core}
    (hrun : frag env ke ctx ms ⟨[] :: stk, alt, ops⟩ = .ok c') {v : Bytes} {r : List Bytes}
    (hs : c'.stack = v :: r) : castToBool v = false := by
  have := nonzero hlim ke ctx ms hwf hwk τ hty hn stk alt ops c' hrun
  rw [hb] at this
  exact this v r hs

/-- T1 `n` for V: a V fragment typed `n` cannot complete at all on such a stack. -/
theorem nonzero_V {env : Env} (hlim : env.flags.stackLimits = false) (ke : KeyEnv) (ctx : Ctx)
    {ms : Ms} {τ : Ty} (hwf : wf ms = true) (hwk : wfK ms = true) (hty : typeOf ms = some τ)
    (hb : τ.corr.base = .V) (hn : τ.corr.input = .oneNonZero ∨ τ.corr.input = .anyNonZero)
    (stk alt : List Bytes) (ops : Nat) :
    ∃ e, frag env ke ctx ms ⟨[] :: stk, alt, ops⟩ = .error e := by
  cases hr : frag env ke ctx ms ⟨[] :: stk, alt, ops⟩ with
  | error e => exact ⟨e, rfl⟩
  | ok c' =>
    have := nonzero hlim ke ctx ms hwf hwk τ hty hn stk alt ops c' hr
    rw [hb] at this
    exact this.elim

/-- T1 `n` for K: the `OP_CHECKSIG` that follows a K fragment typed `n` never pushes true. -/
theorem nonzero_K {env : Env} (hlim : env.flags.stackLimits = false) (ke : KeyEnv) (ctx : Ctx)
    {ms : Ms} {τ : Ty} (hwf : wf ms = true) (hwk : wfK ms = true) (hty : typeOf ms = some τ)
    (hb : τ.corr.base = .K) (hn : τ.corr.input = .oneNonZero ∨ τ.corr.input = .anyNonZero)
    {stk alt : List Bytes} {ops : Nat} {c' c'' : Core}
    (hrun : frag env ke ctx ms ⟨[] :: stk, alt, ops⟩ = .ok c') (hsig : opc env .checksig c' = .ok c'')
    {v : Bytes} {r : List Bytes} (hs : c''.stack = v :: r) : castToBool v = false := by
  have := nonzero hlim ke ctx ms hwf hwk τ hty hn stk alt ops c' hrun
  rw [hb] at this
  exact this c'' hsig v r hs

/-! ## `s` and `f`: what cannot happen without a signature

`NoSig env`: no signature verifies (`env.sigOk pk sg = false` for all `pk`, `sg`) — the spender
has no valid signature for anything.  `wfS ms`, `wfT ms`: the remaining construction invariants
of the library (multi-family thresholds ≥ 1, `multi_a` has a key, `thresh` has k ≤ n < 2³¹
children; lock times in 1 … 2³¹−1). -/

/-- T4 `s` for B: without a valid signature a signed B fragment never completes with a true
result. -/
theorem signed_B {env : Env} (hlim : env.flags.stackLimits = false) (hns : NoSig env) (ke : KeyEnv) (ctx : Ctx)
    {ms : Ms} {τ : Ty} (hwf : wf ms = true) (hws : wfS ms = true) (hty : typeOf ms = some τ)
    (hb : τ.corr.base = .B) (hs : τ.mall.signed = true) {c c' : Core}
    (hrun : frag env ke ctx ms c = .ok c') {v : Bytes} {r : List Bytes} (hst : c'.stack = v :: r) :
    castToBool v = false :=
  (UnsatS.B hb).1 (signed hlim hns ke ctx ms hwf hws τ hty hs c c' hrun) v r hst

/-- T4 `s` for V: without a valid signature a signed V fragment never completes. -/
theorem signed_V {env : Env} (hlim : env.flags.stackLimits = false) (hns : NoSig env) (ke : KeyEnv) (ctx : Ctx)
    {ms : Ms} {τ : Ty} (hwf : wf ms = true) (hws : wfS ms = true) (hty : typeOf ms = some τ)
    (hb : τ.corr.base = .V) (hs : τ.mall.signed = true) (c : Core) :
    ∃ e, frag env ke ctx ms c = .error e := by
  cases hr : frag env ke ctx ms c with
  | error e => exact ⟨e, rfl⟩
  | ok c' => exact ((UnsatS.V hb).1 (signed hlim hns ke ctx ms hwf hws τ hty hs c c' hr)).elim

/-- T4 `s` for K: a K fragment leaves a key for the `OP_CHECKSIG` that follows; without a valid signature
that `OP_CHECKSIG` never pushes true, whatever was executed before — so the statement needs no fragment
and no type.  (That every K type carries `s` is a fact of the type system, C12's `ksig`, not used here.) -/
theorem signed_K {env : Env} (hns : NoSig env) {c' c'' : Core} (hsig : opc env .checksig c' = .ok c'')
    {v : Bytes} {r : List Bytes} (hst : c''.stack = v :: r) : castToBool v = false :=
  checksig_nosig hns hsig hst

/-- T4 `s` for W: without a valid signature the result a signed W fragment leaves next to the
`x` it found on top is false. -/
theorem signed_W {env : Env} (hlim : env.flags.stackLimits = false) (hns : NoSig env) (ke : KeyEnv) (ctx : Ctx)
    {ms : Ms} {τ : Ty} (hwf : wf ms = true) (hws : wfS ms = true) (hty : typeOf ms = some τ)
    (hb : τ.corr.base = .W) (hs : τ.mall.signed = true) {c c' : Core}
    (hrun : frag env ke ctx ms c = .ok c') {x : Bytes} {tl : List Bytes} (hst : c.stack = x :: tl) :
    ∃ v r, (c'.stack = x :: v :: r ∨ c'.stack = v :: x :: r) ∧ castToBool v = false :=
  (UnsatS.W hb).1 (signed hlim hns ke ctx ms hwf hws τ hty hs c c' hrun) x tl hst

/-- T4 `f` for B: without a valid signature a forced B fragment (`Dissat::None`) that completes
leaves a TRUE value — it cannot be dissatisfied. -/
theorem forced_B {env : Env} (hlim : env.flags.stackLimits = false) (hns : NoSig env) (ke : KeyEnv) (ctx : Ctx)
    {ms : Ms} {τ : Ty} (hwf : wf ms = true) (hws : wfS ms = true) (hwt : wfT ms = true)
    (hty : typeOf ms = some τ) (hb : τ.corr.base = .B) (hd : τ.mall.dissat = .none) {c c' : Core}
    (hrun : frag env ke ctx ms c = .ok c') {v : Bytes} {r : List Bytes} (hst : c'.stack = v :: r) :
    castToBool v = true :=
  (ForcedS.B hb).1 (forced hlim hns ke ctx ms hwf hws hwt τ hty hd c c' hrun) v r hst

/-- T4 `f` for K: without a valid signature a forced K fragment cannot complete at all. -/
theorem forced_K {env : Env} (hlim : env.flags.stackLimits = false) (hns : NoSig env) (ke : KeyEnv) (ctx : Ctx)
    {ms : Ms} {τ : Ty} (hwf : wf ms = true) (hws : wfS ms = true) (hwt : wfT ms = true)
    (hty : typeOf ms = some τ) (hb : τ.corr.base = .K) (hd : τ.mall.dissat = .none) (c : Core) :
    ∃ e, frag env ke ctx ms c = .error e := by
  cases hr : frag env ke ctx ms c with
  | error e => exact ⟨e, rfl⟩
  | ok c' => exact ((ForcedS.K hb).1 (forced hlim hns ke ctx ms hwf hws hwt τ hty hd c c' hr)).elim

/-- T4 `f` for W, under the oracle that accepts nothing: the result a forced W fragment leaves next to the `x` it
found on top is true. -/
theorem forced_W {env : Env} (hlim : env.flags.stackLimits = false) (hns : NoSig env) (ke : KeyEnv) (ctx : Ctx)
    {ms : Ms} {τ : Ty} (hwf : wf ms = true) (hws : wfS ms = true) (hwt : wfT ms = true)
    (hty : typeOf ms = some τ) (hb : τ.corr.base = .W) (hd : τ.mall.dissat = .none) {c c' : Core}
    (hrun : frag env ke ctx ms c = .ok c') {x : Bytes} {tl : List Bytes} (hst : c.stack = x :: tl) :
    ∃ v r, (c'.stack = x :: v :: r ∨ c'.stack = v :: x :: r) ∧ castToBool v = true :=
  (ForcedS.W hb).1 (forced hlim hns ke ctx ms hwf hws hwt τ hty hd c c' hrun) x tl hst

/-! ## `s` and `f`, stack-wise: for EVERY sane oracle, on stacks without a valid signature

`Clean env v`: `v` verifies under no key.  `AllClean env c`: every element of the main and the alt
stack of `c` is clean — "the input contains no valid signature".  `OracleSane env ke`: no value
the script generates by itself (`Gen`: script numbers, booleans, its key / key-hash / hash
constants, every `env.hash op a`) is a valid signature — without it a `CHECKSIG` could accept e.g. the
number a previous fragment left, and the letters `s`/`f` would say nothing about inputs.
`same_frag` (Lemmas/TypeSoundClean.lean) shows that such a run IS, step by step, the run under
the oracle that accepts nothing, which is how the `NoSig` theorems transfer. -/

/-- T4 `s`, the property's meaning: on an input without a valid signature a signed B fragment is
never satisfied — for every sane oracle. -/
theorem signed_B_stackwise {env : Env} (hlim : env.flags.stackLimits = false) {ke : KeyEnv}
    (hso : OracleSane env ke) (ctx : Ctx) {ms : Ms} {τ : Ty} (hwf : wf ms = true) (hws : wfS ms = true)
    (hty : typeOf ms = some τ) (hb : τ.corr.base = .B) (hs : τ.mall.signed = true) {c c' : Core}
    (hclean : AllClean env c) (hrun : frag env ke ctx ms c = .ok c') {v : Bytes} {r : List Bytes}
    (hst : c'.stack = v :: r) : castToBool v = false :=
  (UnsatS.B hb).1 (signed_clean hlim hso ctx ms hwf hws τ hty hs c c' hclean hrun) v r hst

theorem allClean_of_no_signature {env : Env} {c : Core}
    (hne : ¬ ∃ e, (e ∈ c.stack ∨ e ∈ c.alt) ∧ ∃ pk, env.sigOk pk e = true) : AllClean env c := by
  have h : ∀ e, (e ∈ c.stack ∨ e ∈ c.alt) → Clean env e := fun e he pk => by
    cases hsk : env.sigOk pk e with
    | false => rfl
    | true => exact (hne ⟨e, he, pk, hsk⟩).elim
  exact ⟨fun e he => h e (.inl he), fun e he => h e (.inr he)⟩

/-- the same read forwards: every execution that SATISFIES a signed B fragment started from a
state holding at least one element that is a valid signature for some key. -/
theorem signed_B_needs_signature {env : Env} (hlim : env.flags.stackLimits = false) {ke : KeyEnv}
    (hso : OracleSane env ke) (ctx : Ctx) {ms : Ms} {τ : Ty} (hwf : wf ms = true) (hws : wfS ms = true)
    (hty : typeOf ms = some τ) (hb : τ.corr.base = .B) (hs : τ.mall.signed = true) {c c' : Core}
    (hrun : frag env ke ctx ms c = .ok c') {v : Bytes} {r : List Bytes}
    (hst : c'.stack = v :: r) (hsat : castToBool v = true) :
    ∃ e, (e ∈ c.stack ∨ e ∈ c.alt) ∧ ∃ pk, env.sigOk pk e = true := by
  apply Classical.byContradiction
  intro hne
  have hclean := allClean_of_no_signature hne
  have := signed_B_stackwise hlim hso ctx hwf hws hty hb hs hclean hrun hst
  rw [hsat] at this
  cases this

/-- T4 `s` for V, stack-wise: without a valid signature in the input a signed V fragment aborts. -/
theorem signed_V_stackwise {env : Env} (hlim : env.flags.stackLimits = false) {ke : KeyEnv}
    (hso : OracleSane env ke) (ctx : Ctx) {ms : Ms} {τ : Ty} (hwf : wf ms = true) (hws : wfS ms = true)
    (hty : typeOf ms = some τ) (hb : τ.corr.base = .V) (hs : τ.mall.signed = true) {c : Core}
    (hclean : AllClean env c) : ∃ e, frag env ke ctx ms c = .error e := by
  cases hr : frag env ke ctx ms c with
  | error e => exact ⟨e, rfl⟩
  | ok c' => exact ((UnsatS.V hb).1 (signed_clean hlim hso ctx ms hwf hws τ hty hs c c' hclean hr)).elim

/-- T4 `s` for W, stack-wise: on a state holding no valid signature the result a signed W fragment leaves next to
the `x` it found on top is false. -/
theorem signed_W_stackwise {env : Env} (hlim : env.flags.stackLimits = false) {ke : KeyEnv}
    (hso : OracleSane env ke) (ctx : Ctx) {ms : Ms} {τ : Ty} (hwf : wf ms = true) (hws : wfS ms = true)
    (hty : typeOf ms = some τ) (hb : τ.corr.base = .W) (hs : τ.mall.signed = true) {c c' : Core}
    (hclean : AllClean env c) (hrun : frag env ke ctx ms c = .ok c') {x : Bytes} {tl : List Bytes}
    (hst : c.stack = x :: tl) :
    ∃ v r, (c'.stack = x :: v :: r ∨ c'.stack = v :: x :: r) ∧ castToBool v = false :=
  (UnsatS.W hb).1 (signed_clean hlim hso ctx ms hwf hws τ hty hs c c' hclean hrun) x tl hst

/-- T4 `f`, the property's meaning ("a forced fragment cannot be made to leave 0 without a
signature"): on an input without a valid signature a forced B fragment that completes leaves a
TRUE value — for every sane oracle. -/
theorem forced_B_stackwise {env : Env} (hlim : env.flags.stackLimits = false) {ke : KeyEnv}
    (hso : OracleSane env ke) (ctx : Ctx) {ms : Ms} {τ : Ty} (hwf : wf ms = true) (hws : wfS ms = true)
    (hwt : wfT ms = true) (hty : typeOf ms = some τ) (hb : τ.corr.base = .B) (hd : τ.mall.dissat = .none)
    {c c' : Core} (hclean : AllClean env c) (hrun : frag env ke ctx ms c = .ok c') {v : Bytes}
    {r : List Bytes} (hst : c'.stack = v :: r) : castToBool v = true :=
  (ForcedS.B hb).1 (forced_clean hlim hso ctx ms hwf hws hwt τ hty hd c c' hclean hrun) v r hst

/-- the same read forwards: an execution that DISSATISFIES a forced B fragment (completes with a
false value) consumed a state holding a valid signature. -/
theorem forced_B_dissat_needs_signature {env : Env} (hlim : env.flags.stackLimits = false) {ke : KeyEnv}
    (hso : OracleSane env ke) (ctx : Ctx) {ms : Ms} {τ : Ty} (hwf : wf ms = true) (hws : wfS ms = true)
    (hwt : wfT ms = true) (hty : typeOf ms = some τ) (hb : τ.corr.base = .B) (hd : τ.mall.dissat = .none)
    {c c' : Core} (hrun : frag env ke ctx ms c = .ok c') {v : Bytes} {r : List Bytes}
    (hst : c'.stack = v :: r) (hdis : castToBool v = false) :
    ∃ e, (e ∈ c.stack ∨ e ∈ c.alt) ∧ ∃ pk, env.sigOk pk e = true := by
  apply Classical.byContradiction
  intro hne
  have hclean := allClean_of_no_signature hne
  have := forced_B_stackwise hlim hso ctx hwf hws hwt hty hb hd hclean hrun hst
  rw [hdis] at this
  cases this

/-- T4 `f` for K, stack-wise: on a state holding no valid signature a forced K fragment does not complete. -/
theorem forced_K_stackwise {env : Env} (hlim : env.flags.stackLimits = false) {ke : KeyEnv}
    (hso : OracleSane env ke) (ctx : Ctx) {ms : Ms} {τ : Ty} (hwf : wf ms = true) (hws : wfS ms = true)
    (hwt : wfT ms = true) (hty : typeOf ms = some τ) (hb : τ.corr.base = .K) (hd : τ.mall.dissat = .none)
    {c : Core} (hclean : AllClean env c) : ∃ e, frag env ke ctx ms c = .error e := by
  cases hr : frag env ke ctx ms c with
  | error e => exact ⟨e, rfl⟩
  | ok c' => exact ((ForcedS.K hb).1 (forced_clean hlim hso ctx ms hwf hws hwt τ hty hd c c' hclean hr)).elim

/-- T4 `f` for W, stack-wise: on a state holding no valid signature the result a forced W fragment leaves next
to the `x` it found on top is true. -/
theorem forced_W_stackwise {env : Env} (hlim : env.flags.stackLimits = false) {ke : KeyEnv}
    (hso : OracleSane env ke) (ctx : Ctx) {ms : Ms} {τ : Ty} (hwf : wf ms = true) (hws : wfS ms = true)
    (hwt : wfT ms = true) (hty : typeOf ms = some τ) (hb : τ.corr.base = .W) (hd : τ.mall.dissat = .none)
    {c c' : Core} (hclean : AllClean env c) (hrun : frag env ke ctx ms c = .ok c') {x : Bytes}
    {tl : List Bytes} (hst : c.stack = x :: tl) :
    ∃ v r, (c'.stack = x :: v :: r ∨ c'.stack = v :: x :: r) ∧ castToBool v = true :=
  (ForcedS.W hb).1 (forced_clean hlim hso ctx ms hwf hws hwt τ hty hd c c' hclean hrun) x tl hst

/-! ### non-vacuity of the stack-wise hypotheses -/

/-- `TypeSound.Toy` (Lemmas/TypeSoundDissat.lean; not `MsVerif.Toy` of DecodeToy) with an oracle that accepts exactly one 64-byte string -/
def saneEnv : Env := { Toy.env 0 0 with sigOk := fun _ sg => sg == List.replicate 64 0x11 }

theorem ne_of_length {a b : Bytes} (h : a.length ≠ b.length) : (a == b) = false := by
  rw [beq_eq_false_iff_ne]; intro e; exact h (congrArg List.length e)

theorem ne_of_last {a : Bytes} : (a ++ [7] == List.replicate 64 (0x11 : UInt8)) = false := by
  rw [beq_eq_false_iff_ne]
  intro e
  have := congrArg List.getLast? e
  simp at this

/-- `OracleSane` is satisfiable: numbers are at most 10 bytes long, the toy keys 33, and the toy
hash outputs end in the byte 7 -/
theorem saneEnv_sane : OracleSane saneEnv Toy.ke := by
  intro v hg pk
  show (v == List.replicate 64 0x11) = false
  cases hg with
  | num n => exact ne_of_length (by have := Script.numEncode_length n; simp only [List.length_replicate]; omega)
  | small n => exact ne_of_length (by split <;> simp)
  | bool b => exact ne_of_length (by cases b <;> simp [boolBytes])
  | ser k => exact ne_of_length (by simp [Toy.ke, Toy.ser])
  | pkh k => exact ne_of_last
  | rawPkh h => exact ne_of_last
  | hashVal kind h => exact ne_of_last
  | hash op a => exact ne_of_last

/-- a state without a valid signature (`saneEnv` replaces the oracle of `TypeSound.Toy.env`) -/
theorem exClean : AllClean saneEnv ⟨[[1], Toy.ser 0 ++ [1]], [[2]], 0⟩ := by
  constructor <;> intro e he pk <;> simp at he <;> (try rcases he with rfl | rfl) <;> (try subst he) <;>
    exact ne_of_length (by simp [Toy.ser])

/-- `signed_B_stackwise` instantiated on `and_v(v:pk(K0),after(100))` (signed, with a lock) -/
example (c' : Core) (v : Bytes) (r : List Bytes)
    (h : frag saneEnv Toy.ke .segwitv0 (.andV (.verify (.check (.pkK 0))) (.after 100))
      ⟨[[1], Toy.ser 0 ++ [1]], [[2]], 0⟩ = .ok c') (hst : c'.stack = v :: r) : castToBool v = false :=
  signed_B_stackwise (τ := ⟨⟨.B, .oneNonZero, false, false⟩, ⟨.none, true, true⟩⟩) rfl saneEnv_sane .segwitv0
    (by decide) (by decide) (by decide) rfl rfl exClean h hst

/-! ### `f` is NOT "cannot be dissatisfied on any stack"

`Dissat::None` means that every dissatisfaction involves a signature, not that there is none:
`and_b(and_v(v:pk(K0),1),a:0)` is typed `f` by the library (rule `and_b`: left child forced and
signed), and WITH a valid signature for K0 it completes with the false value — satisfy the left
child, dissatisfy the right one.  So the reading "for every oracle and every stack a forced
fragment never ends dissatisfied" is false; `forced_B_stackwise` is the strongest true form. -/

/-- `and_b(and_v(v:pk(K0),1),a:0)` -/
def exForced : Ms := .andB (.andV (.verify (.check (.pkK 0))) .tru) (.alt .fls)

example : wf exForced = true ∧ wfS exForced = true ∧ wfT exForced = true ∧
    (typeOf exForced).map (fun t => (t.corr.base, t.mall.dissat)) = some (.B, .none) := by decide

/-- in `Toy` (a signature is valid iff it is `key ++ [1]`), on the stack holding
the valid signature for K0, the forced fragment completes and leaves the empty vector -/
theorem forced_dissatisfied_with_signature :
    ∃ c', frag (Toy.env 0 0) Toy.ke .segwitv0 exForced ⟨[Toy.ser 0 ++ [1]], [], 0⟩ = .ok c' ∧
      c'.stack = [[]] :=
  ⟨⟨[[]], [], 4⟩, by rfl, rfl⟩

/-- the over-strong reading of `f` is refuted -/
theorem forced_for_all_oracles_false :
    ¬ (∀ (env : Env) (ke : KeyEnv) (ctx : Ctx) (ms : Ms) (τ : Ty) (c c' : Core) (v : Bytes) (r : List Bytes),
        env.flags.stackLimits = false → wf ms = true → wfS ms = true → wfT ms = true → typeOf ms = some τ →
        τ.corr.base = .B → τ.mall.dissat = .none → frag env ke ctx ms c = .ok c' → c'.stack = v :: r →
        castToBool v = true) := by
  intro h
  obtain ⟨c', hr, hs⟩ := forced_dissatisfied_with_signature
  have := h (Toy.env 0 0) Toy.ke .segwitv0 exForced _ _ c' [] [] rfl (by decide) (by decide) (by decide)
    (by decide : typeOf exForced = some ⟨⟨.B, .anyNonZero, false, true⟩, ⟨.none, true, true⟩⟩) rfl rfl hr hs
  simp [castToBool] at this

/-! ## `d`: a dissatisfiable fragment has a signature-free input that dissatisfies it

By composition of C07.`dissatisfiable_of_type`, C02.`mall_complete_table` and C01.`dissat_sound`
(`Lemmas/TypeSoundDissat.lean`); their hypotheses are carried explicitly:
`EnvOk env ctx` (limits off, tapscript rules iff the context is Tap), `Agrees env ke noAssets σ`
(keys have the shape the context wants, `pk_h` commits to HASH160 of the key, 32 zero bytes are
not a preimage of a committed hash, witness elements are shorter than 2³¹ bytes; NOTHING about
signatures, because the caller holds none), `WF ctx ms` (`Threshold::new` / lock-time ranges /
multi vs multi_a per context), `noRaw ms` (no raw pubkey hash: its key is not in the script),
`ThreshKOK ms` (1 ≤ k ≤ n at every `thresh`), `SmallScript ms` (fewer than 2⁵⁵ witness items), and `LocksMet`: the locks the model REPORTS for
this dissatisfaction are met by the transaction (the library reports none for a `d` fragment in
non-malleable mode — C01.`dissat_clean_nonmall`; for the malleable-mode witness used here this
is a hypothesis, discharged by evaluation in the example).

The witness is the dissatisfaction the satisfier computes for a caller who holds NO signature,
NO preimage and NO lock (`noCfg`), and the run reaches the dissatisfied shape under EVERY
signature oracle `so` — in particular under the one that accepts nothing, for which the input
trivially contains no valid signature. -/

/-- T3 `d`, all base types (vocabulary of Spec/SatSpec.lean): there is a witness template `w`,
computed without any asset, such that under every signature oracle the fragment run on the
realised witness (above any `rest`, any alt stack, any opcode counter) leaves exactly the empty
vector in place of the witness (B), the key over an empty signature (K), resp. the empty vector
next to the untouched top element (W). -/
theorem dissatisfiable {env : Env} {ke : KeyEnv} {ctx : Ctx} {σ : Ph → Bytes} {ms : Ms} {τ : Ty}
    (henv : SatSpec.EnvOk env ctx) (hag : SatSpec.Agrees env ke noAssets σ) (hwf : SatSpec.WF ctx ms)
    (hty : typeOf ms = some τ) (hraw : Lift.noRaw ms = true) (hk : C02.ThreshKOK ms) (hsm : C02.SmallScript ms)
    (hd : τ.corr.dissat = true)
    (hl : SatSpec.LocksMet env (satDissat (noCfg ke ctx) ms).dissat) :
    ∃ w, (satDissat (noCfg ke ctx) ms).dissat.stack = .stack w ∧
      ∀ so : Bytes → Bytes → Bool, SatSpec.DisRuns { env with sigOk := so } ke ctx σ τ.corr ms w := by
  obtain ⟨w, hw⟩ := dissat_stack_of_type ke ctx ms τ hty hraw hk hsm hd
  refine ⟨w, hw, fun so => ?_⟩
  exact C01.dissat_sound (cfg := noCfg ke ctx) (env := { env with sigOk := so })
    ⟨henv.opLimit, henv.stackLimits, henv.tap⟩ (agrees_oracle hag so) ms τ hwf hty w hw hl

/-- T3 `d` for B, spelled out: a concrete input `inp` such that, under every signature oracle,
`frag` on `inp ++ rest` completes, restores the alt stack and leaves exactly `[] :: rest`. -/
theorem dissatisfiable_B {env : Env} {ke : KeyEnv} {ctx : Ctx} {σ : Ph → Bytes} {ms : Ms} {τ : Ty}
    (henv : SatSpec.EnvOk env ctx) (hag : SatSpec.Agrees env ke noAssets σ) (hwf : SatSpec.WF ctx ms)
    (hty : typeOf ms = some τ) (hraw : Lift.noRaw ms = true) (hk : C02.ThreshKOK ms) (hsm : C02.SmallScript ms)
    (hb : τ.corr.base = .B) (hd : τ.corr.dissat = true)
    (hl : SatSpec.LocksMet env (satDissat (noCfg ke ctx) ms).dissat) :
    ∃ inp : List Bytes, ∀ (so : Bytes → Bytes → Bool) (rest alt : List Bytes) (ops : Nat),
      ∃ c', frag { env with sigOk := so } ke ctx ms ⟨inp ++ rest, alt, ops⟩ = .ok c' ∧
        c'.stack = [] :: rest ∧ c'.alt = alt := by
  obtain ⟨w, _, hr⟩ := dissatisfiable henv hag hwf hty hraw hk hsm hd hl
  exact ⟨SatSpec.stk σ w, fun so rest alt ops => (SatSpec.disRuns_B hb).mp (hr so) rest alt ops⟩

/-- T3 `d` on real opcode execution, under the oracle that accepts nothing (so the input holds
no valid signature): the flat interpreter runs the encoded script on `inp ++ rest` to
`[] :: rest`. -/
theorem dissatisfiable_B_run {env : Env} {ke : KeyEnv} {ctx : Ctx} {σ : Ph → Bytes} {ms : Ms} {τ : Ty}
    (henv : SatSpec.EnvOk env ctx) (hag : SatSpec.Agrees env ke noAssets σ) (hwf : SatSpec.WF ctx ms)
    (hty : typeOf ms = some τ) (hraw : Lift.noRaw ms = true) (hk : C02.ThreshKOK ms) (hsm : C02.SmallScript ms)
    (hb : τ.corr.base = .B) (hd : τ.corr.dissat = true)
    (hl : SatSpec.LocksMet env (satDissat (noCfg ke ctx) ms).dissat) :
    ∃ inp : List Bytes, (∀ pk, ∀ sg ∈ inp, (noSigEnv env).sigOk pk sg = false) ∧
      ∀ (rest alt : List Bytes) (ops : Nat) (cs : List Bool), cs.all id = true →
        ∃ ops', run (noSigEnv env) (encode ke ctx ms) ⟨⟨inp ++ rest, alt, ops⟩, cs⟩
          = .ok ⟨⟨[] :: rest, alt, ops'⟩, cs⟩ := by
  obtain ⟨inp, h⟩ := dissatisfiable_B henv hag hwf hty hraw hk hsm hb hd hl
  refine ⟨inp, fun _ _ _ => rfl, fun rest alt ops cs hcs => ?_⟩
  obtain ⟨c', hr, hs, ha⟩ := h (fun _ _ => false) rest alt ops
  have hb' := Bridge.exec_encode_eq_frag_nostack (noSigEnv env) ke ctx ms ⟨inp ++ rest, alt, ops⟩ cs hcs
    henv.stackLimits
  refine ⟨c'.ops, ?_⟩
  rw [hb']
  show (frag { env with sigOk := fun _ _ => false } ke ctx ms ⟨inp ++ rest, alt, ops⟩).map _ = _
  rw [hr]
  obtain ⟨s, a, o⟩ := c'
  simp only at hs ha
  subst hs; subst ha
  rfl

/-! ### non-vacuity of `d`: an `andor` over a lock, a hash and a 2-of-3 threshold, typed `d` -/

/-- `andor(pk(K0), and_v(v:pk(K1),older(144)), thresh(2,pk(K2),s:pk(K3),a:sha256(H0)))` -/
def exD : Ms :=
  .andOr (Toy.pk 0) (.andV (.verify (Toy.pk 1)) (.older 144))
    (.thresh 2 (.cons (Toy.pk 2) (.cons (.swap (Toy.pk 3)) (.cons (.alt (.hash .sha256 0)) .nil))))

example : (typeOf exD).map (fun t => (t.corr.base, t.corr.dissat)) = some (.B, true) ∧
    Lift.noRaw exD = true ∧ C02.ThreshKOK exD ∧ C02.SmallScript exD := by decide

example : SatSpec.WF .segwitv0 exD := by simp [exD, Toy.pk, SatSpec.WF, SatSpec.WFs, MsList.length]

/-- the witness the satisfier computes without assets: three empty vectors for the threshold
children … and one for `pk(K0)`; no lock is reported -/
example : (satDissat (noCfg Toy.ke .segwitv0) exD).dissat
    = ⟨.stack [.hashDissat, .pushZero, .pushZero, .pushZero], false, none, none⟩ := by decide

/-- all hypotheses of `dissatisfiable_B` hold in `Toy` -/
example : ∃ inp : List Bytes, ∀ (so : Bytes → Bytes → Bool) (rest alt : List Bytes) (ops : Nat),
    ∃ c', frag { Toy.env 0 0 with sigOk := so } Toy.ke .segwitv0 exD ⟨inp ++ rest, alt, ops⟩ = .ok c' ∧
      c'.stack = [] :: rest ∧ c'.alt = alt :=
  dissatisfiable_B (τ := ⟨⟨.B, .any, true, false⟩, ⟨.unknown, true, false⟩⟩) (Toy.envOk 0 0) (Toy.agrees 0 0 noAssets)
    (by simp [exD, Toy.pk, SatSpec.WF, SatSpec.WFs, MsList.length]) (by decide) (by decide) (by decide) (by decide) rfl rfl
    (by simp [SatSpec.LocksMet]; decide)

/-! ## `z`, `o` and the B shape about real opcode execution (`Script.run` on `encode ms`)

`Thm/Bridge.lean` proves `run env (encode ke ctx ms) ⟨c, cs⟩ = (frag env ke ctx ms c).map (⟨·, cs⟩)`
for every all-true condition stack when the stack limits are off; so every theorem above is a
theorem about the flat interpreter running the library's encoding.  Written out for three (the framing
conjunct of `zero_arg` / `one_arg`; `base_B` without the bound by the stack depth); `dissatisfiable_B_run` above is the fourth: -/

/-- `z` on opcodes: the encoded script of a zero-arg fragment, run by the flat interpreter in any
executing context `cs` on any stack, does what it does on the empty stack, with the stack left
below — same error or same result. -/
theorem zero_arg_run {env : Env} (hlim : env.flags.stackLimits = false) (ke : KeyEnv) (ctx : Ctx)
    {ms : Ms} {τ : Ty} (hwf : wf ms = true) (hty : typeOf ms = some τ) (hz : τ.corr.input = .zero)
    (stk alt : List Bytes) (ops : Nat) (cs : List Bool) (hcs : cs.all id = true) :
    run env (encode ke ctx ms) ⟨⟨stk, alt, ops⟩, cs⟩ =
      (run env (encode ke ctx ms) ⟨⟨[], alt, ops⟩, cs⟩).map (fun s => ⟨below s.core stk, s.conds⟩) := by
  rw [Bridge.exec_encode_eq_frag_nostack env ke ctx ms _ cs hcs hlim,
    Bridge.exec_encode_eq_frag_nostack env ke ctx ms _ cs hcs hlim,
    (zero_arg hlim ke ctx hwf hty hz stk alt ops).1]
  cases frag env ke ctx ms ⟨[], alt, ops⟩ <;> rfl

/-- `o` on opcodes: the encoded script of a one-arg fragment on `x :: stk` does what it does on `[x]`, with `stk`
left below — same error or same result. -/
theorem one_arg_run {env : Env} (hlim : env.flags.stackLimits = false) (ke : KeyEnv) (ctx : Ctx)
    {ms : Ms} {τ : Ty} (hwf : wf ms = true) (hty : typeOf ms = some τ)
    (ho : τ.corr.input = .one ∨ τ.corr.input = .oneNonZero)
    (x : Bytes) (stk alt : List Bytes) (ops : Nat) (cs : List Bool) (hcs : cs.all id = true) :
    run env (encode ke ctx ms) ⟨⟨x :: stk, alt, ops⟩, cs⟩ =
      (run env (encode ke ctx ms) ⟨⟨[x], alt, ops⟩, cs⟩).map (fun s => ⟨below s.core stk, s.conds⟩) := by
  rw [Bridge.exec_encode_eq_frag_nostack env ke ctx ms _ cs hcs hlim,
    Bridge.exec_encode_eq_frag_nostack env ke ctx ms _ cs hcs hlim,
    (one_arg hlim ke ctx hwf hty ho x stk alt ops).1]
  cases frag env ke ctx ms ⟨[x], alt, ops⟩ <;> rfl

/-- B shape and `u` on opcodes: when the flat interpreter completes the encoded script of a B
fragment, conditionals are balanced again, the alt stack is restored, exactly one element `v`
replaces some inputs, and for a unit fragment a true `v` is `[1]`. -/
theorem base_B_run {env : Env} (hlim : env.flags.stackLimits = false) (ke : KeyEnv) (ctx : Ctx)
    {ms : Ms} {τ : Ty} (hwf : wf ms = true) (hty : typeOf ms = some τ) (hb : τ.corr.base = .B)
    {c : Core} {cs : List Bool} (hcs : cs.all id = true) {s' : State}
    (hrun : run env (encode ke ctx ms) ⟨c, cs⟩ = .ok s') :
    s'.conds = cs ∧ s'.core.alt = c.alt ∧ ∃ v n, n ≤ maxArgs ms ∧ s'.core.stack = v :: c.stack.drop n ∧
      (τ.corr.unit = true → castToBool v = true → v = [1]) := by
  obtain ⟨hc, hf⟩ := Bridge.run_encode_conds env ke ctx ms c cs s' hcs (.inr (.inl hlim))
    (fun h => by rw [hlim] at h; cases h) hrun
  obtain ⟨ha, v, n, hn, _, e⟩ := base_B hlim ke ctx hwf hty hb hf
  exact ⟨hc, ha, v, n, hn, e, fun hu hv => unit_B hlim ke ctx hwf hty hb hu hf e hv⟩

/-! ## Non-vacuity of the hypotheses of `z`, `o`, `n`, the base types and the `NoSig` forms of `s`/`f` -/

/-- a concrete environment: limits off, MINIMALIF/NULLFAIL on, no signature verifies -/
def exEnv : Env :=
  { flags := ⟨false, true, true, true, true, false, false⟩, sigOk := fun _ _ => false,
    hash := fun _ b => b, nLockTime := 0, nSequence := 0, txVersion := 2 }
def exKe : KeyEnv :=
  { ser := fun k => [2, UInt8.ofNat k], sortKey := fun k => [UInt8.ofNat k], pkh := fun k => [UInt8.ofNat k],
    rawPkh := fun k => [UInt8.ofNat k], hashVal := fun _ h => [UInt8.ofNat h] }

def exZ : Ms := .andV (.verify .tru) .tru
def exO : Ms := .orI .tru .fls
def exW : Ms := .swap (.check (.pkK 0))
def exK : Ms := .andV (.verify .tru) (.pkK 3)
def exT : Ms := .thresh 1 (.cons (.check (.pkK 0)) (.cons (.swap (.check (.pkK 1))) .nil))

example : wf exZ = true ∧ (typeOf exZ).map (·.corr) = some ⟨.B, .zero, false, true⟩ := by decide
example : wf exO = true ∧ (typeOf exO).map (·.corr) = some ⟨.B, .one, true, true⟩ := by decide
example : wf exW = true ∧ (typeOf exW).map (·.corr) = some ⟨.W, .any, true, true⟩ := by decide
example : wf exK = true ∧ (typeOf exK).map (·.corr) = some ⟨.K, .oneNonZero, false, true⟩ := by decide
example : wf exT = true ∧ (typeOf exT).map (·.corr) = some ⟨.B, .any, true, true⟩ := by decide
/-- `j:pk(0)` is typed `n`; `multi(1,0,1)` too and satisfies the threshold side condition -/
def exN : Ms := .nonZero (.check (.pkK 0))
def exM : Ms := .multi 1 [0, 1]
example : wf exN = true ∧ wfK exN = true ∧ (typeOf exN).map (·.corr) = some ⟨.B, .oneNonZero, true, true⟩ := by decide
example : wf exM = true ∧ wfK exM = true ∧ (typeOf exM).map (·.corr) = some ⟨.B, .anyNonZero, true, true⟩ := by decide
/-- `nonzero_B` at work: `j:pk(0)` on an empty top element leaves it (the result is false) -/
example : frag exEnv exKe .segwitv0 exN ⟨[[], [0xAA]], [], 0⟩ = .ok ⟨[[], [0xAA]], [], 5⟩ := by rfl
/-- `and_v(v:pk(0),after(100))` is signed and forced; `exEnv` accepts no signature -/
def exS : Ms := .andV (.verify (.check (.pkK 0))) (.after 100)
example : wf exS = true ∧ wfS exS = true ∧ wfT exS = true ∧ wfS exT = true ∧
    (typeOf exS).map (·.mall) = some ⟨.none, true, true⟩ := by decide
example : NoSig exEnv := fun _ _ => rfl
example : exEnv.flags.stackLimits = false := rfl
/-- the runs the theorems speak about exist: `or_i(1,0)` on `[1] :: rest` leaves `[1] :: rest` -/
example : frag exEnv exKe .segwitv0 exO ⟨[[1], [0xAA]], [], 0⟩ = .ok ⟨[[1], [0xAA]], [], 3⟩ := by rfl
example : frag exEnv exKe .segwitv0 exZ ⟨[[0xAA]], [], 0⟩ = .ok ⟨[[1], [0xAA]], [], 1⟩ := by rfl

end MsVerif.C06
