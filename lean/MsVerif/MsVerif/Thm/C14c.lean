/-
C14c — T4 of C14 (update consistency) as theorems: what `update_input_with_descriptor` /
`update_output_with_descriptor` write (both through `update_item_with_descriptor_helper`; `Model/PsbtUpdate.lean`), for every descriptor of C16's
descriptor model and every script tree of C15's taproot model.

* `update_scripts_are_spec`: the `redeem_script` / `witness_script` written are exactly the BIP16
  redeem script / BIP141 witness script (`Spec/Outputs.lean`) of the output the descriptor
  commits to;
* `update_scripts_hash_to_spk`: hence they hash to the descriptor's scriptPubKey (P2WSH:
  `OP_0 <sha256 ws>`; P2SH-P2WSH: `rs = OP_0 <sha256 ws>`, spk = `HASH160 <hash160 rs> EQUAL`; P2SH /
  P2SH-P2WPKH: spk = `HASH160 <hash160 rs> EQUAL`): the scriptPubKey is the template of the
  committed output (`Desc.scriptPubkey_eq_template`, the fact under C16's `spk_is_template`);
* `updated_input_descriptor_inferred_wsh` / `_sh_wsh` / `_sh`: on an input updated this way the finalizer's
  `get_descriptor` passes its own consistency tests and infers exactly that script (link between
  the Updater and the Finalizer roles);
* `tap_update_commits` (taproot, from C15's theorems): `tap_merkle_root` is the BIP341 root of the
  described tree, the recorded output key is the internal key tweaked by it, and EVERY
  `tap_scripts` control block proves its leaf against that root (path length ≤ 128), leaves in
  pre-order with the tree's depths.
No theorem is about WHICH keys get an origin (`PsbtUpd.updateKeys`); not modelled: the origin VALUES (`bip32_derivation` / `tap_key_origins` contents: fingerprint and
path of each key) — judged on every run (`J update-consistent`, `J update-output-consistent`).
-/
import MsVerif.Model.PsbtUpdate
import MsVerif.Lemmas.OutputsSer
import MsVerif.Thm.C15

namespace MsVerif.C14c
open MsVerif MsVerif.Script MsVerif.Outputs MsVerif.Desc MsVerif.PsbtUpd

/-- the written scripts are the specification's redeem / witness script of the committed output -/
theorem update_scripts_are_spec (P : Desc.Params) (hH : P.H.WellSized) (d : Desc.Desc) :
    updateScripts P d = ((d.toOutput P).redeemScript P.H, (d.toOutput P).witnessScript) := by
  cases d with
  | sh inner =>
    cases inner with
    | ms ms => rfl
    | wpkh pk => exact congrArg (fun s => (some s, none)) (wpkhScriptPubkey_eq P hH pk)
    | wsh ms => exact congrArg (fun s => (some s, _)) (toP2wsh_eq P hH _)
  | _ => rfl

/-- T4 (non-taproot): the recorded scripts hash to the scriptPubKey of the descriptor -/
theorem update_scripts_hash_to_spk (P : Desc.Params) (hH : P.H.WellSized) (d : Desc.Desc) :
    match d with
    | .wsh _ => ∃ ws, updateScripts P d = (none, some ws) ∧ d.scriptPubkey P = p2wsh (P.H.sha256 ws)
    | .sh (.wsh _) => ∃ rs ws, updateScripts P d = (some rs, some ws) ∧ rs = p2wsh (P.H.sha256 ws) ∧
        d.scriptPubkey P = p2sh (P.H.hash160 rs)
    | .sh (.wpkh _) | .sh (.ms _) => ∃ rs, updateScripts P d = (some rs, none) ∧ d.scriptPubkey P = p2sh (P.H.hash160 rs)
    | .bare _ | .pkh _ | .wpkh _ | .tr _ _ => updateScripts P d = (none, none) := by
  have hs := update_scripts_are_spec P hH d
  have hspk := fun h => scriptPubkey_eq_template P hH d h
  cases d with
  | bare ms => rfl
  | pkh pk => rfl
  | wpkh pk => rfl
  | tr ik leaves => rfl
  | wsh ms => exact ⟨_, hs, hspk fun _ _ h => nomatch h⟩
  | sh inner =>
    cases inner with
    | ms ms => exact ⟨_, hs, hspk fun _ _ h => nomatch h⟩
    | wpkh pk => exact ⟨_, hs, hspk fun _ _ h => nomatch h⟩
    | wsh ms => exact ⟨_, _, hs, rfl, hspk fun _ _ h => nomatch h⟩

/-! ### link to the finalizer: `get_descriptor` on an updated input -/

/-- finalizer parameters whose script algebra is the real one of `Model/Descriptor.lean` -/
def RealScripts (P : Desc.Params) (Q : Psbt.Params) : Prop :=
  Q.toP2wsh = Desc.toP2wsh P.H ∧ Q.toP2sh = Desc.toP2sh P.H

/-- an input carrying the utxo of `d` and the scripts `update_input_with_descriptor` records -/
def updatedInput (P : Desc.Params) (d : Desc.Desc) (value : Nat) : Psbt.Input :=
  { witnessUtxo := some ⟨d.scriptPubkey P, value⟩
    redeemScript := (updateScripts P d).1
    witnessScript := (updateScripts P d).2 }

/-- P2WSH: `get_descriptor` finds the witness script consistent (`witness_script.to_p2wsh() ==
script_pubkey`, no stray redeem script) and infers `wsh(<that script>)` -/
theorem updated_input_descriptor_inferred_wsh (P : Desc.Params) (Q : Psbt.Params) (hR : RealScripts P Q)
    (ms : Ms) (tx : Psbt.Tx) (value : Nat)
    (hkind : Q.kind ((Desc.Desc.wsh ms).scriptPubkey P) = .p2wsh)
    (hdec : Q.decodes .segwitv0 (wshInnerScript P ms) = true) :
    Psbt.getDescriptor Q ⟨tx, [updatedInput P (.wsh ms) value]⟩ 0 = .ok (.wsh (wshInnerScript P ms)) := by
  have hk : Q.kind (toP2wsh P.H (wshInnerScript P ms)) = .p2wsh := hkind
  simp [Psbt.getDescriptor, Psbt.getScriptPubkey, Psbt.getUtxo, updatedInput, updateScripts, Psbt.Res.bind,
    hR.1, Desc.Desc.scriptPubkey, wshScriptPubkey, hdec, hk]

/-- P2SH-P2WSH: both hash tests pass -/
theorem updated_input_descriptor_inferred_sh_wsh (P : Desc.Params) (Q : Psbt.Params) (hR : RealScripts P Q)
    (ms : Ms) (tx : Psbt.Tx) (value : Nat)
    (hkind : Q.kind ((Desc.Desc.sh (.wsh ms)).scriptPubkey P) = .p2sh)
    (hkind2 : Q.kind (toP2wsh P.H (wshInnerScript P ms)) = .p2wsh)
    (hdec : Q.decodes .segwitv0 (wshInnerScript P ms) = true) :
    Psbt.getDescriptor Q ⟨tx, [updatedInput P (.sh (.wsh ms)) value]⟩ 0 = .ok (.shWsh (wshInnerScript P ms)) := by
  have hk : Q.kind (toP2sh P.H (toP2wsh P.H (wshInnerScript P ms))) = .p2sh := hkind
  simp [Psbt.getDescriptor, Psbt.getScriptPubkey, Psbt.getUtxo, updatedInput, updateScripts, Psbt.Res.bind,
    hR.1, hR.2, Desc.Desc.scriptPubkey, shScriptPubkey, wshScriptPubkey, hdec, hk, hkind2]

/-- P2SH: the redeem script hashes to the scriptPubKey -/
theorem updated_input_descriptor_inferred_sh (P : Desc.Params) (Q : Psbt.Params) (hR : RealScripts P Q)
    (ms : Ms) (tx : Psbt.Tx) (value : Nat)
    (hkind : Q.kind ((Desc.Desc.sh (.ms ms)).scriptPubkey P) = .p2sh)
    (hk1 : Q.kind (encodeBytes P.env .legacy ms) ≠ .p2wsh) (hk2 : Q.kind (encodeBytes P.env .legacy ms) ≠ .p2wpkh)
    (hdec : Q.decodes .legacy (encodeBytes P.env .legacy ms) = true) :
    Psbt.getDescriptor Q ⟨tx, [updatedInput P (.sh (.ms ms)) value]⟩ 0 = .ok (.sh (encodeBytes P.env .legacy ms)) := by
  have hk : Q.kind (toP2sh P.H (encodeBytes P.env .legacy ms)) = .p2sh := hkind
  simp [Psbt.getDescriptor, Psbt.getScriptPubkey, Psbt.getUtxo, updatedInput, updateScripts, Psbt.Res.bind,
    hR.2, Desc.Desc.scriptPubkey, shScriptPubkey, shInnerScript, hdec, hk, hk1, hk2]

open MsVerif.Spec MsVerif.Spec.Tree MsVerif.Tap in
/-- T4 (taproot): for every script tree of height ≤ 128 (any shape, any leaves; `H` any hash
algebra with a commutative branch hash, `tweak` = rust-bitcoin's `tap_tweak`) the update records
the BIP341 Merkle root, the recorded output key is the internal key
tweaked by that root (that the scriptPubKey commits to this key is `C16.tr_spk_commits_to_merkle_root`), and every recorded control block proves its leaf against the root; the
leaves appear in the tree's pre-order with the tree's depths. -/
theorem tap_update_commits {α ν κ ω : Type} (H : HashAlg α ν) (hc : H.Comm) (tweak : κ → Option ν → ω)
    (ik : κ) (t : Tree α) (ht : height t ≤ 128) :
    ∃ u, tapUpdate H tweak ik (some (depths t)) = some u ∧
      u.internalKey = ik ∧ u.merkleRoot = some (root H t) ∧ u.outputKey = tweak ik (some (root H t)) ∧
      (∀ it ∈ u.scripts, verifyPath H (H.leafHash it.leaf) it.merkleBranch = root H t ∧
        it.merkleBranch.length ≤ maxDepth) ∧
      u.scripts.map (fun it => (it.depth, it.leaf)) = depths t := by
  obtain ⟨items, hitems, hver⟩ := C15.controlBlock_verifies H hc t ht
  have hord := C15.leaves_order_depths H t ht
  rw [hitems] at hord
  simp only [Option.map_some, Option.some.injEq] at hord
  have hnodes := C15.nodes_all H t
  have hroot := C15.nodes_root H t
  rw [hnodes] at hroot
  simp only [Option.bind_some] at hroot
  refine ⟨⟨ik, some (root H t), items, tweak ik (some (root H t))⟩, ?_, rfl, rfl, rfl, hver, hord⟩
  simp only [tapUpdate, SpendInfo.fromTr, hnodes, hitems, hroot]

open MsVerif.Spec MsVerif.Tap in
/-- key-only taproot output: no root, no scripts, output key = internal key tweaked by "no root" -/
theorem tap_update_key_only {α ν κ ω : Type} (H : HashAlg α ν) (tweak : κ → Option ν → ω) (ik : κ) :
    tapUpdate H tweak ik (none : Option (TapTree α)) = some ⟨ik, none, [], tweak ik none⟩ := by
  simp [tapUpdate, SpendInfo.fromTr, merkleRootOf]

/-- real hash sizes are not needed for the example: a toy `Hashes` with the standard lengths -/
def HX : Hashes := ⟨fun b => List.replicate 32 (UInt8.ofNat b.length), fun b => List.replicate 20 (UInt8.ofNat b.length)⟩
theorem HX_sized : HX.WellSized := ⟨fun _ => by simp [HX], fun _ => by simp [HX]⟩
def keX : KeyEnv := ⟨fun _ => 2 :: List.replicate 32 7, fun _ => 2 :: List.replicate 32 7, fun _ => [], fun _ => [], fun _ _ => []⟩
def msX : Ms := .andV (.verify (.check (.pkK 0))) (.after 100)
def PX : Desc.Params := ⟨HX, keX, fun _ _ => List.replicate 32 0⟩

example : ∃ rs ws, updateScripts PX (.sh (.wsh msX)) = (some rs, some ws) ∧ rs = p2wsh (HX.sha256 ws) ∧
    (Desc.Desc.sh (.wsh msX)).scriptPubkey PX = p2sh (HX.hash160 rs) :=
  update_scripts_hash_to_spk PX HX_sized (.sh (.wsh msX))

/-- a local hash algebra with a commutative branch and a three-leaf tree -/
def sumAlgX : Spec.HashAlg Nat Nat := ⟨fun s => s + 1, fun a b => a + b⟩
theorem sumAlgX_comm : sumAlgX.Comm := fun a b => Nat.add_comm a b
def treeX : Spec.Tree Nat := .node (.leaf 1) (.node (.leaf 2) (.leaf 3))

example : ∃ u, tapUpdate sumAlgX (fun (k : Nat) r => (k, r)) 5 (some (Spec.Tree.depths treeX)) = some u ∧
    u.merkleRoot = some (Spec.Tree.root sumAlgX treeX) ∧ u.scripts.length = 3 := by
  obtain ⟨u, h1, _, h3, _, _, h6⟩ := tap_update_commits sumAlgX sumAlgX_comm (fun (k : Nat) r => (k, r)) 5 treeX (by decide)
  refine ⟨u, h1, h3, ?_⟩
  have := congrArg List.length h6
  simpa [treeX, Spec.Tree.depths, Spec.Tree.depthsFrom] using this

end MsVerif.C14c
