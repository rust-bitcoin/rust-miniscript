/-
C04 — script encoding and decoding are inverse and canonical (lexer + decoder part; the size
part `script_size = encoded length` is proved under C09).

Models: Model/Lex.lean (`lex` on bytes: `instructions_minimal`, `read_scriptint`, token
table), Model/Decode.lean (`decode` state machine, `from_ast`, `decode_consensus`),
Model/Encode.lean (`encode`), Model/Tokens.lean (`tokens`, decoder normal form).

What is kernel-checked here (T-numbers of DESIGN.md §4 C04: T1 is the size part, T2a / T2b the two halves of T2; `tier_proved`, bin/props.d/C04.py.txt)
* T2a `lex_serialize`        lexing the bytes of any encoding gives its structural token list
* T2b `lex_canonical`        whatever the lexer accepts is the canonical serialisation of its
                             tokens (full strength: `lex` has the `NumEqual` arm of lex.rs, /repo 042abd7f, DESIGN.md §9.3)
* T3  `decode_encode`        the decoder returns `ms` on `tokens ms` for every `ms` in decoder
                             normal form whose nodes `from_ast` accepts; the naive statement
                             (every accepted `ms`) is false — `and_v(X,and_v(Y,Z))` comes back
                             re-associated — and is refuted on a witness; `roundtrip_bytes`
                             composes T2a and T3 on bytes
* T4  `decode_canonical`      the decoder never accepts a script that is not the encoding of the
                             miniscript it returns: `decode_with_validation_params(bs) = ms ⇒
                             encode(ms) = bs` (parser half `decode_canonical_tokens` by a
                             specification per nonterminal chained along the run; lexer half
                             `lex_canonical`)
* T5  `norm_encode` / `norm_type` / `norm_sem`  the normal form the decoder returns has the same
                             opcodes, the same type and the same spending condition (C07's
                             `MsSem.sem`) as the original, for every well-typed miniscript
* `lex_total`, `decode_total` termination (fuel is irrelevant / suffices)
* `decode_no_panic`          no `unwrap`/`assert` of `decode` can fire, for ANY token list
-/
import MsVerif.Lemmas.LexEncode
import MsVerif.Lemmas.LexCanon
import MsVerif.Lemmas.DecodeEncode
import MsVerif.Lemmas.DecodeNoPanic
import MsVerif.Lemmas.DecodeCanonBytes
import MsVerif.Lemmas.NormEncode
import MsVerif.Lemmas.NormType
import MsVerif.Lemmas.TokensNorm
import MsVerif.Lemmas.DecodeToy

namespace MsVerif.C04
open MsVerif Script LexL DecodeL TokL NormL

/-- the lexer loop never needs more fuel than there are bytes: any larger fuel gives the same
answer (so the out-of-fuel branch of the model is dead and `lex` is a total function) -/
theorem lex_total (strict : Bool) (fuel : Nat) (prev : Option Token) (bs : Bytes)
    (h : bs.length ≤ fuel) : lexGo strict fuel prev bs = lexGo strict bs.length prev bs :=
  lexGo_fuel strict fuel prev bs h

/-- the decoder loop finishes within `20·|tokens| + 6` iterations on every token list -/
theorem decode_total (dec : AtomDec) (env : KeyEnv) (ctx : Ctx) (toks : List Token) :
    ∃ r, decodeLoop dec env ctx (decodeFuel toks) (initState toks.reverse) = some r := by
  have h := decodeLoop_fuel (dec := dec) (env := env) (ctx := ctx) (decodeFuel toks)
    (initState toks.reverse) (by rw [measure_init]; simp [decodeFuel])
  cases hr : decodeLoop dec env ctx (decodeFuel toks) (initState toks.reverse) with
  | none => exact absurd hr h
  | some r => exact ⟨r, rfl⟩

example : lexGo false 1000 none [0x51, 0x9d] = lexGo false 2 none [0x51, 0x9d] :=
  lex_total false 1000 none _ (by decide)

/-- hence the model-only outcome `.fuel` of `decodeToks` is never produced -/
theorem decodeToks_eq_loop (dec : AtomDec) (env : KeyEnv) (ctx : Ctx) (toks : List Token) :
    ∃ r, decodeLoop dec env ctx (decodeFuel toks) (initState toks.reverse) = some r ∧
      decodeToks dec env ctx toks = r := by
  obtain ⟨r, hr⟩ := decode_total dec env ctx toks
  exact ⟨r, hr, by simp [decodeToks, hr]⟩

/-! ### no panic (also serves C11) -/

/-- `decode::decode` never reaches `term.pop().unwrap()` on an empty stack nor a failing
`assert_eq!`, whatever the tokens are -/
theorem decode_no_panic (dec : AtomDec) (env : KeyEnv) (ctx : Ctx) (toks : List Token) :
    decodeToks dec env ctx toks ≠ .error .panic := by
  obtain ⟨r, hr, he⟩ := decodeToks_eq_loop dec env ctx toks
  rw [he]
  intro hp
  subst hp
  exact decodeLoop_no_panic (decodeFuel toks) _ (inv_init toks.reverse) hr

/-- the same for the whole `decode_with_validation_params` pipeline on bytes (`Ctx::CONSENSUS`
or `MAX` parameters) -/
theorem decodeScriptP_no_panic (p : DecParams) (dec : AtomDec) (env : KeyEnv) (ctx : Ctx) (bs : Bytes) :
    decodeScriptP p dec env ctx bs ≠ .error .panic := by
  unfold decodeScriptP
  split
  · simp
  · split
    · rename_i e he
      intro h
      simp only [Except.error.injEq] at h
      subst h
      exact decode_no_panic dec env ctx _ he
    · rename_i top rest _
      by_cases h1 : (!checkGlobal env ctx top) = true
      · rw [if_pos h1]; nofun
      rw [if_neg h1]
      by_cases h2 : (typeOf top).isNone = true
      · rw [if_pos h2]; nofun
      rw [if_neg h2]
      by_cases h3 : (!rest.isEmpty) = true
      · rw [if_pos h3]; nofun
      rw [if_neg h3]
      by_cases h4 : (!validateWith p env ctx top) = true
      · rw [if_pos h4]; nofun
      rw [if_neg h4]; nofun

theorem decodeScript_no_panic (dec : AtomDec) (env : KeyEnv) (ctx : Ctx) (bs : Bytes) :
    decodeScript dec env ctx bs ≠ .error .panic :=
  decodeScriptP_no_panic .consensus dec env ctx bs

/-- `0NOTEQUAL 0NOTEQUAL ENDIF`, the end of a `jnn:` script without its beginning: lexes, and is refused as an error -/
example : decodeScript Toy.dec Toy.env .tap [0x92, 0x92, 0x68] ≠ .error .panic :=
  decodeScript_no_panic _ _ _ _

/-! ### T2a: lexing an encoding -/

/-- `lex (encode ms).bytes` is the structural token list, for every miniscript whose atoms
have the byte lengths of real keys / hashes and whose numbers are below 2^31 -/
theorem lex_serialize (env : KeyEnv) (ctx : Ctx) (ms : Ms) (h : AtomsOk env ms) :
    lex (serialize (encode env ctx ms)) = .ok (tokens env ctx ms) :=
  lexG_encode env ctx true ms h

example : AtomsOk Toy.env Toy.m1 := Toy.m1_atomsOk

example : lex (serialize (encode Toy.env .segwitv0 Toy.m1)) = .ok (tokens Toy.env .segwitv0 Toy.m1) :=
  lex_serialize _ _ _ Toy.m1_atomsOk

/-! ### T2b: canonicity of the lexer -/

/-- whatever the lexer accepts is the canonical serialisation of its tokens: direct minimal
pushes, minimal script numbers, `OP_n` for 0..16, fused `*VERIFY` opcodes -/
theorem lex_canonical (bs : Bytes) (ts : List Token) (h : lex bs = .ok ts) : tokBytes ts = bs :=
  LexL.lexStrict_canonical bs ts h

/-- hence the lexer is injective: no two byte strings have the same tokens -/
theorem lex_injective (bs₁ bs₂ : Bytes) (ts : List Token)
    (h1 : lex bs₁ = .ok ts) (h2 : lex bs₂ = .ok ts) : bs₁ = bs₂ :=
  (lex_canonical bs₁ ts h1).symm.trans (lex_canonical bs₂ ts h2)

/-- `OP_1 OP_NUMEQUAL OP_VERIFY` (the split spelling of `OP_NUMEQUALVERIFY`) is rejected: the `NumEqual` arm of the
`NonMinimalVerify` check (lex.rs, /repo 042abd7f; DESIGN.md §9.3) -/
theorem lex_rejects_split_numequalverify : lex [0x51, 0x9c, 0x69] = .error .nonMinimalVerify := rfl

example : tokBytes [.num 1, .numEqual, .verify] = [0x51, 0x9d] :=
  lex_canonical [0x51, 0x9d] _ rfl

/-- an encoding is the ONLY byte string with its tokens -/
theorem encode_unique_bytes (env : KeyEnv) (ctx : Ctx) (ms : Ms) (h : AtomsOk env ms) (bs : Bytes)
    (hb : lex bs = .ok (tokens env ctx ms)) : bs = serialize (encode env ctx ms) :=
  lex_injective _ _ _ hb (lex_serialize env ctx ms h)

/-! ### T3: decoding an encoding -/

/-- the decoder, run on the tokens of `ms`, returns `ms` and consumes every token — for `ms`
in decoder normal form (`form .A`), atoms known to `dec`, and `from_ast` accepting every node -/
theorem decode_encode (dec : AtomDec) (env : KeyEnv) (ctx : Ctx) (ms : Ms)
    (hform : form .A ms = true) (hok : DecOk dec env ctx ms) :
    decodeToks dec env ctx (tokens env ctx ms) = .ok (ms, []) := by
  apply decodeToks_of_steps
  -- `main` (Lemmas/DecodeEncode.lean) says, for each position of the decoder's grammar, how the decoder gets through
  -- the tokens of `ms` there; `.a` is the position it starts in (an expression, then the look-ahead for `and_v`),
  -- taken here with no token before `ms`, nothing else to parse and no result yet
  have := (main dec env ctx ms).a hform hok [] [] [] rfl
  simpa [initState, rt] using this

example : form .A Toy.m1 = true ∧ DecOk Toy.dec Toy.env .segwitv0 Toy.m1 :=
  ⟨by decide, Toy.m1_decOk⟩

/-- non-vacuity with `andor`, `thresh`, `multi`, hashes and a lock (Segwitv0) -/
example : decodeToks Toy.dec Toy.env .segwitv0 (tokens Toy.env .segwitv0 Toy.m3) = .ok (Toy.m3, []) := by
  refine decode_encode _ _ _ _ (by decide) ?_
  simp only [Toy.m3, Toy.pk, DecOk, DecOkL, FullKeyOk]
  repeat' apply And.intro
  all_goals first
    | rfl | decide
    | (intro x hx; simp at hx; rcases hx with rfl | rfl | rfl <;> exact ⟨rfl, by decide⟩)

/-- non-vacuity with `multi_a`, `or_i`, `after` and a hash (Taproot, x-only keys) -/
example : decodeToks Toy.decX Toy.envX .tap (tokens Toy.envX .tap Toy.m4) = .ok (Toy.m4, []) := by
  refine decode_encode _ _ _ _ (by decide) ?_
  simp only [Toy.m4, DecOk, XKeyOk]
  repeat' apply And.intro
  all_goals first
    | rfl | decide
    | (intro x hx; simp at hx; rcases hx with rfl | rfl | rfl <;> exact ⟨rfl, by decide⟩)

/-- the naive statement: `decode_encode` without `form .A ms` -/
def decode_encode_full : Prop :=
  ∀ (dec : AtomDec) (env : KeyEnv) (ctx : Ctx) (ms : Ms), DecOk dec env ctx ms →
    decodeToks dec env ctx (tokens env ctx ms) = .ok (ms, [])

/-- FALSE: `and_v(X,and_v(Y,Z))` is accepted, encodes to the same script as
`and_v(and_v(X,Y),Z)`, and the decoder returns the latter -/
theorem decode_encode_full_false : ¬ decode_encode_full := by
  intro h
  have hd : DecOk Toy.dec Toy.env .segwitv0 Toy.m2 := by
    simp only [Toy.m2, Toy.vpk, Toy.pk, DecOk]
    repeat' apply And.intro
    all_goals first | rfl | decide
  have h1 := h Toy.dec Toy.env .segwitv0 Toy.m2 hd
  have h2 : Toy.okIs (decodeToks Toy.dec Toy.env .segwitv0 (tokens Toy.env .segwitv0 Toy.m2)) Toy.m1 = true := by
    decide +kernel
  rw [h1] at h2
  revert h2
  decide

/-- what IS true for every accepted `ms`: the decoder returns the normal form `norm ms`
(same tokens, hence same script bytes — `tokens_norm`), provided `from_ast` accepts the nodes
of the normal form and `norm ms` is in the decoder's grammar -/
theorem decode_encode_norm (dec : AtomDec) (env : KeyEnv) (ctx : Ctx) (ms : Ms)
    (hform : form .A (norm ms) = true) (hok : DecOk dec env ctx (norm ms)) :
    decodeToks dec env ctx (tokens env ctx ms) = .ok (norm ms, []) := by
  rw [← tokens_norm env ctx ms]
  exact decode_encode dec env ctx (norm ms) hform hok

example : norm Toy.m2 = Toy.m1 := by decide +kernel

/-- why `decode_encode_norm` needs `from_ast` to accept the NORMAL FORM: re-association can raise
the tree height, so a miniscript at the recursion limit (402) has a normal form above it — on
the library: `and_v(v:n:…n:pk(A),and_v(v:pk(B),pk(C)))` with 399 `n:` (height 402) is accepted
by `from_ast` and `validate(CONSENSUS)`, yet `decode_consensus(encode(ms))` fails with
`MaxRecursiveDepthExceeded` -/
theorem norm_raises_height_witness :
    let ms : Ms := .andV (.verify (.zeroNotEqual (Toy.pk 1))) (.andV (Toy.vpk 2) (Toy.pk 3))
    (extOf Toy.env .tap (norm ms)).treeHeight = (extOf Toy.env .tap ms).treeHeight + 1 := by
  decide +kernel

/-! ### T5: the normal form has the same script, type and spending condition -/

/-- same encoding, opcode for opcode (no hypothesis) -/
theorem norm_encode (env : KeyEnv) (ctx : Ctx) (ms : Ms) : encode env ctx (norm ms) = encode env ctx ms :=
  encode_norm env ctx ms

/-- same type (correctness and malleability) for every well-typed miniscript -/
theorem norm_type (ms : Ms) (t : Ty) (h : typeOf ms = some t) : typeOf (norm ms) = some t :=
  typeOf_norm ms t h

/-- same spending condition (the trusted specification `MsSem.sem` of C07) in every world, for
every well-typed miniscript.  (Typing is needed: `or_d(and_v(X,Y),Z)` would become
`and_v(X,or_d(Y,Z))`, but `or_d` rejects a non-dissatisfiable first argument.) -/
theorem norm_sem (W : Pol.World) (ms : Ms) (t : Ty) (h : typeOf ms = some t) :
    MsSem.sem W (norm ms) = MsSem.sem W ms :=
  sem_norm W ms t h

example : typeOf Toy.m2 = typeOf (norm Toy.m2) ∧ (typeOf Toy.m2).isSome = true := by
  constructor
  · cases h : typeOf Toy.m2 with
    | none => exact absurd h (by decide +kernel)
    | some t => exact (norm_type _ t h).symm
  · decide +kernel

/-- the round trip of an accepted, well-typed `ms` whose normal form `from_ast` accepts: the
decoder returns `norm ms`, which has byte-identical script, identical type and identical
spending condition -/
theorem roundtrip_preserves (dec : AtomDec) (env : KeyEnv) (ctx : Ctx) (ms : Ms) (t : Ty)
    (hty : typeOf ms = some t) (hform : form .A (norm ms) = true) (hok : DecOk dec env ctx (norm ms)) :
    ∃ d, decodeToks dec env ctx (tokens env ctx ms) = .ok (d, []) ∧
      encode env ctx d = encode env ctx ms ∧ typeOf d = some t ∧
      ∀ W, MsSem.sem W d = MsSem.sem W ms :=
  ⟨norm ms, decode_encode_norm dec env ctx ms hform hok, norm_encode env ctx ms, norm_type ms t hty,
    fun W => norm_sem W ms t hty⟩

example : ∃ d, decodeToks Toy.dec Toy.env .segwitv0 (tokens Toy.env .segwitv0 Toy.m2) = .ok (d, []) ∧
    encode Toy.env .segwitv0 d = encode Toy.env .segwitv0 Toy.m2 ∧ typeOf d = typeOf Toy.m2 := by
  cases h : typeOf Toy.m2 with
  | none => exact absurd h (by decide +kernel)
  | some t =>
    have hn : norm Toy.m2 = Toy.m1 := by decide +kernel
    obtain ⟨d, h1, h2, h3, _⟩ := roundtrip_preserves Toy.dec Toy.env .segwitv0 Toy.m2 t h
      (by rw [hn]; decide) (hn ▸ Toy.m1_decOk)
    exact ⟨d, h1, h2, h3⟩

/-- the normal form and the de-sugaring keep the token list (so the re-encoding of what the
decoder returns is byte-identical, by `lex_serialize` on both sides) -/
theorem norm_desugar_tokens (env : KeyEnv) (ctx : Ctx) (rp : Key → Nat)
    (h : ∀ k, env.rawPkh (rp k) = env.pkh k) (ms : Ms) :
    tokens env ctx (norm (desugar env rp ms)) = tokens env ctx ms := by
  rw [tokens_norm, tokens_desugar env ctx rp h]

/-- Taproot over FULL keys: the encoder serialises every key through `to_x_only_pubkey`, i.e.
the script of `ms` under the renamed key environment is the script of the renamed miniscript
(`reKey f ms` = the x-only translation), which is what the decoder then returns -/
theorem encode_full_keys_tap (env : KeyEnv) (ctx : Ctx) (f : Key → Key) (ms : Ms) :
    encode env ctx (reKey f ms) = encode (envRe env f) ctx ms :=
  encode_reKey env ctx f ms

example : encode Toy.env .tap (reKey (· + 200) Toy.m1) = encode (envRe Toy.env (· + 200)) .tap Toy.m1 :=
  encode_full_keys_tap _ _ _ _

/-- T2a ∘ T3 on bytes: `decode_with_validation_params(encode(ms), params) = ms` whenever the
top-level checks pass for `ms` -/
theorem roundtrip_bytesP (p : DecParams) (dec : AtomDec) (env : KeyEnv) (ctx : Ctx) (ms : Ms)
    (hatoms : AtomsOk env ms) (hform : form .A ms = true) (hok : DecOk dec env ctx ms)
    (hglobal : checkGlobal env ctx ms = true) (hty : (typeOf ms).isSome = true)
    (hval : validateWith p env ctx ms = true) :
    decodeScriptP p dec env ctx (serialize (encode env ctx ms)) = .ok ms :=
  decodeScriptP_eq_ok.mpr
    ⟨_, lex_serialize env ctx ms hatoms, decode_encode dec env ctx ms hform hok, hglobal, hty, hval⟩

/-- `decode_consensus(encode(ms)) = ms` -/
theorem roundtrip_bytes (dec : AtomDec) (env : KeyEnv) (ctx : Ctx) (ms : Ms)
    (hatoms : AtomsOk env ms) (hform : form .A ms = true) (hok : DecOk dec env ctx ms)
    (hglobal : checkGlobal env ctx ms = true) (hty : (typeOf ms).isSome = true)
    (hval : validateConsensus env ctx ms = true) :
    decodeScript dec env ctx (serialize (encode env ctx ms)) = .ok ms :=
  roundtrip_bytesP .consensus dec env ctx ms hatoms hform hok hglobal hty hval

/-- the permissive entry point (`ValidationParams::MAX`) accepts whatever the consensus entry
point accepts, with the same result: `CONSENSUS` validation only ever rejects more -/
theorem consensus_sub_max (dec : AtomDec) (env : KeyEnv) (ctx : Ctx) (bs : Bytes) (ms : Ms)
    (h : decodeScript dec env ctx bs = .ok ms) : decodeScriptP .max dec env ctx bs = .ok ms := by
  obtain ⟨toks, hl, hd, hg, ht, hv⟩ := decodeScriptP_eq_ok.mp h
  refine decodeScriptP_eq_ok.mpr ⟨toks, hl, hd, hg, ht, ?_⟩
  -- `validate(CONSENSUS)` refuses a tree higher than 402 first; that is all `validate(MAX)` tests
  have hv : validateConsensus env ctx ms = true := hv
  unfold validateConsensus at hv
  by_cases hgt : (extOf env ctx ms).treeHeight > 402
  · simp [hgt] at hv
  · simpa [validateWith] using Nat.le_of_not_gt hgt

example : decodeScriptP .max Toy.dec Toy.env .segwitv0 (serialize (encode Toy.env .segwitv0 Toy.m1)) = .ok Toy.m1 :=
  consensus_sub_max _ _ _ _ _ (roundtrip_bytes _ _ _ _ Toy.m1_atomsOk (by decide) Toy.m1_decOk
    (by decide +kernel) (by decide +kernel) (by decide +kernel))

example : decodeScript Toy.dec Toy.env .segwitv0 (serialize (encode Toy.env .segwitv0 Toy.m1)) = .ok Toy.m1 :=
  roundtrip_bytes _ _ _ _ Toy.m1_atomsOk (by decide) Toy.m1_decOk
    (by decide +kernel) (by decide +kernel) (by decide +kernel)

/-! ### T4: the decoder accepts only canonical encodings -/

/-- parser half: the tokens `decode` consumed are exactly the tokens of the miniscript it
returns, for every well-formed token list (`WfAll`: what the lexer produces) and every reverse
lookup that is sound for `env` (`DecSound`) — full decoder, thresholds and multisigs included -/
theorem decode_canonical_tokens (dec : AtomDec) (env : KeyEnv) (ctx : Ctx) (hs : DecSound dec env ctx)
    (toks rest : List Token) (ms : Ms) (hw : WfAll toks)
    (h : decodeToks dec env ctx toks = .ok (ms, rest)) :
    toks = rest.reverse ++ tokens env ctx ms := by
  have := congrArg List.reverse (decodeToks_canonical hs hw h)
  simpa [rt] using this

/-- T4: a script that `decode_with_validation_params` (with `Ctx::CONSENSUS` or `MAX`) accepts
is byte for byte the encoding of the miniscript returned — no hypothesis on the script -/
theorem decode_canonical (p : DecParams) (dec : AtomDec) (env : KeyEnv) (ctx : Ctx)
    (hs : DecSound dec env ctx) (bs : Bytes) (ms : Ms) (h : decodeScriptP p dec env ctx bs = .ok ms) :
    encodeBytes env ctx ms = bs :=
  decodeScriptP_canonical hs h

theorem decode_consensus_canonical (dec : AtomDec) (env : KeyEnv) (ctx : Ctx)
    (hs : DecSound dec env ctx) (bs : Bytes) (ms : Ms) (h : decodeScript dec env ctx bs = .ok ms) :
    encodeBytes env ctx ms = bs :=
  decodeScriptP_canonical hs h

/-- hence decoding is injective: two accepted scripts with the same miniscript are equal -/
theorem decode_injective (p q : DecParams) (dec : AtomDec) (env : KeyEnv) (ctx : Ctx)
    (hs : DecSound dec env ctx) (bs₁ bs₂ : Bytes) (ms : Ms)
    (h1 : decodeScriptP p dec env ctx bs₁ = .ok ms) (h2 : decodeScriptP q dec env ctx bs₂ = .ok ms) :
    bs₁ = bs₂ :=
  (decode_canonical p dec env ctx hs bs₁ ms h1).symm.trans (decode_canonical q dec env ctx hs bs₂ ms h2)

/-- the lexer's outputs meet the token hypothesis of `decode_canonical_tokens` -/
theorem lex_wellformed (bs : Bytes) (ts : List Token) (h : lex bs = .ok ts) : WfAll ts := lex_wf h

example : DecSound Toy.decS Toy.env .segwitv0 := Toy.decS_sound _

/-- witness with `andor`, `thresh`, `multi`, two hash kinds and a lock: it is accepted, so by
`decode_canonical` its bytes are the encoding (here used in the direction accepted ⇒ canonical) -/
example : ∃ bs, decodeScript Toy.decS Toy.env .segwitv0 bs = .ok Toy.m3 ∧
    encodeBytes Toy.env .segwitv0 Toy.m3 = bs := by
  have h : decodeScript Toy.decS Toy.env .segwitv0 (serialize (encode Toy.env .segwitv0 Toy.m3)) = .ok Toy.m3 := by
    refine roundtrip_bytes _ _ _ _ ?_ (by decide) ?_ (by decide +kernel) (by decide +kernel) (by decide +kernel)
    · simp only [Toy.m3, Toy.pk, AtomsOk, AtomsOkL, keyLenOk, Toy.env, hashLen]; simp
    · simp only [Toy.m3, Toy.pk, DecOk, DecOkL, FullKeyOk]
      repeat' apply And.intro
      all_goals first
        | rfl | decide
        | (intro x hx; simp at hx; rcases hx with rfl | rfl | rfl <;> exact ⟨rfl, by decide⟩)
  exact ⟨_, h, decode_consensus_canonical _ _ _ (Toy.decS_sound _) _ _ h⟩

end MsVerif.C04
