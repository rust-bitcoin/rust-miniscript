/-
C13 — the transaction interpreter agrees with real script execution.

Model: `Model/Interp.lean` (big-step form of `Iter::iter_next` over the abstract stack), tied to
the Rust iterator by the `C interp` correspondence lines of every run.  Script side:
`Spec/Frag.lean` (structured per-fragment semantics, executed with the very same `execOpc` as the
flat interpreter).

T1  interpreter accepts  ⇒  Script accepts, with a clean stack (the statement: `TopSound`)
      * `interp_sound_partial`  PROVED for EVERY miniscript the script decoder can produce (`WF`:
        0, 1, pk_k, pk_h, raw_pkh, after, older, the four hashes, a: s: c: d: v: j: n:, and_v, and_b,
        or_b, or_c, or_d, or_i, andor, thresh (any k, n), multi (CHECKMULTISIG key walk with the
        exchange argument), multi_a).  `_partial` because of two hypotheses: limits off (`NoLimits`)
        and transaction version ≥ 2 (`Agree.version`).
      * `interp_sound_full` (no version assumption) is FALSE: `interp_sound_full_false`, from the
        counterexample `interp_unsound_csv_tx_version_1` — finding `csv-tx-version-1` of known_findings.txt.
      * witness elements are assumed shorter than 2^31 bytes (`TopSound`; needed by `j:`)
      * `interp_fragment_sound_partial`  the simulation per base type (B / V / K / W)
      * `interp_accept_imp_script_accepts_partial`  composition with `Thm/Bridge.lean`: the flat
        opcode interpreter accepts the encoded script
      * `interp_sound_any_verifier_partial`: the same for `iter_assume_sigs` / `iter_custom`
      * concrete accepting runs (`msBig_run_multi`, `msBig_run_thresh`, `msTap_run`) through multi,
        thresh, multi_a, s:, d:, j:, a hash and both locks, and the resulting Script acceptances
T2  `constraints_checked`  every reported constraint was checked successfully (ALL fragments) and
      holds in Script's environment (`constraints_hold_for_script`);
    `reported_constraints_exact_partial`  conversely the report is EXACTLY the list of successful
      checks of an instrumented reading of the Script semantics (fragment set `InterpChecks.CSup`)
T3  `constraints_satisfy_policy_partial`  the reported constraints make `Spec/MsSem.sem` true
      (all fragments; descriptor AST, i.e. no bare raw_pkh)
Open: "accepts every satisfaction the library produces" (composition of C01's soundness with a
      completeness lemma of the model interpreter on canonical witnesses) — judged per run only
      (`J interp-accepts-own`, `J interp-accepts-own-m`).
The checks of /repo 1d81d5db, bda5c1de, be897bb9 (DESIGN.md §9.3) are in the model: `after_final_sequence_rejected`,
      `schnorr_parse_is_bip341`, `committed_script_is_the_element`.
-/
import MsVerif.Lemmas.InterpSound
import MsVerif.Lemmas.InterpConstraints
import MsVerif.Thm.Bridge
import MsVerif.Lemmas.InterpPolicy
import MsVerif.Lemmas.InterpChecks

namespace MsVerif.C13
open MsVerif Script Interp InterpSound

/-! ### T1 -/

/-- interpreter accepts ⇒ the structured Script semantics ends with exactly one true element.
The witness elements are shorter than 2^31 bytes (BIP141 / policy: ≤ 520 bytes for v0 and tapscript;
consensus: the 4 MB block weight) — `j:` computes `SIZE` of one of them as a 4-byte script number -/
def TopSound (env : Env) (ke : KeyEnv) (ie : IEnv) (ctx : Ctx) (ms : Ms) : Prop :=
  ∀ ty, typeOf ms = some ty → ty.corr.base = .B →
    ∀ (c : List Bytes) (cs : List Constraint), (∀ e ∈ c, e.length < 2 ^ 31) →
      interpTop ke ie ms (absS c) = .ok cs →
      ∃ v ops', frag env ke ctx ms ⟨c, [], 0⟩ = .ok ⟨[v], [], ops'⟩ ∧ castToBool v = true

mutual
/-- the side conditions under which T1 is stated: the AST is one the script decoder produces (no
`sortedmulti` / `sortedmulti_a` node), keys are well-formed for the context, thresholds are
`1 ≤ k ≤ n` (with `n ≤ 20` for CHECKMULTISIG), lock values are what `AbsLockTime` / `RelLockTime`
can carry, `multi` / `multi_a` live in the right context -/
def WF (env : Env) (ke : KeyEnv) : Ms → Prop
  | .tru | .fls | .pkH _ | .rawPkH _ | .hash _ _ => True
  | .pkK k => pubkeyOk env (ke.ser k) = true
  | .after n | .older n => 0 < n ∧ n < 2 ^ 31
  | .alt x | .swap x | .check x | .dupIf x | .verify x | .nonZero x | .zeroNotEqual x => WF env ke x
  | .andV l r | .andB l r | .orB l r | .orC l r | .orD l r | .orI l r => WF env ke l ∧ WF env ke r
  | .andOr a b c => WF env ke a ∧ WF env ke b ∧ WF env ke c
  | .thresh k xs => 1 ≤ k ∧ k ≤ xs.length ∧ xs.length < 2 ^ 31 ∧ WFList env ke xs
  | .multi k ks =>
    env.flags.tapscript = false ∧ 1 ≤ k ∧ k ≤ ks.length ∧ ks.length ≤ 20
      ∧ ∀ key ∈ ks, pubkeyOk env (ke.ser key) = true
  | .multiA k ks =>
    env.flags.tapscript = true ∧ 1 ≤ k ∧ k ≤ ks.length ∧ ks.length < 2 ^ 31
      ∧ ∀ key ∈ ks, pubkeyOk env (ke.ser key) = true
  | .sortedMulti _ _ | .sortedMultiA _ _ => False
def WFList (env : Env) (ke : KeyEnv) : MsList → Prop
  | .nil => True
  | .cons x xs => WF env ke x ∧ WFList env ke xs
end

/-- the lock-value side condition of `Sup` (script-number codec round trip) holds for every value
an `AbsLockTime` / `RelLockTime` can carry -/
theorem lockOk_of_lt (env : Env) {n : Nat} (h0 : 0 < n) (h : n < 2 ^ 31) : LockOk env n := by
  have ok := SatSpec.numOk_of_lt n (by omega)
  have d4 := ok.1 env.flags.minimalNum
  refine ⟨?_, ?_, h0, ?_, ?_⟩
  · rw [lockVal_eq]; exact Script.numDecode_5_of_4 d4
  · rw [lockVal_eq]; exact d4
  · rw [lockVal_eq]; exact ok.2 (by omega)
  · show n < 2147483648; omega

mutual
/-- C06's structural well-formedness (`thresh` non-empty, `multi` ≤ 20 keys) follows from `WF` -/
theorem wf_of_WF {env : Env} {ke : KeyEnv} : (ms : Ms) → WF env ke ms → TypeSound.wf ms = true
  | .tru, _ | .fls, _ | .pkK _, _ | .pkH _, _ | .rawPkH _, _ | .after _, _ | .older _, _ | .hash _ _, _ => rfl
  | .alt x, h | .swap x, h | .check x, h | .dupIf x, h | .verify x, h | .nonZero x, h
  | .zeroNotEqual x, h => wf_of_WF x h
  | .andV l r, h | .andB l r, h | .orB l r, h | .orC l r, h | .orD l r, h | .orI l r, h =>
    Bool.and_eq_true_iff.mpr ⟨wf_of_WF l h.1, wf_of_WF r h.2⟩
  | .andOr a b c, h =>
    Bool.and_eq_true_iff.mpr ⟨Bool.and_eq_true_iff.mpr ⟨wf_of_WF a h.1, wf_of_WF b h.2.1⟩, wf_of_WF c h.2.2⟩
  | .thresh k xs, h =>
    Bool.and_eq_true_iff.mpr ⟨decide_eq_true (Nat.le_trans h.1 h.2.1), wfL_of_WFList xs h.2.2.2⟩
  | .multi k ks, h => decide_eq_true h.2.2.2.1
  | .multiA _ _, _ => rfl
  | .sortedMulti _ _, h => h.elim
  | .sortedMultiA _ _, h => h.elim
theorem wfL_of_WFList {env : Env} {ke : KeyEnv} : (xs : MsList) → WFList env ke xs → TypeSound.wfL xs = true
  | .nil, _ => rfl
  | .cons x xs, h => Bool.and_eq_true_iff.mpr ⟨wf_of_WF x h.1, wfL_of_WFList xs h.2⟩
end

mutual
/-- the natural side conditions imply the proof's fragment predicate: EVERY fragment the script
decoder can produce is covered -/
theorem sup_of_WF {env : Env} {ke : KeyEnv} : (ms : Ms) → WF env ke ms → Sup env ke ms
  | .tru, _ | .fls, _ | .pkH _, _ | .rawPkH _, _ | .hash _ _, _ => trivial
  | .pkK _, h => h
  | .after n, h | .older n, h => lockOk_of_lt env h.1 h.2
  | .alt x, h | .check x, h | .verify x, h | .nonZero x, h | .zeroNotEqual x, h => sup_of_WF x h
  | .swap x, h | .dupIf x, h => ⟨sup_of_WF x h, wf_of_WF x h⟩
  | .andV l r, h | .andB l r, h | .orB l r, h | .orC l r, h | .orD l r, h | .orI l r, h =>
    ⟨sup_of_WF l h.1, sup_of_WF r h.2⟩
  | .andOr a b c, h => ⟨sup_of_WF a h.1, sup_of_WF b h.2.1, sup_of_WF c h.2.2⟩
  | .thresh k xs, h => ⟨h.1, by have := h.2.1; have := h.2.2.1; omega, h.2.2.1, supList_of_WFList xs h.2.2.2⟩
  | .multi k ks, h => h
  | .multiA k ks, h =>
    ⟨h.1, by have := h.2.2.1; have := h.2.2.2.1; omega, h.2.2.2.1,
      by intro e; subst e; have := h.2.1; have := h.2.2.1; simp at *; omega, h.2.2.2.2⟩
  | .sortedMulti _ _, h => h.elim
  | .sortedMultiA _ _, h => h.elim
theorem supList_of_WFList {env : Env} {ke : KeyEnv} : (xs : MsList) → WFList env ke xs → SupList env ke xs
  | .nil, _ => trivial
  | .cons x xs, h => ⟨sup_of_WF x h.1, supList_of_WFList xs h.2⟩
end

theorem smallA_of_forall {c : List Bytes} (h : ∀ e ∈ c, e.length < 2 ^ 31) : SmallA (absS c) := by
  intro b hb
  simp only [absS, List.mem_map] at hb
  obtain ⟨e, he, heq⟩ := hb
  obtain ⟨e1, _, _⟩ := ofBytes_push heq
  subst e1
  exact h e he

/-- T1 per fragment: the simulation between the abstract-stack evaluator and Script, for every
base type (`Post`: what is left on the concrete stack, with an arbitrary rest below, an arbitrary
alt stack and opcode counter, and how the result relates to the interpreter's result element).
`_partial`: limits off (`NoLimits`) and transaction version ≥ 2 (`Agree.version`, see
`interp_sound_full_false`) are assumed. -/
theorem interp_fragment_sound_partial {env : Env} {ke : KeyEnv} {ie : IEnv} {ctx : Ctx}
    (hl : NoLimits env) (ag : Agree env ie) (ms : Ms) (ty : Ty) (hty : typeOf ms = some ty)
    (hs : WF env ke ms) (c : List Bytes) (hsz : ∀ e ∈ c, e.length < 2 ^ 31) (a' : AStack)
    (cs : List Constraint) (hi : interp ke ie ms (absS c) = .ok (a', cs)) :
    Post env ke ctx ms ty.corr.base ty.corr.unit c a' :=
  InterpSound.sound hl ag ms ty hty (sup_of_WF ms hs) c a' cs (smallA_of_forall hsz) hi

/-- T1 at top level, for EVERY miniscript the script decoder can produce.
`_partial`: limits off (`NoLimits`: op-count / stack-size limits are static properties of the
script, C09/C12) and transaction version ≥ 2 (`Agree.version`; without it the statement is false:
`interp_sound_full_false`). -/
theorem interp_sound_partial {env : Env} {ke : KeyEnv} {ie : IEnv} {ctx : Ctx}
    (hl : NoLimits env) (ag : Agree env ie) (ms : Ms) (hs : WF env ke ms) :
    TopSound env ke ie ctx ms := by
  intro ty hty hb c cs hsz hi
  have P := InterpSound.sound (ctx := ctx) hl ag ms ty hty (sup_of_WF ms hs) c _ cs (smallA_of_forall hsz)
    (interpTop_ok hi)
  rw [hb] at P
  obtain ⟨_, c0, ha, F⟩ := P
  obtain ⟨rfl, hc0⟩ := List.cons.inj ha
  cases c0 with
  | cons e c1 => cases hc0
  | nil =>
    obtain ⟨v, o, hf, hr⟩ := F [] [] 0
    exact ⟨v, o, by simpa using hf, (hr.sat rfl).1⟩

/-- T1 composed with the bridge theorem (`Thm/Bridge.lean`): the FLAT opcode interpreter
`Script.run` accepts the ENCODED script on the very stack the transaction interpreter accepted
(CLEANSTACK form: exactly one true element is left).  `_partial` as `interp_sound_partial`. -/
theorem interp_accept_imp_script_accepts_partial {env : Env} {ke : KeyEnv} {ie : IEnv} {ctx : Ctx}
    (hl : NoLimits env) (ag : Agree env ie) (ms : Ms) (hs : WF env ke ms) (ty : Ty)
    (hty : typeOf ms = some ty) (hb : ty.corr.base = .B) (c : List Bytes) (cs : List Constraint)
    (hsz : ∀ e ∈ c, e.length < 2 ^ 31) (hi : interpTop ke ie ms (absS c) = .ok cs) :
    accepts env (encode ke ctx ms) c = true := by
  obtain ⟨v, o, hf, hv⟩ := interp_sound_partial (ctx := ctx) hl ag ms hs ty hty hb c cs hsz hi
  exact (Bridge.accepts_iff_frag_nolimits env ke ctx ms c ⟨hl.op, hl.st⟩).mpr ⟨_, v, hf, rfl, hv⟩

/-- `iter_assume_sigs` and `iter_custom`: T1 holds for ANY verifier `f`, as long as Script is run
with the same `f` as its signature oracle (`iter_assume_sigs`: `f` = "has the shape of a
signature"; `iter_custom`: the caller's closure).  The per-run judges `J interp-sound-m` /
`C interp-m` instantiate exactly this. -/
theorem interp_sound_any_verifier_partial {env : Env} {ke : KeyEnv} {ie : IEnv} {ctx : Ctx}
    (f : Bytes → Bytes → Bool) (hl : NoLimits env) (ag : Agree env ie) (ms : Ms)
    (hs : WF { env with sigOk := f } ke ms) :
    TopSound { env with sigOk := f } ke { ie with verifySig := f } ctx ms :=
  interp_sound_partial (env := { env with sigOk := f }) ⟨hl.op, hl.st⟩ (ag.withVerifier f) ms hs

/-! ### T2 -/

/-- every constraint the interpreter reports was checked successfully by it — for ALL fragments
(signatures by `verify_sersig`, key hashes, preimages of the right length, lock values against the
transaction fields) -/
theorem constraints_checked {ke : KeyEnv} {ie : IEnv} (ms : Ms) (st : AStack) (cs : List Constraint)
    (hi : interpTop ke ie ms st = .ok cs) : AllValid ie cs :=
  interp_valid (ke := ke) ms st _ cs (interpTop_ok hi)

/-- what a reported constraint says about Script's environment (it holds under the oracle agreement:
`constraints_hold_for_script`): the
signature verifies for a well-formed key, the preimage hashes to the committed value and has 32
bytes, `CHECKLOCKTIMEVERIFY` / `CHECKSEQUENCEVERIFY` on that value succeed -/
def HoldsForScript (env : Env) : Constraint → Prop
  | .pk pk sg => env.sigOk pk sg = true
  | .pkh hh pk sg => env.sigOk pk sg = true ∧ pubkeyOk env pk = true ∧ env.hash .hash160 pk = hh
  | .hashLock k hh pre => env.hash (hkOp k) pre = hh ∧ pre.length = 32
  | .after n => checkLockTime env n = true
  | .older n => checkSequence env n = true

theorem constraints_hold_for_script {env : Env} {ke : KeyEnv} {ie : IEnv} (ag : Agree env ie)
    (ms : Ms) (st : AStack) (cs : List Constraint) (hi : interpTop ke ie ms st = .ok cs) :
    ∀ c ∈ cs, HoldsForScript env c := by
  intro c hc
  have v := constraints_checked ms st cs hi c hc
  cases c with
  | pk pk sg => exact ag.sig pk sg v
  | pkh hh pk sg =>
    obtain ⟨v1, v2⟩ := v
    obtain ⟨v2, v3⟩ := v2
    exact ⟨ag.sig pk sg v1, ag.key pk v3, by rw [← ag.h160]; exact v2⟩
  | hashLock k hh pre => exact ⟨by rw [← ag.hash]; exact v.1, v.2⟩
  | after n => exact after_ok ag v.1 v.2.1 v.2.2
  | older n => exact older_ok ag v.1 v.2.1 v.2.2

/-! ### "the reported constraints satisfy the lifted policy" -/

/-- the world the reported constraints describe: it can sign for exactly the keys a signature was
reported for, knows exactly the preimages reported, and has the transaction's lock fields -/
def worldOf (ke : KeyEnv) (ie : IEnv) (cs : List Constraint) : Pol.World where
  canSign k := cs.any fun c => match c with
    | .pk pk _ => pk == ke.ser k
    | .pkh _ pk _ => pk == ke.ser k
    | _ => false
  preimage kind h := cs.any fun c => match c with
    | .hashLock k hv _ => decide (MsSem.polHash k = kind) && hv == ke.hashVal k h
    | _ => false
  nLockTime := ie.lockTime
  nSequence := ie.sequence

theorem worldOf_covers (ke : KeyEnv) (ie : IEnv) (cs : List Constraint) :
    InterpPolicy.WLe ke ie cs (worldOf ke ie cs) where
  lt := rfl
  sq := rfl
  cov := by
    intro c hc
    cases c with
    | pk pk sg =>
      intro k hk
      exact List.any_eq_true.mpr ⟨_, hc, by simp [hk]⟩
    | pkh hh pk sg =>
      intro k hk
      exact List.any_eq_true.mpr ⟨_, hc, by simp [hk]⟩
    | hashLock kind hv pre =>
      intro h hh
      exact List.any_eq_true.mpr ⟨_, hc, by simp [hh]⟩
    | after n => trivial
    | older n => trivial

/-- whenever the model interpreter accepts, the constraints it reports make the spending
condition `Spec/MsSem.sem` of the miniscript true (the per-run judge `J policy` checks the same
on the real library).  All fragments incl. thresh / multi / multi_a, typed by the library's rules.
`_partial`: the AST is the descriptor's (`pk_h` carries its key; a bare `expr_raw_pkh` names no
key, `MsSem.sem` is false for it), HASH160 is collision-free on the script's keys
(`KeyHashFaithful`), nSequence is a 32-bit value. -/
theorem constraints_satisfy_policy_partial {ke : KeyEnv} {ie : IEnv}
    (hf : InterpPolicy.KeyHashFaithful ke ie) (hseq : ie.sequence < 2 ^ 32)
    (ms : Ms) (ty : Ty) (hty : typeOf ms = some ty) (hb : ty.corr.base = .B) (hn : InterpPolicy.NoRaw ms)
    (st : AStack) (cs : List Constraint) (hi : interpTop ke ie ms st = .ok cs) :
    MsSem.sem (worldOf ke ie cs) ms = true := by
  have P := InterpPolicy.policy hf hseq ms ty hty hn st _ cs (worldOf ke ie cs) (interpTop_ok hi)
    (worldOf_covers ke ie cs)
  rw [hb] at P
  obtain ⟨_, _, ha, _, hs⟩ := P
  cases ha
  exact hs rfl

/-! ### "the reported constraints are exactly the checks the executed path performed" -/

/-- COMPLETENESS of the report: the model interpreter's constraint list is, element for element
and in order, the list of checks an instrumented reading of the Script semantics performs
successfully on the accepted spend (`InterpChecks.checksOf`: CHECKSIG / CHECKSIGADD with a valid
non-empty signature, opened hash locks, the values CLTV / CSV are run on) — nothing missing,
nothing extra; a key-hash constraint counts as the signature check of `pk_h` (`norm`).  Together
with `constraints_checked` (every reported constraint was checked) this is "exactly".
`_partial`: fragment set `InterpChecks.CSup` = everything except `s:`, `d:` (a frame lemma for
`checksOf` is missing), `thresh`, `multi` (under the one-directional oracle Script may match a
signature to an earlier key than the interpreter) and `c:` over compound K fragments; plus the
hypotheses of `interp_sound_partial`.  The per-run judge `J constraints` checks the same equality
(as multisets, on the flat executor) for ALL fragments on the real library. -/
theorem reported_constraints_exact_partial {env : Env} {ke : KeyEnv} {ie : IEnv} {ctx : Ctx}
    (hl : NoLimits env) (ag : Agree env ie) (ms : Ms) (hs : WF env ke ms) (hcs : InterpChecks.CSup ms)
    (ty : Ty) (hty : typeOf ms = some ty) (hb : ty.corr.base = .B) (c : List Bytes)
    (cs : List Constraint) (hsz : ∀ e ∈ c, e.length < 2 ^ 31)
    (hi : interpTop ke ie ms (absS c) = .ok cs) :
    InterpChecks.checksOf env ke ctx ms c = cs.map InterpChecks.norm := by
  have P := InterpChecks.complete (ctx := ctx) hl ag ms ty hty (sup_of_WF ms hs) hcs c _ cs
    (smallA_of_forall hsz) (interpTop_ok hi)
  rw [hb] at P
  simpa using P []

/-! ### findings: where the literal interpreter is more permissive than Script -/

def ke0 : KeyEnv := ⟨fun _ => [], fun _ => [], fun _ => [], fun _ => [], fun _ _ => []⟩
def flags0 : Flags := ⟨false, true, true, true, true, false, false⟩
/-- nLockTime 100, nSequence `lsq`, version `ver`; no valid signatures, irrelevant hashes -/
def envOf (lsq ver : Nat) : Env := ⟨flags0, fun _ _ => false, fun _ _ => [], 100, lsq, ver⟩
def ieOf (lsq ver : Nat) : IEnv := ⟨fun _ _ => false, fun _ => false, fun _ => [], fun _ _ => [], 100, lsq, ver⟩

/-- `after(100)` with nLockTime = 100 on a FINAL input: rejected by the interpreter, as by
`OP_CHECKLOCKTIMEVERIFY` (BIP65) (/repo 1d81d5db, DESIGN.md §9.3) -/
theorem after_final_sequence_rejected :
    interpTop ke0 (ieOf 4294967295 2) (.after 100) [] = .error .absoluteLockTimeNotMet
    ∧ frag (envOf 4294967295 2) ke0 .segwitv0 (.after 100) ⟨[], [], 0⟩ = .error .unsatisfiedLocktime := by
  constructor <;> rfl

/-- `older(10)` with nSequence = 10 in a VERSION-1 transaction: the interpreter reports the lock
as satisfied, `OP_CHECKSEQUENCEVERIFY` fails (BIP112).  The interpreter never sees the version. -/
theorem interp_unsound_csv_tx_version_1 :
    interpTop ke0 (ieOf 10 1) (.older 10) [] = .ok [.older 10]
    ∧ frag (envOf 10 1) ke0 .segwitv0 (.older 10) ⟨[], [], 0⟩ = .error .unsatisfiedLocktime := by
  constructor <;> rfl

/-- the signature, key and lock-field clauses of the oracle agreement hold in that counterexample
(the two hash clauses hold by `rfl`, see `interp_sound_full_false`), so `version` is exactly what
the interpreter fails to check -/
theorem finding_agrees_otherwise :
    (∀ pk sg, (ieOf 10 1).verifySig pk sg = true → (envOf 10 1).sigOk pk sg = true)
    ∧ (∀ pk, (ieOf 10 1).keyParse pk = true → pubkeyOk (envOf 10 1) pk = true)
    ∧ (ieOf 10 1).lockTime = (envOf 10 1).nLockTime
    ∧ (ieOf 10 1).sequence = (envOf 10 1).nSequence := by
  refine ⟨fun pk sg h => ?_, fun pk h => ?_, rfl, rfl⟩
  · simp [ieOf] at h
  · simp [ieOf] at h

/-- `verify_sersig` lets exactly the BIP341 signature shapes through to verification (a 64-byte
signature followed by 0x00 is refused) (/repo bda5c1de, DESIGN.md §9.3) -/
theorem schnorr_parse_is_bip341 : ∀ sig : Bytes, schnorrSigParses sig = bip341SigShape sig := by
  intro sig
  unfold schnorrSigParses bip341SigShape
  by_cases h64 : sig.length = 64
  · have e1 : (sig.length == 64) = true := by simpa using h64
    have e2 : (sig.length == 65) = false := by simp [h64]
    simp [e1, e2]
  · have e1 : (sig.length == 64) = false := by simpa using h64
    by_cases h65 : sig.length = 65
    · have e2 : (sig.length == 65) = true := by simpa using h65
      cases hl : sig.getLast? with
      | none =>
        have : sig = [] := List.getLast?_eq_none_iff.mp hl
        subst this; simp at h65
      | some b =>
        by_cases hb : b = 0
        · subst hb; simp [e1, e2]
        · simp [e1, e2, hb]
    · have e2 : (sig.length == 65) = false := by simpa using h65
      simp [e1, e2]

/-- a witness-script / redeem-script / tapscript element is committed to as the very bytes given;
`[01]` and `[]` are refused (/repo be897bb9, DESIGN.md §9.3) -/
theorem committed_script_is_the_element :
    ∀ (e : Elem) (b : Bytes), committedScriptBytes e = some b → b = e.bytes := by
  intro e b h
  cases e <;> simp [committedScriptBytes, Elem.bytes] at h ⊢
  exact h.symm

/-- `Agree` (Lemmas/InterpBasic.lean) without its `version` clause, every other clause kept -/
def AgreeNoVersion (env : Env) (ie : IEnv) : Prop :=
  (∀ pk sg, ie.verifySig pk sg = true → env.sigOk pk sg = true)
  ∧ (∀ pk, ie.keyParse pk = true → pubkeyOk env pk = true)
  ∧ (∀ b, ie.hash160 b = env.hash .hash160 b) ∧ (∀ k b, ie.hash k b = env.hash (hkOp k) b)
  ∧ ie.lockTime = env.nLockTime ∧ ie.sequence = env.nSequence

/-- the statement one would like: T1 for every transaction version.  FALSE (next theorem): the
interpreter never receives the version, `older(n)` in a version-1 transaction is the
finding `csv-tx-version-1` -/
def interp_sound_full : Prop :=
  ∀ (env : Env) (ke : KeyEnv) (ie : IEnv) (ctx : Ctx) (ms : Ms),
    NoLimits env → AgreeNoVersion env ie → WF env ke ms → TopSound env ke ie ctx ms

theorem interp_sound_full_false : ¬ interp_sound_full := by
  intro hfull
  obtain ⟨hsig, hkey, hlt, hsq⟩ := finding_agrees_otherwise
  have hag : AgreeNoVersion (envOf 10 1) (ieOf 10 1) :=
    ⟨hsig, hkey, fun _ => rfl, fun _ _ => rfl, hlt, hsq⟩
  obtain ⟨v, o, hf, _⟩ := hfull (envOf 10 1) ke0 (ieOf 10 1) .segwitv0 (.older 10) ⟨rfl, rfl⟩ hag
    ⟨by decide, by decide⟩ Ty.time rfl rfl [] [.older 10] (by simp) interp_unsound_csv_tx_version_1.1
  rw [interp_unsound_csv_tx_version_1.2] at hf
  cases hf

/-! ### non-vacuity: concrete, nested objects meeting every hypothesis, with accepting runs -/

/-- four 33-byte keys `02 k 07…07`, the signature `30 k` valid for key `k` only -/
def ser3 (k : Nat) : List UInt8 := 2 :: UInt8.ofNat k :: List.replicate 31 7
def sig3 (k : Nat) : List UInt8 := [0x30, UInt8.ofNat k]
def ok3 (ser : Nat → List UInt8) (pk sg : List UInt8) : Bool :=
  (List.range 4).any fun k => pk == ser k && sg == sig3 k
/-- every hash of a 32-byte string is `[32]`, and that is the committed value -/
def ke3 : KeyEnv := ⟨ser3, ser3, fun _ => [], fun _ => [], fun _ _ => [32]⟩
def env3 : Env := ⟨flags0, ok3 ser3, fun _ b => [UInt8.ofNat b.length], 100, 10, 2⟩
def ie3 : IEnv := ⟨ok3 ser3, fun pk => pk.length == 33 && pk.head? == some 2, fun b => env3.hash .hash160 b,
  fun k b => env3.hash (hkOp k) b, 100, 10, 2⟩
def pre32 : List UInt8 := List.replicate 32 1

theorem env3_nolimits : NoLimits env3 := ⟨rfl, rfl⟩

theorem env3_agree : Agree env3 ie3 where
  sig := fun _ _ h => h
  key := by
    intro pk h
    simp only [ie3, Bool.and_eq_true, beq_iff_eq] at h
    simp [pubkeyOk, env3, flags0, h.1, h.2]
  h160 := fun _ => rfl
  hash := fun _ _ => rfl
  lockTime := rfl
  sequence := rfl
  version := by decide

def pk3 (k : Nat) : Ms := .check (.pkK k)

/-- `or_d(multi(2,K0,K1,K2), and_v(v:thresh(2,pk(K0),s:pk(K1),a:sha256(H)),
     and_v(v:and_b(j:pk(K3), a:d:v:older(10)), after(100))))` — multi, thresh, a hash, both locks and
the wrappers `s:`, `d:`, `j:` -/
def msBig : Ms :=
  .orD (.multi 2 [0, 1, 2])
    (.andV (.verify (.thresh 2 (.cons (pk3 0) (.cons (.swap (pk3 1)) (.cons (.alt (.hash .sha256 0)) .nil)))))
      (.andV (.verify (.andB (.nonZero (pk3 3)) (.alt (.dupIf (.verify (.older 10)))))) (.after 100)))

def tyBig : Ty := ⟨⟨.B, .any, false, false⟩, ⟨.none, true, false⟩⟩

theorem msBig_typed : typeOf msBig = some tyBig := by decide

theorem pk3_ok (k : Nat) (hk : k < 4) : pubkeyOk env3 (ke3.ser k) = true := by
  have : k = 0 ∨ k = 1 ∨ k = 2 ∨ k = 3 := by omega
  rcases this with e | e | e | e <;> subst e <;> decide

theorem msBig_wf : WF env3 ke3 msBig := by
  refine ⟨⟨rfl, by decide, by decide, by decide, ?_⟩,
    ⟨by decide, by decide, by decide, pk3_ok 0 (by decide), pk3_ok 1 (by decide), trivial, trivial⟩,
    ⟨pk3_ok 3 (by decide), by decide, by decide⟩, by decide, by decide⟩
  intro key hkey
  simp at hkey
  rcases hkey with e | e | e <;> subst e <;> decide

/-- the interpreter model ACCEPTS through the `multi` branch: signatures of K2 and K1 over the dummy -/
theorem msBig_run_multi : ∃ cs, interpTop ke3 ie3 msBig (absS [sig3 2, sig3 1, []]) = .ok cs := ⟨_, rfl⟩

/-- … and through the other branch: `multi` dissatisfied (three empty elements), then
thresh = pk(K0) ✓, s:pk(K1) ✗, a:sha256 ✓; `j:pk(K3)` with a signature; `d:` taken; both locks met -/
theorem msBig_run_thresh :
    ∃ cs, interpTop ke3 ie3 msBig (absS [[], [], [], sig3 0, [], pre32, sig3 3, [1]]) = .ok cs := ⟨_, rfl⟩

/-- hence (T1 + bridge) the flat Script interpreter accepts the encoded script on both witnesses -/
theorem msBig_script_accepts_multi : accepts env3 (encode ke3 .segwitv0 msBig) [sig3 2, sig3 1, []] = true := by
  obtain ⟨cs, h⟩ := msBig_run_multi
  exact interp_accept_imp_script_accepts_partial (ctx := .segwitv0) env3_nolimits env3_agree msBig msBig_wf
    tyBig msBig_typed rfl _ cs (by decide) h

theorem msBig_script_accepts_thresh :
    accepts env3 (encode ke3 .segwitv0 msBig) [[], [], [], sig3 0, [], pre32, sig3 3, [1]] = true := by
  obtain ⟨cs, h⟩ := msBig_run_thresh
  exact interp_accept_imp_script_accepts_partial (ctx := .segwitv0) env3_nolimits env3_agree msBig msBig_wf
    tyBig msBig_typed rfl _ cs (by decide) h

/-- the constraints reported on that run are checked ones (T2) -/
example : ∀ cs, interpTop ke3 ie3 msBig (absS [[], [], [], sig3 0, [], pre32, sig3 3, [1]]) = .ok cs →
    ∀ c ∈ cs, HoldsForScript env3 c :=
  fun cs h => constraints_hold_for_script env3_agree msBig _ cs h

/-- … and satisfy the spending condition (policy claim) -/
theorem msBig_policy_thresh : ∀ cs, interpTop ke3 ie3 msBig (absS [[], [], [], sig3 0, [], pre32, sig3 3, [1]]) = .ok cs →
    MsSem.sem (worldOf ke3 ie3 cs) msBig = true :=
  fun cs h => constraints_satisfy_policy_partial (fun _ _ hh => by simp [ie3, env3, ke3] at hh) (by decide)
    msBig tyBig msBig_typed rfl (by simp [msBig, pk3, InterpPolicy.NoRaw, InterpPolicy.NoRawL]) _ cs h

/-- `or_d(pk(K0), and_v(v:and_b(j:pk(K3), a:sha256(H)), after(100)))` lies in the fragment set of
the completeness theorem; on the witness `[<>, sig3, preimage]` the interpreter accepts and its
report is exactly the executed checks: the signature for K3, the hash lock, the lock value -/
def msC : Ms :=
  .orD (pk3 0) (.andV (.verify (.andB (.nonZero (pk3 3)) (.alt (.hash .sha256 0)))) (.after 100))

theorem msC_wf : WF env3 ke3 msC :=
  ⟨pk3_ok 0 (by decide), ⟨pk3_ok 3 (by decide), trivial⟩, by decide, by decide⟩

theorem msC_exact :
    interpTop ke3 ie3 msC (absS [[], sig3 3, pre32])
      = .ok [.pk (ser3 3) (sig3 3), .hashLock .sha256 [32] pre32, .after 100]
    ∧ InterpChecks.checksOf env3 ke3 .segwitv0 msC [[], sig3 3, pre32]
      = [.pk (ser3 3) (sig3 3), .hashLock .sha256 [32] pre32, .after 100] := by
  have hrun : interpTop ke3 ie3 msC (absS [[], sig3 3, pre32])
      = .ok [.pk (ser3 3) (sig3 3), .hashLock .sha256 [32] pre32, .after 100] := rfl
  refine ⟨hrun, ?_⟩
  have := reported_constraints_exact_partial (ctx := .segwitv0) env3_nolimits env3_agree msC msC_wf
    (by simp [msC, pk3, InterpChecks.CSup]) ⟨⟨.B, .any, false, false⟩, ⟨.none, true, true⟩⟩ (by decide) rfl
    _ _ (by decide) hrun
  simpa [InterpChecks.norm] using this

/-! tapscript: `and_v(v:multi_a(2,X0,X1,X2), after(100))` with x-only keys -/

def serx (k : Nat) : List UInt8 := UInt8.ofNat k :: List.replicate 31 7
def flagsT : Flags := ⟨true, true, true, true, true, false, false⟩
def ke3t : KeyEnv := ⟨serx, serx, fun _ => [32], fun _ => [32], fun _ _ => [32]⟩
def env3t : Env := ⟨flagsT, ok3 serx, fun _ b => [UInt8.ofNat b.length], 100, 10, 2⟩
def ie3t : IEnv := ⟨ok3 serx, fun pk => pk.length == 32, fun b => env3t.hash .hash160 b,
  fun k b => env3t.hash (hkOp k) b, 100, 10, 2⟩
def msTap : Ms := .andV (.verify (.multiA 2 [0, 1, 2])) (.after 100)

theorem env3t_agree : Agree env3t ie3t where
  sig := fun _ _ h => h
  key := by
    intro pk h
    simp only [ie3t, beq_iff_eq] at h
    simp [pubkeyOk, env3t, flagsT, h]
  h160 := fun _ => rfl
  hash := fun _ _ => rfl
  lockTime := rfl
  sequence := rfl
  version := by decide

theorem msTap_wf : WF env3t ke3t msTap := by
  refine ⟨⟨rfl, by decide, by decide, by decide, ?_⟩, by decide, by decide⟩
  intro key hkey
  simp at hkey
  rcases hkey with e | e | e <;> subst e <;> decide

theorem msTap_run : ∃ cs, interpTop ke3t ie3t msTap (absS [sig3 0, [], sig3 2]) = .ok cs := ⟨_, rfl⟩

theorem msTap_script_accepts : accepts env3t (encode ke3t .tap msTap) [sig3 0, [], sig3 2] = true := by
  obtain ⟨cs, h⟩ := msTap_run
  exact interp_accept_imp_script_accepts_partial (ctx := .tap) ⟨rfl, rfl⟩ env3t_agree msTap msTap_wf
    ⟨⟨.B, .any, false, false⟩, ⟨.none, true, true⟩⟩ (by decide) rfl _ cs (by decide) h

/-! ### key admission at the boundary (segwit v0: compressed keys only) -/

/-- a key `from_txdata` admits as the witness-program key of p2wpkh / sh-wpkh is 33 bytes long -/
theorem pkFromSlice_segwit_compressed (kp : Bytes → Bool) (b : Bytes)
    (h : Interp.pkFromSlice kp true b = .ok ()) : kp b = true ∧ b.length = 33 := by
  unfold Interp.pkFromSlice at h
  by_cases hk : kp b = true
  · by_cases hl : b.length = 33
    · exact ⟨hk, hl⟩
    · simp [hk, hl] at h
  · simp [hk] at h

/-- in p2pkh (no compressedness required) exactly the parseable keys are admitted -/
theorem pkFromSlice_legacy (kp : Bytes → Bool) (b : Bytes) :
    Interp.pkFromSlice kp false b = .ok () ↔ kp b = true := by
  unfold Interp.pkFromSlice
  by_cases hk : kp b = true <;> simp [hk]

/-- a witness script the interpreter admits pushes 33-byte keys only -/
theorem segwitScriptAdmits_keys (ke : KeyEnv) (ms : Ms) (h : Interp.segwitScriptAdmits ke ms = true)
    (k : Key) (hk : k ∈ Interp.msKeys ms) : (ke.ser k).length = 33 := by
  unfold Interp.segwitScriptAdmits at h
  rw [List.all_eq_true] at h
  simpa using h k hk

/-- non-vacuity / the refused shape: `<65-byte key> CHECKSIG` is not admitted, `<33-byte key> CHECKSIG` is -/
example : Interp.segwitScriptAdmits { ke3 with ser := fun k => List.replicate (if k = 0 then 65 else 33) 4 } (.check (.pkK 0)) = false
    ∧ Interp.segwitScriptAdmits { ke3 with ser := fun k => List.replicate (if k = 0 then 65 else 33) 4 } (.check (.pkK 1)) = true := by
  constructor <;> rfl

end MsVerif.C13
