/-
C02 — satisfiable with the caller's assets ⇒ a satisfaction is found.

"Satisfiable" is decided by the specification's table of canonical (dis)satisfactions
restricted to the caller's assets (`Spec/SatTable.lean`: `satEx`, `dsatEx`); the satisfier is
the model `satDissat` of `src/miniscript/satisfy/{mod,sat_dissat}.rs` (`Model/Satisfy.lean`).
T1 (`mall_complete_table`): malleable mode; T2 (`accepted_imp_satEx`): the property's premise, an accepted
witness implies a table satisfaction; T3 (`nonmall_complete`): non-malleable mode; T4 (`tr_complete_*`): the
taproot leaf loop.  For the other output types the descriptor satisfier IS the miniscript satisfier of the single
script: T1 / T3 apply directly.

T2 excludes raw pkh for a reason: a non-canonical dissatisfaction (`and_b` with one side true) can stand in for a
canonical one that needs a raw key the caller does not know, so with raw pkh an accepted witness need not have a
canonical table row.

The generic statements are parameterised over the `j:` dissatisfaction (`satDissatG nz`,
Lemmas/CompleteFixed.lean, which is `satDissat` under their hypothesis): they need `nz = push0` (the specification's
row, and `MODEL_NZ`, the literal of rust-miniscript) or a script without `j:`.  With `Impossible` in that place T1 and
T3 are false on `f3Script`, `f3SaneScript` below (defect F3 of DESIGN.md §1.1; /repo 43e76f2c, §9.3).

Hypotheses of T1 / T3 explained here (decidable predicates over the nodes of the script; the others at their definitions below):
  `NoMixedLocks a ms`  the locks of `ms` that the assets declare satisfied have one unit per kind
                       (they come from one transaction's nLockTime / nSequence), so
                       `concatenate_rev` never hits its mixed-unit refusal;
  `SigSizesOK a`, `SmallScript ms`  (T1 only) witness sizes stay far below 2^63, so the
                       `as i64` differences that `thresh_mall` sorts by lie strictly between its
                       `i64::MIN` / `i64::MAX` sentinels.  Without a size bound the statement is
                       false for the unbounded-`Nat` model.
-/
import MsVerif.Lemmas.CompleteMall
import MsVerif.Lemmas.CompleteNonMall
import MsVerif.Lemmas.CompleteTap
import MsVerif.Lemmas.AccSatThm
import MsVerif.Thm.Bridge

namespace MsVerif.C02
open MsVerif SatTable Complete

/-! ## Linking the satisfier's `Assets` to the specification's `Avail` -/

/-- what the table may use, for assets `a` in script context `ctx`: a signature for `k` is
available iff `Witness::signature` returns a stack (ECDSA contexts: `a.ecdsaSig k`; Tapscript:
a Schnorr signature is known); locks as the asset provider answers `check_after` /
`check_older` (on the `relative::LockTime` view of the script's value) -/
def avail (a : Assets) (ctx : Ctx) : Avail where
  sig k := match ctx.sigType with
    | .ecdsa => a.ecdsaSig k
    | .schnorr => (a.schnorrSig k).isSome
  preimage := a.preimage
  after := a.checkAfter
  older n := a.checkOlder (relCanon n)
  rawKey h := (a.rawPkhPk h).isSome
  rawSig h := match ctx.sigType with
    | .ecdsa => (a.rawPkhEcdsa h).isSome
    | .schnorr => (a.rawPkhSchnorr h).isSome

theorem avail_eq (a : Assets) (ctx : Ctx) : avail a ctx = availOf a ctx := by
  unfold avail availOf sigAvail
  cases ctx.sigType <;> rfl

/-! ## Hypotheses (decidable predicates over the nodes, `Complete.subterms`) -/

/-- the locks of `ms` that are satisfied by the caller's transaction have one unit per kind:
any two `after` nodes that `check_after` accepts are both heights or both times; any two
`older` nodes that `check_older` accepts are both block- or both time-based -/
def NoMixedLocks (a : Assets) (ms : Ms) : Prop :=
  ∀ s ∈ subterms ms, ∀ t ∈ subterms ms, lockCompat a s t = true

instance (a : Assets) (ms : Ms) : Decidable (NoMixedLocks a ms) := by
  unfold NoMixedLocks; infer_instance

/-- no `j:` wrapper anywhere -/
def NoNonZero (ms : Ms) : Prop := allNodes isNotNonZero ms = true
/-- no raw-hash `pkh` (only produced by script decoding; refused by `Ctx::SANE`) -/
def NoRawPkH (ms : Ms) : Prop := allNodes isNotRawPkH ms = true
/-- the caller knows the preimage of every hash that appears in the script -/
def AllPreimages (a : Assets) (ms : Ms) : Prop := allNodes (preKnown a) ms = true
/-- every `thresh(k, x₁…xₙ)` has `1 ≤ k ≤ n` (invariant of the Rust `Threshold` type) -/
def ThreshKOK (ms : Ms) : Prop := allNodes threshKOK ms = true
/-- fewer than 2^55 witness items in any (dis)satisfaction (`Complete.itemBound`) -/
def SmallScript (ms : Ms) : Prop := itemBound ms < 2 ^ 55

instance (ms : Ms) : Decidable (NoNonZero ms) := by unfold NoNonZero; infer_instance
instance (ms : Ms) : Decidable (NoRawPkH ms) := by unfold NoRawPkH; infer_instance
instance (a : Assets) (ms : Ms) : Decidable (AllPreimages a ms) := by unfold AllPreimages; infer_instance
instance (ms : Ms) : Decidable (ThreshKOK ms) := by unfold ThreshKOK; infer_instance
instance (ms : Ms) : Decidable (SmallScript ms) := by unfold SmallScript; infer_instance

/-! ## T1 — malleable mode -/

/-- T1 for the satisfier with `j:`-dissatisfaction `nz`: if the table has a satisfaction
(dissatisfaction) from the caller's assets, the malleable-mode satisfier returns a stack for the
satisfaction (dissatisfaction) half — provided `nz` is the specification's row or the script has
no `j:`. -/
theorem mall_complete_generic (nz : Sat) (ke : KeyEnv) (ctx : Ctx) (rhs : Bool) (a : Assets) (ms : Ms)
    (hnz : nz = Sat.push0 ∨ NoNonZero ms) (hlk : NoMixedLocks a ms) (hsz : SigSizesOK a)
    (hsm : SmallScript ms) :
    (satEx (avail a ctx) ms = true →
      ∃ w, (satDissatG nz ⟨ke, ctx, true, rhs, a⟩ ms).sat.stack = .stack w) ∧
    (dsatEx (avail a ctx) ms = true →
      ∃ w, (satDissatG nz ⟨ke, ctx, true, rhs, a⟩ ms).dissat.stack = .stack w) := by
  obtain ⟨ua, ur, hu⟩ := exists_units a ms hlk
  have hs : 73 * itemBound ms < SMALL := by unfold SmallScript at hsm; unfold SMALL; omega
  have inv := mall_inv ⟨ke, ctx, true, rhs, a⟩ ua ur rfl hsz ms hu hs
  rw [avail_eq, satDissatG_eq _ ms (nzOK hnz)]
  exact ⟨fun h => isStk_exists (inv.sat h), fun h => isStk_exists (inv.dsat h)⟩

/-- T1: if the table has a satisfaction (dissatisfaction) built from the caller's assets, the
malleable-mode satisfier returns a stack for the satisfaction (dissatisfaction) half — every
script (typed or not), both halves, any `root_has_sig`.
`ThreshKOK` (`1 ≤ k ≤ n`, what `Threshold::new` enforces) is an explicit guard: for `k > n` the
model of `thresh_mall` would index its child lists out of range (`sats[i]!` defaults) and the
statement, though provable (`mall_complete_generic` does not use the guard), would not speak
about any behaviour of the library. -/
theorem mall_complete_table (ke : KeyEnv) (ctx : Ctx) (rhs : Bool) (a : Assets) (ms : Ms)
    (hk : ThreshKOK ms) (hlk : NoMixedLocks a ms) (hsz : SigSizesOK a) (hsm : SmallScript ms) :
    (satEx (avail a ctx) ms = true → ∃ w, (satDissat ⟨ke, ctx, true, rhs, a⟩ ms).sat.stack = .stack w) ∧
    (dsatEx (avail a ctx) ms = true → ∃ w, (satDissat ⟨ke, ctx, true, rhs, a⟩ ms).dissat.stack = .stack w) := by
  have _ := hk
  have := mall_complete_generic MODEL_NZ ke ctx rhs a ms (.inl rfl) hlk hsz hsm
  rwa [satDissatG_model] at this

/-- `or_d(j:multi(1,K0),pk(K1))`: unsatisfiable for the satisfier if `j:` had no dissatisfaction … -/
def f3Script : Ms := .orD (.nonZero (.multi 1 [0])) (.check (.pkK 1))
/-- … with a signature for `K1` only: the witness `[sig_K1, <>]` satisfies the script -/
def f3Assets : Assets where
  ecdsaSig k := k == 1
  schnorrSig _ := none
  rawPkhPk _ := none
  rawPkhEcdsa _ := none
  rawPkhSchnorr _ := none
  preimage _ _ := false
  checkOlder _ := false
  checkAfter _ := false
def keyEnv0 : KeyEnv := ⟨fun _ => [], fun _ => [], fun _ => [], fun _ => [], fun _ _ => []⟩

/- The table on a concrete script is evaluated by `simp`: its definition is by well-founded
recursion, so the kernel cannot run it; the equation lemmas can. -/
attribute [local simp] satEx dsatEx threshEx allDsatEx countOnlySat countCanSat countDead avail
  Ctx.sigType relCanon Sat.relIsTime Sat.relVal

theorem f3_table_satisfiable : satEx (avail f3Assets .segwitv0) f3Script = true := by
  simp [f3Script, f3Assets]

/-- the satisfier returns exactly the witness `[sig_K1, <>]` in both modes -/
theorem f3_model_satisfies :
    (satDissat ⟨keyEnv0, .segwitv0, true, true, f3Assets⟩ f3Script).sat.stack
      = .stack [.ecdsaSig 1, .pushZero] ∧
    (satDissat ⟨keyEnv0, .segwitv0, false, true, f3Assets⟩ f3Script).sat.stack
      = .stack [.ecdsaSig 1, .pushZero] := by
  decide

theorem f3_satisfied_by_T1 :
    ∃ w, (satDissat ⟨keyEnv0, .segwitv0, true, true, f3Assets⟩ f3Script).sat.stack = .stack w :=
  -- `NoMixedLocks` on a concrete script: name the two units (one pass over the nodes, not all pairs)
  (mall_complete_table keyEnv0 .segwitv0 true f3Assets f3Script (by decide)
    (compat_of_units (ua := true) (ur := true) (by decide))
    (sizesOK_of_noSchnorr _ (fun _ => rfl) (fun _ => rfl)) (by decide)).1 f3_table_satisfiable

/-! ### non-vacuity of T1's hypotheses -/

/-- `andor(pk(0), and_v(v:older(5),after(10)), thresh(2,pk(1),s:pk(2),a:sha256(7)))`: a
threshold, a hash and both kinds of lock -/
def ex1Script : Ms :=
  .andOr (.check (.pkK 0)) (.andV (.verify (.older 5)) (.after 10))
    (.thresh 2 (.cons (.check (.pkK 1)) (.cons (.swap (.check (.pkK 2)))
      (.cons (.alt (.hash .sha256 7)) .nil))))
def ex1Assets : Assets where
  ecdsaSig k := k == 1
  schnorrSig _ := none
  rawPkhPk _ := none
  rawPkhEcdsa _ := none
  rawPkhSchnorr _ := none
  preimage _ h := h == 7
  checkOlder _ := false
  checkAfter n := n == 10

theorem ex1_table : satEx (avail ex1Assets .segwitv0) ex1Script = true := by
  simp [ex1Script, ex1Assets]

example : (typeOf ex1Script).isSome = true ∧ ThreshKOK ex1Script ∧ NoMixedLocks ex1Assets ex1Script ∧
    SmallScript ex1Script :=
  ⟨by decide, by decide, compat_of_units (ua := true) (ur := true) (by decide), by decide⟩

example : ∃ w, (satDissat ⟨keyEnv0, .segwitv0, true, true, ex1Assets⟩ ex1Script).sat.stack = .stack w :=
  (mall_complete_table keyEnv0 .segwitv0 true ex1Assets ex1Script (by decide)
    (compat_of_units (ua := true) (ur := true) (by decide))
    (sizesOK_of_noSchnorr _ (fun _ => rfl) (fun _ => rfl)) (by decide)).1 ex1_table

/-! ## T3 — non-malleable mode -/

theorem nonmall_complete_generic (nz : Sat) (ke : KeyEnv) (ctx : Ctx) (a : Assets) (ms : Ms) (τ : Ty)
    (hτ : typeOf ms = some τ) (hm : τ.mall.nonMall = true) (hs : τ.mall.signed = true)
    (hnz : nz = Sat.push0 ∨ NoNonZero ms) (hraw : NoRawPkH ms) (hpre : AllPreimages a ms)
    (hk : ThreshKOK ms) (hlk : NoMixedLocks a ms) :
    satEx (avail a ctx) ms = true →
      ∃ w, (satDissatG nz ⟨ke, ctx, false, τ.mall.signed, a⟩ ms).sat.stack = .stack w := by
  obtain ⟨ua, ur, hu⟩ := exists_units a ms hlk
  have inv := nm_invG nz ⟨ke, ctx, false, τ.mall.signed, a⟩ ua ur rfl hs (.of_typeOf ms hτ) hm
    (allNodes_nmP hu (nzOK hnz) hraw hpre hk)
  rw [avail_eq]
  exact fun h => isStk_exists (inv.cs h)

/-- T3: a script whose type is non-malleable and signed (what `validate(&Ctx::SANE)`
demands), all preimages known: if the table has a satisfaction built from the caller's assets,
the non-malleable satisfier returns a stack -/
theorem nonmall_complete (ke : KeyEnv) (ctx : Ctx) (a : Assets) (ms : Ms) (τ : Ty)
    (hτ : typeOf ms = some τ) (hm : τ.mall.nonMall = true) (hs : τ.mall.signed = true)
    (hraw : NoRawPkH ms) (hpre : AllPreimages a ms) (hk : ThreshKOK ms) (hlk : NoMixedLocks a ms) :
    satEx (avail a ctx) ms = true →
      ∃ w, (satDissat ⟨ke, ctx, false, τ.mall.signed, a⟩ ms).sat.stack = .stack w := by
  have := nonmall_complete_generic MODEL_NZ ke ctx a ms τ hτ hm hs (.inl rfl) hraw hpre hk hlk
  rwa [satDissatG_model] at this

/-- a script of the same kind that passes the sanity rules: `or_d(j:and_v(v:pk(K0),pk(K2)),pk(K1))`
(type `Bdu/esm`) with a signature for `K1` only; the witness `[sig_K1, <>]` satisfies it -/
def f3SaneScript : Ms :=
  .orD (.nonZero (.andV (.verify (.check (.pkK 0))) (.check (.pkK 2)))) (.check (.pkK 1))

theorem f3Sane_sane : ∃ τ, typeOf f3SaneScript = some τ ∧ τ.corr.base = .B ∧
    τ.mall.nonMall = true ∧ τ.mall.signed = true := ⟨_, rfl, by decide⟩

theorem f3Sane_table_satisfiable : satEx (avail f3Assets .segwitv0) f3SaneScript = true := by
  simp [f3SaneScript, f3Assets]

theorem f3Sane_satisfied_by_T3 :
    ∃ w, (satDissat ⟨keyEnv0, .segwitv0, false, true, f3Assets⟩ f3SaneScript).sat.stack = .stack w := by
  obtain ⟨τ, hτ, _, hm, hs⟩ := f3Sane_sane
  have := nonmall_complete keyEnv0 .segwitv0 f3Assets f3SaneScript τ hτ hm hs (by decide)
    (by decide) (by decide) (compat_of_units (ua := true) (ur := true) (by decide)) f3Sane_table_satisfiable
  rwa [hs] at this

/-- with IMPOSSIBLE as the dissatisfaction of `j:` the satisfier finds nothing on either script, in either mode,
though the table has a satisfaction (`f3_table_satisfiable`, `f3Sane_table_satisfiable`) -/
example :
    (satDissatG Sat.IMPOSSIBLE ⟨keyEnv0, .segwitv0, true, true, f3Assets⟩ f3Script).sat.stack = .impossible ∧
    (satDissatG Sat.IMPOSSIBLE ⟨keyEnv0, .segwitv0, false, true, f3Assets⟩ f3SaneScript).sat.stack = .impossible := by
  decide

/-! ### non-vacuity of T3's hypotheses -/

/-- `or_d(pk(0), and_v(v:thresh(2,pk(1),s:pk(2),s:pk(3)), and_v(v:sha256(7), older(5))))`:
non-malleable, signed; contains a threshold, a hash and a lock -/
def ex3Script : Ms :=
  .orD (.check (.pkK 0))
    (.andV (.verify (.thresh 2 (.cons (.check (.pkK 1)) (.cons (.swap (.check (.pkK 2)))
      (.cons (.swap (.check (.pkK 3))) .nil)))))
      (.andV (.verify (.hash .sha256 7)) (.older 5)))
def ex3Assets : Assets where
  ecdsaSig k := k == 1 || k == 3
  schnorrSig _ := none
  rawPkhPk _ := none
  rawPkhEcdsa _ := none
  rawPkhSchnorr _ := none
  preimage _ h := h == 7
  checkOlder n := n == 5
  checkAfter _ := false

theorem ex3_typed : ∃ τ, typeOf ex3Script = some τ ∧ τ.corr.base = .B ∧
    τ.mall.nonMall = true ∧ τ.mall.signed = true := ⟨_, rfl, by decide⟩

theorem ex3_table : satEx (avail ex3Assets .segwitv0) ex3Script = true := by
  simp [ex3Script, ex3Assets]

example : NoRawPkH ex3Script ∧ AllPreimages ex3Assets ex3Script ∧
    ThreshKOK ex3Script ∧ NoMixedLocks ex3Assets ex3Script :=
  ⟨by decide, by decide, by decide, compat_of_units (ua := true) (ur := false) (by decide)⟩

example : ∃ w, (satDissat ⟨keyEnv0, .segwitv0, false, true, ex3Assets⟩ ex3Script).sat.stack = .stack w := by
  obtain ⟨τ, hτ, _, hm, hs⟩ := ex3_typed
  have := nonmall_complete keyEnv0 .segwitv0 ex3Assets ex3Script τ hτ hm hs
    (by decide) (by decide) (by decide) (compat_of_units (ua := true) (ur := false) (by decide)) ex3_table
  rwa [hs] at this

/-! ## T2 — the property's premise: an ACCEPTED witness implies a table satisfaction

Stated with the stack limits off (`hlim`), as the structured semantics behind `AccSat.sound` is; that a witness
accepted with the limits on is accepted with them off is not proved (Lemmas/SatLimits.lean has the other direction). -/

open MsVerif.Script MsVerif.AccSat in
/-- T2 on the structured semantics, per base type (`AccSat.SatS`): a typed fragment (side
conditions `AccSat.WF`: the `Threshold` / lock-time invariants of the library's types and "no
raw pkh") that runs to completion SATISFIED — B: leaves a true value; V: completes; K: the
signature next to the key it leaves verifies; W: the value it leaves next to the `x` it found is
true — in an environment that accepts only what the caller holds (`AccSat.EnvOK`:
unforgeability, preimage resistance, the transaction's locks) has a table satisfaction from the
caller's assets.  EVERY fragment, thresholds and the multi family included. -/
theorem frag_satisfied_imp_satEx {env : Env} {ke : KeyEnv} {av : Avail}
    (hlim : env.flags.stackLimits = false) (henv : EnvOK env ke av) (ctx : Ctx) (ms : Ms) (hw : WF ms)
    (τ : Ty) (hτ : typeOf ms = some τ) (c c' : Core) (hrun : frag env ke ctx ms c = .ok c') :
    SatS env (satEx av ms = true) τ.corr.base c.stack c' :=
  sound hlim henv ctx ms hw τ hτ c c' hrun

open MsVerif.Script MsVerif.AccSat in
/-- T2 on real opcode execution (through the bridge theorem `run (encode ms) = frag ms`): if ANY
witness stack `w` makes the encoded script of a B-typed miniscript end with a true value on top
(consensus acceptance `acceptsLoose`; a fortiori the CLEANSTACK form `accepts`), then the
specification's table has a satisfaction from the caller's assets. -/
theorem accepted_imp_satEx {env : Env} {ke : KeyEnv} {av : Avail}
    (hlim : env.flags.stackLimits = false) (henv : EnvOK env ke av) (ctx : Ctx) (ms : Ms) (hw : WF ms)
    (τ : Ty) (hτ : typeOf ms = some τ) (hB : τ.corr.base = .B) (w : List Bytes)
    (hacc : acceptsLoose env (encode ke ctx ms) w = true) : satEx av ms = true := by
  obtain ⟨c', a, r, hr, hst, hv⟩ := (Bridge.acceptsLoose_iff_frag env ke ctx ms w (.inr (.inl hlim))
    (fun h => by rw [hlim] at h; cases h)).mp hacc
  exact (SatS.B hB).1 (sound hlim henv ctx ms hw τ hτ _ c' hr) a r hst hv

open MsVerif.Script MsVerif.AccSat in
theorem accepts_imp_satEx {env : Env} {ke : KeyEnv} {av : Avail}
    (hlim : env.flags.stackLimits = false) (henv : EnvOK env ke av) (ctx : Ctx) (ms : Ms) (hw : WF ms)
    (τ : Ty) (hτ : typeOf ms = some τ) (hB : τ.corr.base = .B) (w : List Bytes)
    (hacc : accepts env (encode ke ctx ms) w = true) : satEx av ms = true := by
  obtain ⟨c', a, hr, hst, hv⟩ := (Bridge.accepts_iff_frag env ke ctx ms w (.inr (.inl hlim))
    (fun h => by rw [hlim] at h; cases h)).mp hacc
  exact (SatS.B hB).1 (sound hlim henv ctx ms hw τ hτ _ c' hr) a [] hst hv

/-- the dissatisfaction side is static: a fragment typed `d` (no raw pkh) ALWAYS has a table
dissatisfaction — so wherever the composition rules read a child's dissatisfaction (`or_b`,
`or_d`, `or_c`, `andor`, `thresh` demand `d`), "the child was left false" needs no run-time
argument.  (A fragment NOT typed `d` that is left false — `and_v`, `and_b` with one side true,
a wrong `thresh` count — is a non-canonical dissatisfaction; the table does not list those and
no satisfaction row uses them.) -/
theorem d_typed_imp_dsatEx (av : Avail) (ms : Ms) (τ : Ty) (hτ : typeOf ms = some τ)
    (hd : τ.corr.dissat = true) (hraw : NoRawPkH ms) : dsatEx av ms = true :=
  AccSat.dsat_of_d av ms τ hτ hd hraw

open MsVerif.Script MsVerif.AccSat in
/-- THE PROPERTY'S FIRST SENTENCE (malleable mode): if some witness makes the script succeed in
an environment bounded by the caller's assets, `satisfy_malleable` returns a satisfaction. -/
theorem accepted_imp_found_mall {env : Env} (ke : KeyEnv) (ctx : Ctx) (rhs : Bool) (a : Assets) (ms : Ms)
    (hlim : env.flags.stackLimits = false) (henv : EnvOK env ke (avail a ctx)) (hw : WF ms)
    (τ : Ty) (hτ : typeOf ms = some τ) (hB : τ.corr.base = .B)
    (hk : ThreshKOK ms) (hlk : NoMixedLocks a ms) (hsz : SigSizesOK a) (hsm : SmallScript ms)
    (w : List Bytes) (hacc : acceptsLoose env (encode ke ctx ms) w = true) :
    ∃ w', (satDissat ⟨ke, ctx, true, rhs, a⟩ ms).sat.stack = .stack w' :=
  (mall_complete_table ke ctx rhs a ms hk hlk hsz hsm).1
    (accepted_imp_satEx hlim henv ctx ms hw τ hτ hB w hacc)

open MsVerif.Script MsVerif.AccSat in
/-- THE PROPERTY'S SECOND SENTENCE (non-malleable mode, scripts that pass the sanity rules, all
preimages known): under the same premise `satisfy` returns a satisfaction. -/
theorem accepted_imp_found_nonmall {env : Env} (ke : KeyEnv) (ctx : Ctx) (a : Assets) (ms : Ms)
    (hlim : env.flags.stackLimits = false) (henv : EnvOK env ke (avail a ctx)) (hw : WF ms)
    (τ : Ty) (hτ : typeOf ms = some τ) (hB : τ.corr.base = .B)
    (hm : τ.mall.nonMall = true) (hs : τ.mall.signed = true)
    (hpre : AllPreimages a ms) (hk : ThreshKOK ms) (hlk : NoMixedLocks a ms)
    (w : List Bytes) (hacc : acceptsLoose env (encode ke ctx ms) w = true) :
    ∃ w', (satDissat ⟨ke, ctx, false, τ.mall.signed, a⟩ ms).sat.stack = .stack w' :=
  nonmall_complete ke ctx a ms τ hτ hm hs hw.r hpre hk hlk
    (accepted_imp_satEx hlim henv ctx ms hw τ hτ hB w hacc)

/-! ### non-vacuity of T2: a concrete environment, script (threshold + hash + lock) and witness -/

/-- keys are 33-byte compressed encodings; hashes are the identity (so a preimage "is" its hash) -/
def ex2Ke : KeyEnv :=
  { ser := fun k => 2 :: List.replicate 32 (UInt8.ofNat k), sortKey := fun k => [UInt8.ofNat k],
    pkh := fun _ => [], rawPkh := fun _ => [], hashVal := fun _ h => List.replicate 32 (UInt8.ofNat h) }
/-- the only signature that verifies is `[7]` for key 1; nLockTime = 10 -/
def ex2Env : Script.Env :=
  { flags := ⟨false, true, false, true, true, false, false⟩,
    sigOk := fun pk s => pk == ex2Ke.ser 1 && s == [7],
    hash := fun _ b => b, nLockTime := 10, nSequence := 0, txVersion := 2 }
/-- the caller holds exactly what `ex2Env` accepts -/
def ex2Avail : Avail :=
  { sig := fun k => ex2Env.sigOk (ex2Ke.ser k) [7], preimage := fun _ _ => true,
    after := fun n => Script.checkLockTime ex2Env n, older := fun n => Script.checkSequence ex2Env n,
    rawKey := fun _ => false, rawSig := fun _ => false }
/-- `and_v(v:thresh(1,pk(1),s:pk(2)),and_v(v:sha256(7),after(10)))` -/
def ex2Script : Ms :=
  .andV (.verify (.thresh 1 (.cons (.check (.pkK 1)) (.cons (.swap (.check (.pkK 2))) .nil))))
    (.andV (.verify (.hash .sha256 7)) (.after 10))

theorem ex2_sigOk (pk s : Script.Bytes) (h : ex2Env.sigOk pk s = true) : pk = ex2Ke.ser 1 ∧ s = [7] := by
  have h' : (pk == ex2Ke.ser 1 && s == [7]) = true := h
  rw [Bool.and_eq_true, beq_iff_eq, beq_iff_eq] at h'
  exact h'

theorem ex2_envOK : AccSat.EnvOK ex2Env ex2Ke ex2Avail := by
  constructor
  · intro k s h
    obtain ⟨h1, _⟩ := ex2_sigOk _ _ h
    show (ex2Ke.ser k == ex2Ke.ser 1 && ([7] : Script.Bytes) == [7]) = true
    rw [h1]; simp
  · intro k p s hh h
    obtain ⟨h1, _⟩ := ex2_sigOk _ _ h
    have hp : p = ex2Ke.pkh k := hh
    rw [h1] at hp
    exact absurd hp (List.cons_ne_nil _ _)
  · intro _ _ _ _ _; rfl
  · intro n h; simp only [ex2Avail]; exact h
  · intro n h; simp only [ex2Avail]; exact h

example : AccSat.WF ex2Script :=
  ⟨by decide, by decide, by decide, by decide, by decide⟩

/-- the witness `[sig₁, <>, preimage]` (top first) is accepted … -/
theorem ex2_accepted :
    Script.acceptsLoose ex2Env (encode ex2Ke .segwitv0 ex2Script) [[7], [], List.replicate 32 7] = true := by
  decide

/-- … hence the table has a satisfaction -/
example : satEx ex2Avail ex2Script = true := by
  have hτ : ∃ τ, typeOf ex2Script = some τ ∧ τ.corr.base = .B := ⟨_, rfl, by decide⟩
  obtain ⟨τ, hτ, hB⟩ := hτ
  exact accepted_imp_satEx rfl ex2_envOK .segwitv0 ex2Script
    ⟨by decide, by decide, by decide, by decide, by decide⟩ τ hτ hB _ ex2_accepted

/-! ## T4 — descriptor level: the taproot leaf loop -/

/-- the leaf loop skips no leaf: a spend is returned iff the key path is signable or some leaf
has a stack satisfaction in the given mode -/
theorem tr_leafloop_iff (ke : KeyEnv) (a : Assets) (mall tk : Bool) (ls : List TapLeaf) :
    bestTapSpend ke a mall tk ls ≠ .none ↔
      (tk = true ∨ ∃ l ∈ ls, ∃ w, (satDissat (tapLeafCfg ke a mall l.ms) l.ms).sat.stack = .stack w) := by
  rw [bestTapSpend_ne_none]
  constructor
  · rintro (h | ⟨l, hm, hs⟩)
    · exact .inl h
    · exact .inr ⟨l, hm, isStk_exists hs⟩
  · rintro (h | ⟨l, hm, w, hw⟩)
    · exact .inl h
    · exact .inr ⟨l, hm, by unfold leafSat; rw [hw]; rfl⟩

/-- … and ranks correctly: the witness size kept by the loop is minimal among all leaves that
have a stack satisfaction (`bestTapSpend` is `tapLoop … ls 0 none` behind the key-path test) -/
theorem tr_leafloop_minimal (ke : KeyEnv) (a : Assets) (mall : Bool) (ls : List TapLeaf) (j m : Nat)
    (h : tapLoop ke a mall ls 0 none = some (j, m)) :
    ∀ l ∈ ls, ∀ s, (satDissat (tapLeafCfg ke a mall l.ms) l.ms).sat.stack = .stack s →
      m ≤ tapLeafWitSize ke l s :=
  (tapLoop_min ke a mall ls 0 none j m h).2

/-- malleable mode (`get_satisfaction_mall`, `into_plan_mall`): key path signable or some leaf
table-satisfiable ⇒ a spend is returned -/
theorem tr_complete_mall (ke : KeyEnv) (a : Assets) (tk : Bool) (ls : List TapLeaf)
    (hk : ∀ l ∈ ls, ThreshKOK l.ms) (hlk : ∀ l ∈ ls, NoMixedLocks a l.ms) (hsz : SigSizesOK a)
    (hsm : ∀ l ∈ ls, SmallScript l.ms)
    (h : tk = true ∨ ∃ l ∈ ls, satEx (avail a .tap) l.ms = true) :
    bestTapSpend ke a true tk ls ≠ .none := by
  rw [tr_leafloop_iff]
  rcases h with h | ⟨l, hm, hs⟩
  · exact .inl h
  · exact .inr ⟨l, hm, (mall_complete_table ke .tap _ a l.ms (hk l hm) (hlk l hm) hsz (hsm l hm)).1 hs⟩

/-- non-malleable mode (`get_satisfaction`, `into_plan`): key path signable or some leaf that
meets T3's hypotheses is table-satisfiable ⇒ a spend is returned -/
theorem tr_complete_nonmall (ke : KeyEnv) (a : Assets) (tk : Bool) (ls : List TapLeaf)
    (h : tk = true ∨ ∃ l ∈ ls, ∃ τ, typeOf l.ms = some τ ∧ τ.mall.nonMall = true ∧
      τ.mall.signed = true ∧ NoRawPkH l.ms ∧ AllPreimages a l.ms ∧ ThreshKOK l.ms ∧
      NoMixedLocks a l.ms ∧ satEx (avail a .tap) l.ms = true) :
    bestTapSpend ke a false tk ls ≠ .none := by
  rw [tr_leafloop_iff]
  rcases h with h | ⟨l, hm, τ, hτ, hnm, hsg, hraw, hpre, hk, hlk, hs⟩
  · exact .inl h
  · refine .inr ⟨l, hm, ?_⟩
    have := nonmall_complete ke .tap a l.ms τ hτ hnm hsg hraw hpre hk hlk hs
    simpa [tapLeafCfg, hτ] using this

/-- non-vacuity: `tr(K9,{pk(K0),and_v(v:pk(K1),older(5))})` with a Schnorr signature for K1 and
the lock: only the second leaf is satisfiable and it is the one returned -/
def ex4Leaves : List TapLeaf :=
  [⟨.check (.pkK 0), 1⟩, ⟨.andV (.verify (.check (.pkK 1))) (.older 5), 1⟩]
def ex4Assets : Assets where
  ecdsaSig _ := false
  schnorrSig k := if k == 1 then some 64 else none
  rawPkhPk _ := none
  rawPkhEcdsa _ := none
  rawPkhSchnorr _ := none
  preimage _ _ := false
  checkOlder n := n == 5
  checkAfter _ := false

example : bestTapSpend keyEnv0 ex4Assets false false ex4Leaves = .leaf 1 ∧
    bestTapSpend keyEnv0 ex4Assets true false ex4Leaves = .leaf 1 ∧
    bestTapSpend keyEnv0 ex4Assets false true ex4Leaves = .key := by decide

/-- non-vacuity of `tr_complete_mall` / `tr_complete_nonmall`: a tree whose second leaf is
`ex3Script` (threshold + hash + lock), Schnorr signatures for K1 and K3 only -/
def ex4bLeaves : List TapLeaf := [⟨.check (.pkK 0), 1⟩, ⟨ex3Script, 1⟩]
def ex4bAssets : Assets where
  ecdsaSig _ := false
  schnorrSig k := if k == 1 || k == 3 then some 64 else none
  rawPkhPk _ := none
  rawPkhEcdsa _ := none
  rawPkhSchnorr _ := none
  preimage _ h := h == 7
  checkOlder n := n == 5
  checkAfter _ := false

theorem ex4b_table : satEx (avail ex4bAssets .tap) ex3Script = true := by
  simp [ex3Script, ex4bAssets]

example : bestTapSpend keyEnv0 ex4bAssets false false ex4bLeaves ≠ .none := by
  obtain ⟨τ, hτ, _, hm, hs⟩ := ex3_typed
  exact tr_complete_nonmall keyEnv0 ex4bAssets false ex4bLeaves
    (.inr ⟨⟨ex3Script, 1⟩, by simp [ex4bLeaves], τ, hτ, hm, hs, by decide, by decide, by decide,
      compat_of_units (ua := true) (ur := false) (by decide), ex4b_table⟩)

example : bestTapSpend keyEnv0 ex4bAssets true false ex4bLeaves ≠ .none := by
  refine tr_complete_mall keyEnv0 ex4bAssets false ex4bLeaves ?_ ?_ ?_ ?_
    (.inr ⟨⟨ex3Script, 1⟩, by simp [ex4bLeaves], ex4b_table⟩)
  · intro l hl; simp only [ex4bLeaves, List.mem_cons, List.mem_nil_iff, or_false] at hl
    rcases hl with rfl | rfl <;> decide
  · intro l hl; simp only [ex4bLeaves, List.mem_cons, List.mem_nil_iff, or_false] at hl
    rcases hl with rfl | rfl <;> exact compat_of_units (ua := true) (ur := false) (by decide)
  · exact ⟨fun k sz h => by
      simp only [ex4bAssets] at h; split at h <;> simp at h; omega, fun h p hp => by cases hp⟩
  · intro l hl; simp only [ex4bLeaves, List.mem_cons, List.mem_nil_iff, or_false] at hl
    rcases hl with rfl | rfl <;> decide

end MsVerif.C02
