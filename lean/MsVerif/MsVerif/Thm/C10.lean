/-
C10 (checksum half) — "A descriptor string that carries a checksum is rejected if any one or two
of its characters are substituted, or up to four when the substitutions stay inside the checksum
alphabet's first group, and the checksum the library prints is the one it accepts."

Model: `Model/Checksum.lean` (mirror of `descriptor/checksum.rs` + the bech32 engine).
Strings are `List Char`; `checksumOf s` is `Engine::new().input(s); checksum_chars()`,
`verifyChecksumL` is `verify_checksum`.  T1 and T2 hold for strings of any length; T3 and the three
class-preserving substitutions bound the distance between the substituted characters, T4 the length of the
body (773 characters).  T5, the text round trip, is Thm/C10b.lean.
-/
import MsVerif.Lemmas.ChecksumString
import MsVerif.Lemmas.ChecksumRun
import MsVerif.Lemmas.ChecksumBip380
import MsVerif.Spec.Bch

namespace MsVerif.C10
open MsVerif MsVerif.Checksum

/-- kernel evaluation of a closed goal about string literals.  `"…".toList` is first rewritten to
the list of its characters by `String.toList_ofList`; left to the kernel it would be computed by
decoding the literal's UTF-8 bytes, which costs more than the checksum itself.  (The examples
that instantiate a theorem do the same rewriting on the instance and on the goal, so that the
kernel compares lists of characters.) -/
macro "eval_chars" : tactic => `(tactic| (repeat rw [String.toList_ofList]; decide +kernel))

/-! ## T1 — the printed checksum is the accepted one -/

/-- every string over the 95 printable ASCII characters has a checksum (the engine cannot panic
and cannot fail on validated input) -/
theorem checksum_exists (s : List Char) (hs : AllValid s) : ∃ cs, checksumOf s = some cs :=
  ⟨_, checksumOf_stream hs⟩

theorem allValid_of_checksum {s cs : List Char} (h : checksumOf s = some cs) : AllValid s := by
  refine Classical.byContradiction fun hn => ?_
  rw [checksumOf_invalid hn] at h; cases h

theorem checksum_shape (s cs : List Char) (h : checksumOf s = some cs) :
    cs.length = 8 ∧ AllValid cs ∧ '#' ∉ cs := by
  have h' := checksumOf_stream (allValid_of_checksum h)
  rw [h] at h'; cases h'
  exact ⟨residueChars_length _, fun c hc => (residueChars_ok _ c hc).1,
    fun hc => (residueChars_ok _ _ hc).2 rfl⟩

theorem verify_split (a b : List Char) (ha : AllValid a) (hb : AllValid b) (hn : '#' ∉ b) :
    verifyChecksumL (a ++ '#' :: b) =
      if b.length ≠ 8 then .err .invalidChecksumLength
      else match checksumOf a with
        | none => .panic
        | some expected => if expected ≠ b then .err .invalidChecksum else .ok a :=
  verify_append_hash ha hb hn

/-- **T1** the checksum the library prints is the one it accepts, and the body is returned
unchanged — for every string (any length, may itself contain `#`). -/
theorem printed_checksum_accepted (s cs : List Char) (h : checksumOf s = some cs) :
    verifyChecksumL (s ++ '#' :: cs) = .ok s := by
  obtain ⟨hl, hv, hn⟩ := checksum_shape s cs h
  rw [verify_split s cs (allValid_of_checksum h) hv hn, h]
  simp [hl]

example : verifyChecksumL ("raw(deadbeef)".toList ++ '#' :: "89f8spxm".toList)
    = .ok "raw(deadbeef)".toList := printed_checksum_accepted _ _ (by eval_chars)

/-- **T1** on `String`s, as the library's signature has it -/
theorem printed_checksum_accepted_string (s cs : String) (h : checksumChars s = some cs) :
    verifyChecksum (s ++ "#" ++ cs) = .ok s := by
  unfold checksumChars at h
  cases hc : checksumOf s.toList with
  | none => rw [hc] at h; cases h
  | some c =>
    rw [hc] at h
    simp only [Option.map, Option.some.injEq] at h
    subst h
    unfold verifyChecksum
    have : (s ++ "#" ++ String.ofList c).toList = s.toList ++ '#' :: c := by
      simp [String.toList_append]
    rw [this, printed_checksum_accepted _ _ hc]
    simp

/-- **the checksum the library prints is the BIP-380 checksum**: the model of the Rust engine
(`Engine::input` + `checksum_chars`, class folding, bech32 polymod with the five generator
constants) and the BIP's reference algorithm transcribed independently in `Spec/Bch.lean`
(`descsum_expand`, `descsum_polymod`, `descsum_create`, plain `Nat` arithmetic) agree on EVERY
string — valid or not (both `none` on a character outside the charset), of any length. -/
theorem checksum_eq_bip380 (s : List Char) : checksumOf s = Spec.Bch.create s :=
  checksumOf_eq_create s

/-! the test vectors of BIP-380 ("Checksum and character set") and of Bitcoin Core that the
repository carries (`descriptor/checksum.rs` tests), evaluated by the kernel on the MODEL -/
example : verifyChecksumL "raw(deadbeef)#89f8spxm".toList = .ok "raw(deadbeef)".toList := by
  eval_chars
example : verifyChecksumL "raw(deadbeef)".toList = .ok "raw(deadbeef)".toList := by eval_chars
example : verifyChecksumL "raw(deadbeef)#".toList = .err .invalidChecksumLength := by
  eval_chars                                                       -- missing checksum
example : verifyChecksumL "raw(deadbeef)#89f8spxmx".toList = .err .invalidChecksumLength := by
  eval_chars                                                       -- too long
example : verifyChecksumL "raw(deadbeef)#89f8spx".toList = .err .invalidChecksumLength := by
  eval_chars                                                       -- too short
example : verifyChecksumL "raw(dedbeef)#89f8spxm".toList = .err .invalidChecksum := by
  eval_chars                                                       -- error in payload
example : verifyChecksumL "raw(deadbeef)##9f8spxm".toList = .err .invalidChecksumLength := by
  eval_chars                                                       -- error in checksum
example : verifyChecksumL "raw(Ü)#00000000".toList = .err .invalidCharacter := by
  eval_chars                                                       -- invalid character
example : checksumOf "wpkh(tprv8ZgxMBicQKsPdpkqS7Eair4YxjcuuvDPNYmKX3sCniCf16tHEVrjjiSXEkFRnUH77yXc6ZcwHHcLNfjdi5qUvw3VDfgYiH5mNsj5izuiu2N/1/2/*)".toList
    = some "tqz0nc62".toList := by eval_chars
example : checksumOf "pkh(tpubD6NzVbkrYhZ4XHndKkuB8FifXm8r5FQHwrN6oZuWCz13qb93rtgKvD4PQsqC4HP4yhV3tA2fqr2RbY5mNXfM7RxXUoeABoDtsFUq2zJq6YK/44'/1'/0'/0/*)".toList
    = some "lasegmfs".toList := by eval_chars
example : checksumOf "sh(multi(2,[00000000/111'/222]xprvA1RpRA33e1JQ7ifknakTFpgNXPmW2YvmhqLQYMmrj4xJXXWYpDPS3xz7iAxn8L39njGVyuoseXzU6rcxFLJ8HFsTjSyQbLYnMpCqE2VbFWc,xprv9uPDJpEQgRQfDcW7BkF7eTya6RPxXeJCqCJGHuCJ4GiRVLzkTXBAJMu2qaMWPrS7AANYqdq6vcBcBUdJCVVFceUvJFjaPdGZ2y9WACViL4L/0))".toList
    = some "ggrsrxfy".toList := by eval_chars
example : checksumOf "sh(multi(2,[00000000/111'/222]xpub6ERApfZwUNrhLCkDtcHTcxd75RbzS1ed54G1LkBUHQVHQKqhMkhgbmJbZRkrgZw4koxb5JaHWkY4ALHY2grBGRjaDMzQLcgJvLJuZZvRcEL,xpub68NZiKmJWnxxS6aaHmn81bvJeTESw724CRDs6HbuccFQN9Ku14VQrADWgqbhhTHBaohPX4CjNLf9fq9MYo6oDaPPLPxSb7gwQN3ih19Zm4Y/0))".toList
    = some "tjg09x5t".toList := by eval_chars
/-- the SPECIFICATION's own checker (`descsum_check` of `Spec/Bch.lean`, not the model) on the first vector -/
example : Spec.Bch.check "raw(deadbeef)#89f8spxm".toList = true := by eval_chars

/-- `.panic` is the unchecked `CHAR_MAP` index / `Fe32` `expect` inside `input_unchecked`; `verify_checksum` reaches it only
after its first loop has validated every character -/
theorem verify_never_panics (s : List Char) : verifyChecksumL s ≠ .panic :=
  verifyChecksumL_ne_panic s

/-- corrupted strings `t1 ++ "#" ++ t2` (separator intact) are rejected as soon as the corrupted
checksum is not the checksum of the corrupted body -/
theorem rejected_of_mismatch (t1 t2 : List Char) (hl2 : t2.length = 8)
    (key : AllValid t1 → checksumOf t1 ≠ some t2) :
    ∃ e, verifyChecksumL (t1 ++ '#' :: t2) = .err e := by
  by_cases hv : AllValid (t1 ++ '#' :: t2)
  · obtain ⟨hv1, hv2'⟩ := hv.of_append
    obtain ⟨_, hv2⟩ := hv2'.of_cons
    by_cases hin : '#' ∈ t2
    · obtain ⟨u, v, e, hnv⟩ := last_hash_split hin
      subst e
      obtain ⟨hvu, hvv'⟩ := hv2.of_append
      obtain ⟨_, hvv⟩ := hvv'.of_cons
      have e2 : t1 ++ '#' :: (u ++ '#' :: v) = (t1 ++ '#' :: u) ++ '#' :: v := by simp
      rw [e2, verify_split _ v (hv1.append (AllValid.cons (by decide) hvu)) hvv hnv]
      have : v.length ≠ 8 := by
        simp only [List.length_append, List.length_cons] at hl2; omega
      exact ⟨.invalidChecksumLength, by simp [this]⟩
    · rw [verify_split t1 t2 hv1 hv2 hin]
      obtain ⟨c, hc⟩ := checksum_exists t1 hv1
      rw [hc]
      have : ¬ c = t2 := fun e => key hv1 (by rw [hc, e])
      exact ⟨.invalidChecksum, by simp [hl2, this]⟩
  · exact ⟨.invalidCharacter, verify_invalid hv⟩

/-! ## T2 — every single-character substitution is detected (any length) -/

/-- **T2, body**: replacing one character of the body by any other character -/
theorem single_char_detected_body (pre post cs : List Char) (x y : Char)
    (h : checksumOf (pre ++ x :: post) = some cs) (hne : x ≠ y) :
    ∃ e, verifyChecksumL ((pre ++ y :: post) ++ '#' :: cs) = .err e := by
  apply rejected_of_mismatch _ cs (checksum_shape _ cs h).1
  exact fun hv2 => checksumOf_ne_of_differs h (checksum_differs (allValid_of_checksum h) hv2 hne)

/-- **T2, checksum part**: replacing one of the eight checksum characters by any other character -/
theorem single_char_detected_checksum (s cs1 cs2 : List Char) (x y : Char)
    (h : checksumOf s = some (cs1 ++ x :: cs2)) (hne : x ≠ y) :
    ∃ e, verifyChecksumL (s ++ '#' :: (cs1 ++ y :: cs2)) = .err e := by
  have hl := (checksum_shape _ _ h).1
  simp only [List.length_append, List.length_cons] at hl
  apply rejected_of_mismatch s _ (by simp only [List.length_append, List.length_cons]; exact hl)
  intro _
  rw [h]
  exact fun e => hne (List.cons.inj (List.append_cancel_left (Option.some.inj e))).1

/-- **T2** in positional form: in a checksummed string `s#cs`, substituting the character at
any position `i` other than the separator by any other character `c` (of the charset or not)
makes `verify_checksum` fail.  No bound on the length. -/
theorem single_char_detected (s cs : List Char) (h : checksumOf s = some cs) (i : Nat) (c : Char)
    (hi : i < (s ++ '#' :: cs).length) (hsep : i ≠ s.length)
    (hne : (s ++ '#' :: cs)[i] ≠ c) :
    ∃ e, verifyChecksumL ((s ++ '#' :: cs).set i c) = .err e := by
  by_cases hb : i < s.length
  · -- body
    rw [List.getElem_append_left hb] at hne
    rw [List.set_append_left _ _ hb, List.set_eq_take_append_cons_drop, if_pos hb]
    apply single_char_detected_body (s.take i) (s.drop (i + 1)) cs s[i] c _ hne
    rw [List.getElem_cons_drop, List.take_append_drop]
    exact h
  · -- checksum part
    obtain ⟨j, rfl⟩ : ∃ j, i = s.length + (j + 1) := ⟨i - s.length - 1, by omega⟩
    have hj : j < cs.length := by
      simp only [List.length_append, List.length_cons] at hi; omega
    have hx : (s ++ '#' :: cs)[s.length + (j + 1)] = cs[j] := by
      rw [List.getElem_append_right (by omega)]
      simp only [Nat.add_sub_cancel_left, List.getElem_cons_succ]
    rw [hx] at hne
    rw [List.set_append_right _ _ (by omega), Nat.add_sub_cancel_left, List.set_cons_succ,
      List.set_eq_take_append_cons_drop, if_pos hj]
    apply single_char_detected_checksum s _ _ cs[j] c _ hne
    rw [List.getElem_cons_drop, List.take_append_drop]
    exact h

example : ∃ e, verifyChecksumL ("raw(dezdbeef)#89f8spxm".toList) = .err e := by
  have h := single_char_detected "raw(deadbeef)".toList "89f8spxm".toList (by eval_chars) 6 'z'
  repeat rw [String.toList_ofList] at h
  rw [String.toList_ofList]
  exact h (by decide) (by decide) (by decide)

/-- what happens at the separator itself: the string no longer carries a checksum, and
`verify_checksum` never returns the original body `s` — that, for every `cs`, is all the statement
says.  (For a printed checksum `cs`, eight characters without `#`, it either fails, an earlier `#`
becoming the separator of a too-long checksum, or returns the WHOLE corrupted string as the body.)
(At descriptor level such a string is rejected by the expression parser: trailing characters
after the final `)`; not proved, judged per run: `J csdetectd` (Driver/OpsText.lean).) -/
theorem separator_substitution (s cs : List Char) (c : Char) (hc : c ≠ '#') :
    verifyChecksumL (s ++ c :: cs) ≠ .ok s := by
  by_cases hv : AllValid (s ++ c :: cs)
  · by_cases hin : '#' ∈ s ++ c :: cs
    · -- the last `#` is not at `s.length`: the accepted body, if any, is not `s`
      obtain ⟨u, v, e, hnv⟩ := last_hash_split hin
      rw [e] at hv ⊢
      rw [verify_split u v hv.of_append.1 hv.of_append.2.of_cons.2 hnv]
      intro h
      have hus : u = s := by
        split at h
        · cases h
        · split at h
          · cases h
          · split at h
            · cases h
            · exact CsResult.ok.inj h
      rw [hus] at e
      exact hc (List.cons.inj (List.append_cancel_left e)).1
    · rw [verify_nohash hv hin]
      intro h
      have := congrArg List.length (CsResult.ok.inj h)
      simp at this
  · rw [verify_invalid hv]
    simp
/-! ## T3 — every two-character substitution is detected

A character is a 5-bit symbol plus a class digit (which third of INPUT_CHARSET it lies in; three
class digits are folded into one more symbol), so one substituted character alters up to two
symbols — its low symbol and the class symbol 1–3 places later — and two substituted characters
up to four.  The polymod step is XOR-linear, so whether the checksum changes depends only on the
error pattern, not on the string: the difference of the final residues is the same fold over the
XOR of the two symbol streams (`Lemmas/ChecksumStream.lean`).  If both substitutions fall into the
same group of three that XOR is a non-zero value below 2^20, which the remaining steps only shift
(`L` is injective); otherwise the first pattern `X`, moved on by the distance `g` between the two
class symbols, must differ from the second pattern `Y`: `L^g X ≠ Y` for ALL patterns and all
`1 ≤ g ≤ 1040` is a kernel-checked table (`Lemmas/ChecksumPair.lean`: `Y` lives in the four low
symbols and the step is GF(32)-linear, so a clash would make the four upper symbols of `x^g` and
`x^(g+δ)` zero or proportional; the kernel computes their projective normal forms and finds each
non-zero and different from its next three).
The same table covers one substituted body character plus one substituted checksum character.

Length bounds: what the kernel-checked table supports.  Its length, 1040 symbol distances, is a
choice (`reps_scan` in `Lemmas/ChecksumTriple.lean`); the bounds in characters below are 1040 less
the class symbols (one for every three characters) and, where the checksum part is involved, its
eight symbols and the flushed class symbol: 777 + 777/3 + 4, 773 + 773/3 + 9.  The underlying
mathematical fact holds up to distance 32 763 (≈ 24 500 characters; a direct search over all patterns,
not part of the proof: the first clash is at 32 764, three short of the order 32 767 of `x`), i.e.
far beyond the ≈ 500 characters of the property's statement.
The lemmas behind T2–T4: `checksum_differs`, `checksum_differs2`, `checksum_differs_three`
(`Lemmas/ChecksumStream.lean`: the two strings have different checksums), `body_and_checksum` and
the `hamming` vocabulary (`Lemmas/ChecksumRun.lean`); `checksumOf_ne_of_differs` and
`rejected_of_mismatch` below turn "different checksums" into "`verify_checksum` fails". -/

/-- **T3, body**: two substituted characters in the body — any characters, any classes, any
positions with at most 777 characters between them, in a string of ANY length -/
theorem two_substitutions_detected_body (pre mid post cs : List Char) (x x' y y' : Char)
    (h : checksumOf (pre ++ x :: (mid ++ y :: post)) = some cs)
    (hnx : x ≠ x') (hny : y ≠ y') (hlen : mid.length + mid.length / 3 + 4 ≤ 1040) :
    ∃ e, verifyChecksumL ((pre ++ x' :: (mid ++ y' :: post)) ++ '#' :: cs) = .err e := by
  apply rejected_of_mismatch _ cs (checksum_shape _ cs h).1
  exact fun v2 =>
    checksumOf_ne_of_differs h (checksum_differs2 (allValid_of_checksum h) v2 hnx hny hlen)

/-- a class-changing and a class-preserving substitution 11 characters apart -/
example : ∃ e, verifyChecksumL "rAw(deadbeef]#89f8spxm".toList = .err e := by
  have h := two_substitutions_detected_body "r".toList "w(deadbeef".toList [] "89f8spxm".toList
    'a' 'A' ')' ']' (by eval_chars) (by decide) (by decide)
  repeat rw [String.toList_ofList] at h
  rw [String.toList_ofList]
  exact h (by decide)

/-! ## three class-preserving substitutions

A substitution that keeps the character's class (in particular every substitution inside the
first group: digits, `a`–`h`, descriptor punctuation) changes exactly one 5-bit symbol.  The
polymod step is GF(32)-linear (`Lemmas/ChecksumGF32.lean`: the generator constants are the
multiples `2^i·GEN[0]` in GF(2)[x]/(x⁵+x³+1)), so a code word of weight 3,
`e₁·x^d₁ + e₂·x^d₂ = e₃`, would make the upper seven symbols of `x^d₁ mod g` and `x^d₂ mod g`
proportional; a kernel-computed table of their projective normal forms for `d = 1 … 1040`
(`Lemmas/ChecksumTriple.lean`) shows them pairwise distinct. -/

/-- **three class-preserving substitutions in the body**, at most 770 other characters between
the first and the third (`checksum_differs_three` has 776, what the table carries), in a string of
any length.  `_partial`: what is missing for the in-group clause of the
property (`checksum_distance_full`, k = 3) is the case where one or two of the three substituted
characters lie in the checksum part, and the translation into the `Substituted` vocabulary;
four substitutions (k = 4) are not covered at all. -/
theorem three_class_preserving_substitutions_detected_partial
    (pre m1 m2 post cs : List Char) (x x' y y' z z' : Char)
    (h : checksumOf (pre ++ x :: (m1 ++ y :: (m2 ++ z :: post))) = some cs)
    (hx' : validChar x' = true) (hy' : validChar y' = true) (hz' : validChar z' = true)
    (hnx : x ≠ x') (hny : y ≠ y') (hnz : z ≠ z')
    (hcx : classOf x = classOf x') (hcy : classOf y = classOf y') (hcz : classOf z = classOf z')
    (hlen : m1.length + m2.length ≤ 770) :
    ∃ e, verifyChecksumL ((pre ++ x' :: (m1 ++ y' :: (m2 ++ z' :: post))) ++ '#' :: cs) = .err e := by
  apply rejected_of_mismatch _ cs (checksum_shape _ cs h).1
  exact fun v2 => checksumOf_ne_of_differs h
    (checksum_differs_three (allValid_of_checksum h) v2 hnx hny hcx hcy hcz (by omega))

/-- three hexadecimal digits mistyped -/
example : ∃ e, verifyChecksumL "raw(d3a7bee0)#89f8spxm".toList = .err e := by
  have h := three_class_preserving_substitutions_detected_partial "raw(d".toList "a".toList
    "bee".toList ")".toList "89f8spxm".toList 'e' '3' 'd' '7' 'f' '0' (by eval_chars) (by decide)
    (by decide) (by decide) (by decide) (by decide) (by decide) (by decide +kernel)
    (by decide +kernel) (by decide +kernel)
  repeat rw [String.toList_ofList] at h
  rw [String.toList_ofList]
  exact h (by decide)

/-! ## T4 — the claim of the property in the specification's vocabulary -/

/-- The complete claim of the property.  OPEN part: `k = 4` inside the first group (4 symbol
errors at arbitrary positions: pairs of proportionality classes instead of single ones, ≈ 10⁸
kernel evaluations), and for `k = 3` the distributions with one or two of the substitutions in the
checksum part (`three_class_preserving_substitutions_detected_partial` has all three in the body).
The whole in-group clause is tested on every run by `J csdetect` / `J csdetectagg` (random ≤ 4
first-group substitutions). -/
def checksum_distance_full : Prop :=
  ∀ (s cs t : List Char) (k : Nat), checksumOf s = some cs → s.length ≤ 500 →
    Spec.Bch.Substituted k (s ++ '#' :: cs) t →
    (s ++ '#' :: cs)[s.length]? = t[s.length]? →          -- the separator is intact
    (k ≤ 2 ∨ (k ≤ 4 ∧ Spec.Bch.inFirstGroup (s ++ '#' :: cs) t = true)) →
    ∃ e, verifyChecksumL t = .err e

/-- **the `k ≤ 2` part of `checksum_distance_full`, proved** — with the length bound 773 instead
of 500: in a checksummed string whose body has at most 773 characters, substituting ANY one or
two characters (body and/or checksum part, by characters of the charset or not), the separator
left intact, makes `verify_checksum` fail.  Missing for the full statement: the in-group clause
(`k = 3`: see `three_class_preserving_substitutions_detected_partial`; `k = 4`: open). -/
theorem checksum_distance_partial (s cs t : List Char) (h : checksumOf s = some cs)
    (hlen : s.length ≤ 773) (hsub : Spec.Bch.Substituted 2 (s ++ '#' :: cs) t)
    (hsep : (s ++ '#' :: cs)[s.length]? = t[s.length]?) :
    ∃ e, verifyChecksumL t = .err e := by
  obtain ⟨hl, h0, h2⟩ := hsub
  obtain ⟨hcl, hcv, hcn⟩ := checksum_shape s cs h
  have hs := allValid_of_checksum h
  obtain ⟨t1, t2, rfl, hl1, hl2, hham⟩ := hamming_split_at hl hsep
  rw [hham] at h0 h2
  apply rejected_of_mismatch t1 t2 (by omega)
  intro hv1
  -- the ways of distributing one or two substitutions over body and checksum
  by_cases b0 : Spec.Bch.hamming s t1 = 0
  · cases hamming_zero hl1 b0
    rw [h]
    intro e
    cases Option.some.inj e
    simp only [hamming_self] at h0
    omega
  · obtain ⟨n, hn⟩ := Nat.exists_eq_succ_of_ne_zero b0
    obtain ⟨pre, x, x', s', t', rfl, rfl, hnx, hl', hh⟩ := hamming_succ_split hl1 hn
    simp only [List.length_append, List.length_cons] at hlen
    by_cases b1 : n = 0
    · subst b1
      cases hamming_zero hl' hh
      by_cases c0 : Spec.Bch.hamming cs t2 = 0
      · cases hamming_zero hl2 c0
        exact checksumOf_ne_of_differs h (checksum_differs hs hv1 hnx)
      · obtain ⟨j, hj, c, _, e⟩ := hamming_one hl2 (by omega)
        rw [e]
        exact body_and_checksum hs hv1 hnx h (by omega) (by omega)
    · cases hamming_zero hl2 (by omega)
      obtain ⟨m, rfl⟩ := Nat.exists_eq_succ_of_ne_zero b1
      obtain ⟨mid, y, y', post, post', rfl, rfl, hny, hl'', hh'⟩ := hamming_succ_split hl' hh
      cases hamming_zero hl'' (by omega)
      simp only [List.length_append, List.length_cons] at hlen
      exact checksumOf_ne_of_differs h (checksum_differs2 hs hv1 hnx hny (by omega))

/-- one substituted body character (class-changing) and one substituted checksum character -/
example : ∃ e, verifyChecksumL "raw(dEadbeef)#89f8spxq".toList = .err e :=
  checksum_distance_partial "raw(deadbeef)".toList "89f8spxm".toList _ (by eval_chars)
    (by decide) (by eval_chars) (by eval_chars)

end MsVerif.C10
