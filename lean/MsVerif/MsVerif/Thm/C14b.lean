/-
C14b — T1 of C14 INSTANTIATED: the interpreter parameter of the finalizer model is C13's model
of the transaction interpreter (`Model/Interp.lean`, tied to the Rust iterator by C13's
`C interp` correspondence lines), and its soundness hypothesis (`C14.InterpSound`) is DISCHARGED by C13's
theorem `interp_accept_imp_script_accepts_partial` (interpreter accepts ⇒ the flat opcode
interpreter `Script.run` accepts the encoded script with a clean stack).

What `from_txdata` does before the iterator runs — pick, from (scriptPubKey, scriptSig, witness),
the miniscript to interpret, its script context and the initial stack — is a parameter
(`Resolver.resolve`); C13's model has no byte-level `from_txdata` either.  What "valid" means here
(`ScriptAccepts`): the Script semantics (`Spec/Script.lean`, `accepts` = CLEANSTACK acceptance)
accepts the ENCODED resolved miniscript on the resolved stack, in the environment of input `i` of
the unsigned transaction.

`_partial` because it inherits C13's restrictions, all explicit in `ResolverOk`:
  * the resolved miniscripts satisfy `C13.WF` (everything the script decoder produces, `j:` included;
    keys well-formed for the context, thresholds `1 ≤ k ≤ n`, lock values in range) and the resolved
    stack elements are shorter than 2^31 bytes;
  * `Agree`: the interpreter's verifier / hashes / lock fields are Script's, and the transaction
    version is ≥ 2 (the interpreter never sees the version: `C13.interp_unsound_csv_tx_version_1`);
  * `NoLimits`: Script runs without the 201-opcode and 1000-element limits (resource limits are
    C09's subject, the interpreter does not count).
The step from `accepts` on the inner script to `Spend.verifySpend` on the whole output (hash
commitment of the witness / redeem script, push-only scriptSig, element sizes) is NOT taken here:
it is judged on every run (`J spend` applies `verifySpend` to every finalized input).
-/
import MsVerif.Thm.C14
import MsVerif.Thm.C13

namespace MsVerif.C14b
open MsVerif MsVerif.Script MsVerif.Interp MsVerif.InterpSound

/-- what `Interpreter::from_txdata` + `Interpreter::iter` fix before the iterator runs -/
structure Resolver where
  /-- `(spk, scriptSig, witness) ↦ (script context, miniscript, initial stack)`; `none`: `from_txdata`
  fails, or the output is a bare key / key hash (not a miniscript) -/
  resolve : Psbt.Scr → Psbt.SS → Psbt.Wit → Option (MsVerif.Ctx × Ms × List Bytes)
  ke : KeyEnv
  /-- the interpreter's environment for input `i` of `tx` spending `utxos` (verifier closure of
  `Interpreter::iter`: sighash of this input; lock fields of the transaction) -/
  ie : Psbt.Tx → Nat → List Psbt.TxOut → MsVerif.Ctx → IEnv
  /-- Script's environment for the same input -/
  env : Psbt.Tx → Nat → List Psbt.TxOut → MsVerif.Ctx → Env

/-- the interpreter parameter of the finalizer model, built from C13's `interpTop` -/
def interpOf (R : Resolver) : Psbt.Tx → Nat → List Psbt.TxOut → Psbt.Scr → Psbt.Wit → Psbt.SS → Bool :=
  fun tx i utxos spk wit ss =>
    match R.resolve spk ss wit with
    | none => false
    | some (ctx, ms, c) =>
      (match typeOf ms with | some ty => ty.corr.base == .B | none => false) &&
      (match interpTop R.ke (R.ie tx i utxos ctx) ms (absS c) with | .ok _ => true | .error _ => false)

/-- validity: Script accepts the encoded resolved miniscript on the resolved stack -/
def ScriptAccepts (R : Resolver) : Psbt.Tx → Nat → List Psbt.TxOut → Psbt.Scr → Psbt.SS → Psbt.Wit → Prop :=
  fun tx i utxos spk ss wit =>
    ∃ ctx ms c, R.resolve spk ss wit = some (ctx, ms, c) ∧
      accepts (R.env tx i utxos ctx) (encode R.ke ctx ms) c = true

/-- C13's side conditions, for everything the resolver can return -/
structure ResolverOk (R : Resolver) : Prop where
  nolimits : ∀ tx i utxos ctx, NoLimits (R.env tx i utxos ctx)
  agree : ∀ tx i utxos ctx, Agree (R.env tx i utxos ctx) (R.ie tx i utxos ctx)
  /-- the resolved miniscript is one the script decoder produces (`C13.WF`: no sortedmulti node,
  well-formed keys, `1 ≤ k ≤ n`, lock values an `AbsLockTime` / `RelLockTime` can carry) -/
  wf : ∀ tx i utxos spk ss wit ctx ms c, R.resolve spk ss wit = some (ctx, ms, c) →
    C13.WF (R.env tx i utxos ctx) R.ke ms
  /-- the resolved stack elements are shorter than 2^31 bytes (witness elements; needed by `j:`) -/
  small : ∀ spk ss wit ctx ms c, R.resolve spk ss wit = some (ctx, ms, c) → ∀ e ∈ c, e.length < 2 ^ 31

theorem interpSound_of_c13_partial (P : Psbt.Params) (R : Resolver) (hP : P.interp = interpOf R)
    (ok : ResolverOk R) : C14.InterpSound P (ScriptAccepts R) := by
  intro tx i utxos spk wit ss h
  rw [hP] at h
  unfold interpOf at h
  cases hr : R.resolve spk ss wit with
  | none => simp [hr] at h
  | some r =>
    obtain ⟨ctx, ms, c⟩ := r
    simp only [hr, Bool.and_eq_true] at h
    obtain ⟨hty, hint⟩ := h
    cases ht : typeOf ms with
    | none => simp [ht] at hty
    | some ty =>
      simp only [ht, beq_iff_eq] at hty
      cases hi : interpTop R.ke (R.ie tx i utxos ctx) ms (absS c) with
      | error e => simp [hi] at hint
      | ok cs =>
        exact ⟨ctx, ms, c, hr,
          C13.interp_accept_imp_script_accepts_partial (ok.nolimits tx i utxos ctx) (ok.agree tx i utxos ctx) ms
            (ok.wf tx i utxos spk ss wit ctx ms c hr) ty ht hty c cs (ok.small spk ss wit ctx ms c hr) hi⟩

/-- T1 instantiated (`finalize_input`): when the finalizer — running C13's interpreter as its
check — finalizes an input that was not final, the Script semantics accepts the encoded miniscript
of the spent output on exactly the stack made of the final scriptSig / witness it wrote, for
input `i` of the actual unsigned transaction and the referenced outputs. -/
theorem finalize_valid_script_partial (P : Psbt.Params) (R : Resolver) (hP : P.interp = interpOf R)
    (ok : ResolverOk R) (p p' : Psbt.Psbt) (i : Nat) (m : Bool) (inp : Psbt.Input)
    (hi : p.inputs[i]? = some inp) (hnf : inp.isFinal = false)
    (h : Psbt.finalizeInput P p i m = .ok p') :
    ∃ inp' utxo utxos, p'.inputs[i]? = some inp' ∧ Psbt.getUtxo p i = .ok utxo ∧ Psbt.prevouts p = .ok utxos ∧
      ∃ ctx ms c, R.resolve utxo.spk (inp'.finalScriptSig.getD []) (inp'.finalScriptWitness.getD []) = some (ctx, ms, c) ∧
        accepts (R.env p.tx i utxos ctx) (encode R.ke ctx ms) c = true := by
  obtain ⟨inp', utxo, utxos, h1, h2, h3, _, _, _, hv⟩ :=
    C14.finalize_valid P (ScriptAccepts R) (interpSound_of_c13_partial P R hP ok) p p' i m inp hi hnf h
  exact ⟨inp', utxo, utxos, h1, h2, h3, hv⟩

/-- T1 instantiated (`extract`): every input of an extracted transaction — whoever finalized it —
is accepted by the Script semantics in the same sense. -/
theorem extract_valid_script_partial (P : Psbt.Params) (R : Resolver) (hP : P.interp = interpOf R)
    (ok : ResolverOk R) (p : Psbt.Psbt) (l : List (Psbt.SS × Psbt.Wit)) (h : Psbt.extract P p = .ok l)
    (i : Nat) (inp : Psbt.Input) (hi : p.inputs[i]? = some inp) :
    ∃ utxo utxos, Psbt.getUtxo p i = .ok utxo ∧ Psbt.prevouts p = .ok utxos ∧
      ∃ ctx ms c, R.resolve utxo.spk (C14.decodeFinal inp).1 (C14.decodeFinal inp).2 = some (ctx, ms, c) ∧
        accepts (R.env p.tx i utxos ctx) (encode R.ke ctx ms) c = true := by
  obtain ⟨_, _, hall⟩ := C14.extract_valid P (ScriptAccepts R) (interpSound_of_c13_partial P R hP ok) p l h
  obtain ⟨_, utxo, utxos, h2, h3, hv⟩ := hall i inp hi
  exact ⟨utxo, utxos, h2, h3, hv⟩

/-! ### non-vacuity: a concrete world

One 33-byte key `K0` with one valid signature `S0`; lock time 100, sequence 10, version 2; no
resource limits.  P2WSH-like output `[1]` whose witness script is `and_v(v:pk(K0), after(100))`.
The satisfier returns the witness `[S0, script]`; `from_txdata` resolves it to
(segwitv0, `msX`, `[S0]`). -/

def K0 : Bytes := 2 :: List.replicate 32 7
def S0 : Bytes := [0x30, 0x01]
def keX : KeyEnv := ⟨fun _ => K0, fun _ => K0, fun _ => [], fun _ => [], fun _ _ => []⟩
def flagsX : Flags := ⟨false, true, true, true, true, false, false⟩
def envX : Env := ⟨flagsX, fun pk sg => pk == K0 && sg == S0, fun _ _ => [], 100, 10, 2⟩
def ieX : IEnv := ⟨fun pk sg => pk == K0 && sg == S0, fun _ => false, fun b => envX.hash .hash160 b,
  fun k b => envX.hash (hkOp k) b, 100, 10, 2⟩

theorem envX_nolimits : NoLimits envX := ⟨rfl, rfl⟩

theorem envX_agree : Agree envX ieX where
  sig := fun _ _ h => h
  key := by intro pk h; simp [ieX] at h
  h160 := fun _ => rfl
  hash := fun _ _ => rfl
  lockTime := rfl
  sequence := rfl
  version := by decide +kernel

def msX : Ms := .andV (.verify (.check (.pkK 0))) (.after 100)

theorem wfX : C13.WF envX keX msX := ⟨(by decide : pubkeyOk envX K0 = true), by decide, by decide⟩

def wsX : Psbt.Scr := [7]

def RX : Resolver where
  resolve spk _ wit :=
    if spk = [1] then
      match wit with
      | [sig, ws] => if ws = wsX ∧ sig.length ≤ 520 then some (.segwitv0, msX, [sig]) else none
      | _ => none
    else none
  ke := keX
  ie _ _ _ _ := ieX
  env _ _ _ _ := envX

theorem RX_ok : ResolverOk RX where
  nolimits _ _ _ _ := envX_nolimits
  agree _ _ _ _ := envX_agree
  wf tx i utxos spk ss wit ctx ms c h := by
    simp only [RX] at h
    split at h
    · split at h
      · split at h
        · cases h; exact wfX
        · cases h
      · cases h
    · cases h
  small spk ss wit ctx ms c h := by
    simp only [RX] at h
    split at h
    · split at h
      · split at h
        · rename_i hsz
          cases h
          intro e he
          simp only [List.mem_singleton] at he
          subst he
          omega
        · cases h
      · cases h
    · cases h

def PX : Psbt.Params where
  kind s := if s = [1] then .p2wsh else .other
  toP2wsh s := if s = wsX then [1] else 0 :: s
  toP2sh s := 8 :: s
  p2pkKey _ := none
  isP2pkhOf _ _ := false
  isP2wpkhOf _ _ := false
  decodes _ _ := true
  allKeys := [0]
  satisfy d p i _ :=
    match d with
    | .wsh ws => ((p.inputs[i]?).bind (·.partialSigs 0)).map fun sg => ([if sg = 0 then S0 else [0x30, 0x02], ws], [])
    | _ => none
  tapScriptWitness _ _ _ := none
  sigBytes _ _ := []
  interp := interpOf RX
  sanityInput _ := true

def inX (sig : Psbt.Sig) : Psbt.Input :=
  { witnessUtxo := some ⟨[1], 1000⟩, witnessScript := some wsX, partialSigs := fun k => if k = 0 then some sig else none }

def psbtX : Psbt.Psbt := ⟨⟨2, 100, [⟨1, 0, 0⟩, ⟨2, 0, 0⟩], 0⟩, [inX 0, inX 1]⟩

/-- the finalizer with C13's interpreter inside: input 0 (valid signature) is finalized with the
witness `[S0, script]`, input 1 (invalid signature) fails the interpreter check and is untouched -/
example : (Psbt.finalizeMut PX psbtX false).result = .err [.input .interpreter 1] := by decide +kernel
example : (Psbt.finalizeMut PX psbtX false).psbt.inputs.map (·.finalScriptWitness) = [some [S0, wsX], none] := by
  decide +kernel

/-- … and the theorem applies to it (its hypotheses are satisfiable, its conclusion is about a real
acceptance): Script accepts the encoded resolved miniscript on the stack of the witness written -/
example : ∃ ctx ms c, accepts envX (encode keX ctx ms) c = true := by
  have hfin : (match Psbt.finalizeInput PX psbtX 0 false with | .ok _ => true | _ => false) = true := by
    decide +kernel
  cases hp' : Psbt.finalizeInput PX psbtX 0 false with
  | ok p' =>
    obtain ⟨_, _, _, _, _, _, ctx, ms, c, _, hacc⟩ :=
      finalize_valid_script_partial PX RX rfl RX_ok psbtX p' 0 false (inX 0) rfl rfl hp'
    exact ⟨ctx, ms, c, hacc⟩
  | err e => rw [hp'] at hfin; cases hfin
  | panic => rw [hp'] at hfin; cases hfin

end MsVerif.C14b
