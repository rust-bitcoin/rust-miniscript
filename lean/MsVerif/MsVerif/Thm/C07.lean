/-
C07 — the lifted policy is exactly the script's spending condition.

Model: `Model/Lift.lean` (`lift_check`, the explicit-stack loop of `Liftable for Miniscript`
over `rtl_post_order_iter`, `Liftable for Descriptor / Tr / TapTree`), `Model/Semantic.lean`
(`normalized`), `Model/Ext.lean` (what `lift_check` reads).
Specification: `Spec/Policy.lean` (`holds W p`: truth of an abstract policy in a world with
signing keys, known preimages, nLockTime, nSequence), `Spec/MsSem.lean` (`sem W ms`: the spending
condition read directly off the AST; `semDesc`), `Spec/SatTable.lean` (`satEx`: a canonical
satisfaction of the Miniscript specification exists with the given assets).

The theorems quantify over ALL miniscripts (any depth, any threshold width, repeated keys, constants
anywhere), all four script contexts, all key environments and all worlds; the hypotheses beyond that are:
`kBounds` (`k ≤ n` at every threshold) in T0', typing and "no raw key hash" in T2 / T3, and in T3' the
side conditions of C01 / C02 (`SatSpec.WF`, `AccSat.WF`, `ThreshKOK`, `SmallScript`, base `B`) with
`Realises` / `Closed`.

  T0  the loop never panics and computes the structural fold; `lift` fails exactly when
      `lift_check` refuses or a raw key hash occurs.
  T1  `lift_sem`: whatever `lift` returns has the truth table `sem` in every world
      (uses C18's `normalized` theorem), and is in normal form.
  T2  `table_eq_sem`: for every well-typed script without raw key hashes, "a canonical
      satisfaction exists from the world's assets" (`satEx`) = `sem`; every `d`-typed fragment has
      a canonical dissatisfaction (`dissatisfiable_of_type`) — this is where typing is needed
      (`or_b`, `or_d`, `or_c`, `andor`, `thresh` must be able to dissatisfy the branches not taken).
  T3  `lift_iff_canonical_satisfaction`: T1 + T2.
  T4  descriptors: `pkh/wpkh/sh(wpkh)` ↦ the key; `wsh/sh/sh(wsh)/bare` ↦ the script;
      `tr(k, leaves)` ↦ `k` can sign OR some leaf's condition holds.

  T0' `has_mixed_timelocks_exact`: the `contains_combination` fold is exactly "some structural
      spending path mixes height and time" (Spec/MsSem.lean); hence `timelock_refusal_justified`,
      `no_policy_for_mixed_path`; `raw_key_hash_refused`.
  T3' execution level.  A world fixes signing keys, known preimages and the lock fields.
      `Available`: every byte string except forgeries and unknown preimages can be pushed;
      `Realises`: the Script environment is one in which the world lives; `Closed`: the
      environment itself accepts only what the world holds (`AccSat.EnvOK`, Lemmas/AccSatOps.lean; the field `Realises.envOk` is the other one, `SatSpec.EnvOk`).
      `lift_exact_forward` (any realising environment): policy holds ⇒ some witness of AVAILABLE
      byte strings is accepted by `Script.accepts` on the encoded script — C02.mall_complete_table
      + C01.top_level_sat_sound_exec + "reported locks were accepted" (Lemmas/LiftExec.lean).
      `lift_exact_reverse` (closed environments): accepted ⇒ policy holds — C02.accepts_imp_satEx.
      `lift_exact` / `lift_exact_available`: THE PROPERTY, both directions, closed environments.
      `rx_realises`, `cx_realises`, `cx_closed`, `cx_unknown_preimage`: non-vacuity (worlds with an
      unknown preimage; a script with a threshold, a hash and a lock).

Level reached: the property verbatim at the level of the flat Script interpreter for closed
environments (unforgeability / preimage resistance as properties of the environment, as in
C02).  Open: the same iff for environments in which forgeries exist as byte strings but are not
`Available` (`lift_exact_open_env_full`, a `def`): its forward half is `lift_exact_forward`.
-/
import MsVerif.Lemmas.Lift
import MsVerif.Lemmas.LiftExec
import MsVerif.Lemmas.LiftLocks
import MsVerif.Model.Encode
import MsVerif.Spec.Script
import MsVerif.Thm.C01
import MsVerif.Thm.C02
import MsVerif.Thm.C18

namespace MsVerif.C07
open MsVerif MsVerif.Pol MsVerif.Pol.Sem MsVerif.MsSem MsVerif.Lift MsVerif.SatTable

/-! ## T0 — the loop -/

/-- the explicit-stack loop over the right-to-left post-order leaves exactly the structural fold
on the stack (or stops at the first raw key hash) -/
theorem loop_is_structural (ms : Ms) :
    liftLoop (rtlPost ms) [] =
      match liftRaw ms with
      | some p => .ok [p]
      | none => .error .rawDescriptorLift := liftLoop_eq ms

theorem lift_eq (env : KeyEnv) (ctx : Ctx) (ms : Ms) :
    lift env ctx ms =
      match liftCheck env ctx ms with
      | .error e => .error e
      | .ok () =>
        match liftRaw ms with
        | some p => .ok (normalized p)
        | none => .error .rawDescriptorLift := Lift.lift_eq env ctx ms

/-- `.panic` is `stack.pop().unwrap()` on an empty stack (Model/Lift.lean): no pop of the loop, nor the final one, meets it -/
theorem lift_never_panics (env : KeyEnv) (ctx : Ctx) (ms : Ms) :
    lift env ctx ms ≠ .error .panic := lift_no_panic env ctx ms

/-- `lift` succeeds exactly for scripts within the resource limits of their context, without a
height/time lock combination and without raw key hashes -/
theorem lift_ok_iff (env : KeyEnv) (ctx : Ctx) (ms : Ms) :
    (∃ p, lift env ctx ms = .ok p) ↔
      withinResourceLimits env ctx ms = true ∧ Lift.hasMixedTimelocks env ctx ms = false
        ∧ noRaw ms = true := by
  rw [lift_eq, ← liftRaw_isSome]
  unfold liftCheck
  cases withinResourceLimits env ctx ms <;> cases Lift.hasMixedTimelocks env ctx ms <;>
    cases liftRaw ms <;> simp

/-- the three refusals, in the order the Rust tests them -/
theorem lift_error_kinds (env : KeyEnv) (ctx : Ctx) (ms : Ms) :
    (withinResourceLimits env ctx ms = false →
        lift env ctx ms = .error .branchExceedResourceLimits)
    ∧ (withinResourceLimits env ctx ms = true → Lift.hasMixedTimelocks env ctx ms = true →
        lift env ctx ms = .error .heightTimelockCombination)
    ∧ (withinResourceLimits env ctx ms = true → Lift.hasMixedTimelocks env ctx ms = false →
        noRaw ms = false → lift env ctx ms = .error .rawDescriptorLift) := by
  rw [lift_eq, ← liftRaw_isSome]
  unfold liftCheck
  cases withinResourceLimits env ctx ms <;> cases Lift.hasMixedTimelocks env ctx ms <;>
    cases liftRaw ms <;> simp

/-- what the per-run judge `J liftrefusal` (Driver/OpsLift.lean) tests on the library's answers about raw key hashes, here for the model: a script that mentions one
(specification predicate `mentionsRaw`) is never shown as a policy, and `RawDescriptorLift` is
reported only for such scripts -/
theorem raw_key_hash_refused (env : KeyEnv) (ctx : Ctx) (ms : Ms) :
    (mentionsRaw ms = true → ∀ p, lift env ctx ms ≠ .ok p)
    ∧ (lift env ctx ms = .error .rawDescriptorLift → mentionsRaw ms = true) := by
  rw [mentionsRaw_eq]
  constructor
  · intro hm p hp
    have := ((lift_ok_iff env ctx ms).mp ⟨p, hp⟩).2.2
    simp [this] at hm
  · rw [lift_eq, ← liftRaw_isSome]
    unfold liftCheck
    cases withinResourceLimits env ctx ms <;> cases Lift.hasMixedTimelocks env ctx ms <;>
      cases liftRaw ms <;> simp

/-! ## T0' — the timelock refusal (what `J liftrefusal` judges, as theorems about the model)

`hasMixedPath` (Spec/MsSem.lean): some spending path — one branch per `or`, both per `and`,
exactly `k` children per `thresh` — needs a height-based and a time-based lock of one kind.
`kBounds`: `1 ≤ k ≤ n` at every `thresh`, `k ≤ n` at every multi (what `Threshold::new`
guarantees). -/

/-- `has_mixed_timelocks` (the `contains_combination` flag folded bottom-up by `ExtData`) is
EXACT w.r.t. structural spending paths: every script within `kBounds`, every context and key environment -/
theorem has_mixed_timelocks_exact (env : KeyEnv) (ctx : Ctx) (ms : Ms)
    (hk : LiftLocks.kBounds ms = true) :
    Lift.hasMixedTimelocks env ctx ms = hasMixedPath true ms := by
  unfold Lift.hasMixedTimelocks MsSem.hasMixedPath
  rw [Bool.eq_iff_iff, (LiftLocks.rep_ms env ctx ms hk).mx, List.any_eq_true]
  rfl

/-- `HeightTimelockCombination` is reported only for scripts that have a mixed path -/
theorem timelock_refusal_justified (env : KeyEnv) (ctx : Ctx) (ms : Ms)
    (hk : LiftLocks.kBounds ms = true)
    (h : lift env ctx ms = .error .heightTimelockCombination) : hasMixedPath true ms = true := by
  rw [← has_mixed_timelocks_exact env ctx ms hk]
  rw [lift_eq] at h
  unfold liftCheck at h
  cases hw : withinResourceLimits env ctx ms <;> cases hm : Lift.hasMixedTimelocks env ctx ms <;>
    cases hr : liftRaw ms <;> simp [hw, hm, hr] at h ⊢

/-- a script for which a policy is shown has no mixed path — neither a structural one nor
(a fortiori) a satisfiable one -/
theorem no_policy_for_mixed_path (env : KeyEnv) (ctx : Ctx) (ms : Ms) (p : Policy)
    (hk : LiftLocks.kBounds ms = true) (h : lift env ctx ms = .ok p) :
    hasMixedPath true ms = false ∧ hasMixedPath false ms = false := by
  have h1 : hasMixedPath true ms = false := by
    rw [← has_mixed_timelocks_exact env ctx ms hk]
    exact ((lift_ok_iff env ctx ms).mp ⟨p, h⟩).2.1
  refine ⟨h1, ?_⟩
  cases h2 : hasMixedPath false ms
  · rfl
  · rw [LiftLocks.hasMixedPath_mono ms h2] at h1; cases h1

mutual
/-- `kBounds` is part of what `SatSpec.WF` (the constructors' numeric guarantees) says -/
theorem kBounds_of_WF (ctx : Ctx) : ∀ ms : Ms, SatSpec.WF ctx ms → LiftLocks.kBounds ms = true
  | .tru, _ | .fls, _ | .pkK _, _ | .pkH _, _ | .rawPkH _, _ | .after _, _ | .older _, _
  | .hash _ _, _ => by simp [LiftLocks.kBounds]
  | .multi k ks, h | .sortedMulti k ks, h | .multiA k ks, h | .sortedMultiA k ks, h => by
    simp only [SatSpec.WF] at h
    simp only [LiftLocks.kBounds, decide_eq_true_eq]; omega
  | .alt x, h | .swap x, h | .check x, h | .dupIf x, h | .verify x, h | .nonZero x, h
  | .zeroNotEqual x, h => by
    simp only [SatSpec.WF] at h
    simp only [LiftLocks.kBounds]; exact kBounds_of_WF ctx x h
  | .andV l r, h | .andB l r, h | .orB l r, h | .orD l r, h | .orC l r, h | .orI l r, h => by
    simp only [SatSpec.WF] at h
    simp only [LiftLocks.kBounds, Bool.and_eq_true]
    exact ⟨kBounds_of_WF ctx l h.1, kBounds_of_WF ctx r h.2⟩
  | .andOr a b c, h => by
    simp only [SatSpec.WF] at h
    simp only [LiftLocks.kBounds, Bool.and_eq_true]
    exact ⟨⟨kBounds_of_WF ctx a h.1, kBounds_of_WF ctx b h.2.1⟩, kBounds_of_WF ctx c h.2.2⟩
  | .thresh k xs, h => by
    simp only [SatSpec.WF] at h
    simp only [LiftLocks.kBounds, Bool.and_eq_true, decide_eq_true_eq]
    exact ⟨⟨h.1, h.2.1⟩, kBoundsL_of_WFs ctx xs h.2.2.2⟩
theorem kBoundsL_of_WFs (ctx : Ctx) : ∀ xs : MsList, SatSpec.WFs ctx xs → LiftLocks.kBoundsL xs = true
  | .nil, _ => by simp [LiftLocks.kBoundsL]
  | .cons x xs, h => by
    simp only [SatSpec.WFs] at h
    simp only [LiftLocks.kBoundsL, Bool.and_eq_true]
    exact ⟨kBounds_of_WF ctx x h.1, kBoundsL_of_WFs ctx xs h.2⟩
end

/-- the hypothesis is satisfiable by nested scripts with thresholds and locks of both units; choosing
two of the three children can mix the units, choosing one cannot -/
example : LiftLocks.kBounds (.thresh 2 (.cons (.check (.pkK 0)) (.cons (.alt (.dupIf (.verify
    (.older 10)))) (.cons (.alt (.dupIf (.verify (.older 4194305)))) .nil)))) = true := by decide
example : hasMixedPath true (.thresh 2 (.cons (.check (.pkK 0)) (.cons (.alt (.dupIf (.verify
    (.older 10)))) (.cons (.alt (.dupIf (.verify (.older 4194305)))) .nil)))) = true := by decide
example : hasMixedPath true (.thresh 1 (.cons (.check (.pkK 0)) (.cons (.alt (.dupIf (.verify
    (.older 10)))) (.cons (.alt (.dupIf (.verify (.older 4194305)))) .nil)))) = false := by decide

/-! ## T1 — the lifted policy has the script's truth table -/

/-- T1: in every world the lifted policy holds iff the script's condition does -/
theorem lift_sem (env : KeyEnv) (ctx : Ctx) (ms : Ms) (p : Policy)
    (h : lift env ctx ms = .ok p) (W : World) : holds W p = sem W ms :=
  lift_holds env ctx ms p h W

/-- the lifted policy is in the normal form of C18 (no constants below the root, no 1-child
thresholds, no `and` directly under `and`, no `or` directly under `or`) -/
theorem lift_normal_form (env : KeyEnv) (ctx : Ctx) (ms : Ms) (p : Policy)
    (h : lift env ctx ms = .ok p) : NF p = true := by
  obtain ⟨q, _, rfl⟩ := lift_ok_raw h
  exact normalized_NF q

/-- the lifted policy is already normalized: `normalized()` on it changes nothing -/
theorem lift_normalized_again (env : KeyEnv) (ctx : Ctx) (ms : Ms) (p : Policy)
    (h : lift env ctx ms = .ok p) : normalized p = p :=
  C18.normalized_fixes_normal_forms p (lift_normal_form env ctx ms p h)

/-- `at_age` of the spending input's own `nSequence` (disable flag clear) keeps the lifted policy's meaning -/
theorem lift_at_age_sem (env : KeyEnv) (ctx : Ctx) (ms : Ms) (p : Policy)
    (h : lift env ctx ms = .ok p) (W : World) (ha : W.nSequence < 2147483648) :
    holds W (atAge W.nSequence p) = sem W ms := by
  rw [C18.at_age_holds W p ha, lift_sem env ctx ms p h W]

/-- `at_lock_time` of the spending transaction's own `nLockTime` keeps the lifted policy's meaning -/
theorem lift_at_lock_time_sem (env : KeyEnv) (ctx : Ctx) (ms : Ms) (p : Policy)
    (h : lift env ctx ms = .ok p) (W : World) :
    holds W (atLockTime W.nLockTime p) = sem W ms := by
  rw [C18.at_lock_time_holds W p, lift_sem env ctx ms p h W]

theorem lift_ok_noRaw (env : KeyEnv) (ctx : Ctx) (ms : Ms) (p : Policy)
    (h : lift env ctx ms = .ok p) : noRaw ms = true :=
  ((lift_ok_iff env ctx ms).mp ⟨p, h⟩).2.2

/-! ## T2 — the direct reading is the specification's satisfaction table -/

/-- T2: for every well-typed fragment (any base type) without raw key hashes, a canonical
satisfaction from the world's assets exists iff the direct reading holds -/
theorem table_eq_sem (W : World) (ms : Ms) (τ : Ty) (ht : typeOf ms = some τ)
    (hr : noRaw ms = true) : satEx (availOfWorld W) ms = sem W ms :=
  (table_ms W ms τ ht hr).1

/-- the invariant that makes T2 go through: a fragment whose type says `d` has a canonical
dissatisfaction whatever the assets -/
theorem dissatisfiable_of_type (W : World) (ms : Ms) (τ : Ty) (ht : typeOf ms = some τ)
    (hr : noRaw ms = true) (hd : τ.corr.dissat = true) : dsatEx (availOfWorld W) ms = true :=
  (table_ms W ms τ ht hr).2 hd

/-- typing is needed: the ill-typed `or_d(v:pk(0), pk(1))` cannot dissatisfy its left branch, so
with only key 1 the table has no satisfaction although the direct reading holds -/
theorem table_eq_sem_needs_typing :
    ∃ (W : World) (ms : Ms), typeOf ms = none ∧ noRaw ms = true
      ∧ satEx (availOfWorld W) ms ≠ sem W ms :=
  ⟨⟨fun k => k == 1, fun _ _ => false, 0, 0⟩,
   .orD (.verify (.check (.pkK 0))) (.check (.pkK 1)), by decide, by decide,
   by simp [satEx, dsatEx, sem, availOfWorld]⟩

/-! ## T3 — lifted policy ⇔ canonical satisfaction -/

/-- T1 + T2: the policy the library reports holds in a world exactly when the specification's
table has a satisfaction built from that world's signatures, preimages, nLockTime, nSequence -/
theorem lift_iff_canonical_satisfaction (env : KeyEnv) (ctx : Ctx) (ms : Ms) (p : Policy) (τ : Ty)
    (h : lift env ctx ms = .ok p) (ht : typeOf ms = some τ) (W : World) :
    holds W p = satEx (availOfWorld W) ms := by
  rw [lift_sem env ctx ms p h W, table_eq_sem W ms τ ht (lift_ok_noRaw env ctx ms p h)]

/-! ## T3' — execution level: the lifted policy and `Script.accepts`

A world fixes which keys can sign, which hash preimages are known, and the transaction's lock
fields.  What the spender can put on the stack is then determined: EVERY byte string, except
signatures (valid in the spending transaction) for keys the world cannot sign for
(unforgeability) and preimages of committed hash values the world does not know (preimage
resistance). -/

/-- byte strings a spender in world `W` can push, given the transaction's Script environment -/
def Available (kenv : KeyEnv) (senv : Script.Env) (W : World) (b : Bytes) : Prop :=
  (∀ k, senv.sigOk (kenv.ser k) b = true → W.canSign k = true) ∧
  (∀ kind h, senv.hash (SatSpec.hashOpOf kind) b = kenv.hashVal kind h →
      W.preimage (polHash kind) h = true)

/-- The Script environment `senv` of the spending transaction is one in which world `W` lives:
same lock fields (input not final, version ≥ 2); interpreter flags of the context with resource
limits off (limits are C09's subject); keys well-formed for the context; for every key the
world can sign for SOME valid signature is available, for every preimage it knows SOME 32-byte
preimage is; the non-secret constants of a witness (empty vector, `1`, 32 zero bytes, public
keys) are available, i.e. are no forgeries / unknown preimages; no committed hash value is the
hash of 32 zero bytes (the canonical hash dissatisfaction).  Nothing is said about unknown
preimages or keys that cannot sign: by `Available` such strings simply cannot be pushed. -/
structure Realises (kenv : KeyEnv) (ctx : Ctx) (senv : Script.Env) (W : World) : Prop where
  envOk : SatSpec.EnvOk senv ctx
  lockTime : senv.nLockTime = W.nLockTime
  sequence : senv.nSequence = W.nSequence
  notFinal : W.nSequence ≠ Script.SEQ_FINAL
  seqU32 : W.nSequence < 4294967296
  version : senv.txVersion ≥ 2
  keyShape : ∀ k, Script.pubkeyOk senv (kenv.ser k) = true
  keyLen : ∀ k, (kenv.ser k).length < 2147483648
  pkh : ∀ k, senv.hash .hash160 (kenv.ser k) = kenv.pkh k
  signs : ∀ k, W.canSign k = true →
    ∃ sg, Available kenv senv W sg ∧ sg ≠ [] ∧ sg.length < 2147483648
      ∧ senv.sigOk (kenv.ser k) sg = true
  knows : ∀ kind h, W.preimage (polHash kind) h = true →
    ∃ x, Available kenv senv W x ∧ x.length = 32
      ∧ senv.hash (SatSpec.hashOpOf kind) x = kenv.hashVal kind h
  publicData : Available kenv senv W [] ∧ Available kenv senv W [1]
    ∧ Available kenv senv W (List.replicate 32 0) ∧ ∀ k, Available kenv senv W (kenv.ser k)
  zeroNoPreimage : ∀ kind h,
    senv.hash (SatSpec.hashOpOf kind) (List.replicate 32 0) ≠ kenv.hashVal kind h

def Spendable (kenv : KeyEnv) (ctx : Ctx) (senv : Script.Env) (W : World) (ms : Ms) : Prop :=
  ∃ wit : List Bytes, (∀ b ∈ wit, Available kenv senv W b)
    ∧ Script.accepts senv (encode kenv ctx ms) wit = true

section forward
open MsVerif.LiftExec MsVerif.SatSpec

/-- `Placeholder::satisfy_self` for a spender living in `W` (the signatures / preimages whose
existence `Realises` asserts) -/
noncomputable def sigmaOf {kenv : KeyEnv} {ctx : Ctx} {senv : Script.Env} {W : World}
    (R : Realises kenv ctx senv W) : Ph → Bytes
  | .pushOne => [1]
  | .pushZero => []
  | .hashDissat => List.replicate 32 0
  | .pubkey k _ => kenv.ser k
  | .ecdsaSig k => if h : W.canSign k = true then Classical.choose (R.signs k h) else []
  | .schnorrSig k _ => if h : W.canSign k = true then Classical.choose (R.signs k h) else []
  | .preimage kind x =>
    if h : W.preimage (polHash kind) x = true then Classical.choose (R.knows kind x h) else []
  | .pubkeyHash _ _ | .ecdsaSigPkh _ | .schnorrSigPkh _ _ => []

variable {kenv : KeyEnv} {ctx : Ctx} {senv : Script.Env} {W : World}

theorem sigmaOf_available (R : Realises kenv ctx senv W) (p : Ph) :
    Available kenv senv W (sigmaOf R p) := by
  cases p with
  | pushOne => exact R.publicData.2.1
  | hashDissat => exact R.publicData.2.2.1
  | pubkey k _ => exact R.publicData.2.2.2 k
  | pushZero | pubkeyHash _ _ | ecdsaSigPkh _ | schnorrSigPkh _ _ => exact R.publicData.1
  | ecdsaSig k | schnorrSig k _ =>
    simp only [sigmaOf]
    split
    · rename_i h; exact (Classical.choose_spec (R.signs k h)).1
    · exact R.publicData.1
  | preimage kind x =>
    simp only [sigmaOf]
    split
    · rename_i h; exact (Classical.choose_spec (R.knows kind x h)).1
    · exact R.publicData.1

theorem sigmaOf_size (R : Realises kenv ctx senv W) (p : Ph) :
    (sigmaOf R p).length < 2147483648 := by
  cases p with
  | pubkey k _ => exact R.keyLen k
  | pushOne | pushZero | hashDissat | pubkeyHash _ _ | ecdsaSigPkh _ | schnorrSigPkh _ _ =>
    simp [sigmaOf]
  | ecdsaSig k | schnorrSig k _ =>
    simp only [sigmaOf]
    split
    · rename_i h; exact (Classical.choose_spec (R.signs k h)).2.2.1
    · simp
  | preimage kind x =>
    simp only [sigmaOf]
    split
    · rename_i h; rw [(Classical.choose_spec (R.knows kind x h)).2.1]; decide
    · simp

/-- `SatSpec.Agrees`, the hypothesis of `C01.top_level_sat_sound_exec`: what the spender of world `W` hands to the satisfier is real -/
theorem agrees_of_realises (R : Realises kenv ctx senv W) :
    Agrees senv kenv (assetsOfWorld W) (sigmaOf R) where
  pushOne := rfl
  pushZero := rfl
  hashDissat := rfl
  keyShape := R.keyShape
  pkh := R.pkh
  pubkey := fun _ _ => rfl
  ecdsa := by
    intro k hk
    have hk' : W.canSign k = true := hk
    have hs := Classical.choose_spec (R.signs k hk')
    simp only [sigmaOf, hk', dite_true]
    exact ⟨hs.2.1, hs.2.2.2⟩
  schnorr := by
    intro k sz hk
    have hk' : W.canSign k = true := by
      cases h : W.canSign k
      · simp [assetsOfWorld, h] at hk
      · rfl
    have hs := Classical.choose_spec (R.signs k hk')
    simp only [sigmaOf, hk', dite_true]
    exact ⟨hs.2.1, hs.2.2.2⟩
  rawPk := by intro h sz hh; simp [assetsOfWorld] at hh
  rawEcdsa := by intro h pk sz hh; simp [assetsOfWorld] at hh
  rawSchnorr := by intro h pk sz sz' hh; simp [assetsOfWorld] at hh
  preimage := by
    intro kind h hk
    have hk' : W.preimage (polHash kind) h = true := hk
    have hs := Classical.choose_spec (R.knows kind h hk')
    simp only [sigmaOf, hk', dite_true]
    exact ⟨hs.2.1, hs.2.2⟩
  zeroNoPreimage := R.zeroNoPreimage
  sizeOk := sigmaOf_size R

theorem avail_assetsOfWorld (W : World) (ctx : Ctx) :
    C02.avail (assetsOfWorld W) ctx = availOfWorld W := by
  unfold C02.avail availOfWorld assetsOfWorld
  simp only [csvOk_relCanon]
  cases ctx.sigType <;> simp
  · funext k; by_cases h : W.canSign k = true <;> simp [h]

theorem locksMet_of_realises (R : Realises kenv ctx senv W) (cfg : SatCfg)
    (ha : cfg.assets = assetsOfWorld W) (ms : Ms) : LocksMet senv (satDissat cfg ms).sat := by
  have hr := reported_locks_accepted cfg ms
  rw [ha] at hr
  have hnf : senv.nSequence ≠ Script.SEQ_FINAL := by rw [R.sequence]; exact R.notFinal
  constructor
  · intro n hn
    have h := hr.1 n hn
    simp only [assetsOfWorld] at h
    rw [← R.lockTime] at h
    exact (checkLockTime_iff_cltvOk senv n hnf).mpr h
  · intro n hn
    have h := hr.2 n hn
    simp only [assetsOfWorld, csvOk_relCanon] at h
    rw [← R.sequence] at h
    exact (checkSequence_iff_csvOk senv n R.version (by rw [R.sequence]; exact R.seqU32)).mpr h

/-- **Forward half of the property at execution level.**  If the policy `lift` reports holds
in world `W`, then SOME witness consisting of byte strings available in `W` makes the encoded
script succeed under the Script semantics of a transaction realising `W` — the policy invents no
spending path.  From `lift_sem` + `table_eq_sem` (this file), completeness of the malleable
satisfier w.r.t. the table (`C02.mall_complete_table`) and soundness of every satisfaction on
the flat interpreter (`C01.top_level_sat_sound_exec`).  Hypotheses beyond `Realises`: `WF`,
`ThreshKOK` and `SmallScript` — numeric side conditions the Rust constructors guarantee
(`1 ≤ k ≤ n`, lock values in `1 … 2^31-1`, `multi` only outside Tap with ≤ 20 keys; fewer than
2^55 witness items). -/
theorem lift_exact_forward (kenv : KeyEnv) (ctx : Ctx) (ms : Ms) (p : Policy) (τ : Ty)
    (senv : Script.Env) (W : World)
    (hl : lift kenv ctx ms = .ok p) (ht : typeOf ms = some τ) (hB : τ.corr.base = .B)
    (hwf : WF ctx ms) (hk : C02.ThreshKOK ms) (hsm : C02.SmallScript ms)
    (R : Realises kenv ctx senv W) (hh : holds W p = true) : Spendable kenv ctx senv W ms := by
  have hex : satEx (availOfWorld W) ms = true := by
    rw [← lift_iff_canonical_satisfaction kenv ctx ms p τ hl ht W]; exact hh
  rw [← avail_assetsOfWorld W ctx] at hex
  have hlk : C02.NoMixedLocks (assetsOfWorld W) ms := fun s _ t _ => lockCompat_world W s t
  have hsz : Complete.SigSizesOK (assetsOfWorld W) := by
    constructor
    · intro k sz h
      simp only [assetsOfWorld] at h
      by_cases hc : W.canSign k = true
      · simp [hc] at h; omega
      · simp [hc] at h
    · intro h pr hp; simp [assetsOfWorld] at hp
  obtain ⟨w, hw⟩ := (C02.mall_complete_table kenv ctx true (assetsOfWorld W) ms hk hlk hsz hsm).1 hex
  let cfg : SatCfg := ⟨kenv, ctx, true, true, assetsOfWorld W⟩
  have hacc := C01.top_level_sat_sound_exec (env := senv) (σ := sigmaOf R) (cfg := cfg) R.envOk
    (agrees_of_realises R) ms τ hwf ht hB w hw (locksMet_of_realises R cfg rfl ms)
  refine ⟨stk (sigmaOf R) w, ?_, hacc⟩
  intro b hb
  simp only [stk, List.mem_reverse, List.mem_map] at hb
  obtain ⟨ph, _, rfl⟩ := hb
  exact sigmaOf_available R ph

end forward

/-! ### Non-vacuity: a world with an UNKNOWN preimage that is realised, and a script with a
threshold, a hash and a lock to which `lift_exact_forward` applies -/

/-- three distinguishable compressed-looking keys (`0`, `1`, everything else) -/
def rxSer (k : Key) : Bytes :=
  2 :: List.replicate 32 (if k == 0 then 0 else if k == 1 then 1 else 2)
/-- hash atom `0` commits to `1^32`, every other hash atom to `2^32`; hashing is the identity -/
def rxKenv : KeyEnv :=
  ⟨rxSer, rxSer, rxSer, fun _ => [], fun _ h => List.replicate 32 (if h == 0 then 1 else 2)⟩
/-- P2WSH flags, limits off; the only valid signature for `pk` is `0x30 ‖ pk` -/
def rxSenv : Script.Env :=
  { flags := ⟨false, true, true, true, true, false, false⟩
    sigOk := fun pk sg => sg == 0x30 :: pk
    hash := fun _ x => x
    nLockTime := 0, nSequence := 144, txVersion := 2 }
/-- keys 0 and 1 can sign, ONLY the preimage of hash atom 0 is known (that of every other hash
atom, `2^32`, is not — and is therefore not `Available`) -/
def rxWorld : World := ⟨fun k => k == 0 || k == 1, fun _ h => h == 0, 0, 144⟩

theorem rxSer_len (k : Key) : (rxSer k).length = 33 := by simp [rxSer]

theorem rx_hashVal_len (kind : HashKind) (h : Nat) : (rxKenv.hashVal kind h).length = 32 := by
  simp [rxKenv]

theorem rxSer_inj01 (k : Key) (h : rxSer k = rxSer 0 ∨ rxSer k = rxSer 1) : k = 0 ∨ k = 1 := by
  simp only [rxSer, List.cons.injEq, true_and] at h
  by_cases a : k = 0
  · exact Or.inl a
  · by_cases b : k = 1
    · exact Or.inr b
    · have h0 : ∀ x : UInt8, List.replicate 32 (2 : UInt8) = List.replicate 32 x → 2 = x :=
        fun x e => by simpa using congrArg List.head? e
      rcases h with h | h <;> simp [a, b] at h <;> cases h0 _ h

theorem rx_avail_of_len (b : Bytes) (h1 : b.length ≠ 34) (h2 : b.length ≠ 32) :
    Available rxKenv rxSenv rxWorld b := by
  constructor
  · intro k hk
    simp only [rxSenv, rxKenv, beq_iff_eq] at hk
    subst hk
    simp [rxSer] at h1
  · intro kind h hh
    simp only [rxSenv, rxKenv] at hh
    subst hh
    simp at h2

theorem rx_unknown_preimage_unavailable :
    rxWorld.preimage .sha256 1 = false ∧ ¬ Available rxKenv rxSenv rxWorld (List.replicate 32 2) := by
  refine ⟨rfl, fun h => ?_⟩
  have := h.2 .sha256 1 rfl
  simp [rxWorld, polHash] at this

theorem rx_realises : Realises rxKenv .segwitv0 rxSenv rxWorld where
  envOk := ⟨rfl, rfl, by decide⟩
  lockTime := rfl
  sequence := rfl
  notFinal := by decide
  seqU32 := by decide
  version := by decide
  keyShape := by intro k; simp [Script.pubkeyOk, rxSenv, rxKenv, rxSer]
  keyLen := by intro k; simp [rxKenv, rxSer]
  pkh := fun _ => rfl
  signs := by
    intro k hk
    refine ⟨0x30 :: rxSer k, ⟨?_, ?_⟩, by simp, by simp [rxSer], by simp [rxSenv, rxKenv]⟩
    · intro k' hk'
      simp only [rxSenv, rxKenv, beq_iff_eq, List.cons.injEq, true_and] at hk'
      simp only [rxWorld, Bool.or_eq_true, beq_iff_eq] at hk ⊢
      apply rxSer_inj01 k'
      rcases hk with rfl | rfl
      · exact Or.inl hk'.symm
      · exact Or.inr hk'.symm
    · intro kind h hh
      have := congrArg List.length hh
      simp [rxSenv, rxKenv, rxSer] at this
  knows := by
    intro kind h hk
    simp only [rxWorld, beq_iff_eq] at hk
    subst hk
    refine ⟨List.replicate 32 1, ⟨?_, ?_⟩, by simp, by simp [rxSenv, rxKenv]⟩
    · intro k' hk'
      have := congrArg List.length (beq_iff_eq.mp hk')
      simp [rxKenv, rxSer] at this
    · intro kind' h' hh
      simp only [rxSenv, rxKenv] at hh
      simp only [rxWorld, beq_iff_eq]
      by_cases a : h' = 0
      · exact a
      · have h0 := congrArg (fun l => l.head?) hh
        simp [List.replicate, a] at h0
  publicData := by
    refine ⟨rx_avail_of_len _ (by simp) (by simp), rx_avail_of_len _ (by simp) (by simp), ?_,
      fun k => rx_avail_of_len _ (by simp [rxKenv, rxSer]) (by simp [rxKenv, rxSer])⟩
    constructor
    · intro k hk
      have := congrArg List.length (beq_iff_eq.mp hk)
      simp [rxKenv, rxSer] at this
    · intro kind h hh
      simp only [rxSenv, rxKenv] at hh
      have h0 := congrArg (fun l => l.head?) hh
      by_cases a : h = 0 <;> simp [List.replicate, a] at h0
  zeroNoPreimage := by
    intro kind h hh
    simp only [rxSenv, rxKenv] at hh
    have h0 := congrArg (fun l => l.head?) hh
    by_cases a : h = 0 <;> simp [List.replicate, a] at h0

/-- `and_v(v:thresh(2, pk(0), s:pk(1), a:sha256(H0)), older(144))` -/
def rxMs : Ms :=
  .andV (.verify (.thresh 2 (.cons (.check (.pkK 0)) (.cons (.swap (.check (.pkK 1)))
    (.cons (.alt (.hash .sha256 0)) .nil))))) (.older 144)

example : Spendable rxKenv .segwitv0 rxSenv rxWorld rxMs :=
  lift_exact_forward rxKenv .segwitv0 rxMs
    (.thresh 2 [.thresh 2 [.atom (.key 0), .atom (.key 1), .atom (.hash .sha256 0)],
                .atom (.older 144)])
    ⟨⟨.B, .any, false, false⟩, ⟨.none, true, false⟩⟩ rxSenv rxWorld
    (by rfl) (by decide) rfl
    (by simp [rxMs, SatSpec.WF, SatSpec.WFs, MsList.length])
    (by decide)
    (by simp [rxMs, C02.SmallScript, Complete.itemBound, Complete.itemBounds])
    rx_realises (by decide)

/-! ### both directions

The reverse direction is C02's `accepts_imp_satEx` (an ACCEPTED witness of a well-typed `B` script
implies a canonical satisfaction in the table).  It speaks about environments that accept only
what the spender holds — unforgeability and preimage resistance as properties of the ENVIRONMENT
(`Closed`): no byte string at all verifies as a signature for a key the world cannot sign for
(also not through a `pk_h` commitment), none of length 32 hashes to a committed value whose
preimage the world does not know.  In such an environment an unknown preimage is one that no
string hashes to, and every byte string is harmless to offer: "a witness built from the world's
assets" is any witness. -/

/-- the environment accepts only what the world holds (`AccSat.EnvOK`, in world terms) -/
structure Closed (kenv : KeyEnv) (senv : Script.Env) (W : World) : Prop where
  sigK : ∀ k s, senv.sigOk (kenv.ser k) s = true → W.canSign k = true
  sigH : ∀ k pk s, senv.hash .hash160 pk = kenv.pkh k → senv.sigOk pk s = true →
    W.canSign k = true
  pre : ∀ kind h x, x.length = 32 → senv.hash (SatSpec.hashOpOf kind) x = kenv.hashVal kind h →
    W.preimage (polHash kind) h = true

/-- `Realises` + `Closed` give C02's `EnvOK` for the world's availability (the lock clauses come
from the equal lock fields) -/
theorem envOK_of_closed {kenv : KeyEnv} {ctx : Ctx} {senv : Script.Env} {W : World}
    (R : Realises kenv ctx senv W) (hc : Closed kenv senv W) :
    AccSat.EnvOK senv kenv (availOfWorld W) where
  sigK := hc.sigK
  sigH := hc.sigH
  pre := hc.pre
  after := by
    intro n h
    have := (LiftExec.checkLockTime_iff_cltvOk senv n
      (by rw [R.sequence]; exact R.notFinal)).mp h
    rw [R.lockTime] at this
    exact this
  older := by
    intro n h
    have hu : senv.nSequence < 4294967296 := by rw [R.sequence]; exact R.seqU32
    have := (LiftExec.checkSequence_iff_csvOk senv n R.version hu).mp h
    rw [R.sequence] at this
    exact this

/-- in a closed environment nothing is unavailable except unknown preimages of the wrong
length (which hash opcodes reject anyway) -/
theorem closed_available {kenv : KeyEnv} {senv : Script.Env} {W : World}
    (hc : Closed kenv senv W) (b : Bytes) (hb : b.length = 32 ∨ ∀ kind h,
      senv.hash (SatSpec.hashOpOf kind) b ≠ kenv.hashVal kind h) : Available kenv senv W b :=
  ⟨fun k h => hc.sigK k b h, fun kind h hh => by
    rcases hb with hb | hb
    · exact hc.pre kind h b hb hh
    · exact absurd hh (hb kind h)⟩

/-- **Reverse half at execution level**: a witness (ANY byte strings) that the encoded script
accepts in a closed environment realising `W` ⇒ the lifted policy holds in `W` — the policy
hides no spending path.  C02.`accepts_imp_satEx` + `table_eq_sem` + `lift_sem`. -/
theorem lift_exact_reverse (kenv : KeyEnv) (ctx : Ctx) (ms : Ms) (p : Policy) (τ : Ty)
    (senv : Script.Env) (W : World)
    (hl : lift kenv ctx ms = .ok p) (ht : typeOf ms = some τ) (hB : τ.corr.base = .B)
    (hwa : AccSat.WF ms) (R : Realises kenv ctx senv W) (hc : Closed kenv senv W)
    (wit : List Bytes) (hacc : Script.accepts senv (encode kenv ctx ms) wit = true) :
    holds W p = true := by
  rw [lift_iff_canonical_satisfaction kenv ctx ms p τ hl ht W]
  exact C02.accepts_imp_satEx R.envOk.stackLimits (envOK_of_closed R hc) ctx ms hwa τ ht hB wit hacc

/-- **The property at execution level, both directions proved**: for a script that `lift`
accepts, in every world and every closed Script environment realising it, the reported policy
holds EXACTLY when some witness makes the encoded script succeed (CLEANSTACK acceptance by the
flat interpreter).  Side conditions (`WF`, `AccSat.WF`, `ThreshKOK`, `SmallScript`) are
decidable invariants of the library's `Threshold` / lock-time / context types. -/
theorem lift_exact (kenv : KeyEnv) (ctx : Ctx) (ms : Ms) (p : Policy) (τ : Ty)
    (senv : Script.Env) (W : World)
    (hl : lift kenv ctx ms = .ok p) (ht : typeOf ms = some τ) (hB : τ.corr.base = .B)
    (hwf : SatSpec.WF ctx ms) (hwa : AccSat.WF ms) (hk : C02.ThreshKOK ms)
    (hsm : C02.SmallScript ms) (R : Realises kenv ctx senv W) (hc : Closed kenv senv W) :
    holds W p = true ↔ ∃ wit : List Bytes, Script.accepts senv (encode kenv ctx ms) wit = true := by
  constructor
  · intro hh
    obtain ⟨wit, _, hacc⟩ := lift_exact_forward kenv ctx ms p τ senv W hl ht hB hwf hk hsm R hh
    exact ⟨wit, hacc⟩
  · rintro ⟨wit, hacc⟩
    exact lift_exact_reverse kenv ctx ms p τ senv W hl ht hB hwa R hc wit hacc

/-- `lift_exact` with the witness taken from the byte strings `Available` in `W` (`Spendable`) -/
theorem lift_exact_available (kenv : KeyEnv) (ctx : Ctx) (ms : Ms) (p : Policy) (τ : Ty)
    (senv : Script.Env) (W : World)
    (hl : lift kenv ctx ms = .ok p) (ht : typeOf ms = some τ) (hB : τ.corr.base = .B)
    (hwf : SatSpec.WF ctx ms) (hwa : AccSat.WF ms) (hk : C02.ThreshKOK ms)
    (hsm : C02.SmallScript ms) (R : Realises kenv ctx senv W) (hc : Closed kenv senv W) :
    holds W p = true ↔ Spendable kenv ctx senv W ms :=
  ⟨lift_exact_forward kenv ctx ms p τ senv W hl ht hB hwf hk hsm R,
   fun ⟨wit, _, hacc⟩ => lift_exact_reverse kenv ctx ms p τ senv W hl ht hB hwa R hc wit hacc⟩

/-- The same iff WITHOUT `Closed` (environments in which forgeries / unknown preimages exist as
byte strings but are not `Available`): forward half = `lift_exact_forward`; the reverse half
would need an execution invariant ("only witness elements reach CHECKSIG / hash opcodes as
signatures / preimages") on top of C02's theorem and is not proved. -/
def lift_exact_open_env_full : Prop :=
  ∀ (kenv : KeyEnv) (ctx : Ctx) (ms : Ms) (p : Policy) (τ : Ty) (senv : Script.Env) (W : World),
    lift kenv ctx ms = .ok p → typeOf ms = some τ → τ.corr.base = .B → SatSpec.WF ctx ms →
    AccSat.WF ms → C02.ThreshKOK ms → C02.SmallScript ms → Realises kenv ctx senv W →
    (holds W p = true ↔ Spendable kenv ctx senv W ms)

/-! ### Non-vacuity of `Realises ∧ Closed`: a closed environment with an unknown preimage -/

/-- as `rxSenv`, but only keys 0 / 1 have a valid signature and nothing hashes to `2^32` (the
committed value of every hash atom other than 0): its preimage is unknown to everybody -/
def cxSenv : Script.Env :=
  { flags := ⟨false, true, true, true, true, false, false⟩
    sigOk := fun pk sg => sg == 0x30 :: pk && (pk == rxSer 0 || pk == rxSer 1)
    hash := fun _ x => if x == List.replicate 32 2 then [] else x
    nLockTime := 0, nSequence := 144, txVersion := 2 }

theorem cx_hash_ne32 (op : Script.HashOp) (x : Bytes) (h : x.length ≠ 32) :
    cxSenv.hash op x = x := by
  have hb : (x == List.replicate 32 (2 : UInt8)) = false := by
    apply beq_false_of_ne
    intro e; apply h; rw [e]; simp
  simp only [cxSenv, hb, Bool.false_eq_true, if_false]

theorem cx_closed : Closed rxKenv cxSenv rxWorld where
  sigK := by
    intro k s h
    simp only [cxSenv, rxKenv, Bool.and_eq_true, Bool.or_eq_true, beq_iff_eq] at h
    simp only [rxWorld, Bool.or_eq_true, beq_iff_eq]
    exact rxSer_inj01 k h.2
  sigH := by
    intro k pk s hh h
    have h' : pk = rxSer 0 ∨ pk = rxSer 1 := by
      simp only [cxSenv, Bool.and_eq_true, Bool.or_eq_true, beq_iff_eq] at h
      exact h.2
    simp only [rxWorld, Bool.or_eq_true, beq_iff_eq]
    apply rxSer_inj01 k
    have hpk : pk.length ≠ 32 := by rcases h' with rfl | rfl <;> simp [rxSer_len]
    rw [cx_hash_ne32 _ pk hpk] at hh
    have hh' : pk = rxSer k := hh
    rcases h' with h2 | h2
    · exact Or.inl (hh'.symm.trans h2)
    · exact Or.inr (hh'.symm.trans h2)
  pre := by
    intro kind h x _ hh
    simp only [cxSenv, rxKenv] at hh
    simp only [rxWorld, beq_iff_eq]
    by_cases a : h = 0
    · exact a
    · exfalso
      by_cases hx : x = List.replicate 32 2
      · simp [hx, a] at hh
      · simp only [beq_iff_eq, hx, if_false, a] at hh

theorem cx_avail_of_len (b : Bytes) (h2 : b.length ≠ 32) :
    Available rxKenv cxSenv rxWorld b :=
  closed_available cx_closed b (Or.inr (by
    intro kind h hh
    rw [cx_hash_ne32 _ b h2] at hh
    apply h2
    rw [hh, rx_hashVal_len]))

theorem cx_realises : Realises rxKenv .segwitv0 cxSenv rxWorld where
  envOk := ⟨rfl, rfl, by decide⟩
  lockTime := rfl
  sequence := rfl
  notFinal := by decide
  seqU32 := by decide
  version := by decide
  keyShape := by intro k; simp [Script.pubkeyOk, cxSenv, rxKenv, rxSer]
  keyLen := by intro k; simp [rxKenv, rxSer]
  pkh := fun k => cx_hash_ne32 _ (rxSer k) (by simp [rxSer_len])
  signs := by
    intro k hk
    simp only [rxWorld, Bool.or_eq_true, beq_iff_eq] at hk
    refine ⟨0x30 :: rxSer k, cx_avail_of_len _ (by simp [rxSer_len]), by simp,
      by simp [rxSer_len], ?_⟩
    simp only [cxSenv, rxKenv, beq_self_eq_true, Bool.true_and, Bool.or_eq_true, beq_iff_eq]
    rcases hk with rfl | rfl
    · exact Or.inl rfl
    · exact Or.inr rfl
  knows := by
    intro kind h hk
    simp only [rxWorld, beq_iff_eq] at hk
    subst hk
    refine ⟨List.replicate 32 1, closed_available cx_closed _ (Or.inl (by simp)), by simp, ?_⟩
    simp [cxSenv, rxKenv]
  publicData :=
    ⟨cx_avail_of_len _ (by simp), cx_avail_of_len _ (by simp),
     closed_available cx_closed _ (Or.inl (by simp)),
     fun k => cx_avail_of_len _ (by simp [rxKenv, rxSer_len])⟩
  zeroNoPreimage := by
    intro kind h hh
    simp only [cxSenv, rxKenv] at hh
    have : List.replicate 32 (0 : UInt8) ≠ List.replicate 32 2 := by decide
    simp only [beq_iff_eq, this, if_false] at hh
    have h0 := congrArg (fun l => l.head?) hh
    by_cases a : h = 0 <;> simp [List.replicate, a] at h0

/-- the hash atom 1 is committed (`2^32`), its preimage is unknown in `rxWorld`, and in the closed
environment NO byte string hashes to it -/
theorem cx_unknown_preimage :
    rxWorld.preimage .sha256 1 = false ∧ ∀ x, cxSenv.hash .sha256 x ≠ rxKenv.hashVal .sha256 1 := by
  refine ⟨rfl, fun x hh => ?_⟩
  simp only [cxSenv, rxKenv] at hh
  split at hh
  · have := congrArg List.length hh; simp at this
  · rename_i hx
    simp only [beq_iff_eq] at hx
    exact hx (by simpa using hh)

/-- `lift_exact` applies to the script with a threshold, a hash and a lock -/
example :
    holds rxWorld (.thresh 2 [.thresh 2 [.atom (.key 0), .atom (.key 1), .atom (.hash .sha256 0)],
                   .atom (.older 144)]) = true
      ↔ ∃ wit : List Bytes, Script.accepts cxSenv (encode rxKenv .segwitv0 rxMs) wit = true :=
  lift_exact rxKenv .segwitv0 rxMs _ ⟨⟨.B, .any, false, false⟩, ⟨.none, true, false⟩⟩ cxSenv rxWorld
    (by rfl) (by decide) rfl
    (by simp [rxMs, SatSpec.WF, SatSpec.WFs, MsList.length])
    ⟨by decide, by decide, by decide, by decide, by decide⟩ (by decide)
    (by simp [rxMs, C02.SmallScript, Complete.itemBound, Complete.itemBounds])
    cx_realises cx_closed

/-- table level (no execution hypotheses at all): `lift_exact` with the specification's table in
place of `Script.accepts`; this is T3 (`lift_iff_canonical_satisfaction`) read as an iff -/
theorem lift_exact_partial (env : KeyEnv) (ctx : Ctx) (ms : Ms) (p : Policy) (τ : Ty)
    (h : lift env ctx ms = .ok p) (ht : typeOf ms = some τ) (W : World) :
    holds W p = true ↔ satEx (availOfWorld W) ms = true := by
  rw [lift_iff_canonical_satisfaction env ctx ms p τ h ht W]

/-! ## T4 — descriptors -/

/-- `Liftable for TapTree` on its own (no internal key): some leaf's condition holds -/
theorem liftTapTree_sem (env : KeyEnv) (leaves : List Ms) (p : Policy)
    (h : liftTapTree env leaves = .ok p) (W : World) : holds W p = leaves.any (sem W) := by
  simp only [liftTapTree] at h
  cases hl : liftLeaves env leaves with
  | error e => simp [hl] at h
  | ok ps =>
    have ⟨h1, _⟩ := liftLeaves_any env W leaves ps hl
    cases ps with
    | nil => simp [hl] at h
    | cons q qs =>
      simp [hl] at h; subst h
      rw [holds, normalized_holdsA, holdsA, h1]

/-- T4: the lifted policy of every descriptor type has the descriptor's spending condition -/
theorem liftDesc_sem (env : KeyEnv) (d : Desc) (p : Policy) (h : liftDesc env d = .ok p)
    (W : World) : holds W p = semDesc W d := by
  cases d with
  | bare ms => exact lift_sem env .bare ms p h W
  | wsh ms => exact lift_sem env .segwitv0 ms p h W
  | sh ms => exact lift_sem env .legacy ms p h W
  | shWsh ms => exact lift_sem env .segwitv0 ms p h W
  | pkh k | wpkh k | shWpkh k =>
    simp [liftDesc] at h; subst h; simp [holds, holdsA, keyPol, World.val, semDesc]
  | tr k leaves =>
    cases leaves with
    | nil => simp [liftDesc] at h; subst h; simp [holds, holdsA, keyPol, World.val, semDesc]
    | cons l ls =>
      simp only [liftDesc] at h
      cases ht : liftTapTree env (l :: ls) with
      | error e => simp [ht] at h
      | ok t =>
        simp [ht] at h; subst h
        have := liftTapTree_sem env _ t ht W
        simp only [holds] at this
        simp only [holds, holdsA, countA, keyPol, World.val, semDesc, this]
        cases W.canSign k <;> cases (l :: ls).any (sem W) <;> rfl

/-- taproot, spelled out: the internal key is never dropped and no leaf is invented or hidden -/
theorem lift_tr (env : KeyEnv) (k : Key) (leaves : List Ms) (p : Policy)
    (h : liftDesc env (.tr k leaves) = .ok p) (W : World) :
    holds W p = (W.canSign k || leaves.any (sem W)) := liftDesc_sem env _ p h W

/-- single-key descriptors lift to exactly their key -/
theorem lift_single_key (env : KeyEnv) (k : Key) :
    liftDesc env (.pkh k) = .ok (.atom (.key k)) ∧ liftDesc env (.wpkh k) = .ok (.atom (.key k))
      ∧ liftDesc env (.shWpkh k) = .ok (.atom (.key k))
      ∧ liftDesc env (.tr k []) = .ok (.atom (.key k)) := ⟨rfl, rfl, rfl, rfl⟩

/-- no descriptor makes `lift` panic (in particular `Threshold::new(1, leaves)` is never empty) -/
theorem liftDesc_never_panics (env : KeyEnv) (d : Desc) : liftDesc env d ≠ .error .panic := by
  cases d with
  | bare ms => exact lift_never_panics env .bare ms
  | wsh ms => exact lift_never_panics env .segwitv0 ms
  | sh ms => exact lift_never_panics env .legacy ms
  | shWsh ms => exact lift_never_panics env .segwitv0 ms
  | pkh k | wpkh k | shWpkh k => simp [liftDesc]
  | tr k leaves =>
    cases leaves with
    | nil => simp [liftDesc]
    | cons l ls =>
      simp only [liftDesc, liftTapTree]
      have hp := liftLeaves_no_panic env (l :: ls)
      cases hl : liftLeaves env (l :: ls) with
      | error e => intro hh; simp at hh; subst hh; exact hp hl
      | ok ps =>
        -- one policy per leaf: `ps` is not empty
        have hlen := liftLeaves_length env _ ps hl
        cases ps with
        | nil => simp at hlen
        | cons q qs => simp

/-! ## Non-vacuity -/

/-- a key environment with compressed keys (33-byte serialisations) -/
def exEnv : KeyEnv :=
  ⟨fun _ => List.replicate 33 2, fun _ => List.replicate 33 2, fun _ => List.replicate 20 0,
   fun _ => List.replicate 20 0, fun _ _ => List.replicate 32 0⟩

/-- `andor(pk(0), older(144), and_v(v:pk(1), after(500000001)))` -/
def exMs : Ms :=
  .andOr (.check (.pkK 0)) (.older 144) (.andV (.verify (.check (.pkK 1))) (.after 500000001))

example : lift exEnv .segwitv0 exMs =
    .ok (.thresh 1 [.thresh 2 [.atom (.key 0), .atom (.older 144)],
                    .thresh 2 [.atom (.key 1), .atom (.after 500000001)]]) := by rfl
example : (typeOf exMs).isSome = true ∧ noRaw exMs = true := by decide
-- T2's typing hypothesis holds for a script whose table needs the dissatisfaction invariant
example : typeOf (.orB (.check (.pkK 0)) (.alt (.check (.pkK 1)))) = some
    ⟨⟨.B, .any, true, true⟩, ⟨.unique, true, true⟩⟩ := by decide
-- the three refusals are reachable
example : lift exEnv .segwitv0 (.andV (.verify (.check (.pkK 0))) .fls)
    = .error .branchExceedResourceLimits := by rfl
example : lift exEnv .tap (.andV (.verify (.check (.pkK 0))) .fls) = .ok .unsat := by rfl
example : lift exEnv .segwitv0 (.andV (.verify (.older 1)) (.older 4194305))
    = .error .heightTimelockCombination := by rfl
example : lift exEnv .segwitv0 (.check (.rawPkH 0)) = .error .rawDescriptorLift := by rfl
-- taproot: key path OR leaves, not normalized again at the top
example : liftDesc exEnv (.tr 9 [.check (.pkK 0), .multiA 2 [1, 2]]) =
    .ok (.thresh 1 [.atom (.key 9), .thresh 1 [.atom (.key 0),
      .thresh 2 [.atom (.key 1), .atom (.key 2)]]]) := by rfl
-- the lifted policy is not constant in the world
example : holds ⟨fun k => k == 0, fun _ _ => false, 0, 144⟩
      (.thresh 1 [.thresh 2 [.atom (.key 0), .atom (.older 144)],
                  .thresh 2 [.atom (.key 1), .atom (.after 500000001)]]) = true
    ∧ holds ⟨fun k => k == 0, fun _ _ => false, 0, 143⟩
      (.thresh 1 [.thresh 2 [.atom (.key 0), .atom (.older 144)],
                  .thresh 2 [.atom (.key 1), .atom (.after 500000001)]]) = false := by decide

end MsVerif.C07
