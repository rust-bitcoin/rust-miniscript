/-
C09 — static size and resource figures are true upper bounds.

Model: `Model/Ext.lean` (`ExtData`, `threshold`, `scriptSize`), `Model/Satisfy.lean` (satisfier
templates with the `ItemSize` table), `Model/Encode.lean`.  Helper lemmas: `Lemmas/Bounds*.lean`.
The model follows /repo with the repairs a0d595db (`cast_dupif`: +2 bytes / +1 element), ab3fa73e (uncompressed
keys: 66-byte push) and d79f0f52 (`threshold`: `i < k`) (DESIGN.md §9.3).

What is proved here (T1–T5: DESIGN.md §4 C09; its T4 — descriptor weights, `Plan` sizes — is not in this file: Thm/C17.lean "T4 — sizes", judges `J descw`, `J planw`)
* T1 `witness_bounds_nonmall_partial` / `dissat_bounds_nonmall_partial`: for EVERY well-typed
  fragment (`typeOf` + the numeric invariants `SatSpec.WF`), in non-malleable mode, any assets:
  whenever the model satisfier returns a stack, `sat_data` / `dissat_data` EXISTS and bounds its
  element count, serialized size and (outside tapscript) scriptSig size.  No structural side
  condition.  `witness_bytes_bound_nonmall_partial`: the same about the REAL bytes `w.map σ`
  measured with `Spec/Bounds` (CompactSize + bytes, minimal pushes), for every realisation `σ`
  whose elements are no longer than the library assumes (`LenOk`: signature ≤ 72 bytes, …).
* `witness_bounds_partial` / `dissat_bounds_partial` / `witness_bytes_bound_partial`: both
  satisfier modes, under the structural hypotheses `good` (needed in malleable mode:
  `andv_dissat_undershoots`, `witness_bounds_full_false`).
* `max_satisfaction_accessors_bound`, `within_resource_limits_items`, `sane_resource_check_items`:
  the public accessors and what the declarations imply for witness items / scriptSig size.
* T2 `script_size_eq`, `script_num_size_eq`, `has_free_verify_eq`, `pk_cost_eq`,
  `pk_cost_ge_encoded_length`.
* T3 `static_ops_eq`, `opcount_partial` (scripts without `multi`: the counter ends at
  `static_ops` on ANY witness); `opcount_full` (with `multi`) is OPEN.
* T5 `declared_op_count_le`, `op_limit_compliance_partial`,
  `satisfaction_accepted_with_op_limit_partial` (composes with C01: satisfactions of declared
  scripts without `multi` are accepted with the 201-opcode limit ON);
  `exec_stack_bound_full_false`: `max_exec_stack_count` is NOT a bound (two `decide` witnesses),
  so the stack part of `limits_full` stays open (and is false in tapscript: known finding).
-/
import MsVerif.Lemmas.BoundsMain
import MsVerif.Lemmas.BoundsSize
import MsVerif.Lemmas.BoundsOps
import MsVerif.Lemmas.BoundsTyped
import MsVerif.Lemmas.BoundsBytes
import MsVerif.Model.TypeCheck
import MsVerif.Model.ExtApi
import MsVerif.Model.Lift
import MsVerif.Thm.C01
import MsVerif.Thm.C17

namespace MsVerif.C09
open MsVerif ExtData

/-! ## T1: witness count / size / scriptSig size -/

/-- T1 (satisfactions).  `good`: see its doc comment; `AssetsOk` says what the caller hands in
has the sizes the library assumes (Schnorr signatures 64/65 bytes).  Nothing is assumed about
the key revealed for a raw `pk_h` hash: its figure is the largest key of the context
(`pkLen_le_rawKeySig`). -/
theorem witness_bounds_partial (ke : KeyEnv) (ctx : Ctx) (mall rootHasSig : Bool) (a : Assets)
    (ha : AssetsOk ke ctx a) (ms : Ms) (hg : good ke ctx ms = true) (w : List Ph)
    (h : (satDissat ⟨ke, ctx, mall, rootHasSig, a⟩ ms).sat.stack = .stack w) :
    ∃ d, (extOf ke ctx ms).satData = some d ∧ w.length ≤ d.wCount
      ∧ (w.map Ph.size).sum ≤ d.wSize ∧ (ctx ≠ .tap → (w.map phSs).sum ≤ d.ssSize) :=
  (bound_ms ke ctx mall rootHasSig a ha ms hg).1.bound h

/-- T1 (dissatisfactions): the same for `dissat_data`, for every `disOK` fragment. -/
theorem dissat_bounds_partial (ke : KeyEnv) (ctx : Ctx) (mall rootHasSig : Bool) (a : Assets)
    (ha : AssetsOk ke ctx a) (ms : Ms) (hg : good ke ctx ms = true)
    (hd : disOK ms = true) (w : List Ph)
    (h : (satDissat ⟨ke, ctx, mall, rootHasSig, a⟩ ms).dissat.stack = .stack w) :
    ∃ d, (extOf ke ctx ms).dissatData = some d ∧ w.length ≤ d.wCount
      ∧ (w.map Ph.size).sum ≤ d.wSize ∧ (ctx ≠ .tap → (w.map phSs).sum ≤ d.ssSize) :=
  ((bound_ms ke ctx mall rootHasSig a ha ms hg).2 hd).bound h

/-- the witness size the library's `util::witness_size` would report is bounded likewise -/
theorem witness_size_le (ke : KeyEnv) (ctx : Ctx) (mall rootHasSig : Bool) (a : Assets)
    (ha : AssetsOk ke ctx a) (ms : Ms) (hg : good ke ctx ms = true) (w : List Ph)
    (h : (satDissat ⟨ke, ctx, mall, rootHasSig, a⟩ ms).sat.stack = .stack w) :
    ∃ d, (extOf ke ctx ms).satData = some d ∧ witnessSize w ≤ d.wSize + varintLen w.length := by
  obtain ⟨d, hd, _, c2, _⟩ := witness_bounds_partial ke ctx mall rootHasSig a ha ms hg w h
  exact ⟨d, hd, by simp only [witnessSize]; omega⟩

/-! ### every well-typed script, non-malleable mode — no structural side condition -/

/-- T1 for the scripts users actually have: EVERY well-typed fragment (`typeOf`, plus the numeric
invariants `WF` that `Threshold::new` / `from_consensus` / the context rules guarantee), in
NON-MALLEABLE mode (`Miniscript::satisfy`, `build_template`, `Plan`s), any assets: whenever the
satisfier returns a stack, `sat_data` exists and bounds its element count, its serialized size
and (outside tapscript) its scriptSig size.  No `good`: in this mode `minimum` never prefers an
alternative carrying a signature over a signature-free one and `d`-typed dissatisfactions are
signature-free (C01 `dissat_clean_nonmall`), so the figure-less `and_v` "dissatisfaction" can
never be the one chosen.  `_partial` only in that it speaks about one of the two modes; for the
malleable mode see `witness_bounds_partial` (needs `good`) and `witness_bounds_full_false`. -/
theorem witness_bounds_nonmall_partial (ke : KeyEnv) (ctx : Ctx) (rootHasSig : Bool) (a : Assets)
    (ha : AssetsOk ke ctx a) (ms : Ms) (τ : Ty) (hty : typeOf ms = some τ)
    (hwf : SatSpec.WF ctx ms) (w : List Ph)
    (h : (satDissat ⟨ke, ctx, false, rootHasSig, a⟩ ms).sat.stack = .stack w) :
    ∃ d, (extOf ke ctx ms).satData = some d ∧ w.length ≤ d.wCount
      ∧ (w.map Ph.size).sum ≤ d.wSize ∧ (ctx ≠ .tap → (w.map phSs).sum ≤ d.ssSize) :=
  (bound_typed ke ctx rootHasSig a ha (.of_typeOf ms hty) hwf).1.bound h

/-- the same for the dissatisfaction of every `d`-typed fragment; the figure exists statically -/
theorem dissat_bounds_nonmall_partial (ke : KeyEnv) (ctx : Ctx) (rootHasSig : Bool) (a : Assets)
    (ha : AssetsOk ke ctx a) (ms : Ms) (τ : Ty) (hty : typeOf ms = some τ)
    (hwf : SatSpec.WF ctx ms) (hd : τ.corr.dissat = true) :
    (extOf ke ctx ms).dissatData.isSome = true ∧
    ∀ w, (satDissat ⟨ke, ctx, false, rootHasSig, a⟩ ms).dissat.stack = .stack w →
      ∃ d, (extOf ke ctx ms).dissatData = some d ∧ w.length ≤ d.wCount
        ∧ (w.map Ph.size).sum ≤ d.wSize ∧ (ctx ≠ .tap → (w.map phSs).sum ≤ d.ssSize) := by
  obtain ⟨h1, h2⟩ := (bound_typed ke ctx rootHasSig a ha (.of_typeOf ms hty) hwf).2 hd
  exact ⟨h2, fun w h => h1.bound h⟩

/-- T1 in BYTES.  `σ` realises the placeholders (`Placeholder::satisfy_self`); `LenOk σ p`
(Lemmas/BoundsBytes.lean) says the real element is no longer than the library assumes for its
kind — ECDSA signature ≤ 72 bytes with its sighash byte, Schnorr signature as long as recorded,
key one byte shorter than its recorded push, key and recorded Schnorr size below 76 (one-byte push prefix), preimage ≤ 32 bytes, `1` = `01`, `0` = empty.  Then
the REAL witness `w.map σ` has at most `max_witness_stack_count` elements, serializes
(`Spec/Bounds.itemsSize`: CompactSize + bytes per element) to at most
`max_witness_stack_size`, and its minimal-push scriptSig (`Spec/Bounds.scriptSigPushSize`) is
at most `max_script_sig_size`. -/
theorem witness_bytes_bound_nonmall_partial (ke : KeyEnv) (ctx : Ctx) (rootHasSig : Bool) (a : Assets)
    (ha : AssetsOk ke ctx a) (ms : Ms) (τ : Ty) (hty : typeOf ms = some τ)
    (hwf : SatSpec.WF ctx ms) (w : List Ph)
    (h : (satDissat ⟨ke, ctx, false, rootHasSig, a⟩ ms).sat.stack = .stack w)
    (σ : Ph → Bytes) (hlen : ∀ p ∈ w, LenOk σ p) :
    ∃ d, (extOf ke ctx ms).satData = some d ∧ (w.map σ).length ≤ d.wCount
      ∧ Bounds.itemsSize (w.map σ) ≤ d.wSize
      ∧ (ctx ≠ .tap → Bounds.scriptSigPushSize (w.map σ) ≤ d.ssSize) :=
  bytes_of_table σ hlen (witness_bounds_nonmall_partial ke ctx rootHasSig a ha ms τ hty hwf w h)

theorem witness_bytes_bound_partial (ke : KeyEnv) (ctx : Ctx) (mall rootHasSig : Bool) (a : Assets)
    (ha : AssetsOk ke ctx a) (ms : Ms) (hg : good ke ctx ms = true) (w : List Ph)
    (h : (satDissat ⟨ke, ctx, mall, rootHasSig, a⟩ ms).sat.stack = .stack w)
    (σ : Ph → Bytes) (hlen : ∀ p ∈ w, LenOk σ p) :
    ∃ d, (extOf ke ctx ms).satData = some d ∧ (w.map σ).length ≤ d.wCount
      ∧ Bounds.itemsSize (w.map σ) ≤ d.wSize
      ∧ (ctx ≠ .tap → Bounds.scriptSigPushSize (w.map σ) ≤ d.ssSize) :=
  bytes_of_table σ hlen (witness_bounds_partial ke ctx mall rootHasSig a ha ms hg w h)

/-! ### the public accessors and declarations (`Model/ExtApi.lean`, `Model/Lift.lean`) -/

/-- Under `good`, `max_satisfaction_size()` and `max_satisfaction_witness_elements()` are defined and bound
every produced satisfaction: the serialized witness items in Segwitv0 / Tap, the scriptSig pushes
in Legacy / Bare, and the element count plus one for the witness script. -/
theorem max_satisfaction_accessors_bound (ke : KeyEnv) (ctx : Ctx) (mall rootHasSig : Bool) (a : Assets)
    (ha : AssetsOk ke ctx a) (ms : Ms) (hg : good ke ctx ms = true) (w : List Ph)
    (h : (satDissat ⟨ke, ctx, mall, rootHasSig, a⟩ ms).sat.stack = .stack w) :
    ∃ m e, maxSatSize ctx (extOf ke ctx ms) = some m ∧ maxSatWitnessElements (extOf ke ctx ms) = some e
      ∧ w.length + 1 ≤ e
      ∧ ((ctx = .segwitv0 ∨ ctx = .tap) → (w.map Ph.size).sum ≤ m)
      ∧ ((ctx = .legacy ∨ ctx = .bare) → (w.map phSs).sum ≤ m) := by
  obtain ⟨d, hd, c1, c2, c3⟩ := witness_bounds_partial ke ctx mall rootHasSig a ha ms hg w h
  have c3' : ctx ≠ .tap → (w.map phSs).sum ≤ d.ssSize := c3
  clear c3 ha hg h
  cases ctx
  all_goals
    refine ⟨_, _, by rw [maxSatSize, hd]; rfl, by rw [maxSatWitnessElements, hd]; rfl,
      by show w.length + 1 ≤ d.wCount + 1; omega, fun hc => ?_, fun hc => ?_⟩
    all_goals first
      | exact c2
      | exact c3' (by decide)
      | (rcases hc with hc | hc <;> cases hc)

/-- the Legacy part with the redeem script: the whole scriptSig of the `sh()` spend - the pushes
of the satisfaction plus the push of the script itself - stays within 1650 bytes (the library compares this whole sum with 1650; if it compared the satisfaction alone,
the statement would be false, e.g. for 13 x `v:c:pk_h`). -/
theorem within_resource_limits_p2sh_scriptsig (ke : KeyEnv) (mall rootHasSig : Bool) (a : Assets)
    (ha : AssetsOk ke .legacy a) (ms : Ms) (hg : good ke .legacy ms = true) (w : List Ph)
    (h : (satDissat ⟨ke, .legacy, mall, rootHasSig, a⟩ ms).sat.stack = .stack w)
    (hl : Lift.withinResourceLimits ke .legacy ms = true) :
    (w.map phSs).sum + scriptSize ke .legacy ms + Lift.pushOpcodeSize (scriptSize ke .legacy ms)
      ≤ 1650 := by
  obtain ⟨d, hd, c1, c2, c3⟩ := witness_bounds_partial ke .legacy mall rootHasSig a ha ms hg w h
  simp only [Lift.withinResourceLimits, Bool.and_eq_true] at hl
  have hp := hl.2
  simp only [Lift.localPolicyOk, hd] at hp
  have := c3 (by decide)
  simp [Lift.MAX_SCRIPTSIG_SIZE] at hp
  omega

/-- a script the library declares `within_resource_limits` in Segwitv0 yields at most 100
witness items (script included), in Legacy a scriptSig of at most 1650 bytes of pushes -/
theorem within_resource_limits_items (ke : KeyEnv) (ctx : Ctx) (mall rootHasSig : Bool) (a : Assets)
    (ha : AssetsOk ke ctx a) (ms : Ms) (hg : good ke ctx ms = true) (w : List Ph)
    (h : (satDissat ⟨ke, ctx, mall, rootHasSig, a⟩ ms).sat.stack = .stack w)
    (hl : Lift.withinResourceLimits ke ctx ms = true) :
    (ctx = .segwitv0 → w.length + 1 ≤ 100) ∧ (ctx = .legacy → (w.map phSs).sum ≤ 1650) := by
  constructor
  · rintro rfl
    obtain ⟨d, hd, c1, _, _⟩ := witness_bounds_partial ke .segwitv0 mall rootHasSig a ha ms hg w h
    simp only [Lift.withinResourceLimits, Bool.and_eq_true] at hl
    have hp := hl.2
    simp only [Lift.localPolicyOk, hd] at hp
    simp [Lift.MAX_STANDARD_P2WSH_STACK_ITEMS] at hp
    omega
  · rintro rfl
    have := within_resource_limits_p2sh_scriptsig ke mall rootHasSig a ha ms hg w h hl
    omega

/-- `validate` under the witness-item limit of `Segwitv0::SANE`: accepted scripts yield at most
100 witness items (script included) -/
theorem sane_resource_check_items (ke : KeyEnv) (mall rootHasSig : Bool) (a : Assets)
    (ha : AssetsOk ke .segwitv0 a) (ms : Ms) (hg : good ke .segwitv0 ms = true) (w : List Ph)
    (h : (satDissat ⟨ke, .segwitv0, mall, rootHasSig, a⟩ ms).sat.stack = .stack w)
    (hv : resourceCheck (resourceOnly (Ctx.SANE .segwitv0)) (scriptSize ke .segwitv0 ms)
      (extOf ke .segwitv0 ms) = .ok ()) :
    w.length + 1 ≤ 100 := by
  obtain ⟨d, hd, c1, _, _⟩ := witness_bounds_partial ke .segwitv0 mall rootHasSig a ha ms hg w h
  simp only [resourceCheck, hd, chk] at hv
  split at hv
  · cases hv
  · split at hv
    · cases hv
    · rename_i hn
      simp [resourceOnly, Ctx.SANE, MAX_STANDARD_P2WSH_STACK_ITEMS] at hn
      omega

/-- T1 with typing as the only hypothesis on the fragment, both modes, count and size only: refuted by `witness_bounds_full_false` -/
def witness_bounds_full : Prop :=
  ∀ (ke : KeyEnv) (ctx : Ctx) (mall rootHasSig : Bool) (a : Assets) (ms : Ms) (w : List Ph),
    AssetsOk ke ctx a → (typeOf ms).isSome = true →
    (satDissat ⟨ke, ctx, mall, rootHasSig, a⟩ ms).sat.stack = .stack w →
    ∃ d, (extOf ke ctx ms).satData = some d ∧ w.length ≤ d.wCount ∧ (w.map Ph.size).sum ≤ d.wSize

/-! ### concrete environment for examples and for the counter-example -/

/-- keys 0..99 compressed (33 bytes), 100.. uncompressed (65 bytes) -/
def ke0 : KeyEnv where
  ser k := if k < 100 then List.replicate 33 2 else List.replicate 65 4
  sortKey _ := []
  pkh _ := List.replicate 20 0
  rawPkh _ := List.replicate 20 0
  hashVal _ _ := List.replicate 32 0

/-- signatures for the listed keys, every relative lock met, nothing else -/
def assets0 (keys : List Key) : Assets where
  ecdsaSig k := keys.contains k
  schnorrSig k := if keys.contains k then some 65 else none
  rawPkhPk _ := none
  rawPkhEcdsa _ := none
  rawPkhSchnorr _ := none
  preimage _ _ := false
  checkOlder _ := true
  checkAfter _ := false

theorem assets0_ok (ctx : Ctx) (keys : List Key) : AssetsOk ke0 ctx (assets0 keys) where
  schnorr k sz h := by simp only [assets0] at h; split at h <;> simp_all
  rawSchnorr _ _ _ h := by simp [assets0] at h

/-- the caller knows the (uncompressed, id 100) key behind raw hash 0 and holds its signature -/
def assetsR : Assets :=
  { assets0 [] with rawPkhPk := fun h => if h = 0 then some 100 else none
                    rawPkhEcdsa := fun h => if h = 0 then some 100 else none }

theorem assetsR_ok (ctx : Ctx) : AssetsOk ke0 ctx assetsR where
  schnorr k sz h := by simp [assetsR, assets0] at h
  rawSchnorr _ _ _ h := by simp [assetsR, assets0] at h

/-- the bound is tight: `c:pk_h(<raw hash>)` in Legacy satisfied with a 65-byte
key.  The satisfier's witness is signature (73) + key push (66) = 139 bytes, and the figure is 139. -/
theorem raw_pkh_uncompressed_tight :
    ∃ w, (satDissat ⟨ke0, .legacy, false, false, assetsR⟩ (.check (.rawPkH 0))).sat.stack = .stack w
      ∧ (w.map Ph.size).sum = 139
      ∧ ((extOf ke0 .legacy (.check (.rawPkH 0))).satData.map (·.wSize)) = some 139 := by
  refine ⟨[.ecdsaSigPkh 0, .pubkeyHash 0 66], by decide, by decide, by decide⟩

def assetsP (keys : List Key) : Assets := { assets0 keys with preimage := fun _ _ => true }

theorem assetsP_ok (ctx : Ctx) (keys : List Key) : AssetsOk ke0 ctx (assetsP keys) where
  schnorr k sz h := by simp only [assetsP, assets0] at h; split at h <;> simp_all
  rawSchnorr _ _ _ h := by simp [assetsP, assets0] at h

/-- `andor(thresh(2,pk(0),s:pk(1),s:pk(2)),
          or_i(multi(2,3,4,5),and_v(v:sha256(0),and_v(v:pkh(6),dv:older(144)))),pk(7))`:
threshold, multisig, hash, relative lock, `d:` wrapper, nesting depth 5 -/
def exTyped : Ms :=
  .andOr (.thresh 2 (.cons (.check (.pkK 0)) (.cons (.swap (.check (.pkK 1))) (.cons (.swap (.check (.pkK 2))) .nil))))
    (.orI (.multi 2 [3, 4, 5]) (.andV (.verify (.hash .sha256 0))
      (.andV (.verify (.check (.pkH 6))) (.dupIf (.verify (.older 144))))))
    (.check (.pkK 7))

theorem exTyped_typed : ∃ τ, typeOf exTyped = some τ := by
  cases h : typeOf exTyped with
  | none => exact absurd h (by decide)
  | some τ => exact ⟨τ, rfl⟩

theorem exTyped_wf : SatSpec.WF .segwitv0 exTyped := by
  simp [exTyped, SatSpec.WF, SatSpec.WFs, MsList.length]

/-- maximal-length real bytes: 72-byte ECDSA signatures, keys as long as their recorded push -/
def σ0 : Ph → Bytes
  | .pubkey _ s | .pubkeyHash _ s => List.replicate (s - 1) 2
  | .ecdsaSig _ | .ecdsaSigPkh _ => List.replicate 72 1
  | .schnorrSig _ s | .schnorrSigPkh _ s => List.replicate s 1
  | .preimage _ _ => List.replicate 32 9
  | .hashDissat => List.replicate 32 0
  | .pushOne => [1]
  | .pushZero => []

/-- non-vacuity of `witness_bounds_nonmall_partial` / `witness_bytes_bound_nonmall_partial`:
with signatures for keys 0, 1, 6, the preimage and the lock met, the non-malleable satisfier
returns an 8-element witness for `exTyped`; every hypothesis holds, and the count figure (8) is
attained -/
example :
    (satDissat ⟨ke0, .segwitv0, false, true, assetsP [0, 1, 6]⟩ exTyped).sat.stack
      = .stack [.pushOne, .ecdsaSig 6, .pubkey 6 34, .preimage .sha256 0, .pushZero, .pushZero,
          .ecdsaSig 1, .ecdsaSig 0]
    ∧ ∃ d, (extOf ke0 .segwitv0 exTyped).satData = some d
      ∧ ([Ph.pushOne, .ecdsaSig 6, .pubkey 6 34, .preimage .sha256 0, .pushZero, .pushZero,
          .ecdsaSig 1, .ecdsaSig 0].map σ0).length ≤ d.wCount
      ∧ Bounds.itemsSize ([Ph.pushOne, .ecdsaSig 6, .pubkey 6 34, .preimage .sha256 0, .pushZero,
          .pushZero, .ecdsaSig 1, .ecdsaSig 0].map σ0) ≤ d.wSize
      ∧ ((Ctx.segwitv0 : Ctx) ≠ .tap → Bounds.scriptSigPushSize ([Ph.pushOne, .ecdsaSig 6, .pubkey 6 34,
          .preimage .sha256 0, .pushZero, .pushZero, .ecdsaSig 1, .ecdsaSig 0].map σ0) ≤ d.ssSize) := by
  have hs : (satDissat ⟨ke0, .segwitv0, false, true, assetsP [0, 1, 6]⟩ exTyped).sat.stack
      = .stack [.pushOne, .ecdsaSig 6, .pubkey 6 34, .preimage .sha256 0, .pushZero, .pushZero,
          .ecdsaSig 1, .ecdsaSig 0] := by decide
  obtain ⟨τ, hτ⟩ := exTyped_typed
  exact ⟨hs, witness_bytes_bound_nonmall_partial ke0 .segwitv0 true (assetsP [0, 1, 6]) (assetsP_ok _ _)
    exTyped τ hτ exTyped_wf _ hs σ0 (by simp [LenOk, σ0])⟩

/-- `or_d(or_i(c:raw_pkh(0),and_v(v:pk(1),pk(2))),pk(3))` -/
def msAndVDis : Ms :=
  .orD (.orI (.check (.rawPkH 0)) (.andV (.verify (.check (.pkK 1))) (.check (.pkK 2)))) (.check (.pkK 3))

/-- Why `disOK` is needed.  Malleable mode, signatures for keys 1 and 3, key of the raw hash
unknown: the model satisfier dissatisfies the `or_i` through its `and_v` branch (`[0, sig1, 0]`),
for which `ExtData` has no figure; the `or_d` figure 147 then only covers the other
alternatives, the produced stack has size 148. -/
theorem andv_dissat_undershoots :
    (typeOf msAndVDis).isSome = true
    ∧ (satDissat ⟨ke0, .segwitv0, true, true, assets0 [1, 3]⟩ msAndVDis).sat.stack
        = .stack [.ecdsaSig 3, .pushZero, .ecdsaSig 1, .pushZero]
    ∧ (extOf ke0 .segwitv0 msAndVDis).satData = some ⟨147, 4, 147, 2, 0⟩
    ∧ (147 : Nat) < ([Ph.ecdsaSig 3, Ph.pushZero, Ph.ecdsaSig 1, Ph.pushZero].map Ph.size).sum := by decide

/-- typing alone does not give the bound: `andv_dissat_undershoots` is a well-typed script whose satisfaction, in
malleable mode, is one byte above its figure -/
theorem witness_bounds_full_false : ¬ witness_bounds_full := by
  intro h
  obtain ⟨ht, h1, h2, h3⟩ := andv_dissat_undershoots
  obtain ⟨d, hd, _, hs⟩ := h ke0 .segwitv0 true true (assets0 [1, 3]) msAndVDis _ (assets0_ok _ _) ht h1
  rw [h2] at hd
  cases hd
  exact absurd hs (by decide)

/-- `good` does not exclude the inputs of the defects whose repairs the head names: `dv:older(1)`,
`c:pk_h(<uncompressed>)`, `thresh(1,pk,a:l:n:after(1),a:l:n:after(1))` (negative differences),
`or_d(thresh(1,and_b(pk,s:pk),a:0),pk)` (a child without satisfaction figure) -/
example : good ke0 .segwitv0 (.dupIf (.verify (.older 1))) = true
    ∧ good ke0 .legacy (.check (.pkH 100)) = true
    ∧ good ke0 .segwitv0 (.thresh 1 (.cons (.check (.pkK 0))
        (.cons (.alt (.orI .fls (.zeroNotEqual (.after 1))))
        (.cons (.alt (.orI .fls (.zeroNotEqual (.after 1)))) .nil)))) = true
    ∧ good ke0 .segwitv0 (.orD (.thresh 1 (.cons (.andB (.check (.pkK 0)) (.swap (.check (.pkK 1))))
        (.cons (.alt .fls) .nil))) (.check (.pkK 2))) = true := by decide

/-- non-vacuity of T1: a script with `thresh`, `multi`, hashes, `or_i`, `andor`, `d:` satisfies `good` -/
example : good ke0 .segwitv0
    (.andOr (.thresh 2 (.cons (.check (.pkK 0)) (.cons (.swap (.check (.pkK 1)))
        (.cons (.alt (.hash .sha256 0)) .nil))))
      (.orI (.multi 2 [3, 4, 5]) (.andV (.verify (.check (.pkH 6))) (.dupIf (.verify (.older 144)))))
      (.check (.pkK 7))) = true := by decide

/-! ## T2: the script size is exact -/

/-- T2.  `Miniscript::script_size` equals the length of the encoded script, for every fragment
whose numbers are `u32`s, whose `thresh` nodes have a child, and whose key / hash byte strings
have the lengths the context prescribes (`sizeOk`).  Uncompressed keys included: `script_size`
uses `Ctx::pk_len` (66). -/
theorem script_size_eq (ke : KeyEnv) (ctx : Ctx) (ms : Ms) (h : sizeOk ke ctx ms = true) :
    scriptSize ke ctx ms = (Script.serialize (encode ke ctx ms)).length :=
  scriptSize_eq ke ctx ms h

/-- `script_num_size` is the byte size of `push_int`, on all of `u32` (boundaries 16/17, 127/128,
32767/32768, 8388607/8388608, 2^31-1/2^31) -/
theorem script_num_size_eq (n : Nat) (h : n < 4294967296) :
    scriptNumSize n = (pushInt n).bytes.length := (pushInt_len n h).symm

/-- `has_free_verify` holds exactly when the encoding ends in an opcode `push_verify` fuses with -/
theorem has_free_verify_eq (ke : KeyEnv) (ctx : Ctx) (ms : Ms) :
    (extOf ke ctx ms).hasFreeVerify = endsFusable (encode ke ctx ms) := hfv_eq ke ctx ms

example : sizeOk ke0 .legacy
    (.andV (.verify (.check (.pkK 100))) (.orI (.thresh 2 (.cons (.check (.pkK 0))
      (.cons (.swap (.check (.pkH 1))) (.cons (.alt (.hash .sha256 0)) .nil)))) (.after 8388608))) = true := by
  decide

/-- `pk_cost`, the figure `check_global_consensus_validity` compares with the script-size
limits, equals `script_size` — uncompressed keys included — except that `multi_a`'s `num_cost`
table over-estimates by one byte when `n > 16 ≥ k` or `16 < k ≤ 127` (`costSlack`).  Hence
`script_size ≤ pk_cost` always, and `=` for scripts without `multi_a`. -/
theorem pk_cost_eq (ke : KeyEnv) (ctx : Ctx) (ms : Ms) (h : costOk ke ctx ms = true) :
    (extOf ke ctx ms).pkCost = scriptSize ke ctx ms + costSlack ms := pkCost_eq ke ctx ms h

/-- the figure the library compares with the script-size limits (`ext.pk_cost`) is at least the byte length of the
serialised script (Thm/C12.lean builds on this) -/
theorem pk_cost_ge_encoded_length (ke : KeyEnv) (ctx : Ctx) (ms : Ms) (h1 : costOk ke ctx ms = true)
    (h2 : sizeOk ke ctx ms = true) :
    (Script.serialize (encode ke ctx ms)).length ≤ (extOf ke ctx ms).pkCost := by
  rw [pk_cost_eq ke ctx ms h1, script_size_eq ke ctx ms h2]; omega

example : costOk ke0 .legacy (.andV (.verify (.check (.pkK 100))) (.orI (.multi 2 [100, 0, 1])
      (.thresh 1 (.cons (.check (.pkK 0)) (.cons (.swap (.check (.pkH 101))) .nil))))) = true
    ∧ (extOf ke0 .legacy (.check (.pkK 100))).pkCost = 67 := by decide

/-! ## T3: executed opcodes -/

/-- `static_ops` is the number of non-push opcodes of the encoded script (no `multi_a`, whose
`static_ops` the library leaves at 0 because tapscript has no opcode limit) -/
theorem static_ops_eq (ke : KeyEnv) (ctx : Ctx) (ms : Ms) (h : opsOk ms = true) :
    (extOf ke ctx ms).staticOps = codeCount (encode ke ctx ms) := staticOps_eq ke ctx ms h

/-- T3 for scripts without `multi`: on ANY witness and in any environment, every run of the
encoded script that does not fail ends with Core's `nOpCount` EQUAL to `static_ops` (every
non-push opcode counts, executed or not; `max_exec_op_count` is 0 for these scripts).
What is missing (`opcount_full`): scripts with `multi`, where each EXECUTED CHECKMULTISIG adds
its number of keys and the figure `max_exec_op_count` follows the satisfier's path. -/
theorem opcount_partial (env : Script.Env) (ke : KeyEnv) (ctx : Ctx) (ms : Ms)
    (h1 : opsOk ms = true) (h2 : multiFree ms = true) (s s' : Script.State)
    (hrun : Script.run env (encode ke ctx ms) s = .ok s') :
    s'.core.ops = s.core.ops + (extOf ke ctx ms).staticOps := by
  have := run_ops (encode ke ctx ms) s s' (encode_noMs ke ctx ms h2) hrun
  rw [← static_ops_eq ke ctx ms h1] at this
  exact this

/-- the full statement (all fragments incl. `multi`, on the satisfactions the satisfier
produces): OPEN — it needs an opcode-accounting version of C01's soundness induction (which
branch executes depends on the witness); decided on every run by the `J bound` judge (`ops`). -/
def opcount_full : Prop :=
  ∀ (env : Script.Env) (σ : Ph → Bytes) (cfg : SatCfg) (ms : Ms) (τ : Ty) (w : List Ph) (d : SatData)
    (s' : Script.State),
    SatSpec.EnvOk env cfg.ctx → SatSpec.Agrees env cfg.env cfg.assets σ → SatSpec.WF cfg.ctx ms →
    typeOf ms = some τ → cfg.ctx ≠ .tap → (satDissat cfg ms).sat.stack = .stack w →
    (extOf cfg.env cfg.ctx ms).satData = some d →
    Script.run env (encode cfg.env cfg.ctx ms) (Script.State.init (SatSpec.stk σ w)) = .ok s' →
    s'.core.ops ≤ (extOf cfg.env cfg.ctx ms).staticOps + d.execOps

example : opsOk (.andOr (.check (.pkK 0)) (.orI (.hash .sha256 0) (.andV (.verify (.check (.pkH 6))) (.older 144)))
    (.thresh 1 (.cons (.check (.pkK 1)) (.cons (.swap (.check (.pkK 2))) .nil)))) = true
  ∧ multiFree (.andOr (.check (.pkK 0)) (.orI (.hash .sha256 0) (.andV (.verify (.check (.pkH 6))) (.older 144)))
    (.thresh 1 (.cons (.check (.pkK 1)) (.cons (.swap (.check (.pkK 2))) .nil)))) = true := by decide

/-! ## T5: limits -/

/-- what `within_resource_limits` declares about opcodes outside tapscript:
`static_ops + max_exec_op_count ≤ 201` -/
theorem declared_op_count_le (ke : KeyEnv) (ctx : Ctx) (ms : Ms) (hc : ctx ≠ .tap)
    (hl : Lift.withinResourceLimits ke ctx ms = true) :
    ∃ d, (extOf ke ctx ms).satData = some d ∧ (extOf ke ctx ms).staticOps + d.execOps ≤ 201 := by
  simp only [Lift.withinResourceLimits, Bool.and_eq_true] at hl
  have h := hl.1.2
  have hop : Lift.opCountOk (extOf ke ctx ms) = true := by
    cases ctx
    case tap => exact absurd rfl hc
    all_goals simpa [Lift.localConsensusOk] using h
  unfold Lift.opCountOk at hop
  cases hd : (extOf ke ctx ms).satData with
  | none => simp [ExtData.satOpCount, hd] at hop
  | some d =>
    simp [ExtData.satOpCount, hd, Lift.MAX_OPS_PER_SCRIPT] at hop
    exact ⟨d, rfl, hop⟩

/-- Limit compliance, opcode part, for scripts without `multi`: if the library declares the
script within its limits (`within_resource_limits`), executing it with the 201-opcode limit
ENFORCED gives exactly the verdict of the limit-free execution — on any stack.  (The counter
ends at `static_ops ≤ 201`, `opcount_partial`, and only grows.) -/
theorem op_limit_compliance_partial (env : Script.Env) (ke : KeyEnv) (ctx : Ctx) (ms : Ms)
    (h1 : opsOk ms = true) (h2 : multiFree ms = true) (hc : ctx ≠ .tap)
    (hl : Lift.withinResourceLimits ke ctx ms = true) (stack : List Script.Bytes) :
    Script.accepts (withOpLimit env) (encode ke ctx ms) stack
      = Script.accepts env (encode ke ctx ms) stack := by
  obtain ⟨d, _, hle⟩ := declared_op_count_le ke ctx ms hc hl
  have hrun := run_opLimit env (encode ke ctx ms) (Script.State.init stack) (encode_noMs ke ctx ms h2)
    (by rw [← static_ops_eq ke ctx ms h1]; simp [Script.State.init]; omega)
  unfold Script.accepts
  rw [hrun]

/-- …composed with C01: every satisfaction the satisfier produces for such a script is
ACCEPTED by the flat interpreter with the opcode limit on (stack limits still off: see below) -/
theorem satisfaction_accepted_with_op_limit_partial {env : Script.Env} {σ : Ph → Bytes} {cfg : SatCfg}
    (henv : SatSpec.EnvOk env cfg.ctx) (hag : SatSpec.Agrees env cfg.env cfg.assets σ)
    (ms : Ms) (τ : Ty) (hwf : SatSpec.WF cfg.ctx ms) (hty : typeOf ms = some τ)
    (hB : τ.corr.base = .B) (w : List Ph) (hs : (satDissat cfg ms).sat.stack = .stack w)
    (hlk : SatSpec.LocksMet env (satDissat cfg ms).sat)
    (h1 : opsOk ms = true) (h2 : multiFree ms = true) (hc : cfg.ctx ≠ .tap)
    (hl : Lift.withinResourceLimits cfg.env cfg.ctx ms = true) :
    Script.accepts (withOpLimit env) (encode cfg.env cfg.ctx ms) (SatSpec.stk σ w) = true := by
  rw [op_limit_compliance_partial env cfg.env cfg.ctx ms h1 h2 hc hl]
  exact C01.top_level_sat_sound_exec henv hag ms τ hwf hty hB w hs hlk

namespace W
open MsVerif.Script MsVerif.SatSpec

/- the world of Thm/C17.lean (`C17.Toy`): 33-byte keys `02 00…00 k`, 32-byte preimages `09…09 h`, the hash appends a
byte, a signature is valid iff it is `key ++ [1]`; segwit-v0 standardness flags, limits off -/
abbrev ser := C17.Toy.ser
abbrev ke := C17.Toy.ke
abbrev tEnv := C17.Toy.tEnv
abbrev tσ := C17.Toy.tσ

def pk (k : Key) : Ms := .check (.pkK k)
/-- `and_v(v:pk(K0),or_d(pk(K1),older(144)))` -/
def ms : Ms := .andV (.verify (pk 0)) (.orD (pk 1) (.older 144))
def ty : Ty := ⟨⟨.B, .anyNonZero, false, false⟩, ⟨.none, true, true⟩⟩

/-- signatures for K0 and K1, nothing else -/
def assets1 : Assets :=
  ⟨fun k => k == 0 || k == 1, fun _ => none, fun _ => none, fun _ => none, fun _ => none,
   fun _ _ => false, fun _ => false, fun _ => false⟩
def cfg1 : SatCfg := ⟨ke, .segwitv0, false, true, assets1⟩

end W

section world
open W MsVerif.Script MsVerif.SatSpec

theorem wEnvOk (lt sq : Nat) : EnvOk (tEnv lt sq) .segwitv0 := C17.toy_envOk lt sq

theorem wKeyOk (lt sq : Nat) (k : Key) : pubkeyOk (tEnv lt sq) (ser k) = true := C17.toy_keyOk lt sq k

/-- every signature / preimage the satisfier could hold is genuine here: `Agrees` for EVERY
asset set -/
theorem wAgrees (lt sq : Nat) (a : Assets) : Agrees (tEnv lt sq) ke a tσ := C17.toy_agrees lt sq a

theorem wTyped : typeOf W.ms = some W.ty := by decide
theorem wWf : WF .segwitv0 W.ms := by simp [W.ms, W.pk, WF]

end world

/-- `and_v(v:pk(K0),or_d(pk(K1),older(144)))` in the world `W`: declared within limits, no
`multi`; its satisfaction is accepted with the opcode limit enforced -/
example : Script.accepts (withOpLimit (W.tEnv 0 0)) (encode W.ke .segwitv0 W.ms)
    (SatSpec.stk W.tσ [.ecdsaSig 1, .ecdsaSig 0]) = true :=
  satisfaction_accepted_with_op_limit_partial (cfg := W.cfg1) (wEnvOk 0 0) (wAgrees 0 0 _)
    W.ms W.ty wWf wTyped rfl _ (by decide) (by simp [SatSpec.LocksMet]; decide)
    (by decide) (by decide) (by decide) (by decide)

/-! ### execution stack depth: the figure is NOT a bound -/

/-- "`max_exec_stack_count` bounds what the execution of a produced satisfaction puts on the
stacks beyond the witness itself": refuted, `exec_stack_bound_full_false` -/
def exec_stack_bound_full : Prop :=
  ∀ (env : Script.Env) (σ : Ph → Bytes) (cfg : SatCfg) (ms : Ms) (τ : Ty) (w : List Ph) (d : SatData)
    (s' : Script.State) (peak : Nat),
    SatSpec.EnvOk env cfg.ctx → SatSpec.Agrees env cfg.env cfg.assets σ → SatSpec.WF cfg.ctx ms →
    typeOf ms = some τ → (satDissat cfg ms).sat.stack = .stack w →
    (extOf cfg.env cfg.ctx ms).satData = some d →
    Script.runPeak env (encode cfg.env cfg.ctx ms) (Script.State.init (SatSpec.stk σ w)) w.length
      = .ok (s', peak) →
    peak ≤ w.length + d.execStack

def peakOf : Except Script.Err (Script.State × Nat) → Option Nat
  | .ok (_, p) => some p
  | .error _ => none

/-- `thresh(1,andor(0,1,0),s:sha256(H))` -/
def msStackT : Ms := .thresh 1 (.cons (.andOr .fls .tru .fls) (.cons (.swap (.hash .sha256 0)) .nil))

/-- Two inputs on which `exec_stack_bound_full` fails.  Witness 1 (`ExtData::threshold` decides "first child" by the SORTED position):
the unsatisfiable first child leaves its `0` on the stack while `s:sha256` runs: peak 4, but
1 witness element + `max_exec_stack_count` 2 = 3.  Witness 2 (F12, DESIGN.md §1.1): `multi(1,K0,K1)` ignores
the pushes of `k` and `n`: peak 6, but 2 + 2 = 4. -/
theorem exec_stack_witnesses :
    (satDissat ⟨W.ke, .segwitv0, false, false, assetsP []⟩ msStackT).sat.stack = .stack [.preimage .sha256 0]
    ∧ (extOf W.ke .segwitv0 msStackT).satData = some ⟨33, 1, 33, 2, 0⟩
    ∧ peakOf (Script.runPeak (W.tEnv 0 0) (encode W.ke .segwitv0 msStackT)
        (Script.State.init (SatSpec.stk W.tσ [.preimage .sha256 0])) 1) = some 4
    ∧ (extOf W.ke .segwitv0 (.multi 1 [0, 1])).satData = some ⟨74, 2, 74, 2, 2⟩
    ∧ peakOf (Script.runPeak (W.tEnv 0 0) (encode W.ke .segwitv0 (.multi 1 [0, 1]))
        (Script.State.init (SatSpec.stk W.tσ [.pushZero, .ecdsaSig 0])) 2) = some 6 := by
  decide +kernel

/-- `max_exec_stack_count` is not a bound on what the execution puts on the stacks: witness 1 of
`exec_stack_witnesses` meets every hypothesis of `exec_stack_bound_full` -/
theorem exec_stack_bound_full_false : ¬ exec_stack_bound_full := by
  intro h
  obtain ⟨h1, h2, h3, _, _⟩ := exec_stack_witnesses
  cases hr : Script.runPeak (W.tEnv 0 0) (encode W.ke .segwitv0 msStackT)
      (Script.State.init (SatSpec.stk W.tσ [.preimage .sha256 0])) 1 with
  | error e => rw [hr] at h3; cases h3
  | ok r =>
    obtain ⟨s', peak⟩ := r
    rw [hr] at h3
    have hp : peak = 4 := by simpa [peakOf] using h3
    have := h (W.tEnv 0 0) W.tσ ⟨W.ke, .segwitv0, false, false, assetsP []⟩ msStackT
      _ [.preimage .sha256 0] _ s' peak (wEnvOk 0 0) (wAgrees 0 0 _)
      (by simp [msStackT, SatSpec.WF, SatSpec.WFs, MsList.length]) (Option.get_mem (by decide : (typeOf msStackT).isSome = true)) h1 h2 hr
    simp [hp] at this

/-! ### the full limit statement

`limits_full`: a script the library declares within the limits of its context is accepted with
ALL limits enforced (ops ≤ 201, stack + altstack ≤ 1000, pushes ≤ 520) on every satisfaction the
satisfier produces.  OPEN, and false as it stands in tapscript: the stack part would have to go
through `max_exec_stack_count`, which is not a bound (`exec_stack_bound_full_false`; the known
finding `and_v(v:thresh(1,andor(0,1,0),s:sha256),multi_a(1,<997 keys>))` is declared within
limits and reaches 1001 elements).  Proved parts: the opcode limit for scripts without `multi`
(`op_limit_compliance_partial`, composing with C01's acceptance theorem), the witness-item and
scriptSig-size limits (`within_resource_limits_items`, `sane_resource_check_items`), the script
size (`pk_cost_ge_encoded_length`).  Everything else is decided on every run by `J bound`. -/
def limits_full : Prop :=
  ∀ (env : Script.Env) (σ : Ph → Bytes) (cfg : SatCfg) (ms : Ms) (τ : Ty) (w : List Ph),
    SatSpec.EnvOk env cfg.ctx → SatSpec.Agrees env cfg.env cfg.assets σ → SatSpec.WF cfg.ctx ms →
    typeOf ms = some τ → τ.corr.base = .B → (satDissat cfg ms).sat.stack = .stack w →
    SatSpec.LocksMet env (satDissat cfg ms).sat →
    Lift.withinResourceLimits cfg.env cfg.ctx ms = true →
    Script.accepts { env with flags := { env.flags with opLimit := true, stackLimits := true } }
      (encode cfg.env cfg.ctx ms) (SatSpec.stk σ w) = true

end MsVerif.C09
