/-
C03 — non-malleable satisfactions cannot be altered by third parties.

MAIN THEOREM: TABLE-LEVEL UNIQUENESS, `table_unique_partial`.
For a script of non-malleable, signed type under `SideOK` (Lemmas/UniqFinal.lean: pairwise distinct keys, no raw pkh,
every preimage known to the caller, `1 ≤ k ≤ n`, compatible locks, fragments of the context), if the NON-malleable satisfier
returns the witness `W`, then every canonical satisfaction of the specification's table
(`SatAll.allSat`, Spec/SatAll.lean: ALL of them — both branches of every `or`, every `k`-subset of a
threshold / multisig) that a third party can assemble — a third party who knows every preimage,
faces the same transaction, and holds of the script's keys only signatures VISIBLE in `W` — is
`W`.  Proved by induction over the typing derivation (`Lemmas/Uniq*.lean`): every fragment,
thresholds of any arity, the four multisig fragments.  Companions: `table_none_partial`
(impossible for the caller / needs a signature ⇒ nothing for the third party),
`dissat_unique_for_e` (type `e` ⇒ the satisfier's dissatisfaction is the only canonical table
dissatisfaction and the one `SatTable.dsatWit` builds), `dissat_unique_needs_nonMall` (without
`m` that statement is false — concrete script).

SCRIPT LEVEL: `nonmall_unique_script_of_bridge` — under the explicit hypothesis `AcceptedImpTable`
(an accepted stack is, element by element, a table satisfaction) the returned witness is the
only accepted stack.  `AcceptedImpTable` is NOT proved (C02's `accepted_imp_satEx` gives existence
of a table satisfaction, not identity of the accepted stack); `nonmall_unique_full` states the
property with the library's own sanity predicate `LibSane` (C12's `validate … SANE`) and the
harness' adversary model and stays open; on explored inputs it is decided on every run by the
exhaustive adversary search (`J nonmall`, `J dnonmall`, `J dnoalt`).  `libSane_facts` /
`libSane_keys_nodup` derive type `B`/`m`/`s` and the distinct keys from `LibSane`.

Also here (the satisfier's selection lattice):
  * `minimum`: refuses two signature-less alternatives, prefers a signature-less one;
  * `has_sig` is exact in non-malleable mode (flag ⇔ signature placeholder), every script with multisig thresholds ≥ 1;
  * `thresh`: sorted permutation; more than `k` signature-less children ⇒ no stack;
  * judge: the CHECKMULTISIG pruning rule of the adversary search loses no accepted stack.

The taproot finding (a leaf occurring twice: control blocks can be exchanged) is about the
output envelope; there is no model of tr envelopes in this file — it is harness-only
(`J dnoalt`, known_findings.txt).
-/
import MsVerif.Lemmas.MalleLattice
import MsVerif.Lemmas.MalleSearch
import MsVerif.Lemmas.UniqFinal
import MsVerif.Lemmas.CompleteNonMall
import MsVerif.Lemmas.ValidateChar
import MsVerif.Model.Validate
import MsVerif.Model.TypeCheck
import MsVerif.Model.Encode
import MsVerif.Spec.SatTable

namespace MsVerif.C03
open MsVerif Sat MalleLattice MalleThresh Uniq

/-! ## (a) `Satisfaction::minimum` -/

/-- (a) two available (not impossible) alternatives, neither with a signature: a third party
could switch between them, so `minimum` returns UNAVAILABLE — whatever their sizes, and also
when one of them is merely `Unavailable` to the caller (unknown preimage). -/
theorem minimum_never_picks_ambiguous (s1 s2 : Sat)
    (h1 : s1.stack ≠ .impossible) (h2 : s2.stack ≠ .impossible)
    (n1 : s1.hasSig = false) (n2 : s2.hasSig = false) :
    minimum s1 s2 = Sat.UNAVAILABLE := by
  rcases minimum_pick s1 s2 with ⟨_, i2 | ⟨_, f2⟩⟩ | ⟨_, i1 | ⟨_, f1⟩⟩ | ⟨e, _⟩
  · exact absurd i2 h2
  · rw [n2] at f2; cases f2
  · exact absurd i1 h1
  · rw [n1] at f1; cases f1
  · exact e

/-- one alternative without a signature, the other with one: the signature-less one is taken
(a third party can remove a signature but not add one) — even if it is more expensive, even if it
is `Unavailable` — and the result is not flagged `has_sig`. -/
theorem minimum_sigless_beats_signed (s1 s2 : Sat)
    (h1 : s1.stack ≠ .impossible) (h2 : s2.stack ≠ .impossible)
    (n1 : s1.hasSig = false) (n2 : s2.hasSig = true) :
    minimum s1 s2 = ⟨s1.stack, false, s1.abs, s1.rel⟩ ∧ minimum s2 s1 = ⟨s1.stack, false, s1.abs, s1.rel⟩ := by
  have eta : (⟨s1.stack, false, s1.abs, s1.rel⟩ : Sat) = s1 := by rw [← n1]
  rw [eta]
  exact ⟨min_left h1 n1 fun _ => n2, min_right h1 n1 fun _ => n2⟩

/-- `minimum` invents nothing: the result's stack is one of the two inputs' stacks or
`Unavailable`; it is flagged `has_sig` only if BOTH inputs were (or one was impossible). -/
theorem minimum_selects (s1 s2 : Sat) :
    ((minimum s1 s2).stack = s1.stack ∨ (minimum s1 s2).stack = s2.stack ∨
      (minimum s1 s2).stack = .unavailable) ∧
    ((minimum s1 s2).hasSig = true →
      (s1.hasSig = true ∨ s1.stack = .impossible) ∧ (s2.hasSig = true ∨ s2.stack = .impossible)) := by
  rcases minimum_pick s1 s2 with ⟨e, c⟩ | ⟨e, c⟩ | ⟨e, _⟩ <;> rw [e]
  · exact ⟨.inl rfl, fun hs => ⟨.inl hs, c.elim .inr (fun h => .inl h.2)⟩⟩
  · exact ⟨.inr (.inl rfl), fun hs => ⟨c.elim .inr (fun h => .inl h.2), .inl hs⟩⟩
  · exact ⟨.inr (.inr rfl), fun hs => by cases hs⟩

/-! ## (b) `has_sig` bookkeeping -/

def nonMallCfg (env : KeyEnv) (ctx : Ctx) (rootHasSig : Bool) (a : Assets) : SatCfg :=
  ⟨env, ctx, false, rootHasSig, a⟩

/-- a caller holding every ECDSA signature and nothing else; a dummy key environment -/
def exAssets : Assets := ⟨fun _ => true, fun _ => none, fun _ => none, fun _ => none, fun _ => none,
  fun _ _ => false, fun _ => false, fun _ => false⟩
def exEnv : KeyEnv := ⟨fun _ => [], fun _ => [], fun _ => [], fun _ => [], fun _ _ => []⟩

/-- (b) in EITHER mode: a satisfaction or dissatisfaction flagged `has_sig` that is a stack
contains at least one signature placeholder.  (`kPos`: multisig thresholds are ≥ 1, which
`Threshold::new` guarantees; for `multi(0,…)` the Rust flags the signature-free stack `[0]`.) -/
theorem stack_has_sig_placeholder (c : SatCfg) (ms : Ms) (hk : kPos ms = true) (l : List Ph) :
    ((satDissat c ms).sat.hasSig = true → (satDissat c ms).sat.stack = .stack l → hasSigPh l = true) ∧
    ((satDissat c ms).dissat.hasSig = true → (satDissat c ms).dissat.stack = .stack l → hasSigPh l = true) :=
  ⟨fun h hl => (sigInv_satDissat c ms hk).1 h l hl, fun h hl => (sigInv_satDissat c ms hk).2 h l hl⟩

/-- In NON-malleable mode a result NOT flagged `has_sig` contains no signature
placeholder — so "take the signature-less alternative" in `minimum`/`thresh` really is about
stacks a third party can build without any signature.  (False in malleable mode, where
`minimum_mall` and-s the flags but keeps the cheaper stack.) -/
theorem hasSig_sound (env : KeyEnv) (ctx : Ctx) (rhs : Bool) (a : Assets) (ms : Ms) (l : List Ph) :
    ((satDissat (nonMallCfg env ctx rhs a) ms).sat.hasSig = false →
      (satDissat (nonMallCfg env ctx rhs a) ms).sat.stack = .stack l → hasSigPh l = false) ∧
    ((satDissat (nonMallCfg env ctx rhs a) ms).dissat.hasSig = false →
      (satDissat (nonMallCfg env ctx rhs a) ms).dissat.stack = .stack l → hasSigPh l = false) :=
  ⟨fun h hl => (noSigInv_satDissat _ rfl ms).1 h l hl, fun h hl => (noSigInv_satDissat _ rfl ms).2 h l hl⟩

/-- both directions: in non-malleable mode the flag of a returned stack is exactly
"contains a signature placeholder" -/
theorem hasSig_iff_sig_placeholder (env : KeyEnv) (ctx : Ctx) (rhs : Bool) (a : Assets) (ms : Ms)
    (hk : kPos ms = true) (l : List Ph)
    (hl : (satDissat (nonMallCfg env ctx rhs a) ms).sat.stack = .stack l) :
    (satDissat (nonMallCfg env ctx rhs a) ms).sat.hasSig = hasSigPh l := by
  cases hs : (satDissat (nonMallCfg env ctx rhs a) ms).sat.hasSig with
  | true => exact ((stack_has_sig_placeholder _ ms hk l).1 hs hl).symm
  | false => exact ((hasSig_sound env ctx rhs a ms l).1 hs hl).symm

/-- the malleable mode does NOT have the converse property: for
`or_i(pk(0),and_v(v:sha256(0),and_v(v:sha256(1),and_v(v:sha256(2),1))))` with everything
available `minimum_mall` keeps the cheaper stack `[sig(0), 1]` but and-s the flags to `false`
— which is why `hasSig_sound` is stated for the non-malleable mode only -/
theorem hasSig_sound_fails_in_mall_mode :
    (satDissat ⟨⟨fun _ => [], fun _ => [], fun _ => [], fun _ => [], fun _ _ => []⟩, .segwitv0, true, false,
        ⟨fun _ => true, fun _ => none, fun _ => none, fun _ => none, fun _ => none,
          fun _ _ => true, fun _ => false, fun _ => false⟩⟩
      (.orI (.check (.pkK 0)) (.andV (.verify (.hash .sha256 0)) (.andV (.verify (.hash .sha256 1))
        (.andV (.verify (.hash .sha256 2)) .tru))))).sat
    = ⟨.stack [.ecdsaSig 0, .pushOne], false, none, none⟩ := by
  decide

/-! ## (c) `Satisfaction::thresh` -/

/-- the index order used by `thresh` is a sorted permutation of `0..n` (stable insertion sort
by `(is_impossible, has_sig, weight)`) -/
theorem thresh_sort_is_sorted_permutation (key : Nat → SortKey) (n : Nat) :
    (sortIdx key n).Perm (List.range n) ∧
    (sortIdx key n).Pairwise (fun i j => (key i).le (key j) = true) :=
  ⟨sortIdx_perm key n, sortIdx_sorted key n⟩

/-- (c) if MORE than `k` children have an available (not impossible) satisfaction without a
signature, a third party could exchange one of the chosen ones for an unchosen one: the
non-malleable threshold never returns a stack. -/
theorem threshNonMall_refuses_ambiguous (k : Nat) (dissats sats : List Sat)
    (hlen : sats.length = dissats.length)
    (hmany : k < (sats.filter (fun s => !decide (s.stack = .impossible) && !s.hasSig)).length) :
    ∀ l, (threshNonMall k dissats sats).stack ≠ .stack l := by
  have hc : k < (List.range dissats.length).countP
      (fun i => !decide (sats[i]!.stack = .impossible) && !sats[i]!.hasSig) := by
    rw [← hlen, Complete.countP_range_getElem! sats (fun s => !decide (s.stack = .impossible) && !s.hasSig),
      List.countP_eq_length_filter]
    exact hmany
  intro l
  rcases threshNonMall_refuses k dissats sats hc with e | e <;> rw [e] <;> intro h <;> cases h

/-! ## TABLE-LEVEL UNIQUENESS

`Uniq.items` turns the satisfier's placeholders into table items; the adversary is `Uniq.AdvOK` (Lemmas/UniqLeaf.lean), the invariant of
the induction `Uniq.AltInv` (Lemmas/UniqAlt.lean).  `minimum`, `concatenate_rev`, `thresh` preserve it: the
`(false,false)` refusal, "signature-less beats signed", and the position-`k` test of `thresh` are exactly what is
needed; pairwise distinct keys make a signature visible in the result belong to one sub-witness. -/

abbrev callerAvail (a : Assets) (ctx : Ctx) : SatTable.Avail := Complete.availOf a ctx

/-- TABLE-LEVEL UNIQUENESS.  A script of non-malleable type (`m`; `s` is what makes the
library pass `root_has_sig = true`) with pairwise distinct keys.  If the NON-malleable satisfier
returns the stack `W` for the caller's assets `a`, then EVERY table satisfaction assemblable by a
third party who (1) holds no signature the caller lacks and (2) holds, of the script's keys,
only signatures that are VISIBLE in `W`, (3) faces the same transaction, and who may know every
preimage, is `W` itself.  So the third party can neither alter the witness nor choose another
spending path — at the level of the specification's satisfaction table.

`_partial`: the caller is assumed to know every preimage of the script (`SideOK.pre`, as in C02's
`nonmall_complete`; the satisfier's `Unavailable` bookkeeping for unknown preimages is not
covered), raw key hashes are excluded (as by `SANE`), and "table level" — the step from accepted
byte stacks to table rows is `AcceptedImpTable` below. -/
theorem table_unique_partial (ke : KeyEnv) (ctx : Ctx) (a : Assets) (ms : Ms) (τ : Ty)
    (W : List Ph) (adv : SatTable.Avail)
    (hτ : typeOf ms = some τ) (hm : τ.mall.nonMall = true) (hs : τ.mall.signed = true)
    (hside : SideOK ctx a ms)
    (hW : (satDissat (nonMallCfg ke ctx τ.mall.signed a) ms).sat.stack = .stack W)
    (hadv : AdvOK adv (callerAvail a ctx))
    (hvis : ∀ k ∈ keysOf ms, adv.sig k = true → SatTable.Item.sig k ∈ items W) :
    ∀ t ∈ SatAll.allSat adv (sortKeys ke) ms, t = items W := by
  rw [hs] at hW
  exact (uinv_top ke ctx a ms τ adv hτ hm hside hadv).sat.i3 W hW hvis

/-- companion: where the satisfier finds NO satisfaction because one is impossible for the
caller (missing signature, unmet lock), the third party has no table satisfaction either; and
where the satisfier's result needs a signature, a third party without any signature for the
script's keys has none -/
theorem table_none_partial (ke : KeyEnv) (ctx : Ctx) (a : Assets) (ms : Ms) (τ : Ty)
    (adv : SatTable.Avail)
    (hτ : typeOf ms = some τ) (hm : τ.mall.nonMall = true) (hs : τ.mall.signed = true)
    (hside : SideOK ctx a ms) (hadv : AdvOK adv (callerAvail a ctx)) :
    ((satDissat (nonMallCfg ke ctx τ.mall.signed a) ms).sat.stack = .impossible →
      SatAll.allSat adv (sortKeys ke) ms = []) ∧
    ((satDissat (nonMallCfg ke ctx τ.mall.signed a) ms).sat.hasSig = true →
      (∀ k ∈ keysOf ms, adv.sig k = false) → SatAll.allSat adv (sortKeys ke) ms = []) := by
  rw [hs]
  have h := (uinv_top ke ctx a ms τ adv hτ hm hside hadv).sat
  exact ⟨h.i1, h.i2⟩

/-- For type `e` (`dissat = unique`) in a non-malleable script: the satisfier's
dissatisfaction is a signature-free stack `d`, and it is the ONLY canonical table dissatisfaction
— for every third party (`AdvOK`), in particular for one without any signature — and it is the
row the trusted first-match table `SatTable.dsatWit` constructs. -/
theorem dissat_unique_for_e (ke : KeyEnv) (ctx : Ctx) (a : Assets) (ms : Ms) (τ : Ty)
    (hτ : typeOf ms = some τ) (hm : τ.mall.nonMall = true) (he : τ.mall.dissat = .unique)
    (hside : SideOK ctx a ms) :
    ∃ d, (satDissat (nonMallCfg ke ctx true a) ms).dissat.stack = .stack d ∧
      (∀ k, SatTable.Item.sig k ∉ items d) ∧
      (∀ adv, AdvOK adv (callerAvail a ctx) → ∀ t ∈ SatAll.allDsat adv (sortKeys ke) ms, t = items d) ∧
      (∀ its, SatTable.dsatWit (callerAvail a ctx) (sortKeys ke) ms = some its → its = items d) := by
  obtain ⟨ua, ur, hP⟩ := hside.nmP
  have nm := Complete.nm_inv ⟨ke, ctx, false, true, a⟩ ua ur rfl rfl (.of_typeOf ms hτ) hm hP
  obtain ⟨d, hd⟩ := Complete.isStk_exists (nm.du he).1
  have self : AdvOK (callerAvail a ctx) (callerAvail a ctx) := ⟨fun _ h => h, fun _ => rfl, fun _ => rfl⟩
  refine ⟨d, hd, ?_, ?_, ?_⟩
  · exact fun k => dissat_nos ⟨ke, ctx, false, true, a⟩ rfl ms (nm.du he).2 d hd k
  · intro adv hadv t ht
    exact ((uinv_top ke ctx a ms τ adv hτ hm hside hadv).du he).i3 d hd (fun _ hk => by cases hk) t ht
  · intro its hits
    exact ((uinv_top ke ctx a ms τ _ hτ hm hside self).du he).i3 d hd (fun _ hk => by cases hk) its
      (dsatWit_mem _ _ ms its hits)

/-- `dissat_unique_for_e` WITHOUT the non-malleability hypothesis is FALSE: `or_b(or_i(pk(0),pk(1)),a:pk(2))` is typed `dissat = unique` (the `or_b` rule says so
unconditionally), the first-match table dissatisfies it, but `or_i(pk,pk)` has two
dissatisfactions and the non-malleable satisfier answers `Unavailable`. -/
theorem dissat_unique_needs_nonMall :
    let ms : Ms := .orB (.orI (.check (.pkK 0)) (.check (.pkK 1))) (.alt (.check (.pkK 2)))
    (typeOf ms).map (·.mall.dissat) = some .unique ∧
    (typeOf ms).map (·.mall.nonMall) = some false ∧
    (SatTable.dsatWit (callerAvail exAssets .segwitv0) (sortKeys exEnv) ms).isSome = true ∧
    (satDissat (nonMallCfg exEnv .segwitv0 true exAssets) ms).dissat.stack = .unavailable ∧
    (SatAll.allDsat (callerAvail exAssets .segwitv0) (sortKeys exEnv) ms).length = 2 := by
  decide

/-- `j:and_v(v:pk(0),1)` (type `e`): the last clause of `dissat_unique_for_e` on an instance with `j:` — the
satisfier's dissatisfaction, the empty push that is `j:`'s own, is the row `SatTable.dsatWit` builds -/
theorem dissat_table_agrees_at_j :
    typeOf (.nonZero (.andV (.verify (.check (.pkK 0))) .tru))
      = some ⟨⟨.B, .oneNonZero, true, true⟩, ⟨.unique, true, true⟩⟩ ∧
    SatTable.dsatWit (callerAvail exAssets .segwitv0) (sortKeys exEnv)
        (.nonZero (.andV (.verify (.check (.pkK 0))) .tru)) = some [.empty] ∧
    (satDissat (nonMallCfg exEnv .segwitv0 true exAssets)
      (.nonZero (.andV (.verify (.check (.pkK 0))) .tru))).dissat.stack = .stack [.pushZero] ∧
    items [Ph.pushZero] = [SatTable.Item.empty] := by
  decide

/-! ## the judge's CHECKMULTISIG pruning rule -/

/-- Soundness of the only script-specific pruning rule of the adversary search
(`Driver/OpsMalle.lean`, `sigBlockKeys` / `nextChoices`): if CHECKMULTISIG(VERIFY) succeeds under
NULLFAIL + NULLDUMMY on a stack `n, keys…, m, sigs…, dummy, rest`, then the dummy is empty and
every signature element is empty or a valid signature for one of the keys — so restricting the
candidates for these positions to exactly those elements loses no accepted stack. -/
theorem search_sigblock_pruning_sound (env : Script.Env) (s s' : Script.Core) (verify : Bool)
    (hnf : env.flags.nullFail = true) (hnd : env.flags.nullDummy = true)
    (nB mB dummy : Bytes) (keys sigs rest : List Bytes) (n m : Nat)
    (hst : s.stack = nB :: (keys ++ mB :: (sigs ++ dummy :: rest)))
    (hn : Script.numDecode env.flags.minimalNum 4 nB = some (n : Int)) (hkl : keys.length = n)
    (hm : Script.numDecode env.flags.minimalNum 4 mB = some (m : Int)) (hsl : sigs.length = m)
    (h : Script.multisig env s verify = .ok s') :
    dummy = [] ∧ ∀ sg ∈ sigs, sg = [] ∨ ∃ k ∈ keys, env.sigOk k sg = true :=
  MalleSearch.multisig_block env s s' verify hnf hnd nB mB dummy keys sigs rest n m hst hn hkl hm hsl h

/-- a 1-of-2 environment in which `[7]` is a valid signature for the key `03 00…00` only -/
def exMsEnv : Script.Env := ⟨⟨false, true, true, true, true, true, true⟩,
  fun pk sg => pk == (3 :: List.replicate 32 0) && sg == [7], fun _ b => b, 0, 0, 2⟩

/-- instance of the hypotheses: CHECKMULTISIG succeeds on `2 <key 02…> <key 03…> 1 [7] <>` -/
example :
    (match Script.multisig exMsEnv ⟨[[2], 2 :: List.replicate 32 0, 3 :: List.replicate 32 0, [1], [7], []], [], 0⟩ false with
     | .ok c => c.stack == [[1]]
     | .error _ => false) = true := by
  simp (decide := true) [Script.multisig, Script.multisigLoop, exMsEnv, Script.numDecode, Script.numDecodeRaw,
    Script.countOp, Script.pushElem, Script.boolBytes, Script.leValue]

/-! ## the property itself at Script level

The library's default sanity is CONCRETE here: `LibSane` = `Miniscript::validate(&Ctx::SANE)`
succeeds (C12's model `Model/Validate.lean`: typed, base `B`, non-malleable, every branch signed,
no duplicate keys, no mixed time locks, no raw key hash, within the limits).  The adversary model
is the one of the harness: a candidate stack may contain ANY byte strings, except that every
element that verifies as a signature for some public key is an element of the original witness
(unforgeability as a hypothesis on `env.sigOk`); preimages and public keys are not restricted. -/

def LibSane (kenv : KeyEnv) (K : KeyInfo) (ctx : Ctx) (ms : Ms) : Prop :=
  isOk (validate kenv K ctx (Ctx.SANE ctx) ms) = true

/-- standardness flags of a context (as `Driver.ctxFlags … true`) -/
def stdFlags : Ctx → Script.Flags
  | .tap => ⟨true, true, true, true, true, false, true⟩
  | .segwitv0 => ⟨false, true, true, true, true, true, true⟩
  | _ => ⟨false, false, true, true, true, true, true⟩

theorem sane_params (ctx : Ctx) :
    (Ctx.SANE ctx).allowMalleability = false ∧ (Ctx.SANE ctx).allowNonB = false ∧
    (Ctx.SANE ctx).allowSiglessBranch = false ∧ (Ctx.SANE ctx).allowDuplicateKeys = false := by
  cases ctx <;> decide

/-- what `LibSane` gives directly: typed, base `B`, type `m` and `s`, no repeated keys -/
theorem libSane_facts (kenv : KeyEnv) (K : KeyInfo) (ctx : Ctx) (ms : Ms) (h : LibSane kenv K ctx ms) :
    ∃ τ, typeOf ms = some τ ∧ τ.corr.base = .B ∧ τ.mall.nonMall = true ∧ τ.mall.signed = true ∧
      hasRepeatedKeys ms = false := by
  obtain ⟨pm, pb, ps, pd⟩ := sane_params ctx
  unfold LibSane at h
  rw [validate_isOk, validOK] at h
  cases hτ : typeOf ms with
  | none => rw [hτ] at h; cases h
  | some τ =>
    simp only [hτ, nonTopOK, topOK, pm, pb, ps, pd, Bool.false_or, Bool.and_eq_true, beq_iff_eq,
      Bool.not_eq_true'] at h
    -- `nonTopOK`: height, keys, time locks, nodes, resources; `topOK`: `m`, `B`, `s`, satisfiable
    obtain ⟨⟨⟨⟨⟨-, hkeys⟩, -⟩, -⟩, -⟩, ⟨⟨hm, hB⟩, hs⟩, -⟩ := h
    exact ⟨τ, rfl, hB, hm, hs, hkeys⟩

/-- … in the form the uniqueness theorems ask for (`SideOK.keys`) -/
theorem libSane_keys_nodup (kenv : KeyEnv) (K : KeyInfo) (ctx : Ctx) (ms : Ms) (h : LibSane kenv K ctx ms) :
    (keysOf ms).Nodup := by
  obtain ⟨_, _, _, _, _, hrep⟩ := libSane_facts kenv K ctx ms h
  exact nodup_of_not_repeated ms hrep

/-- THE BRIDGE missing between the table and Script (T3 of DESIGN.md §4 C03):
every stack the Script semantics accepts under the standardness rules, assembled by the third
party, is — element by element, through a realisation `real` of table items as bytes — one of
the table's canonical satisfactions for the third party's availability.  (C02's
`accepted_imp_satEx` gives the EXISTENCE of a table satisfaction from an accepted stack, not that
the accepted stack IS one; for junk in hash-dissatisfaction positions it is false without the
typing invariants — which is where `m` has to enter once more.) -/
def AcceptedImpTable (env : Script.Env) (kenv : KeyEnv) (ctx : Ctx) (ms : Ms) (adv : SatTable.Avail)
    (real : SatTable.Item → Bytes) : Prop :=
  ∀ w' : List Bytes, Script.accepts env (encode kenv ctx ms) w'.reverse = true →
    ∃ t ∈ SatAll.allSat adv (sortKeys kenv) ms, w' = t.map real

/-- Script-level uniqueness, conditional on the bridge: under `AcceptedImpTable` the witness
the non-malleable satisfier returned is the ONLY stack the Script semantics accepts -/
theorem nonmall_unique_script_of_bridge (ke : KeyEnv) (ctx : Ctx) (a : Assets) (ms : Ms) (τ : Ty)
    (W : List Ph) (adv : SatTable.Avail) (env : Script.Env) (real : SatTable.Item → Bytes)
    (hτ : typeOf ms = some τ) (hm : τ.mall.nonMall = true) (hs : τ.mall.signed = true)
    (hside : SideOK ctx a ms)
    (hW : (satDissat (nonMallCfg ke ctx τ.mall.signed a) ms).sat.stack = .stack W)
    (hadv : AdvOK adv (callerAvail a ctx))
    (hvis : ∀ k ∈ keysOf ms, adv.sig k = true → SatTable.Item.sig k ∈ items W)
    (hbridge : AcceptedImpTable env ke ctx ms adv real) :
    ∀ w' : List Bytes, Script.accepts env (encode ke ctx ms) w'.reverse = true →
      w' = (items W).map real := by
  intro w' hacc
  obtain ⟨t, ht, rfl⟩ := hbridge w' hacc
  rw [table_unique_partial ke ctx a ms τ W adv hτ hm hs hside hW hadv hvis t ht]

/-- C03 at full strength, with the library's own sanity predicate and the harness' adversary
model.  `real` realises the satisfier's placeholders as the caller's bytes; the hypothesis on `w'`
says that a candidate element that verifies as a signature is one of the original witness — unforgeability.
OPEN: provable from `nonmall_unique_script_of_bridge` once (1) `AcceptedImpTable` is proved for
sane scripts, (2) `SideOK` is derived from `LibSane` (distinct keys: `libSane_facts`; lock
compatibility and fragment/context facts are not derived from `validate`), (3) callers that
do not know every preimage are covered. -/
def nonmall_unique_full : Prop :=
  ∀ (kenv : KeyEnv) (K : KeyInfo) (ctx : Ctx) (a : Assets) (ms : Ms) (τ : Ty) (env : Script.Env)
    (real : Ph → Bytes) (W : List Ph),
    typeOf ms = some τ → LibSane kenv K ctx ms → env.flags = stdFlags ctx →
    (satDissat (nonMallCfg kenv ctx τ.mall.signed a) ms).sat.stack = .stack W →
    -- the original witness is accepted
    Script.accepts env (encode kenv ctx ms) (W.map real).reverse = true →
    ∀ w' : List Bytes,
      -- unforgeability: a candidate element that verifies as a signature is one of the original's
      (∀ x ∈ w', (∃ pk, env.sigOk pk x = true) → x ∈ W.map real) →
      Script.accepts env (encode kenv ctx ms) w'.reverse = true →
      w' = W.map real

/-! ## a concrete, nested instance of every hypothesis

`and_v(v:pk(0), and_v(v:thresh(2,pk(2),s:pk(3),s:pk(4)), or_d(pk(1), and_v(v:sha256(0),older(10)))))`
— a threshold, a hash, a relative lock, an `or` with a signature-less branch.  The caller holds
signatures for keys 0, 2, 3 (not 1, not 4), the preimage, and a transaction meeting `older(10)`.
The satisfier returns `[pre, <> (pk 1), <> (pk 4), sig3, sig2, sig0]`; the third party holds the
three visible signatures, every preimage, the same transaction. -/

def exMs : Ms :=
  .andV (.verify (.check (.pkK 0)))
    (.andV (.verify (.thresh 2 (.cons (.check (.pkK 2)) (.cons (.swap (.check (.pkK 3)))
        (.cons (.swap (.check (.pkK 4))) .nil)))))
      (.orD (.check (.pkK 1)) (.andV (.verify (.hash .sha256 0)) (.older 10))))

def exA : Assets := ⟨fun k => k == 0 || k == 2 || k == 3, fun _ => none, fun _ => none, fun _ => none,
  fun _ => none, fun _ _ => true, fun n => n == 10, fun _ => false⟩

def exW : List Ph := [.preimage .sha256 0, .pushZero, .pushZero, .ecdsaSig 3, .ecdsaSig 2, .ecdsaSig 0]

def exTy : Ty := ⟨⟨.B, .anyNonZero, false, false⟩, ⟨.none, true, true⟩⟩

/-- the third party: the visible signatures, all preimages, the same locks -/
def exAdv : SatTable.Avail := { callerAvail exA .segwitv0 with sig := fun k => k == 0 || k == 2 || k == 3 }

theorem exMs_typed : typeOf exMs = some exTy := by decide

theorem exMs_side : SideOK .segwitv0 exA exMs :=
  ⟨by decide, by decide, by decide, by decide, by decide, by decide⟩

theorem exMs_sat : (satDissat (nonMallCfg exEnv .segwitv0 exTy.mall.signed exA) exMs).sat.stack = .stack exW := by
  decide

theorem exAdv_ok : AdvOK exAdv (callerAvail exA .segwitv0) :=
  ⟨fun k h => by simpa [exAdv, callerAvail, Complete.availOf, Complete.sigAvail, Ctx.sigType, exA] using h,
   fun _ => rfl, fun _ => rfl⟩

/-- `table_unique_partial` applies: every table satisfaction the third party can assemble for
the example is the satisfier's witness -/
example : ∀ t ∈ SatAll.allSat exAdv (sortKeys exEnv) exMs, t = items exW :=
  table_unique_partial exEnv .segwitv0 exA exMs exTy exW exAdv exMs_typed rfl rfl exMs_side exMs_sat
    exAdv_ok (by decide)

/-- … and there IS such a table satisfaction (the statement is not vacuous) -/
example : SatAll.allSat exAdv (sortKeys exEnv) exMs = [items exW] := by decide

/-- `dissat_unique_for_e` on a nested `e`-typed fragment: `thresh(2,pk(2),s:pk(3),s:pk(4))` -/
example : ∃ d, (satDissat (nonMallCfg exEnv .segwitv0 true exA)
      (.thresh 2 (.cons (.check (.pkK 2)) (.cons (.swap (.check (.pkK 3))) (.cons (.swap (.check (.pkK 4))) .nil))))).dissat.stack
      = .stack d ∧ (∀ k, SatTable.Item.sig k ∉ items d) :=
  let ⟨d, h1, h2, _⟩ := dissat_unique_for_e exEnv .segwitv0 exA _
    ⟨⟨.B, .any, true, true⟩, ⟨.unique, true, true⟩⟩ (by decide) rfl rfl
    ⟨by decide, by decide, by decide, by decide, by decide, by decide⟩
  ⟨d, h1, h2⟩

/-- `libSane_facts` is not vacuous: the example passes the library's sanity rules (model) -/
example : LibSane exEnv ⟨fun _ => .compressed, fun _ => 0⟩ .segwitv0 exMs := by
  unfold LibSane; decide

/-- (a) on concrete values: a stack of one preimage vs an `Unavailable` alternative, no
signatures: refused -/
example : minimum ⟨.stack [.preimage .sha256 0], false, none, none⟩ ⟨.unavailable, false, none, none⟩
    = Sat.UNAVAILABLE :=
  minimum_never_picks_ambiguous _ _ (by decide) (by decide) rfl rfl

/-- the sig-less alternative wins although it is the more expensive one -/
example : minimum ⟨.stack [.preimage .sha256 0, .preimage .sha256 1, .preimage .sha256 2], false, none, none⟩
    ⟨.stack [.ecdsaSig 0], true, none, none⟩
    = ⟨.stack [.preimage .sha256 0, .preimage .sha256 1, .preimage .sha256 2], false, none, none⟩ :=
  (minimum_sigless_beats_signed _ _ (by decide) (by decide) rfl rfl).1

/-- (b) instantiated: `and_v(v:pk(0),or_d(pk(1),sha256(0)))` with both signatures and the
preimage takes the hash branch; the flag is set because of `pk(0)`'s signature -/
example :
    let a : Assets := ⟨fun _ => true, fun _ => none, fun _ => none, fun _ => none, fun _ => none,
      fun _ _ => true, fun _ => false, fun _ => false⟩
    let env : KeyEnv := ⟨fun _ => [], fun _ => [], fun _ => [], fun _ => [], fun _ _ => []⟩
    let ms : Ms := .andV (.verify (.check (.pkK 0))) (.orD (.check (.pkK 1)) (.hash .sha256 0))
    kPos ms = true ∧
    (satDissat (nonMallCfg env .segwitv0 true a) ms).sat
      = ⟨.stack [.preimage .sha256 0, .pushZero, .ecdsaSig 0], true, none, none⟩ := by
  decide

/-- (c) instantiated: two hash children with known preimages, `k = 1`: refused -/
example :
    threshNonMall 1
      [⟨.stack [.hashDissat], false, none, none⟩, ⟨.stack [.hashDissat], false, none, none⟩]
      [⟨.stack [.preimage .sha256 0], false, none, none⟩, ⟨.stack [.preimage .sha256 1], false, none, none⟩]
    = Sat.UNAVAILABLE := by
  decide

example : ∀ l, (threshNonMall 1
      [⟨.stack [.hashDissat], false, none, none⟩, ⟨.stack [.hashDissat], false, none, none⟩]
      [⟨.stack [.preimage .sha256 0], false, none, none⟩, ⟨.stack [.preimage .sha256 1], false, none, none⟩]).stack
    ≠ .stack l :=
  threshNonMall_refuses_ambiguous 1 _ _ rfl (by decide)

end MsVerif.C03
