/-
C18 — policy transformations preserve meaning.

Model: `Model/Semantic.lean` (`policy::semantic`), `Model/Concrete.lean` (`Liftable for Concrete`,
`check_timelocks`, `TimelockInfo`).  Specification: `Spec/Policy.lean` — `holdsA v p` (truth
table under an assignment `v` of the atoms), `holds W p` (a world with keys, preimages,
nLockTime, nSequence; CLTV / CSV consensus rules), selections `sels` / `selsC` (one way of
satisfying a policy: exactly `k` children at every threshold).

Every theorem quantifies over ALL policies (any nesting depth, any number of children, any
`k`, repeated atoms, constants anywhere) and all assignments / worlds.  Hypotheses, where present: the first
three below are what the Rust constructors guarantee, `NF` is what `normalized` returns; besides them
`a < 2147483648` (`at_age_*`: the age is an `nSequence` with the disable flag clear), `nTerminals a ≤ 20`
(`entails_decides`: the library's own bound) and pairwise distinct keys (`minimum_n_keys_attained`,
`minimum_n_keys_eq_fewest_signers`: with a repeated key the library counts occurrences, see
`minimum_n_keys_repeated_key_witness`):
  `WFC c`            thresholds have `1 ≤ k ≤ n`, `or` has a child     (Model/Concrete.lean)
  `andOrNonEmpty c`  every concrete `and` / `or` has a child           (Model/Concrete.lean)
  `threshKPos c`     every concrete `thresh` has `k ≥ 1` (every `Threshold`)  (Model/Concrete.lean)
  `NF p`             `p` is in the normal form that `normalized` produces (Model/Semantic.lean)

The model follows /repo with its `fix:` commits (DESIGN.md §9.3; F6, F10: §1.1) for `entails` on un-normalised constants (F6),
`lift` of non-binary `and`, exactness of `check_timelocks` through `UNSATISFIABLE` (F10) and
`lift` refusing policies that `check_timelocks` accepts (per-node re-check); the four statements
are `entails_iff`, `concrete_lift_equiv`, `check_timelocks_exact`,
`concrete_lift_total`; the `*_former_*` theorems evaluate the model on the inputs reported with these
commits.

OBSERVATIONS outside the property's statement (`is_safe_nonmalleable` is not mentioned by C18; T8
below documents the model): the `signed` flag is exact (`is_safe_exact`); the `non-malleable` flag is compared with
`Pol.isNonMalleableSpec` (Spec/Policy.lean) on every run (no theorem) and differs for `or` with more than two
branches (one signed branch suffices).
-/
import MsVerif.Lemmas.PolicyOps
import MsVerif.Lemmas.PolicyMinKeys
import MsVerif.Lemmas.PolicyLift
import MsVerif.Lemmas.PolicyTimelocks
import MsVerif.Lemmas.PolicyEntails
import MsVerif.Lemmas.PolicySels
import MsVerif.Lemmas.PolicySafe
import MsVerif.Lemmas.PolicySort

namespace MsVerif.C18
open MsVerif.Pol MsVerif.Pol.Sem MsVerif.Pol.Conc
-- `Atom` is the policy specification's; the translation model (`MsVerif.Atom`, Model/Translate.lean, imported through Lemmas/PolicySort.lean) has one of its own
export MsVerif.Pol (Atom)

/-! ## T1 — `normalized` -/

/-- same truth table, every assignment of the atoms -/
theorem normalized_truth_table (v : Atom → Bool) (p : Policy) :
    holdsA v (normalized p) = holdsA v p := normalized_holdsA v p

/-- in particular in every world -/
theorem normalized_holds (W : World) (p : Policy) : holds W (normalized p) = holds W p :=
  normalized_holdsA W.val p

theorem normalized_normal_form (p : Policy) : NF (normalized p) = true := normalized_NF p

theorem normalized_fixes_normal_forms (p : Policy) (h : NF p = true) : normalized p = p :=
  normalized_of_NF p h

theorem normalized_idempotent (p : Policy) : normalized (normalized p) = normalized p :=
  normalized_of_NF _ (normalized_NF p)

/-- a normal form is a tautology only if it is `TRIVIAL`, a contradiction only if it is
`UNSATISFIABLE` (so `is_trivial` / `is_unsatisfiable` after `normalized` are exact) -/
theorem normal_form_constants (p : Policy) (h : NF p = true) :
    ((∀ v, holdsA v p = true) → isTrivial p = true)
    ∧ ((∀ v, holdsA v p = false) → isUnsat p = true) := by
  constructor
  · intro hv
    cases ht : isTrivial p
    · have := NF_all_false p h ht; rw [hv] at this; simp at this
    · rfl
  · intro hv
    cases hu : isUnsat p
    · have := NF_all_true p h hu; rw [hv] at this; simp at this
    · rfl

/-! ## T2 — `sorted` -/

/-- `sorted` permutes children only: same truth table, every assignment of the atoms -/
theorem sorted_truth_table (v : Atom → Bool) (p : Policy) : holdsA v (sorted p) = holdsA v p := by
  induction p using Policy.induct' with
  | unsat => simp [sorted]
  | trivial => simp [sorted]
  | atom a => simp [sorted]
  | thresh k subs ih =>
    rw [sorted, sortedList_eq, holdsA_thresh, holdsA_thresh,
      (List.mergeSort_perm _ _).countP_eq, countP_map_congr sorted (holdsA v) (holdsA v) subs ih]

/-- in particular in every world -/
theorem sorted_holds (W : World) (p : Policy) : holds W (sorted p) = holds W p :=
  sorted_truth_table W.val p

/-- the order `sorted` sorts by (`Ord for Policy`) is a lawful total order: `Equal` only on
identical policies, antisymmetric, transitive -/
theorem policy_order_lawful :
    (∀ a b, cmp a b = .eq ↔ a = b) ∧ (∀ a b, cmp b a = (cmp a b).swap)
    ∧ (∀ a b c, cmp a b = .lt → cmp b c = .lt → cmp a c = .lt) :=
  ⟨cmp_eq_iff, cmp_swap, cmp_trans⟩

/-- `sorted` only rearranges: the result is the input with children permuted … -/
theorem sorted_is_child_permutation (p : Policy) : ChildPerm p (sorted p) := by
  induction p using Policy.induct' with
  | unsat => exact .refl _
  | trivial => exact .refl _
  | atom a => exact .refl _
  | thresh k subs ih =>
    rw [sorted, sortedList_eq]
    exact .trans (.congr k (childPermList_map_sorted subs ih))
      (.perm k (List.mergeSort_perm _ _).symm)

/-- … and it is a NORMAL FORM of the children's order: two policies have the same `sorted` form
iff one is the other with the children of thresholds (at any depth) permuted -/
theorem sorted_normal_form (p q : Policy) : sorted p = sorted q ↔ ChildPerm p q := by
  constructor
  · intro h
    have hq := (sorted_is_child_permutation q).symm
    rw [← h] at hq
    exact (sorted_is_child_permutation p).trans hq
  · exact sorted_childPerm

/-! ## T3 — `at_age`, `at_lock_time` -/

/-- `at_age a` is the truth table restricted to what an input of relative age `a` can satisfy:
for EVERY assignment, the filtered policy holds iff the original holds once the `older` locks
that age `a` does not reach are made false.  (`a` is an `nSequence` value with the disable
flag clear, i.e. anything `relative::LockTime` can express.) -/
theorem at_age_exact (v : Atom → Bool) (a : Nat) (ha : a < 2147483648) (p : Policy) :
    holdsA v (atAge a p) = holdsA (restrictAge a v) p := by
  rw [atAge, normalized_holdsA, (prunes_atAgeRaw ha).truth, restrictAge_eq]

/-- in a world whose input has `nSequence = a` nothing is lost -/
theorem at_age_holds (W : World) (p : Policy) (ha : W.nSequence < 2147483648) :
    holds W (atAge W.nSequence p) = holds W p := by
  rw [holds, at_age_exact _ _ ha]
  have : restrictAge W.nSequence W.val = W.val := by
    funext x; cases x <;> simp [restrictAge, World.val]
  rw [this]; rfl

/-- and no lock that age `a` fails to satisfy survives -/
theorem at_age_no_stale_lock (a : Nat) (ha : a < 2147483648) (p : Policy) (t : Nat)
    (h : Atom.older t ∈ atomsOf (atAge a p)) : csvOk a t = true :=
  (prunes_atAgeRaw ha).kept _ _ ((atoms_normalized _).subset h)

/-- the same for `at_lock_time n`: the `after` locks that `nLockTime = n` does not satisfy are made false, nothing
else changes (no hypothesis on `n`) -/
theorem at_lock_time_exact (v : Atom → Bool) (n : Nat) (p : Policy) :
    holdsA v (atLockTime n p) = holdsA (restrictLockTime n v) p := by
  rw [atLockTime, normalized_holdsA, (prunes_atLockTimeRaw n).truth, restrictLockTime_eq]

/-- in a world whose transaction has `nLockTime = n` nothing is lost -/
theorem at_lock_time_holds (W : World) (p : Policy) :
    holds W (atLockTime W.nLockTime p) = holds W p := by
  rw [holds, at_lock_time_exact]
  have : restrictLockTime W.nLockTime W.val = W.val := by
    funext x; cases x <;> simp [restrictLockTime, World.val]
  rw [this]; rfl

/-- and no `after` lock that `n` fails to satisfy survives -/
theorem at_lock_time_no_stale_lock (n : Nat) (p : Policy) (t : Nat)
    (h : Atom.after t ∈ atomsOf (atLockTime n p)) : cltvOk n t = true :=
  (prunes_atLockTimeRaw n).kept _ _ ((atoms_normalized _).subset h)

/-- `relative_timelocks` / `absolute_timelocks` list exactly the `older` / `after` values of the
policy, strictly ascending (each once) -/
theorem timelock_lists_exact (p : Policy) :
    (∀ t, t ∈ relativeTimelocks p ↔ Atom.older t ∈ atomsOf p)
    ∧ (∀ t, t ∈ absoluteTimelocks p ↔ Atom.after t ∈ atomsOf p)
    ∧ (relativeTimelocks p).Pairwise (· < ·) ∧ (absoluteTimelocks p).Pairwise (· < ·) :=
  ⟨mem_relativeTimelocks p, mem_absoluteTimelocks p, sortDedup_strict _, sortDedup_strict _⟩

/-! ## T4 — `entails` -/

/-- `None` exactly for more than 20 terminals (all inputs) -/
theorem entails_none_iff (a b : Policy) : entails a b = .none ↔ nTerminals a > 20 := by
  refine ⟨fun h => ?_, fun h => entailsF_big _ _ _ h⟩
  by_cases h' : nTerminals a > 20
  · exact h'
  · obtain ⟨r, hr, _⟩ := entails_some a b (by omega)
    rw [hr] at h; cases h

/-- the recursion fuel of the model always suffices (all inputs) -/
theorem entails_fuel (a b : Policy) : entails a b ≠ .outOfFuel := by
  by_cases h : nTerminals a > 20
  · rw [entails, entailsF_big _ _ _ h]; simp
  · obtain ⟨r, hr, _⟩ := entails_some a b (by omega)
    rw [hr]; simp

/-- the answer is truth-table implication — ALL inputs, normalised or not -/
theorem entails_iff (a b : Policy) (r : Bool) (h : entails a b = .some r) :
    r = true ↔ Implies a b := by
  by_cases h' : nTerminals a > 20
  · rw [(entails_none_iff a b).mpr h'] at h; cases h
  · obtain ⟨r', hr', hc⟩ := entails_some a b (by omega)
    rw [hr'] at h; cases h
    exact hc

theorem entails_decides (a b : Policy) (h : nTerminals a ≤ 20) :
    ∃ r, entails a b = .some r ∧ (r = true ↔ Implies a b) :=
  entails_some a b h

/-- the inputs of F6 are answered correctly -/
theorem entails_former_F6_witnesses :
    entails .trivial (.thresh 1 [.trivial, .atom (.key 0)]) = .some true
    ∧ entails (.thresh 2 [.unsat, .atom (.key 0)]) .unsat = .some true
    ∧ entails (.thresh 2 [.unsat, .atom (.key 0)]) (.atom (.key 1)) = .some true := by decide

/-! ## T5 — `minimum_n_keys` -/

/-- a policy holds under an assignment iff every atom of one of its selections is true:
selections are exactly the ways of satisfying a policy -/
theorem selections_characterise_truth (v : Atom → Bool) (p : Policy) :
    holdsA v p = (sels p).any (fun s => s.all v) := holdsA_eq_good v p

/-- `minimum_n_keys` = fewest signatures over all selections (one signature per key
occurrence), `None` iff there is no selection, i.e. (previous theorem) iff unsatisfiable -/
theorem minimum_n_keys_exact (p : Policy) : minimumNKeys p = minSigs p := by
  induction p using Policy.induct' with
  | unsat => simp [minimumNKeys, minSigs, sels]
  | trivial => simp [minimumNKeys, minSigs, sels, nSigs]
  | atom a => cases a <;> simp [minimumNKeys, minSigs, sels, nSigs, Atom.isKey]
  | thresh k subs ih =>
    rw [minimumNKeys, minimumNKeysList_eq, minKeysThresh_eq_minK, minSigs, sels, selsList_eq]
    have := minOf_chooseK (subs.map sels) k
    rw [List.map_map] at this
    rw [(minOf_iff _ _).mp this]
    exact congrArg (minK · k) (List.map_congr_left ih)

/-- read as a minimum: `Some(m)` iff some selection needs `m` signatures and none needs fewer -/
theorem minimum_n_keys_some (p : Policy) (m : Nat) :
    minimumNKeys p = some m ↔ (∃ s ∈ sels p, nSigs s = m) ∧ ∀ s ∈ sels p, m ≤ nSigs s := by
  rw [minimum_n_keys_exact, minSigs, List.min?_eq_some_iff]
  simp only [List.mem_map, forall_exists_index, and_imp, forall_apply_eq_imp_iff₂]

/-- `None` exactly for policies that no assignment satisfies -/
theorem minimum_n_keys_none (p : Policy) :
    minimumNKeys p = none ↔ ∀ v, holdsA v p = false := by
  rw [minimum_n_keys_exact, minSigs, List.min?_eq_none_iff, List.map_eq_nil_iff]
  simp only [holdsA_eq_good, good_all_false_iff]

/-- `n_keys` counts the key leaves, repetitions included -/
theorem n_keys_exact (p : Policy) : nKeys p = keyOccurrences p := by
  induction p using Policy.induct' with
  | unsat => rfl
  | trivial => rfl
  | atom a => cases a <;> rfl
  | thresh k subs ih =>
    rw [nKeys, nKeysList_eq, keyOccurrences, atomsOf, atomsOfList_eq]
    clear k
    induction subs with
    | nil => rfl
    | cons x xs ihx =>
      simp only [List.map_cons, List.sum_cons, List.flatMap_cons, List.countP_append]
      rw [ih x (by simp), ihx (fun p hp => ih p (by simp [hp]))]
      rfl

/-- every selection is a sub-list of the policy's atoms (so "signatures of a selection" are
key leaves of the policy) -/
theorem selections_are_sublists (p : Policy) (s : List Atom) (h : s ∈ sels p) :
    s.Sublist (atomsOf p) := sels_sublist p s h

/-- against ASSIGNMENTS, all policies: whatever satisfies the policy makes at least
`minimum_n_keys` key leaves true -/
theorem minimum_n_keys_lower_bound (p : Policy) (m : Nat) (h : minimumNKeys p = some m)
    (v : Atom → Bool) (hv : holdsA v p = true) : m ≤ trueKeys v p := by
  rw [selections_characterise_truth, List.any_eq_true] at hv
  obtain ⟨s, hs, hall⟩ := hv
  exact Nat.le_trans (((minimum_n_keys_some p m).mp h).2 s hs) (nSigs_le_trueKeys v p s hs hall)

/-- … and when no key is repeated some satisfying assignment makes exactly that many keys true -/
theorem minimum_n_keys_attained (p : Policy) (m : Nat) (h : minimumNKeys p = some m)
    (hd : ((atomsOf p).filter Atom.isKey).Nodup) :
    ∃ v, holdsA v p = true ∧ trueKeys v p = m := by
  obtain ⟨⟨s, hs, hm⟩, _⟩ := (minimum_n_keys_some p m).mp h
  exact ⟨valOf s, holdsA_valOf_sel p s hs, by rw [trueKeys_valOf p s (sels_sublist p s hs) hd, hm]⟩

/-- THE STATEMENT'S FORM: `minimum_n_keys` is the fewest signing keys over all satisfying
assignments (`minTrueKeys`: brute force over every assignment of the policy's atoms; `None` iff
none satisfies) — for every policy in which no key occurs twice -/
theorem minimum_n_keys_eq_fewest_signers (p : Policy)
    (hd : ((atomsOf p).filter Atom.isKey).Nodup) : minimumNKeys p = minTrueKeys p := by
  cases hm : minimumNKeys p with
  | none => exact (minTrueKeys_none p ((minimum_n_keys_none p).mp hm)).symm
  | some m =>
    symm
    rw [minTrueKeys, List.min?_eq_some_iff]
    obtain ⟨⟨s, hs, hsm⟩, _⟩ := (minimum_n_keys_some p m).mp hm
    refine ⟨hsm ▸ nSigs_sel_mem p s hs, ?_⟩
    intro b hb
    obtain ⟨ts, hts, rfl⟩ := List.mem_map.mp hb
    obtain ⟨hmem, hsat⟩ := List.mem_filter.mp hts
    have := minimum_n_keys_lower_bound p m hm (valOf ts) (by simpa using hsat)
    rwa [trueKeys_valOf p ts ((mem_subsets_iff _ _).mp hmem) hd] at this

/-- with REPEATED keys the library's number is an upper bound of the fewest signing keys (it
counts one signature per key occurrence), and both are `None` together -/
theorem minimum_n_keys_upper_bound (p : Policy) :
    (minimumNKeys p = none ↔ minTrueKeys p = none)
    ∧ ∀ m, minimumNKeys p = some m → ∃ m', minTrueKeys p = some m' ∧ m' ≤ m := by
  -- a selection with `m` signatures is one of the satisfying assignments `minTrueKeys` ranges over
  have hub : ∀ m, minimumNKeys p = some m → ∃ m', minTrueKeys p = some m' ∧ m' ≤ m := by
    intro m hm
    obtain ⟨⟨s, hs, hsm⟩, _⟩ := (minimum_n_keys_some p m).mp hm
    have hmem := hsm ▸ nSigs_sel_mem p s hs
    cases hmin : minTrueKeys p with
    | none => rw [minTrueKeys, List.min?_eq_none_iff] at hmin; rw [hmin] at hmem; simp at hmem
    | some m' => exact ⟨m', rfl, ((List.min?_eq_some_iff).mp hmin).2 m hmem⟩
  refine ⟨⟨fun hm => minTrueKeys_none p ((minimum_n_keys_none p).mp hm), fun hn => ?_⟩, hub⟩
  cases hm : minimumNKeys p with
  | none => rfl
  | some m => obtain ⟨m', h, _⟩ := hub m hm; rw [hn] at h; cases h

/-- the bound is strict for `and(pk(0), pk(0))`: the library says 2, one key signs -/
theorem minimum_n_keys_repeated_key_witness :
    minimumNKeys (.thresh 2 [.atom (.key 0), .atom (.key 0)]) = some 2
    ∧ minTrueKeys (.thresh 2 [.atom (.key 0), .atom (.key 0)]) = some 1 := by
  constructor
  · rw [minimum_n_keys_exact]; decide
  · decide

/-! ## T6 — lifting concrete policies -/

/-- the lifted policy has the concrete policy's truth table — every concrete policy (any number
of children of `and` / `or`), every assignment -/
theorem concrete_lift_equiv (c : CPolicy) (s : Policy) (h : lift c = .ok s) (v : Atom → Bool) :
    holdsA v s = holdsC v c :=
  (liftUnchecked_spec c s ((lift_ok_iff c s).mp h).2).2 v

/-- in particular in every world -/
theorem concrete_lift_holds (c : CPolicy) (s : Policy) (h : lift c = .ok s) (W : World) :
    holds W s = holdsCW W c :=
  concrete_lift_equiv c s h W.val

/-- `lift` and `check_timelocks` agree (no `k ≥ 1` needed) -/
theorem concrete_lift_refuses_iff_check (c : CPolicy) (hn : andOrNonEmpty c = true) :
    (checkTimelocks c = false ∧ lift c = .err)
    ∨ (checkTimelocks c = true ∧ ∃ s, lift c = .ok s) := by
  unfold lift
  cases checkTimelocks c
  · left; simp
  · right; simpa using liftUnchecked_total c hn

/-- a concrete policy is refused (with the timelock error) exactly when some satisfiable path
mixes height and time locks, and lifted otherwise — every concrete policy without an empty
`and` / `or` (those have no `Threshold`: `concrete_lift_empty_refused`) whose thresholds have
`k ≥ 1` (every `Threshold`) -/
theorem concrete_lift_total (c : CPolicy) (hn : andOrNonEmpty c = true)
    (hk : threshKPos c = true) :
    (hasMixedPath c = true ∧ lift c = .err) ∨ (hasMixedPath c = false ∧ ∃ s, lift c = .ok s) := by
  have hex := checkTimelocks_exact c hk
  rcases concrete_lift_refuses_iff_check c hn with ⟨h1, h2⟩ | ⟨h1, h2⟩
  · exact Or.inl ⟨hex.mp h1, h2⟩
  · right
    refine ⟨?_, h2⟩
    cases hm : hasMixedPath c
    · rfl
    · rw [hex.mpr hm] at h1; simp at h1

theorem concrete_lift_normal_form (c : CPolicy) (s : Policy) (h : lift c = .ok s) :
    NF s = true :=
  (liftUnchecked_spec c s ((lift_ok_iff c s).mp h).2).1

/-- a Bool test for the next theorem's `decide`: `LiftRes` has no `DecidableEq` (Model/Concrete.lean) -/
def LiftRes.isErrThreshold : LiftRes → Bool
  | .errThreshold => true
  | _ => false

/-- an empty `and` / `or` is refused with `Error::Threshold` (no panic) -/
theorem concrete_lift_empty_refused :
    LiftRes.isErrThreshold (lift (.and [])) = true
    ∧ LiftRes.isErrThreshold (lift (.or [])) = true
    ∧ LiftRes.isErrThreshold (lift (.and [.atom (.key 0), .or []])) = true := by decide

/-- `lift` runs `check_timelocks` once, on the whole policy (DESIGN.md §9.3, cbc2b322): a mixed sub-policy that no
satisfiable path reaches is not refused, and disappears from the result -/
theorem concrete_lift_former_refusals :
    lift (.or [.atom (.key 0), .and [.unsat, .and [.atom (.older 1), .atom (.older 4194305)]]])
      = .ok (.atom (.key 0))
    ∧ lift (.and [.unsat, .and [.atom (.older 1), .atom (.older 4194305)]]) = .ok .unsat := by
  constructor <;> rfl

/-! ## T7 — `check_timelocks` -/

/-- soundness, ALL policies: if some satisfiable path needs a height-based and a time-based
lock of the same kind, `check_timelocks` reports it -/
theorem check_timelocks_sound (c : CPolicy) (h : hasMixedPath c = true) :
    checkTimelocks c = false := checkTimelocks_sound c h

/-- exactness: `check_timelocks` refuses iff some satisfiable path mixes height and time locks
— every concrete policy (`UNSATISFIABLE` anywhere, `and` / `or` of any arity including empty,
thresholds with `k > n`); the only hypothesis is `k ≥ 1`, which every `Threshold` satisfies -/
theorem check_timelocks_exact (c : CPolicy) (hk : threshKPos c = true) :
    checkTimelocks c = false ↔ hasMixedPath c = true := checkTimelocks_exact c hk

/-- the private `timelock_info` is `None` exactly for policies without any satisfaction -/
theorem timelock_info_none_iff (c : CPolicy) :
    timelockInfo c = none ↔ ∀ v, holdsC v c = false := by
  rw [(claim_all c).none_iff]
  simp only [holdsC_eq_good, good_all_false_iff]

/-- the inputs of F10 are accepted, a genuinely mixed policy is refused -/
theorem check_timelocks_former_F10_witnesses :
    checkTimelocks (.and [.unsat, .and [.atom (.older 1), .atom (.older 4194305)]]) = true
    ∧ checkTimelocks (.thresh 3 [.atom (.older 1), .atom (.older 4194305), .unsat]) = true
    ∧ checkTimelocks (.thresh 2 [.atom (.older 1), .atom (.older 4194305), .unsat]) = false := by
  decide

/-- the satisfiable paths of a concrete policy are exactly its ways of being satisfied (so
"satisfiable path" above is not an artefact of the definition of `selsC`) -/
theorem concrete_selections_characterise_truth (v : Atom → Bool) (c : CPolicy) :
    holdsC v c = (selsC false c).any (fun s => s.all v) := holdsC_eq_good v c

/-! ## T8 — `is_safe_nonmalleable`, the `signed` flag -/

/-- the specification's SAFE ("every satisfaction needs a signature") is: the policy does not
hold when nobody signs and everything else is available -/
theorem safe_spec_characterisation (c : CPolicy) : isSafeSpec c = !holdsC noKeys c := by
  rw [holdsC_eq_good, good, isSafeSpec]
  induction selsC false c with
  | nil => rfl
  | cons s ss ih =>
    rw [List.all_cons, List.any_cons, ih, all_noKeys_iff]
    cases decide (1 ≤ nSigs s) <;> simp

/-- `signed` ⇔ every satisfaction of the policy needs a signature — every well-formed concrete
policy (`TRIVIAL`, `UNSATISFIABLE`, n-ary `and` / `or` included) -/
theorem is_safe_exact (c : CPolicy) (hw : WFC c = true) :
    (isSafeNonmalleable c).1 = isSafeSpec c := by
  rw [safe_spec_characterisation]; exact safe_exact c hw

/-- `or(pk(0), TRIVIAL)` is not reported to need a signature -/
theorem is_safe_former_witness :
    (isSafeNonmalleable (.or [.atom (.key 0), .trivial])).1 = false
    ∧ isSafeSpec (.or [.atom (.key 0), .trivial]) = false := by decide

/-! ## Non-vacuity: the hypotheses are satisfiable by non-trivial values, the functions are
not constant -/

example : normalized (.thresh 2 [.thresh 2 [.atom (.key 0), .atom (.key 1)], .trivial,
      .unsat, .thresh 1 [.atom (.key 2), .atom (.key 3)]])
    = .thresh 1 [.thresh 2 [.atom (.key 0), .atom (.key 1)], .atom (.key 2), .atom (.key 3)] := by
  rfl
example : NF (.thresh 2 [.atom (.key 0), .atom (.older 144),
    .thresh 1 [.atom (.key 1), .atom (.after 500000001)]]) = true := by decide
example : atAge 100 (.thresh 1 [.atom (.key 0), .atom (.older 144)]) = .atom (.key 0) := by rfl
example : (100 : Nat) < 2147483648 := by decide
example : entails (.thresh 2 [.atom (.key 0), .atom (.key 1)]) (.atom (.key 1)) = .some true := by
  decide
example : entails (.atom (.key 1)) (.thresh 2 [.atom (.key 0), .atom (.key 1)]) = .some false := by
  decide
example : minimumNKeys (.thresh 2 [.atom (.key 0), .atom (.older 144),
    .thresh 2 [.atom (.key 1), .atom (.key 2)]]) = some 1 := by
  rw [minimum_n_keys_exact]; decide
example : andOrNonEmpty (.and [.atom (.key 0), .or [.atom (.key 1), .atom (.older 5)]]) = true
    ∧ WFC (.and [.atom (.key 0), .or [.atom (.key 1), .atom (.older 5)]]) = true := by decide
example : lift (.and [.atom (.key 0), .atom (.key 1), .atom (.key 2)])
    = .ok (.thresh 3 [.atom (.key 0), .atom (.key 1), .atom (.key 2)]) := by rfl
example : lift (.and [.atom (.key 0)]) = .ok (.atom (.key 0)) := by rfl
example : threshKPos (.thresh 2 [.atom (.older 1), .atom (.older 4194305), .unsat]) = true
    ∧ unsatFree (.thresh 2 [.atom (.older 1), .atom (.older 4194305), .atom (.key 0)]) = true
    ∧ checkTimelocks (.thresh 2 [.atom (.older 1), .atom (.older 4194305), .atom (.key 0)]) = false
    ∧ checkTimelocks (.or [.atom (.older 1), .atom (.older 4194305)]) = true := by decide


/-! ### every hypothesis, on a nested policy with a threshold and a lock -/

/-- the running example: `and(or(pk(0), older(144)), thresh(2, pk(1), pk(2), after(500000001)))` (the weights of
`or` are not represented) -/
def exC : CPolicy :=
  .and [.or [.atom (.key 0), .atom (.older 144)],
        .thresh 2 [.atom (.key 1), .atom (.key 2), .atom (.after 500000001)]]
def exP : Policy :=
  .thresh 2 [.thresh 1 [.atom (.key 0), .atom (.older 144)],
             .thresh 2 [.atom (.key 1), .atom (.key 2), .atom (.after 500000001)]]

example : WFC exC = true ∧ threshKPos exC = true ∧ andOrNonEmpty exC = true
    ∧ trivialFree exC = true ∧ unsatFree exC = true := by decide
-- `concrete_lift_total` / `concrete_lift_refuses_iff_check`: lifted, and the result is `exP`
example : lift exC = .ok exP := by rfl
example : hasMixedPath exC = false ∧ checkTimelocks exC = true := by decide
-- … and the refusing side of the same theorems: a nested mixed path
example : andOrNonEmpty (.and [exC, .thresh 2 [.atom (.older 4194305), .atom (.key 3)]]) = true
    ∧ threshKPos (.and [exC, .thresh 2 [.atom (.older 4194305), .atom (.key 3)]]) = true
    ∧ hasMixedPath (.and [exC, .thresh 2 [.atom (.older 4194305), .atom (.key 3)]]) = true := by
  decide
-- `is_safe_exact`: `exC` is safe (two of {pk1, pk2, after} always include a key); with a 1-of-2
-- threshold instead, `older(144)` and `after(..)` satisfy it without a signature
example : (isSafeNonmalleable exC).1 = true ∧ isSafeSpec exC = true := by decide
example : WFC (.and [.or [.atom (.key 0), .atom (.older 144)],
      .thresh 1 [.atom (.key 1), .atom (.after 500000001)]]) = true
    ∧ isSafeSpec (.and [.or [.atom (.key 0), .atom (.older 144)],
      .thresh 1 [.atom (.key 1), .atom (.after 500000001)]]) = false := by decide
-- `normalized_fixes_normal_forms`, `normal_form_constants`: `exP` is a normal form
example : NF exP = true := by decide
-- `minimum_n_keys_eq_fewest_signers` / `_attained`: the keys of `exP` are pairwise distinct
example : ((atomsOf exP).filter Atom.isKey).Nodup := by decide
example : minTrueKeys exP = some 1 := by decide
example : minimumNKeys exP = some 1 := by rw [minimum_n_keys_exact]; decide
-- `at_age_exact` / `at_age_holds`: an age below the lock removes the `older` branch
example : atAge 100 exP
    = .thresh 2 [.atom (.key 0), .thresh 2 [.atom (.key 1), .atom (.key 2), .atom (.after 500000001)]] := by
  rfl
-- `sorted_normal_form`: swapping children at both levels is a `ChildPerm`, the sorted forms agree
example : ChildPerm exP (.thresh 2 [.thresh 2 [.atom (.after 500000001), .atom (.key 2), .atom (.key 1)],
    .thresh 1 [.atom (.older 144), .atom (.key 0)]]) :=
  .trans (.perm 2 (List.Perm.swap _ _ _))
    (.congr 2 (.cons (.perm 2 (show List.Perm [Policy.atom (.key 1), .atom (.key 2), .atom (.after 500000001)] _ from
        List.reverse_perm [Policy.atom (.after 500000001), .atom (.key 2), .atom (.key 1)]))
      (.cons (.perm 1 (List.Perm.swap _ _ _)) .nil)))

end MsVerif.C18
