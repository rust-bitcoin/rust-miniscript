/-
C15 — Taproot outputs commit to exactly the described script tree.

All theorems quantify over EVERY script tree `t : Tree α` (any shape, any number of leaves,
any leaf scripts) and EVERY hash algebra `H` (`leafHash`, `branch` abstract; hence SHA-256
tagged hashes in particular).  Where BIP341's sorting of the two children matters the
commutativity of `branch` is an explicit hypothesis `H.Comm`.  Where the 128 limit matters the
hypothesis is `height t ≤ 128`, and the behaviour above the limit is stated too.
`none` in the model = the Rust function returns `Err(TapTreeDepthError)` or panics
(see Model/TapTree.lean); so `… = some …` includes "no error, no panic".

Model functions (Model/TapTree.lean) ↔ Rust:
  nodesFromTapTree ↔ TrSpendInfo::nodes_from_tap_tree      spendLeaves ↔ TrSpendInfo::leaves()
  SpendInfo.fromTr ↔ TrSpendInfo::from_tr                  buildFromOps ↔ TapTreeBuilder via Tr::from_tree
  TapTree.combine / translate / fmt ↔ TapTree::combine / translate_pk / Display
-/
import MsVerif.Lemmas.TapTreeSpendInfo
import MsVerif.Lemmas.TapTreeBuilder
import MsVerif.Lemmas.TapTreeDepths
import MsVerif.Lemmas.TapTreeBip341
import MsVerif.Lemmas.TapTreeDecode

namespace MsVerif.C15
open MsVerif MsVerif.Spec MsVerif.Spec.Tree MsVerif.Tap

variable {α β ν κ ω : Type}

/-! ## T1 — the Merkle root -/

/-- T1, full node vector: all nodes in pre-order; every node except the root carries the hash
of its sibling subtree (`encWith`, Lemmas/TapTreeSpendInfo.lean) -/
theorem nodes_all (H : HashAlg α ν) (t : Tree α) :
    nodesFromTapTree H (depths t) = some (encWith H (root H t) t) := by
  have h := fold_subtree H t 0 [] []
  simp only [List.length_nil, Nat.add_zero, List.replicate_zero, List.append_nil, parents,
    List.nil_append, climb] at h
  simp [nodesFromTapTree, depths, h]

/-- T1: for every tree, `nodes_from_tap_tree` on its depth list does not panic and the root
node's `sibling_hash` (= `TrSpendInfo::merkle_root`) is the BIP341 Merkle root.  (No depth
bound is needed here.) -/
theorem nodes_root (H : HashAlg α ν) (t : Tree α) :
    (nodesFromTapTree H (depths t)).bind merkleRootOf = some (root H t) := by
  simp [nodes_all, merkleRootOf, encWith]

/-- T4: the output key is the internal key tweaked by the Merkle root of the described tree
(`tweak` = rust-bitcoin's `tap_tweak`, a parameter), and by "no root" for a key-only output -/
theorem outputKey_commits (H : HashAlg α ν) (tweak : κ → Option ν → ω) (ik : κ) (t : Tree α) :
    (SpendInfo.fromTr H tweak ik (some (depths t))).map (·.outputKey)
      = some (tweak ik (some (root H t))) ∧
    (SpendInfo.fromTr H tweak ik (none : Option (TapTree α))).map (·.outputKey)
      = some (tweak ik none) := by
  simp [SpendInfo.fromTr, nodes_all, merkleRootOf, encWith]

/-! ## T2 — control blocks -/

/-- T2 (main): for every tree of height ≤ 128 the spend-info iterator does not panic and
yields, leaf by leaf in pre-order, exactly the specification's sibling paths -/
theorem leaves_sibling_paths (H : HashAlg α ν) (t : Tree α) (ht : height t ≤ 128) :
    spendLeaves H (depths t) = some ((siblingPaths H t).map (fun p => ⟨p.1, p.2⟩)) := by
  have h := iterL_tree H t ht
  simp only [spendLeaves, nodes_all, Option.bind_some, leavesOf]
  rw [iterCollect_sim _ _ _ _ [] RS_default]
  simpa [itemsOf] using h

/-- T2: the `i`-th item yielded is the `i`-th leaf with `merkle_branch = siblingPath t i` -/
theorem item_eq_siblingPath (H : HashAlg α ν) (t : Tree α) (ht : height t ≤ 128) (i : Nat) :
    (spendLeaves H (depths t)).bind (fun items => items[i]?) =
      (siblingPath H t i).map (fun p => ⟨p.1, p.2⟩) := by
  simp [leaves_sibling_paths H t ht, siblingPath, List.getElem?_map]

/-- the specification is consistent: with a commutative branch hash every sibling path of the
specification folds to the specification's root (so T2 is not vacuous in `siblingPaths`) -/
theorem spec_paths_verify (H : HashAlg α ν) (hc : H.Comm) (t : Tree α) :
    ∀ p ∈ siblingPaths H t, verifyPath H (H.leafHash p.1) p.2 = root H t := by
  induction t with
  | leaf s => intro p hp; simp [Tree.siblingPaths] at hp; simp [hp, verifyPath, Tree.root]
  | node l r ihl ihr =>
    intro p hp
    simp only [Tree.siblingPaths, List.mem_append, List.mem_map] at hp
    rcases hp with ⟨q, hq, rfl⟩ | ⟨q, hq, rfl⟩
    · simp only [verifyPath_append, ihl q hq, Tree.root]
    · simp only [verifyPath_append, ihr q hq, Tree.root]
      exact hc _ _

/-- T2: every control block proves its leaf against the Merkle root (BIP341 validation:
fold the path into the leaf hash), and is within the 128 limit -/
theorem controlBlock_verifies (H : HashAlg α ν) (hc : H.Comm) (t : Tree α) (ht : height t ≤ 128) :
    ∃ items, spendLeaves H (depths t) = some items ∧
      ∀ it ∈ items, verifyPath H (H.leafHash it.leaf) it.merkleBranch = root H t ∧
        it.merkleBranch.length ≤ maxDepth := by
  refine ⟨_, leaves_sibling_paths H t ht, ?_⟩
  intro it hit
  simp only [List.mem_map] at hit
  obtain ⟨p, hp, rfl⟩ := hit
  refine ⟨spec_paths_verify H hc t p hp, ?_⟩
  have hd := siblingPaths_depths H t 0
  have hm : (p.2.length + 0, p.1) ∈ depthsFrom 0 t := by
    rw [← hd]; exact List.mem_map.mpr ⟨p, hp, rfl⟩
  have := depthsFrom_le t 0 _ hm
  simp [maxDepth] at this ⊢; omega

/-- T2/T5: `TrSpendInfo::leaves()` yields the same leaves, in the same order, with the same
depths (`depth() = merkle_branch.len()`) as `Tr::leaves()` / `TapTree::leaves()` -/
theorem leaves_order_depths (H : HashAlg α ν) (t : Tree α) (ht : height t ≤ 128) :
    (spendLeaves H (depths t)).map (fun items => items.map (fun it => (it.depth, it.leaf)))
      = some (depths t) := by
  rw [leaves_sibling_paths H t ht]
  have := siblingPaths_depths H t 0
  simp only [Nat.add_zero] at this
  simp [Item.depth, List.map_map, Function.comp_def, depths, this]

/-! ## T3 — bitmaps, builder, combine -/

/-- T3: `BitStack128` refines a list of booleans while at most 128 bits are pushed
(`RS` = refinement relation, Lemmas/TapTreeBits.lean); beyond that `push` is the Rust panic -/
theorem bitstack128_refines_list (s : BitStack128) (l : List Bool) (h : RS s l) :
    (∀ b, l.length < 128 → ∃ s', s.push b = some s' ∧ RS s' (b :: l)) ∧
    (∀ b, ¬ l.length < 128 → s.push b = none) ∧
    (∀ x l', l = x :: l' → ∃ s', s.pop = some (x, s') ∧ RS s' l') ∧
    (l = [] → s.pop = none) ∧ RS BitStack128.default [] := by
  refine ⟨fun b hl => h.push_some hl b, fun b hl => h.push_none hl b, ?_, ?_, RS_default⟩
  · intro x l' e; subst e; exact h.pop_cons
  · intro e; subst e; exact h.pop_nil

/-- T3: parsing `{…}` with `TapTreeBuilder` (pre-order walk `opsOf t`, then `finalize`)
rebuilds exactly `depths t` for every tree of height ≤ 128 — the depth-128 special case
included — and returns the depth error for every deeper tree -/
theorem builder_inverse (t : Tree α) :
    buildFromOps (opsOf t) = if height t ≤ 128 then some (depths t) else none := by
  have hs : Sim (Builder.new : Builder α) ([], []) := sim_new
  have ht := runL_tree t ([], []) (by simp)
  simp only [List.length_nil, Nat.zero_add, List.nil_append, unwindL] at ht
  rcases run_sim (opsOf t) _ _ hs with ⟨h1, h2⟩ | ⟨b', st', h1, h2, h3⟩
  · rw [h2] at ht
    by_cases c : height t ≤ 128
    · simp [c] at ht
    · simp [buildFromOps, h1, c]
  · rw [h2] at ht
    by_cases c : height t ≤ 128
    · simp only [c, if_true, Option.some.injEq] at ht
      have hd : b'.depthsLeaves = depthsFrom 0 t := by rw [h3.1, ht]
      have hne := depthsFrom_ne_nil t 0
      simp [buildFromOps, h1, Builder.finalize, hd, hne, c, depths]
    · simp [c] at ht

/-- T3: the builder's height never exceeds 128, so its `1 << current_height` shifts are by at
most 127 (the loop is entered only below 128) -/
theorem builder_height_le (ops : List (BOp α)) (b : Builder α)
    (h : Builder.run ops Builder.new = some b) : b.currentHeight ≤ 128 := by
  rcases run_sim ops _ _ (sim_new : Sim (Builder.new : Builder α) ([], []))
    with ⟨h1, _⟩ | ⟨b'', st', h1, _, h3⟩
  · rw [h1] at h; cases h
  · rw [h1] at h; cases h
    exact h3.height_le

/-- T3: `TapTree::combine` is `Tree.node` on depth lists; it errors iff the combined tree would
be deeper than 128 -/
theorem combine_depths (l r : Tree α) :
    TapTree.combine (depths l) (depths r) =
      if height (Tree.node l r) ≤ 128 then some (depths (Tree.node l r)) else none := by
  show (depths l ++ depths r).mapM bump = _
  by_cases c : height (Tree.node l r) ≤ 128
  · simp only [c, if_true]
    simp only [height] at c
    rw [mapM_bump_ok]
    · simp [depths, depthsFrom, depthsFrom_succ]
    · intro p hp
      simp only [List.mem_append, depths] at hp
      rcases hp with hp | hp
      · have := depthsFrom_le _ _ _ hp; omega
      · have := depthsFrom_le _ _ _ hp; omega
  · simp only [c, if_false]
    simp only [height] at c
    apply mapM_bump_fail
    by_cases hlr : height l ≤ height r
    · obtain ⟨p, hp, he⟩ := depthsFrom_max r 0
      exact ⟨p, by simp [depths, hp], by omega⟩
    · obtain ⟨p, hp, he⟩ := depthsFrom_max l 0
      exact ⟨p, by simp [depths, hp], by omega⟩

theorem leaf_depths (s : α) : TapTree.leaf s = depths (Tree.leaf s) := rfl

/-! ## T5 — the tree survives formatting, parsing, translation -/

/-- a depth list describes at most one tree: what is committed to is *exactly* the tree -/
theorem depths_injective (t₁ t₂ : Tree α) (h : depths t₁ = depths t₂) : t₁ = t₂ :=
  (depthsFrom_prefix_inj t₁ t₂ 0 [] [] (congrArg (· ++ []) h)).1

/-- T5: `Display` prints the depth list of a tree as that tree's `{l,r}` text -/
theorem display_tree (t : Tree α) : TapTree.fmt (depths t) = tokens t := by
  have := fmt_subtree t 0 [] []
  simp only [List.length_nil, Nat.add_zero, List.replicate_zero, List.nil_append, fmtBump,
    List.append_nil, List.isEmpty_nil, if_true] at this
  simp [TapTree.fmt, depths, this]

/-- T5: formatting then parsing (the tokens of `t` are walked in pre-order as `opsOf t`) gives
back the same `TapTree` value -/
theorem parse_display_roundtrip (t : Tree α) (ht : height t ≤ 128) :
    TapTree.fmt (depths t) = tokens t ∧ buildFromOps (opsOf t) = some (depths t) := by
  refine ⟨display_tree t, ?_⟩
  simp [builder_inverse, ht]

/-- T5: `translate_pk` keeps every depth and the order, and maps the leaves pointwise -/
theorem translate_preserves (f : α → Option β) (t : TapTree α) (t' : TapTree β)
    (h : TapTree.translate f t = some t') :
    t'.map (·.1) = t.map (·.1) ∧ t'.map (fun p => some p.2) = t.map (fun p => f p.2) := by
  induction t generalizing t' with
  | nil => simp [TapTree.translate] at h; simp [h]
  | cons p t ih =>
    simp only [TapTree.translate, List.mapM_cons] at h
    cases hf : f p.2 with
    | none => simp [hf] at h
    | some s =>
      cases hr : List.mapM (fun p => Option.map (fun s => (p.1, s)) (f p.2)) t with
      | none => simp [hf, hr] at h
      | some t'' =>
        simp [hf, hr] at h
        have := ih t'' hr
        subst h
        simp [this.1, this.2, hf]

/-- T5, error propagation: `Tr::translate_pk` returns a descriptor exactly when every leaf
translates (translator and context check) and the internal key does; otherwise it returns an
error and nothing else -/
theorem translate_pk_ok_iff (f : α → Except TrErr β) (fk : κ → Except TrErr ω) (ik : κ)
    (t : TapTree α) :
    (∃ r, trTranslate f fk ik (some t) = .ok r) ↔
      (∀ p ∈ t, ∃ s, f p.2 = .ok s) ∧ ∃ k, fk ik = .ok k := by
  rw [trTranslate_some, ← leafLoop_ok_iff]
  cases hl : leafLoop f t with
  | error e => simp
  | ok t' => cases hk : fk ik <;> simp

/-- T5: when it succeeds, every depth and the order are kept and leaf `i` is the translation of
leaf `i`.  (Which error is reported when it fails — the first in translation order, leaves left to right, then
the internal key — is shown on the example below, not by a theorem.) -/
theorem translate_pk_ok_preserves (f : α → Except TrErr β) (fk : κ → Except TrErr ω) (ik : κ)
    (t : TapTree α) (k : ω) (t' : Option (TapTree β))
    (h : trTranslate f fk ik (some t) = .ok (k, t')) :
    ∃ t'', t' = some t'' ∧ fk ik = .ok k ∧ t''.map (·.1) = t.map (·.1) ∧
      t''.map (fun p => Except.ok p.2) = t.map (fun p => f p.2) := by
  rw [trTranslate_some] at h
  cases hl : leafLoop f t with
  | error e => simp [hl] at h
  | ok t'' =>
    cases hk : fk ik with
    | error e => simp [hl, hk] at h
    | ok k' =>
      simp [hl, hk] at h
      obtain ⟨rfl, rfl⟩ := h
      exact ⟨t'', rfl, rfl, leafLoop_ok f t t'' hl⟩

example : trTranslate (fun (i : Nat) => if i = 1 then .error .outer else .ok (i + 10))
    (fun (_ : Nat) => (.error .translator : Except TrErr Nat)) 0 (some [(1, 0), (1, 1)])
    = .error .outer := by rfl
example : trTranslate (fun (i : Nat) => (.ok (i + 10) : Except TrErr Nat))
    (fun (k : Nat) => (.ok k : Except TrErr Nat)) 7 (some [(1, 0), (1, 1)])
    = .ok (7, some [(1, 10), (1, 11)]) := by rfl

/-- the decoder the PSBT judge uses (`Tree.ofDepths`, a recursive-descent reading of a BIP 371
depth list) inverts `depths`: a depth list that comes from a tree decodes to exactly that tree -/
theorem ofDepths_inverts_depths (t : Tree α) : Tree.ofDepths (depths t) = some t := by
  obtain ⟨p, hp, he⟩ := depthsFrom_max t 0
  have hge : p.1 ≤ maxDepthIn (depths t) := le_maxDepthIn hp
  have hfuel : height t < maxDepthIn (depths t) + 2 := by omega
  have := parseAt_depthsFrom t (maxDepthIn (depths t) + 2) 0 [] hfuel
  simp only [List.append_nil] at this
  simp [ofDepths, depths, this] at *

example : Tree.ofDepths [(1, 7), (2, 8), (2, 9)] = some (.node (.leaf 7) (.node (.leaf 8) (.leaf 9))) := by
  decide +kernel
example : Tree.ofDepths [(1, 7), (2, 8)] = none := by decide +kernel

/-! ## Every reachable `TapTree` value is the depth list of a tree

`TapTree` has no public constructor from a raw depth list: values arise from `TapTree::leaf`,
`TapTree::combine` and `TapTreeBuilder` fed with the pre-order walk of a `{…}` expression.  The
theorems above are stated for `depths t`; `reachable_is_tree` shows that this covers every
value the API can produce, and the Kraft equality is the arithmetic invariant such lists obey. -/

/-- the `TapTree` values the public API can construct -/
inductive Reachable : TapTree α → Prop where
  | leaf (s : α) : Reachable (TapTree.leaf s)
  | combine (l r tt : TapTree α) : Reachable l → Reachable r →
      TapTree.combine l r = some tt → Reachable tt
  | build (t : Tree α) (tt : TapTree α) : buildFromOps (opsOf t) = some tt → Reachable tt

/-- every reachable `TapTree` is the depth list of exactly one script tree, of height ≤ 128 -/
theorem reachable_is_tree (tt : TapTree α) (h : Reachable tt) :
    ∃ t : Tree α, height t ≤ 128 ∧ tt = depths t ∧ ∀ t', tt = depths t' → t' = t := by
  have key : ∃ t : Tree α, height t ≤ 128 ∧ tt = depths t := by
    induction h with
    | leaf s => exact ⟨Tree.leaf s, by simp [height], rfl⟩
    | combine l r tt _ _ hc ihl ihr =>
      obtain ⟨tl, _, rfl⟩ := ihl
      obtain ⟨tr, _, rfl⟩ := ihr
      rw [combine_depths] at hc
      obtain ⟨hh, e⟩ := Option.ite_some_none_eq_some.mp hc
      exact ⟨Tree.node tl tr, hh, e.symm⟩
    | build t tt hb =>
      rw [builder_inverse] at hb
      obtain ⟨hh, e⟩ := Option.ite_some_none_eq_some.mp hb
      exact ⟨t, hh, e.symm⟩
  obtain ⟨t, ht, rfl⟩ := key
  exact ⟨t, ht, rfl, fun t' e => depths_injective t' t e.symm⟩

/-- Kraft's equality: for every tree and every horizon `H ≥ height t`,
`Σ_leaves 2^(H - depth) = 2^H` -/
theorem kraft_equality (t : Tree α) (H : Nat) (h : height t ≤ H) :
    kraft H (depths t) = 2 ^ H := by
  have := kraft_depthsFrom t 0 H (by omega)
  simpa [depths] using this

/-- a tree has at least one leaf and at most `2^height` (so at most `2^128` within the depth limit) -/
theorem leaves_count_bounds (t : Tree α) :
    1 ≤ (depths t).length ∧ (depths t).length ≤ 2 ^ height t := by
  refine ⟨?_, depths_length_le t⟩
  have := Tree.depthsFrom_ne_nil t 0
  unfold depths
  cases h : depthsFrom 0 t with
  | nil => exact absurd h this
  | cons _ _ => simp

/-- a tree's depth list is never a proper prefix of another tree's depth list -/
theorem depths_no_proper_prefix (t₁ t₂ : Tree α) (rest : List (Nat × α))
    (h : depths t₁ ++ rest = depths t₂) : rest = [] ∧ t₁ = t₂ :=
  (depthsFrom_prefix_inj t₁ t₂ 0 rest [] (h.trans (List.append_nil _).symm)).symm

/-- the reachable closure is not vacuous: combining a leaf with a built tree is reachable -/
example : Reachable (α := Nat) [(1, 7), (2, 8), (2, 9)] :=
  .combine (TapTree.leaf 7) [(1, 8), (1, 9)] _ (.leaf 7)
    (.build (.node (.leaf 8) (.leaf 9)) _ (by decide +kernel)) (by decide +kernel)
example : kraft 3 ([(1, 7), (2, 8), (2, 9)] : List (Nat × Nat)) = 2 ^ 3 := by decide +kernel

/-! ## Real hashes: the byte-level BIP341 instance (Spec/Bip341.lean)

Nothing above assumes that different leaves carry different scripts: `Tree α` may repeat a leaf
any number of times, at equal or different depths, and every statement (root, sibling paths,
order, depths) is about leaf POSITIONS.  The theorems below instantiate the abstract hashes
with tagged SHA-256. -/

/-- BIP341's TapBranch hash sorts its two children, hence is commutative: the `H.Comm`
hypothesis of `controlBlock_verifies` holds for the real hash functions -/
theorem bip341_branch_comm : Bip341.alg.Comm := fun a b => Bip341.tapBranchHash_comm a b

/-- for every tree of scripts (repetitions allowed) of height ≤ 128: every yielded control-block
path, put into ANY control block with the tapscript leaf version, makes BIP341's script-path
computation (`committedRoot`: TapLeaf hash of the script folded through the path with sorted
TapBranch hashes) arrive at the Merkle root that `merkle_root()` reports and that the output
key is tweaked with (`outputKey_commits`) -/
theorem controlBlock_verifies_bip341 (t : Tree Hash.Bytes) (ht : height t ≤ 128) :
    ∃ items, spendLeaves Bip341.alg (depths t) = some items ∧
      (nodesFromTapTree Bip341.alg (depths t)).bind merkleRootOf = some (root Bip341.alg t) ∧
      ∀ it ∈ items, ∀ (odd : Bool) (ik : Hash.Bytes),
        Bip341.committedRoot ⟨Bip341.tapscriptVersion, odd, ik, it.merkleBranch⟩ it.leaf
          = root Bip341.alg t ∧ it.merkleBranch.length ≤ maxDepth := by
  obtain ⟨items, h1, h2⟩ := controlBlock_verifies Bip341.alg bip341_branch_comm t ht
  exact ⟨items, h1, nodes_root Bip341.alg t, fun it hit _ _ => h2 it hit⟩

/-- the one-pass (root, sibling paths) function the driver's `trcommit` judge evaluates is the
specification's `root` and `siblingPaths` -/
theorem judge_rootAndPaths (H : HashAlg α ν) (t : Tree α) :
    rootAndPaths H t = (root H t, siblingPaths H t) := by
  induction t with
  | leaf s => rfl
  | node l r ihl ihr => simp [rootAndPaths, ihl, ihr, root, siblingPaths]

/-! ## Non-vacuity: concrete instances -/

/-- a tree with REPEATED leaves: `{{0,1},{1,{0,0}}}` -/
def exDup : Tree Nat :=
  .node (.node (.leaf 0) (.leaf 1)) (.node (.leaf 1) (.node (.leaf 0) (.leaf 0)))
example : depths exDup = [(2, 0), (2, 1), (2, 1), (3, 0), (3, 0)] := by decide +kernel
example : (spendLeaves termAlg (depths exDup)).map (fun l => l.map (fun it => (it.depth, it.leaf))) =
    some (depths exDup) := leaves_order_depths termAlg exDup (by decide +kernel)
example : (spendLeaves termAlg (depths exDup)).map (fun l => l.map (·.merkleBranch)) =
    some [[.leaf 1, .branch (.leaf 1) (.branch (.leaf 0) (.leaf 0))],
          [.leaf 0, .branch (.leaf 1) (.branch (.leaf 0) (.leaf 0))],
          [.branch (.leaf 0) (.leaf 0), .branch (.leaf 0) (.leaf 1)],
          [.leaf 0, .leaf 1, .branch (.leaf 0) (.leaf 1)],
          [.leaf 0, .leaf 1, .branch (.leaf 0) (.leaf 1)]] := by decide +kernel
example : height (Tree.node (Tree.leaf [0x00]) (Tree.leaf [0x00]) : Tree Hash.Bytes) ≤ 128 := by decide +kernel

/-- `{{0,1},{2,{3,4}}}` -/
def exTree : Tree Nat :=
  .node (.node (.leaf 0) (.leaf 1)) (.node (.leaf 2) (.node (.leaf 3) (.leaf 4)))

/-- a (toy) commutative hash algebra, to instantiate the `H.Comm` hypothesis -/
def sumAlg : HashAlg Nat Nat := ⟨fun s => s + 1, fun a b => a + b⟩
theorem sumAlg_comm : sumAlg.Comm := fun a b => Nat.add_comm a b

example : depths exTree = [(2, 0), (2, 1), (2, 2), (3, 3), (3, 4)] := by decide +kernel
example : height exTree ≤ 128 := by decide +kernel
example : (nodesFromTapTree termAlg (depths exTree)).bind merkleRootOf =
    some (.branch (.branch (.leaf 0) (.leaf 1)) (.branch (.leaf 2) (.branch (.leaf 3) (.leaf 4)))) := by
  decide +kernel
example : (spendLeaves termAlg (depths exTree)).map (fun l => l.map (·.merkleBranch)) =
    some [[.leaf 1, .branch (.leaf 2) (.branch (.leaf 3) (.leaf 4))],
          [.leaf 0, .branch (.leaf 2) (.branch (.leaf 3) (.leaf 4))],
          [.branch (.leaf 3) (.leaf 4), .branch (.leaf 0) (.leaf 1)],
          [.leaf 4, .leaf 2, .branch (.leaf 0) (.leaf 1)],
          [.leaf 3, .leaf 2, .branch (.leaf 0) (.leaf 1)]] := by decide +kernel
example : ∃ items, spendLeaves sumAlg (depths exTree) = some items ∧ items.length = 5 :=
  ⟨_, leaves_sibling_paths sumAlg exTree (by decide +kernel), by decide⟩
example : ∃ items, spendLeaves sumAlg (depths exTree) = some items ∧
    ∀ it ∈ items, verifyPath sumAlg (sumAlg.leafHash it.leaf) it.merkleBranch = root sumAlg exTree ∧
      it.merkleBranch.length ≤ maxDepth :=
  controlBlock_verifies sumAlg sumAlg_comm exTree (by decide +kernel)
example : TapTree.fmt (depths exTree) = tokens exTree := by decide +kernel
example : buildFromOps (opsOf exTree) = some (depths exTree) := by decide +kernel
example : TapTree.combine (depths (Tree.leaf 7)) (depths exTree) =
    some [(1, 7), (3, 0), (3, 1), (3, 2), (4, 3), (4, 4)] := by decide +kernel

end MsVerif.C15
