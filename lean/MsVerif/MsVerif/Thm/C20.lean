/-
C20 — Key translation and key iteration preserve structure.

Model (Model/Translate.lean) ↔ Rust:
  translatePk     ↔ `Miniscript::translate_pk` / `translate_pk_ctx` (src/miniscript/mod.rs): the
                    fold over `rtl_post_order_iter` with one `translated.pop().unwrap()` per child
                    in ARGUMENT order (`AndOr`: three pops, `Thresh`: `map_ref` pops per child),
                    translator calls on the node's own atoms, `Miniscript::from_ast` per node
  substituteRawPkh↔ `Miniscript::substitute_raw_pkh`
  forEachKey / forAnyKey ↔ `ForEachKey for Miniscript` (loop over `pre_order_iter`, short-circuit)
  Ms.iterNodes / Ms.iterPkLit ↔ `Miniscript::iter` (path stack, `get_nth_child`) / `iter_pk` (`get_nth_pk`)
The translator is `&mut`: its methods run in `TrM σ ε = StateT σ (Except (TrErr ε))`, so the
ORDER of the calls (right-to-left post-order) is part of every statement.  `chk` stands for
`Miniscript::from_ast` in the target context (type check + `Ctx::check_global_validity`).

Policies (Model/TranslatePolicy.lean), section P below:
  polTranslate    ↔ `policy::concrete::Policy::translate_pk` and (on policies without `and` / `or`
                    nodes, `PPol.isSemantic`) `policy::semantic::Policy::translate_pk`: fold over
                    `rtl_post_order_iter`, `And`: n pops, `Or`: weight of the ORIGINAL child at
                    that position with the popped child, `Thresh`: `map_ref` pops, k kept
  translateUnsat  ↔ `Concrete::translate_unsatisfiable_pk`
  polForEachKey / polForAnyKey / polKeys ↔ `ForEachKey for Policy` (both types), `Concrete::keys`

Descriptors (Model/TranslateDesc.lean over the shapes of Model/Descriptor.lean), section D:
  descTranslate ↔ `Descriptor::translate_pk` through Bare / Pkh / Wpkh / Wsh / Sh / Tr
  Desc.iterPk   ↔ `Descriptor::iter_pk` (src/descriptor/iter.rs, the `PkIter` state machine)

Thresholds (Model/ThresholdOps.lean), section Th:
  Thr.map / Thr.translate ↔ `Threshold::{map, map_ref}` / `Threshold::{translate, translate_ref}` (src/primitives/threshold.rs);
                    the `Nat` returned is the number of closure calls

All theorems are for EVERY miniscript `ms` / policy `p` / descriptor `d` (no bound on size, depth, width).
-/
import MsVerif.Lemmas.CmpEq
import MsVerif.Lemmas.TranslateEncode
import MsVerif.Lemmas.TranslatePolicy
import MsVerif.Lemmas.TranslateDesc
import MsVerif.Model.ThresholdOps

namespace MsVerif.C20
open MsVerif MsVerif.TreeWalk MsVerif.CmpEq MsVerif.TranslateLemmas MsVerif.TranslateEncode

variable {σ ε : Type}

def pk (k : Key) : Ms := .check (.pkK k)
/-- `andor(pk(0), thresh(2,pk(1),s:pk(2),s:pk_h(3)), or_b(multi(1,4,5), s:sha256(0)))`:
asymmetric children everywhere -/
def w : Ms :=
  .andOr (pk 0) (.thresh 2 (MsList.ofList [pk 1, .swap (pk 2), .swap (.check (.pkH 3))]))
    (.orB (.multi 1 [4, 5]) (.swap (.hash .sha256 0)))
/-- fails on key 2 and on key 4 -/
def failOn24 : Key → Except Key Key := fun k => if k = 2 ∨ k = 4 then .error k else .ok (k + 10)

/-! ## T1 — the stack-based rebuild is the structural map -/

/-- T1 (main): for every translator (stateful, fallible), every `from_ast` check and every
miniscript, the fold over the right-to-left post-order traversal with a stack equals the
structural translation `Ms.trRtl` — same result, same errors, same order of translator calls
(children right to left, then the node's own atoms left to right, then the node's check).
In particular no `pop().unwrap()` ever panics. -/
theorem translate_is_map (t : Translator σ ε) (chk : Ms → Bool) (ms : Ms) :
    translatePk t chk ms = ms.trRtl t chk := translatePk_eq t chk ms

/-- T1 for a pure total key/hash mapping: the result is the structural `Ms.mapKeys f g` if
every rebuilt node passes `from_ast`, and `OuterError` otherwise — nothing else can happen
(a translation fails ONLY IF the mapping fails or a rebuilt node is illegal in the context) -/
theorem translate_pure (f : Key → Key) (g : HashKind → Nat → Nat) (chk : Ms → Bool) (ms : Ms) :
    translatePk (pureT (σ := σ) (ε := ε) f g) chk ms =
      if (ms.mapKeys f g).pre.all chk then pure (ms.mapKeys f g) else throw .outerError :=
  TranslateDesc.translatePk_pure f g chk ms

/-- T1, failure order: for a stateless fallible mapping and no context re-check, the
translation fails iff the mapping fails on some atom, with the error of the FIRST failing atom
in translator-call order `ms.atomsRtl` (right-to-left post-order); otherwise it returns
`Ms.mapKeys` -/
theorem translate_first_failure (f : Key → Except ε Key) (g : HashKind → Nat → Except ε Nat) (ms : Ms) :
    translatePk (statelessT (σ := σ) f g) (fun _ => true) ms =
      match firstErr (ms.atomsRtl.map (atomRes f g)) with
      | some e => throw (.translatorErr e)
      | none => pure (ms.mapKeys (fOr f) (gOr g)) := by
  rw [translate_is_map, trRtl_stateless]; rfl

/-- the translator-call order of the witness: right child first, `thresh` children last to
first, `multi` keys left to right -/
example : w.atomsRtl =
    [.hash .sha256 0, .key 4, .key 5, .key 3, .key 2, .key 1, .key 0] := by decide

/-- on the witness the mapping fails on keys 2 and 4; key 4 is reached first -/
example : firstErr (w.atomsRtl.map (atomRes failOn24 (fun _ h => .ok h))) = some 4 := by decide
example : translatePk (statelessT (σ := Unit) failOn24 (fun _ h => .ok h)) (fun _ => true) w
    = throw (.translatorErr 4) := by
  rw [translate_first_failure]
  have : firstErr (w.atomsRtl.map (atomRes failOn24 (fun _ h => .ok h))) = some 4 := by decide
  rw [this]

/-- `Clone` is the same fold without translator and check (`C19.clone_eq` is the same statement) -/
theorem clone_is_identity (ms : Ms) : msClone ms = .ok ms := msClone_eq ms

/-- `substitute_raw_pkh` (the same fold, `RawPkH` leaves looked up in a map, no re-check) is
the structural substitution and never panics -/
theorem substitute_raw_pkh_is_map (pkMap : Nat → Option Key) (ms : Ms) :
    substituteRawPkh pkMap ms = .ok (ms.substRaw pkMap) := by
  have := substLoop_forest pkMap [ms] [] []
  simp only [List.reverse_singleton, List.flatMap_singleton, List.append_nil] at this
  unfold substituteRawPkh
  rw [rtlPostOrder_eq, this]
  rfl

/-! ## T2 — functor laws -/

/-- identity mapping: the structural map is the identity … -/
theorem mapKeys_identity (ms : Ms) : ms.mapKeys id (fun _ h => h) = ms := mapKeys_id ms

/-- … so translating a miniscript all of whose nodes are legal with the identity translator
returns the same miniscript -/
theorem translate_identity (chk : Ms → Bool) (ms : Ms) (h : ms.pre.all chk = true) :
    translatePk (pureT (σ := σ) (ε := ε) id (fun _ h => h)) chk ms = pure ms := by
  rw [translate_pure, mapKeys_identity, h]; rfl

theorem mapKeys_compose (f f' : Key → Key) (g g' : HashKind → Nat → Nat) (ms : Ms) :
    (ms.mapKeys f g).mapKeys f' g' = ms.mapKeys (f' ∘ f) (fun kind h => g' kind (g kind h)) :=
  mapKeys_comp f f' g g' ms

/-- translation composes: if the intermediate object is legal, translating with `f` and then
with `f'` is translating with `f' ∘ f` -/
theorem translate_compose (f f' : Key → Key) (g g' : HashKind → Nat → Nat) (chk : Ms → Bool) (ms : Ms)
    (hmid : (ms.mapKeys f g).pre.all chk = true) :
    (translatePk (pureT (σ := σ) (ε := ε) f g) chk ms >>= translatePk (pureT f' g') chk)
      = translatePk (pureT (f' ∘ f) (fun kind h => g' kind (g kind h))) chk ms := by
  rw [translate_pure f g, hmid]
  simp only [if_true, pure_bind]
  rw [translate_pure, translate_pure, mapKeys_compose]

example : (w.mapKeys (· + 1) (fun _ h => h)).mapKeys (· * 2) (fun _ h => h + 1)
    = w.mapKeys (fun k => (k + 1) * 2) (fun _ h => h + 1) := by decide

/-! ## T3 — the script of the translated object is the script with the keys substituted -/

/-- for every key table `env`: encoding the key-substituted miniscript equals encoding the
original miniscript with every atom `k` serialised as the mapped key `f k` (`TranslateEncode.KeyEnv.comap env f g`:
`ser`, `sortKey` (BIP67 order of `sortedmulti`), `pkh` and hash values looked up through the
mapping) — including the position of sorted keys -/
theorem encode_translate (env : KeyEnv) (ctx : Ctx) (f : Key → Key) (g : HashKind → Nat → Nat) (ms : Ms) :
    encode env ctx (ms.mapKeys f g) = encode (KeyEnv.comap env f g) ctx ms :=
  encode_mapKeys env ctx f g ms

/-- in particular the script bytes -/
theorem encodeBytes_translate (env : KeyEnv) (ctx : Ctx) (f : Key → Key) (g : HashKind → Nat → Nat) (ms : Ms) :
    encodeBytes env ctx (ms.mapKeys f g) = encodeBytes (KeyEnv.comap env f g) ctx ms :=
  encodeBytes_mapKeys env ctx f g ms

/-! ## T4 — types are invariant -/

/-- the correctness/malleability type does not depend on the keys at all -/
theorem type_translate (f : Key → Key) (g : HashKind → Nat → Nat) (ms : Ms) :
    typeOf (ms.mapKeys f g) = typeOf ms := typeOf_mapKeys f g ms

/-- the extra data (sizes, op counts, time locks) is invariant under every mapping that
preserves the key kind (compressed ↔ uncompressed is the only thing `ExtData` reads) -/
theorem ext_translate (env : KeyEnv) (ctx : Ctx) (f : Key → Key) (g : HashKind → Nat → Nat)
    (hk : ∀ k, isUnc env (f k) = isUnc env k) (ms : Ms) :
    extOf env ctx (ms.mapKeys f g) = extOf env ctx ms := extOf_mapKeys env ctx f g hk ms

example : typeOf (w.mapKeys (· + 7) (fun _ h => h + 1)) = typeOf w := type_translate _ _ _

/-! ## T5 — the key iterators visit exactly the keys of the string form, in order -/

/-- `for_each_key(pred)` calls `pred` on the keys in pre-order (= the order of the string form)
and stops at the first key that fails: visited keys and result are those of `Iterator::all`
over `ms.keys` -/
theorem for_each_key_eq_keys (pred : Key → Bool) (ms : Ms) :
    forEachKey pred ms = allVisit pred ms.keys := forEachKey_eq pred ms

/-- with a predicate that never fails, every key is visited exactly once per occurrence -/
theorem for_each_key_visits_all (ms : Ms) : forEachKey (fun _ => true) ms = (ms.keys, true) := by
  rw [for_each_key_eq_keys]
  generalize ms.keys = l
  induction l with
  | nil => rfl
  | cons k ks ih => simp [allVisit, ih]

/-- `for_any_key(pred)` = `!for_each_key(!pred)`: stops at the first hit -/
theorem for_any_key_eq_keys (pred : Key → Bool) (ms : Ms) :
    forAnyKey pred ms = ((allVisit (fun k => !pred k) ms.keys).1, !(allVisit (fun k => !pred k) ms.keys).2) := by
  unfold forAnyKey
  rw [for_each_key_eq_keys]

/-- `Miniscript::branches` (its own child table), `get_nth_child` and `get_nth_pk` agree with
the children / keys of the node: the three tables in src/miniscript/iter.rs are consistent -/
theorem branches_eq_children (ms : Ms) : ms.branches = ms.asNode.children := branches_eq ms
theorem get_nth_child_eq (ms : Ms) (n : Nat) : ms.getNthChild n = ms.branches[n]? := by
  rw [getNthChild_eq, branches_eq]
theorem get_nth_pk_eq (ms : Ms) (n : Nat) : ms.getNthPk n = ms.keysAt[n]? := getNthPk_eq ms n

/-- `Miniscript::iter` (path stack + `get_nth_child`) yields the nodes in pre-order -/
theorem iter_eq_pre (ms : Ms) : ms.iterNodes = ms.pre := iterNodes_eq ms

/-- `iter_pk` (`get_nth_pk(0), get_nth_pk(1), …` on every node of `iter`) yields exactly
`ms.keys`: the keys of `pk_k`, `pk_h`, `multi`, `sortedmulti`, `multi_a`, `sortedmulti_a` in the
order of the string form, with multiplicity -/
theorem iter_pk_eq_keys (ms : Ms) : ms.iterPkLit = ms.keys := iterPk_eq ms

/-- a key-substituted miniscript has the substituted key list (same positions, same
multiplicities) -/
theorem keys_translate (f : Key → Key) (g : HashKind → Nat → Nat) (ms : Ms) :
    (ms.mapKeys f g).iterPkLit = ms.iterPkLit.map f := by
  rw [iter_pk_eq_keys, iter_pk_eq_keys]
  exact keysPre_mapKeys f g ms

example : w.iterPkLit = [0, 1, 2, 3, 4, 5] := by decide
example : forEachKey (fun k => k != 3) w = ([0, 1, 2, 3], false) := by decide
example : forAnyKey (fun k => k == 4) w = ([0, 1, 2, 3, 4], true) := by decide

/-! ## P — policies (concrete and semantic) -/

section Policies
open MsVerif.TranslatePolicy

/-- `or(9@pk(0), 1@and(pk(1), thresh(2, pk(2), sha256(0), pk(0), older(5))))`: unequal odds,
mixed connectives, k < n, a repeated key -/
def wp : PPol :=
  .or (.cons 9 (.key 0) (.cons 1 (.and (.cons 0 (.key 1) (.cons 0
    (.thresh 2 (.cons 0 (.key 2) (.cons 0 (.hash .sha256 0) (.cons 0 (.key 0) (.cons 0 (.older 5) .nil)))))
    .nil))) .nil))

/-- P1 (main): for every translator (stateful, fallible) and every policy, the fold over the
right-to-left post-order with a stack equals the structural translation `PPol.trRtl`: same
result, same errors, same order of translator calls; no `pop().unwrap()` panics; every `or`
weight stays attached to the child at its position, every `thresh` keeps its k -/
theorem policy_translate_is_map (t : Translator σ ε) (p : PPol) :
    polTranslate t p = p.trRtl t := by
  unfold polTranslate
  rw [TranslatePolicy.rtlPostOrder_eq]
  have := polLoop_pol t p [] []
  simp only [List.append_nil] at this
  rw [this]
  simp [polLoop, ppop]

/-- P1 for a pure total mapping: the translation always succeeds and is `PPol.mapKeys` -/
theorem policy_translate_pure (f : Key → Key) (g : HashKind → Nat → Nat) (p : PPol) :
    polTranslate (pureT (σ := σ) (ε := ε) f g) p = pure (p.mapKeys f g) := by
  rw [policy_translate_is_map, TranslatePolicy.trRtl_pure]

/-- structure is preserved exactly: tree shape, node kinds, `or` weights in the same positions,
thresholds k, locks and hash kinds of the translated policy are those of the original -/
theorem policy_structure_preserved (f : Key → Key) (g : HashKind → Nat → Nat) (p : PPol) :
    (p.mapKeys f g).skeleton = p.skeleton := by
  unfold PPol.skeleton; rw [TranslatePolicy.mapKeys_comp]; rfl

/-- a semantic policy (no `and` / `or` nodes) translates to a semantic policy: the model of
`Concrete::translate_pk` restricted to thresholds is the model of `Semantic::translate_pk` -/
theorem policy_semantic_closed (f : Key → Key) (g : HashKind → Nat → Nat) (p : PPol) :
    (p.mapKeys f g).isSemantic = p.isSemantic := isSemantic_mapKeys f g p

/-- a translation fails ONLY IF the mapping fails, with the error of the FIRST failing atom in
the code's visiting order `p.atomsRtl` (right-to-left post-order); otherwise it is `mapKeys` -/
theorem policy_translate_first_failure (f : Key → Except ε Key) (g : HashKind → Nat → Except ε Nat)
    (p : PPol) :
    polTranslate (statelessT (σ := σ) f g) p =
      match firstErr (p.atomsRtl.map (atomRes f g)) with
      | some e => throw (.translatorErr e)
      | none => pure (p.mapKeys (fOr f) (gOr g)) := by
  rw [policy_translate_is_map, TranslatePolicy.trRtl_stateless]; rfl

example : wp.atomsRtl = [.key 0, .hash .sha256 0, .key 2, .key 1, .key 0] := by decide
example : firstErr (wp.atomsRtl.map (atomRes failOn24 (fun _ h => .ok h))) = some 2 := by decide

theorem policy_translate_identity (p : PPol) :
    polTranslate (pureT (σ := σ) (ε := ε) id (fun _ h => h)) p = pure p := by
  rw [policy_translate_pure, TranslatePolicy.mapKeys_id]

theorem policy_translate_compose (f f' : Key → Key) (g g' : HashKind → Nat → Nat) (p : PPol) :
    (polTranslate (pureT (σ := σ) (ε := ε) f g) p >>= polTranslate (pureT f' g'))
      = polTranslate (pureT (f' ∘ f) (fun kind h => g' kind (g kind h))) p := by
  rw [policy_translate_pure f g]
  simp only [pure_bind]
  rw [policy_translate_pure, policy_translate_pure, TranslatePolicy.mapKeys_comp]

example : (wp.mapKeys (· + 1) (fun _ h => h)).mapKeys (· % 2) (fun _ h => h + 1)
    = wp.mapKeys (fun k => (k + 1) % 2) (fun _ h => h + 1) := by decide
example : wp.mapKeys (· % 2) (fun _ h => h) =
    .or (.cons 9 (.key 0) (.cons 1 (.and (.cons 0 (.key 1) (.cons 0
      (.thresh 2 (.cons 0 (.key 0) (.cons 0 (.hash .sha256 0) (.cons 0 (.key 0) (.cons 0 (.older 5) .nil)))))
      .nil))) .nil)) := by decide

/-- `translate_unsatisfiable_pk(key)` never panics and replaces exactly the `pk(key)` leaves
by `UNSATISFIABLE`; everything else (other keys, weights, k, shape) is untouched -/
theorem policy_translate_unsatisfiable (key : Key) (p : PPol) :
    translateUnsat key p = .ok (p.replaceKey key) := by
  have := unsatLoop_forest key [p] [] []
  simp only [List.reverse_singleton, List.flatMap_singleton, List.append_nil] at this
  unfold translateUnsat
  rw [TranslatePolicy.rtlPostOrder_eq, this]
  rfl

example : translateUnsat 0 wp =
    .ok (.or (.cons 9 .unsat (.cons 1 (.and (.cons 0 (.key 1) (.cons 0
      (.thresh 2 (.cons 0 (.key 2) (.cons 0 (.hash .sha256 0) (.cons 0 .unsat (.cons 0 (.older 5) .nil)))))
      .nil))) .nil))) := policy_translate_unsatisfiable 0 wp

/-- `for_each_key(pred)` (both policy types) calls `pred` on the keys in pre-order (= the order
of the printed form) and stops at the first key that fails -/
theorem policy_for_each_key_eq_keys (pred : Key → Bool) (p : PPol) :
    polForEachKey pred p = allVisit pred p.keys := by
  unfold polForEachKey PPol.keys
  rw [TranslatePolicy.preOrder_eq, polAllLoop_eq]

theorem policy_for_any_key_eq_keys (pred : Key → Bool) (p : PPol) :
    polForAnyKey pred p = ((allVisit (fun k => !pred k) p.keys).1, !(allVisit (fun k => !pred k) p.keys).2) := by
  unfold polForAnyKey
  rw [policy_for_each_key_eq_keys]

/-- `Concrete::keys()` is exactly the key list of the printed form, with multiplicity -/
theorem policy_keys_eq (p : PPol) : polKeys p = p.keys := by
  unfold polKeys PPol.keys
  rw [preOrder_eq]
  generalize p.pre = l
  induction l with
  | nil => rfl
  | cons x xs ih => cases x <;> simp [PPol.keysAt, ih]

/-- the translated policy has the substituted key list (same positions and multiplicities) -/
theorem policy_keys_translate (f : Key → Key) (g : HashKind → Nat → Nat) (p : PPol) :
    polKeys (p.mapKeys f g) = (polKeys p).map f := by
  rw [policy_keys_eq, policy_keys_eq]
  exact TranslatePolicy.keysPre_mapKeys f g p

example : polKeys wp = [0, 1, 2, 0] := by decide
example : polForEachKey (fun k => k != 2) wp = ([0, 1, 2], false) := by decide

end Policies

/-! ## Th — the element-wise operations of `Threshold` -/

section ThresholdOps
variable {α β ε' : Type}

/-- `map` keeps k and the positions -/
theorem threshold_map_structure (f : α → β) (t : Thr α) :
    (t.map f).k = t.k ∧ (t.map f).inner = t.inner.map f := ⟨rfl, rfl⟩

/-- `translate` with a closure that never fails is `map`, with one call per element -/
theorem threshold_translate_ok (f : α → β) (t : Thr α) :
    t.translate (fun x => (.ok (f x) : Except ε' β)) = (.ok (t.map f), t.inner.length) := by
  obtain ⟨k, l⟩ := t
  have hw : Thr.walk (fun x => (.ok (f x) : Except ε' β)) l = (.ok (l.map f), l.length) := by
    induction l with
    | nil => rfl
    | cons x xs ih => simp [Thr.walk, ih]
  simp [Thr.translate, Thr.map, hw]

/-- a failing closure stops the walk: the error is the one of the FIRST failing element and the
closure is called exactly on the elements up to it -/
theorem threshold_translate_first_failure (f : α → Except ε' β) (pre : List α) (x : α) (post : List α)
    (e : ε') (hpre : ∀ y ∈ pre, ∃ z, f y = .ok z) (hx : f x = .error e) (k : Nat) :
    (Thr.translate f ⟨k, pre ++ x :: post⟩) = (.error e, pre.length + 1) := by
  have hw : Thr.walk f (pre ++ x :: post) = (.error e, pre.length + 1) := by
    induction pre with
    | nil => simp [Thr.walk, hx]
    | cons y ys ih =>
      obtain ⟨z, hz⟩ := hpre y (by simp)
      simp [Thr.walk, hz, ih fun w hw => hpre w (by simp [hw])]
  simp [Thr.translate, hw]

example : (Thr.translate (fun x => if x = 3 then (.error x : Except Nat Nat) else .ok (x * 2)) ⟨2, [1, 2, 3, 4]⟩).2
    = 3 := by decide

end ThresholdOps

/-! ## D — descriptors -/

section Descriptors
open MsVerif.Desc MsVerif.TranslateDesc

/-- D1: for a pure total mapping `Descriptor::translate_pk` returns the descriptor with the
atoms substituted iff every rebuilt miniscript node passes `from_ast` in its context and every
key held directly by a wrapper (`pkh`, `wpkh`, `sh(wpkh)`, the internal key of `tr`) passes
`Ctx::check_pk` — and `OuterError` otherwise: an illegal target is always refused, a legal one
never -/
theorem desc_translate_pure (f : Key → Key) (g : HashKind → Nat → Nat) (chk : Ctx → Ms → Bool)
    (keyOk : Ctx → Key → Bool) (d : Desc) :
    descTranslate (pureT (σ := σ) (ε := ε) f g) chk keyOk d =
      if (d.mapKeys f g).legal chk keyOk then pure (d.mapKeys f g) else throw .outerError := by
  show _ = outC ((d.mapKeys f g).legal chk keyOk) (d.mapKeys f g)
  cases d with
  | sh inner =>
    cases inner <;>
      simp only [descTranslate, Desc.mapKeys, Desc.legal, translatePk_pure, translateKey_pure, outC_bind_pure]
  | tr ik leaves =>
    simp only [descTranslate, translateLeaves_pure, translateKey_pure, Desc.mapKeys, Desc.legal,
      outC_bind_pure, outC_bind]
    congr 1
    simp only [List.all_map, Function.comp_def]
  | _ => simp only [descTranslate, Desc.mapKeys, Desc.legal, translatePk_pure, translateKey_pure, outC_bind_pure]

/-- D2: the output script of the key-substituted descriptor is the output script of the
original computed with every atom serialised as its image — for every wrapper (`bare`, `pkh`,
`wpkh`, `wsh`, `sh(..)`, and `tr` given the same output-key function of the mapped internal
key and the leaf scripts) -/
theorem desc_script_translate (P : Params) (f : Key → Key) (g : HashKind → Nat → Nat) (d : Desc) :
    (d.mapKeys f g).scriptPubkey P = d.scriptPubkey (Params.comap P f g) := by
  cases d with
  | sh inner =>
    cases inner <;>
      simp only [Desc.mapKeys, Desc.scriptPubkey, shScriptPubkey, wshScriptPubkey, wshInnerScript,
        wpkhScriptPubkey, wpkhAddress, encodeBytes_mapKeys, Params.comap, KeyEnv.comap]
  | tr ik leaves =>
    simp [Desc.mapKeys, Desc.scriptPubkey, trScriptPubkey, trLeafScripts, Params.comap,
      encodeBytes_mapKeys, Function.comp_def]
  | _ =>
    simp only [Desc.mapKeys, Desc.scriptPubkey, bareScriptPubkey, pkhScriptPubkey, pkhAddress,
      wpkhScriptPubkey, wpkhAddress, wshScriptPubkey, wshInnerScript, encodeBytes_mapKeys,
      Params.comap, KeyEnv.comap]

/-- D2 for the leaf scripts of `tr` -/
theorem desc_leaf_scripts_translate (P : Params) (f : Key → Key) (g : HashKind → Nat → Nat)
    (leaves : List (Nat × Ms)) :
    trLeafScripts P (leaves.map fun l => (l.1, l.2.mapKeys f g))
      = trLeafScripts (Params.comap P f g) leaves := by
  simp [trLeafScripts, Params.comap, Function.comp_def, encodeBytes_mapKeys]

/-- D3: `Descriptor::iter_pk` (single key, tap leaves in order, then the miniscript iterator)
yields exactly the keys of the printed form in order, with multiplicity — for every descriptor
type (`tr`: internal key first; `sortedmulti` / `multi_a` keys as written) -/
theorem desc_iter_pk_eq_keys (d : Desc) : d.iterPk = d.keysPrinted := by
  unfold Desc.iterPk
  rw [collect_eq, bound_eq, List.take_length]
  cases d with
  | sh inner =>
    cases inner <;> simp [Desc.iterPkInit, remainingKeys, Desc.keysPrinted, leafKeys, TranslateEncode.iterPk_eq]
  | tr ik leaves =>
    simp [Desc.iterPkInit, remainingKeys, Desc.keysPrinted, leafKeys, TranslateEncode.iterPk_eq]
  | _ => simp [Desc.iterPkInit, remainingKeys, Desc.keysPrinted, leafKeys, TranslateEncode.iterPk_eq]

/-- D4: `Descriptor::for_each_key(pred)` calls `pred` on the keys in `for_each_key` order (the
miniscript's pre-order; `tr`: tap leaves in order, then the internal key) and stops at the first
key that fails; `for_any_key` is its dual -/
theorem desc_for_each_key_eq_keys (pred : Key → Bool) (d : Desc) :
    descForEachKey pred d = allVisit pred d.keysForEach := by
  cases d with
  | sh inner => cases inner <;> simp only [descForEachKey, Desc.keysForEach, forEachKey_eq, allVisit_single]
  | tr ik leaves =>
    simp only [descForEachKey, Desc.keysForEach, trLeavesForEach_eq, allVisit_append, allVisit_single]
  | _ => simp only [descForEachKey, Desc.keysForEach, forEachKey_eq, allVisit_single]

theorem desc_for_any_key_eq_keys (pred : Key → Bool) (d : Desc) :
    descForAnyKey pred d = ((allVisit (fun k => !pred k) d.keysForEach).1,
      !(allVisit (fun k => !pred k) d.keysForEach).2) := by
  unfold descForAnyKey; rw [desc_for_each_key_eq_keys]

example : descForEachKey (fun k => k != 3) (Desc.tr 7 [(1, .hash .sha256 0), (1, .multiA 1 [3, 2])]) = ([3], false) := by
  decide

theorem desc_keys_translate (f : Key → Key) (g : HashKind → Nat → Nat) (d : Desc) :
    (d.mapKeys f g).iterPk = d.iterPk.map f := by
  rw [desc_iter_pk_eq_keys, desc_iter_pk_eq_keys]
  cases d with
  | sh inner => cases inner <;> simp [Desc.mapKeys, Desc.keysPrinted, Ms.keys, keysPre_mapKeys]
  | tr ik leaves =>
    simp only [Desc.mapKeys, Desc.keysPrinted, List.map_cons, List.cons.injEq, true_and]
    induction leaves with
    | nil => rfl
    | cons l ls ih =>
      simp only [Ms.keys] at ih
      simp [List.flatMap_cons, Ms.keys, keysPre_mapKeys, ih]
  | _ => simp [Desc.mapKeys, Desc.keysPrinted, Ms.keys, keysPre_mapKeys]

example : (Desc.tr 7 [(1, pk 0), (1, .multiA 1 [3, 2])]).iterPk = [7, 0, 3, 2] := by decide

end Descriptors

end MsVerif.C20
